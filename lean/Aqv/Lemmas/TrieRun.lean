/-
  Aqv.Lemmas.TrieRun — histories over the public API: how `run` and `absOf` extend by one operation; the reachable
  tries are canonical, never panic, and denote the reference map.
-/
import Aqv.Lemmas.TrieOps
import Aqv.Lemmas.TrieCodec
namespace Aqv.Trie
open Aqv

theorem runFrom_append (t : Node) (a b : List Op) :
    runFrom t (a ++ b) = (runFrom t a).bind fun t' => runFrom t' b := by
  induction a generalizing t with
  | nil => rfl
  | cons op a ih =>
    simp only [List.cons_append, runFrom]
    cases step t op with
    | none => rfl
    | some t' => exact ih t'

theorem run_snoc (ops : List Op) (op : Op) : run (ops ++ [op]) = (run ops).bind fun t => step t op := by
  unfold run
  rw [runFrom_append]
  cases runFrom .nil ops with
  | none => rfl
  | some t =>
    simp only [Option.bind_some, runFrom]
    cases step t op <;> rfl

theorem absFrom_append (m : Bytes → Option Bytes) (a b : List Op) : absFrom m (a ++ b) = absFrom (absFrom m a) b := by
  induction a generalizing m with
  | nil => rfl
  | cons op a ih => exact ih _

theorem absOf_snoc (ops : List Op) (op : Op) : absOf (ops ++ [op]) = absStep (absOf ops) op :=
  absFrom_append _ ops [op]

/-- the invariant tying a reachable trie to the reference map `m` over byte keys. -/
structure Inv (t : Node) (m : Bytes → Option Bytes) : Prop where
  wf : WFRoot t
  content : ∀ kb, lookup t (keybytesToHex kb) = m kb
  bytekeys : ∀ k, lookup t k ≠ none → ∃ kb, k = keybytesToHex kb

theorem inv_empty : Inv .nil (fun _ => none) :=
  ⟨Or.inl rfl, fun _ => lookup_nil _, fun k hk => absurd (lookup_nil k) hk⟩

theorem Inv.update {t t' : Node} {m : Bytes → Option Bytes} (h : Inv t m) (kb : Bytes) (o : Option Bytes) (hw : WFRoot t')
    (hl : ∀ k, lookup t' k = if k = keybytesToHex kb then o else lookup t k) :
    Inv t' (fun k' => if k' = kb then o else m k') where
  wf := hw
  content k' := by
    rw [hl]
    by_cases e : k' = kb
    · simp [e]
    · simp [e, mt keybytesToHex_injective e, h.content]
  bytekeys k hk := by
    rw [hl] at hk
    by_cases e : k = keybytesToHex kb
    · exact ⟨kb, e⟩
    · rw [if_neg e] at hk
      exact h.bytekeys k hk

theorem inv_insert {t : Node} {m : Bytes → Option Bytes} (h : Inv t m) (kb v : Bytes) (hv : v ≠ []) :
    ∃ d, insert t (keybytesToHex kb) v = some (d, ins t (keybytesToHex kb) v) ∧
      Inv (ins t (keybytesToHex kb) v) (fun k' => if k' = kb then some v else m k') := by
  have hk := term_keybytesToHex kb
  have hp := pos_of_wfroot h.wf hk
  obtain ⟨d, hd⟩ := insert_spec t _ v hp
  exact ⟨d, hd, h.update kb (some v) (.inr (ins_wf t _ v hk h.wf hv)) (ins_lookup t _ v hp)⟩

theorem inv_delete {t : Node} {m : Bytes → Option Bytes} (h : Inv t m) (kb : Bytes) :
    ∃ d, delete t (keybytesToHex kb) = some (d, del t (keybytesToHex kb)) ∧
      Inv (del t (keybytesToHex kb)) (fun k' => if k' = kb then none else m k') := by
  have hk := term_keybytesToHex kb
  have hp := pos_of_wfroot h.wf hk
  obtain ⟨d, hd⟩ := delete_spec t _ hp
  exact ⟨d, hd, h.update kb none (del_wf t _ hk h.wf) (del_lookup t _ hp)⟩

theorem inv_step {t : Node} {m : Bytes → Option Bytes} (h : Inv t m) (op : Op) :
    ∃ t', step t op = some t' ∧ Inv t' (absStep m op) := by
  cases op with
  | other => exact ⟨t, rfl, h⟩
  | delete kb =>
    obtain ⟨d, hd, hi⟩ := inv_delete h kb
    exact ⟨del t (keybytesToHex kb), by simp [step, tryDelete, hd], hi⟩
  | update kb v =>
    by_cases hv : v.length ≠ 0
    · have hv' : v ≠ [] := by intro e; subst e; simp at hv
      obtain ⟨d, hd, hi⟩ := inv_insert h kb v hv'
      refine ⟨ins t (keybytesToHex kb) v, by simp [step, tryUpdate, hv, hd], ?_⟩
      simpa [absStep, hv] using hi
    · obtain ⟨d, hd, hi⟩ := inv_delete h kb
      refine ⟨del t (keybytesToHex kb), by simp [step, tryUpdate, hv, hd], ?_⟩
      simpa [absStep, hv] using hi

theorem inv_runFrom {t : Node} {m : Bytes → Option Bytes} (h : Inv t m) (ops : List Op) :
    ∃ t', runFrom t ops = some t' ∧ Inv t' (absFrom m ops) := by
  induction ops generalizing t m with
  | nil => exact ⟨t, rfl, h⟩
  | cons op ops ih =>
    obtain ⟨t₁, h1, hi⟩ := inv_step h op
    obtain ⟨t₂, h2, hi2⟩ := ih hi
    exact ⟨t₂, by simp [runFrom, h1, h2], hi2⟩

theorem inv_run (ops : List Op) : ∃ t, run ops = some t ∧ Inv t (absOf ops) := inv_runFrom inv_empty ops

theorem inv_of_run {ops : List Op} {t : Node} (h : run ops = some t) : Inv t (absOf ops) := by
  obtain ⟨t', hr, hi⟩ := inv_run ops
  cases h.symm.trans hr
  exact hi

end Aqv.Trie
