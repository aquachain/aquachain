/- C08: the per-opcode theorems of EvmOps lifted to the ALU dispatch (`implAlu` = `specAlu`); what `decode` says about the opcode byte. -/
import Aqv.Lemmas.EvmPre
import Aqv.Lemmas.EvmOps
namespace Aqv.Evm
open Aqv Aqv.Big Aqv.Gen.VmTable

theorem w256_toNat (v : Int) (h : InRange v) : ((w256 v).toNat : Int) = v := by
  unfold w256
  rw [BitVec.toNat_ofNat, Nat.mod_eq_of_lt h.toNat_lt, h.cast_toNat]

theorem alu1_agree (opc : Nat) (a : W) :
    implAlu1 opc (a.toNat : Int) = (specAlu1 opc a).map fun v => Int.ofNat v.toNat := by
  unfold implAlu1 specAlu1
  simp only [opIszero_spec, opNot_spec, apply_ite (Option.map _), Option.map_some, Option.map_none, Int.ofNat_eq_natCast]

theorem alu3_agree (opc : Nat) (a b c : W) :
    implAlu3 opc (a.toNat : Int) (b.toNat : Int) (c.toNat : Int) = (specAlu3 opc a b c).map fun v => Int.ofNat v.toNat := by
  unfold implAlu3 specAlu3
  simp only [opAddmod_spec, opMulmod_spec, apply_ite (Option.map _), Option.map_some, Option.map_none, Int.ofNat_eq_natCast]

theorem alu2_agree (opc : Nat) (a b : W) (hsar : ¬ (opc = 0x1d ∧ a.toNat ≥ 256 ∧ b = 0)) :
    implAlu2 opc (a.toNat : Int) (b.toNat : Int) = (specAlu2 opc a b).map fun v => Int.ofNat v.toNat := by
  unfold implAlu2 specAlu2
  simp only [opAdd_spec, opMul_spec, opSub_spec, opDiv_spec, opSdiv_spec, opMod_spec, opSmod_spec, opExp_spec,
    opSignExtend_spec, opLt_spec, opGt_spec, opSlt_spec, opSgt_spec, opEq_spec, opAnd_spec, opOr_spec, opXor_spec,
    opByte_spec, opSHL_spec, opSHR_spec, apply_ite (Option.map _), Option.map_some, Option.map_none, Int.ofNat_eq_natCast]
  -- the two dispatch chains now differ in the SAR entry only
  by_cases hs : opc = 0x1d
  · subst hs
    simp [opSAR_spec_partial a b fun hh => hsar ⟨rfl, hh⟩]
  · simp only [if_neg hs]

theorem alu_agree (opc : Nat) (args : List Int) (hr : ∀ v ∈ args, InRange v)
    (hsar : ¬ (opc = 0x1d ∧ ∃ x y, args = [x, y] ∧ x ≥ 256 ∧ y = 0)) : implAlu opc args = specAlu opc args := by
  unfold implAlu specAlu specAluW
  match args, hr, hsar with
  | [], _, _ => rfl
  | [x], hr, _ =>
    have hx := w256_toNat x (hr x (by simp))
    simp only [List.map]
    rw [← alu1_agree, hx]
  | [x, y], hr, hsar =>
    have hx := w256_toNat x (hr x (by simp))
    have hy := w256_toNat y (hr y (by simp))
    simp only [List.map]
    rw [← alu2_agree, hx, hy]
    intro ⟨h1, h2, h3⟩
    apply hsar
    refine ⟨h1, x, y, rfl, ?_, ?_⟩
    · rw [← hx]; exact Int.ofNat_le.2 h2
    · rw [← hy, h3]; rfl
  | [x, y, z], hr, _ =>
    have hx := w256_toNat x (hr x (by simp))
    have hy := w256_toNat y (hr y (by simp))
    have hz := w256_toNat z (hr z (by simp))
    simp only [List.map]
    rw [← alu3_agree, hx, hy, hz]
  | _ :: _ :: _ :: _ :: _, _, _ => rfl

def instrOk : Instr → Nat → Prop
  | .push n, opc => 0x60 ≤ opc ∧ opc ≤ 0x7f ∧ n = opc - 0x5f
  | .dup n, opc => 0x80 ≤ opc ∧ opc ≤ 0x8f ∧ n = opc - 0x7f
  | .swap k, opc => 0x90 ≤ opc ∧ opc ≤ 0x9f ∧ k = opc - 0x8f
  | .alu, opc => (0x01 ≤ opc ∧ opc ≤ 0x0b) ∨ (0x10 ≤ opc ∧ opc ≤ 0x1d)
  | .stop, opc => opc = 0x00 | .sha3, opc => opc = 0x20 | .address, opc => opc = 0x30 | .origin, opc => opc = 0x32
  | .caller, opc => opc = 0x33 | .callvalue, opc => opc = 0x34 | .calldataload, opc => opc = 0x35 | .calldatasize, opc => opc = 0x36
  | .calldatacopy, opc => opc = 0x37 | .codesize, opc => opc = 0x38 | .codecopy, opc => opc = 0x39 | .gasprice, opc => opc = 0x3a
  | .returndatasize, opc => opc = 0x3d | .returndatacopy, opc => opc = 0x3e | .coinbase, opc => opc = 0x41
  | .timestamp, opc => opc = 0x42 | .number, opc => opc = 0x43 | .difficulty, opc => opc = 0x44 | .gaslimit, opc => opc = 0x45
  | .pop, opc => opc = 0x50 | .mload, opc => opc = 0x51 | .mstore, opc => opc = 0x52 | .mstore8, opc => opc = 0x53
  | .jump, opc => opc = 0x56 | .jumpi, opc => opc = 0x57 | .pc, opc => opc = 0x58 | .msize, opc => opc = 0x59 | .gas, opc => opc = 0x5a
  | .jumpdest, opc => opc = 0x5b | .ret, opc => opc = 0xf3 ∨ opc = 0xfd | .other, _ => True

theorem decode_sound (opc : Nat) : instrOk (decode opc) opc := by
  unfold decode
  split
  · rename_i h; exact ⟨h.1, h.2, rfl⟩
  split
  · rename_i h; exact ⟨h.1, h.2, rfl⟩
  split
  · rename_i h; exact ⟨h.1, h.2, rfl⟩
  split
  · rename_i h; exact h
  split <;> simp [instrOk]
end Aqv.Evm
