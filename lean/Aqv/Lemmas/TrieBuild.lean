/-
  Aqv.Lemmas.TrieBuild — the leaf sequence of a trie is exactly its content in iteration order, and the Yellow-Paper
  construction `build` rebuilds a canonical trie from its own leaf sequence.  Hence `hashRoot t = mptRoot (content t)`,
  and a canonical trie is determined by its content (no hash function involved).
-/
import Aqv.Lemmas.TrieRun
namespace Aqv.Trie
open Aqv

theorem wf_exists_key {n : Node} (h : WF n) : ∃ k, lookup n k ≠ none := by
  induction h with
  | leaf k v _ _ => exact ⟨k, by simp [leaf_lookup]⟩
  | ext k cs _ _ _ ih =>
    obtain ⟨k', hk'⟩ := ih
    exact ⟨k ++ k', by rwa [lookup_short_append]⟩
  | full cs c1 c2 c3 ih =>
    obtain ⟨i, _, _, hi, _⟩ := c3
    by_cases hiT : i = T
    · obtain ⟨v, _, e⟩ := c2.resolve_left (hiT ▸ hi)
      exact ⟨[T], by simp [lookup_full_cons, lookup_value, e]⟩
    · obtain ⟨k', hk'⟩ := ih i hiT hi
      exact ⟨i :: k', by rwa [lookup_full_cons]⟩

theorem child_key {cs : Nib → Node} (hw : WF (.full cs)) {i : Nib} (hi : cs i ≠ .nil) : ∃ k, lookup (cs i) k ≠ none := by
  rcases (wf_full_iff.1 hw).1 i hi with ⟨_, v, _, e⟩ | ⟨_, h⟩
  · exact ⟨[], by simp [lookup_value, e]⟩
  · exact wf_exists_key h

theorem wf_lookup_term {n : Node} (h : WF n) : ∀ k, lookup n k ≠ none → Term k := by
  induction h with
  | leaf p v hp _ =>
    intro k hk
    rw [leaf_lookup] at hk
    split at hk
    · next e => exact e ▸ hp
    · exact absurd rfl hk
  | ext p cs _ hh _ ih =>
    intro k hk
    obtain ⟨r, rfl⟩ := short_key_prefix hk
    rw [lookup_short_append] at hk
    have hr := ih r hk
    exact (term_append (term_ne_nil hr)).2 ⟨hh, hr⟩
  | full cs c1 c2 _ ih =>
    intro k hk
    cases k with
    | nil => exact absurd (lookup_full_nil cs) hk
    | cons x r =>
      rw [lookup_full_cons] at hk
      have hne : cs x ≠ .nil := fun e => hk (by rw [e, lookup_nil])
      by_cases hx : x = T
      · subst hx
        obtain ⟨v, _, e⟩ := c2.resolve_left hne
        rw [e, lookup_value] at hk
        split at hk
        · next hr => exact hr ▸ term_single
        · exact absurd rfl hk
      · have ht := ih x hx hne r hk
        exact term_cons.2 (.inr ⟨term_ne_nil ht, hx, ht⟩)

theorem wfroot_lookup_term {t : Node} (h : WFRoot t) {k : List Nib} (hk : lookup t k ≠ none) : Term k := by
  rcases h with rfl | h
  · simp [lookup_nil] at hk
  · exact wf_lookup_term h k hk

theorem wfroot_lookup_of_not_term {t : Node} (h : WFRoot t) {k : List Nib} (hk : ¬ Term k) : lookup t k = none :=
  Classical.not_not.1 (mt (wfroot_lookup_term h) hk)

theorem mem_toList (n : Node) : ∀ (k : List Nib) (v : Bytes), (k, v) ∈ toList n ↔ lookup n k = some v := by
  induction n with
  | nil => intro k v; simp [toList, lookup_nil]
  | value w =>
    intro k v
    simp only [toList, lookup_value, List.mem_singleton, Prod.mk.injEq]
    by_cases hk : k = []
    · simp [hk, eq_comm]
    · simp [hk]
  | short p c ih =>
    intro k v
    simp only [toList, List.mem_map, Prod.mk.injEq, Prod.exists]
    constructor
    · rintro ⟨r, w, hm, rfl, rfl⟩
      rw [lookup_short_append]
      exact (ih r w).1 hm
    · intro h
      obtain ⟨r, rfl⟩ := short_key_prefix (by rw [h]; simp)
      rw [lookup_short_append] at h
      exact ⟨r, v, (ih r v).2 h, rfl, rfl⟩
  | full cs ih =>
    intro k v
    simp only [toList, List.mem_flatMap, List.mem_map, Prod.mk.injEq, Prod.exists, List.mem_finRange, true_and]
    constructor
    · rintro ⟨i, r, w, hm, rfl, rfl⟩
      rw [lookup_full_cons]
      exact (ih i r w).1 hm
    · intro h
      cases k with
      | nil => simp [lookup_full_nil] at h
      | cons x r =>
        rw [lookup_full_cons] at h
        exact ⟨x, r, v, (ih x r v).2 h, rfl, rfl⟩

theorem keyLt_cons {x y : Nib} {a b : List Nib} :
    keyLt (x :: a) (y :: b) = true ↔ x.val < y.val ∨ (x.val = y.val ∧ keyLt a b = true) := by
  simp only [keyLt]
  split
  · simp [*]
  · split
    · simp; omega
    · have : x.val = y.val := by omega
      simp [*]

theorem keyLt_irrefl : ∀ (a : List Nib), keyLt a a = false
  | [] => rfl
  | x :: a => by simp [keyLt, keyLt_irrefl a]

theorem keyLt_append_left (p : List Nib) (a b : List Nib) : keyLt (p ++ a) (p ++ b) = keyLt a b := by
  induction p with
  | nil => rfl
  | cons x p ih => simp [keyLt, ih]

theorem keyLt_trans : ∀ (a b c : List Nib), keyLt a b = true → keyLt b c = true → keyLt a c = true
  | [], [], _, h, _ => by simp [keyLt] at h
  | [], _ :: _, [], _, h => by simp [keyLt] at h
  | [], _ :: _, _ :: _, _, _ => rfl
  | _ :: _, [], _, h, _ => by simp [keyLt] at h
  | _ :: _, _ :: _, [], _, h => by simp [keyLt] at h
  | x :: a, y :: b, z :: c, h1, h2 => by
    rw [keyLt_cons] at h1 h2 ⊢
    rcases h1 with h1 | ⟨e1, h1⟩ <;> rcases h2 with h2 | ⟨e2, h2⟩
    · exact Or.inl (by omega)
    · exact Or.inl (by omega)
    · exact Or.inl (by omega)
    · exact Or.inr ⟨by omega, keyLt_trans a b c h1 h2⟩

theorem keyLt_total : ∀ (a b : List Nib), a ≠ b → keyLt a b = true ∨ keyLt b a = true
  | [], [], h => (h rfl).elim
  | [], _ :: _, _ => Or.inl rfl
  | _ :: _, [], _ => Or.inr rfl
  | x :: a, y :: b, h => by
    rw [keyLt_cons, keyLt_cons]
    by_cases hxy : x.val = y.val
    · have hab : a ≠ b := fun e => h (by rw [e, Fin.ext hxy])
      exact (keyLt_total a b hab).imp (fun h => Or.inr ⟨hxy, h⟩) fun h => Or.inr ⟨hxy.symm, h⟩
    · exact (Nat.lt_or_gt_of_ne hxy).imp Or.inl Or.inl

theorem toList_sorted (n : Node) : (toList n).Pairwise (fun a b => keyLt a.1 b.1 = true) := by
  induction n with
  | nil => simp [toList]
  | value w => simp [toList]
  | short p c ih =>
    simp only [toList, List.pairwise_map, keyLt_append_left]
    exact ih
  | full cs ih =>
    simp only [toList]
    rw [List.pairwise_flatMap]
    constructor
    · intro i _
      simp only [List.pairwise_map]
      apply (ih i).imp
      intro a b h
      simpa [keyLt] using h
    · apply (List.pairwise_lt_finRange 17).imp
      intro i j hij x hx y hy
      simp only [List.mem_map] at hx hy
      obtain ⟨a, _, rfl⟩ := hx
      obtain ⟨b, _, rfl⟩ := hy
      exact keyLt_cons.2 (Or.inl hij)

theorem toList_unique (n : Node) (kvs : List (List Nib × Bytes))
    (hs : kvs.Pairwise (fun a b => keyLt a.1 b.1 = true)) (hc : ∀ k v, (k, v) ∈ kvs ↔ lookup n k = some v) :
    kvs = toList n := by
  have nodup_of : ∀ l : List (List Nib × Bytes), l.Pairwise (fun a b => keyLt a.1 b.1 = true) → l.Nodup := by
    intro l hl
    rw [List.nodup_iff_pairwise_ne]
    apply hl.imp
    intro a b h e
    subst e
    rw [keyLt_irrefl] at h; cases h
  apply List.Perm.eq_of_pairwise (le := fun a b => keyLt a.1 b.1 = true) _ hs (toList_sorted n)
  · rw [List.perm_ext_iff_of_nodup (nodup_of _ hs) (nodup_of _ (toList_sorted n))]
    intro ⟨k, v⟩
    rw [hc, mem_toList]
  · intro a b _ _ h1 h2
    have := keyLt_trans _ _ _ h1 h2
    rw [keyLt_irrefl] at this
    cases this

theorem lcp2_prefix : ∀ (a b : List Nib), lcp2 a b <+: a ∧ lcp2 a b <+: b
  | [], _ => by simp [lcp2]
  | _ :: _, [] => by simp [lcp2]
  | x :: a, y :: b => by
    simp only [lcp2]
    split
    · next h =>
      subst h
      exact ⟨List.cons_prefix_cons.2 ⟨rfl, (lcp2_prefix a b).1⟩, List.cons_prefix_cons.2 ⟨rfl, (lcp2_prefix a b).2⟩⟩
    · simp

theorem lcpAll_prefix : ∀ (kvs : List (List Nib × Bytes)) (kv : List Nib × Bytes), kv ∈ kvs → lcpAll kvs <+: kv.1
  | [], _, h => by cases h
  | [a], kv, h => by
    simp only [List.mem_singleton] at h; subst h; simp [lcpAll]
  | a :: b :: rest, kv, h => by
    simp only [lcpAll]
    cases h with
    | head => exact (lcp2_prefix _ _).1
    | tail _ h => exact (lcp2_prefix _ _).2.trans (lcpAll_prefix (b :: rest) kv h)

theorem lcp2_append (p a b : List Nib) : lcp2 (p ++ a) (p ++ b) = p ++ lcp2 a b := by
  induction p with
  | nil => rfl
  | cons x p ih => simp [lcp2, ih]

theorem lcpAll_map_append (p : List Nib) : ∀ (kvs : List (List Nib × Bytes)), kvs ≠ [] →
    lcpAll (kvs.map fun kv => (p ++ kv.1, kv.2)) = p ++ lcpAll kvs
  | [], h => absurd rfl h
  | [a], _ => by simp [lcpAll]
  | a :: b :: rest, _ => by
    have ih := lcpAll_map_append p (b :: rest) (by simp)
    simp only [List.map_cons] at ih ⊢
    simp only [lcpAll]
    rw [ih, lcp2_append]

theorem lcpAll_nil_of_heads {kvs : List (List Nib × Bytes)} {i j : Nib} {a b : List Nib} {v w : Bytes} (hij : i ≠ j)
    (h1 : (i :: a, v) ∈ kvs) (h2 : (j :: b, w) ∈ kvs) : lcpAll kvs = [] := by
  have p1 := lcpAll_prefix kvs _ h1
  have p2 := lcpAll_prefix kvs _ h2
  cases hl : lcpAll kvs with
  | nil => rfl
  | cons x r =>
    rw [hl] at p1 p2
    have e1 := (List.cons_prefix_cons.1 p1).1
    have e2 := (List.cons_prefix_cons.1 p2).1
    exact absurd (e1.symm.trans e2) hij

theorem dropKeys_map_append (p : List Nib) (kvs : List (List Nib × Bytes)) :
    dropKeys p.length (kvs.map fun kv => (p ++ kv.1, kv.2)) = kvs := by
  simp [dropKeys, List.map_map, Function.comp_def]

theorem wf_toList_ne_nil {n : Node} (h : WF n) : toList n ≠ [] := by
  obtain ⟨k, hk⟩ := wf_exists_key h
  obtain ⟨v, e⟩ := Option.ne_none_iff_exists'.1 hk
  exact List.ne_nil_of_mem ((mem_toList n k v).2 e)

theorem full_toList_two {cs : Nib → Node} (hw : WF (.full cs)) :
    ∃ i j a b v w, i ≠ j ∧ (i :: a, v) ∈ toList (.full cs) ∧ (j :: b, w) ∈ toList (.full cs) := by
  obtain ⟨_, _, i, j, hij, hi, hj⟩ := wf_full_inv hw
  obtain ⟨k₁, h₁⟩ := child_key hw hi
  obtain ⟨k₂, h₂⟩ := child_key hw hj
  obtain ⟨v, e1⟩ := Option.ne_none_iff_exists'.1 h₁
  obtain ⟨w, e2⟩ := Option.ne_none_iff_exists'.1 h₂
  exact ⟨i, j, k₁, k₂, v, w, hij, (mem_toList _ _ _).2 (by rwa [lookup_full_cons]),
    (mem_toList _ _ _).2 (by rwa [lookup_full_cons])⟩

theorem full_toList_shape {cs : Nib → Node} (hw : WF (.full cs)) :
    2 ≤ (toList (.full cs)).length ∧ lcpAll (toList (.full cs)) = [] := by
  obtain ⟨i, j, k₁, k₂, v, w, hij, m1, m2⟩ := full_toList_two hw
  refine ⟨?_, lcpAll_nil_of_heads hij m1 m2⟩
  match h : toList (.full cs), m1, m2 with
  | [x], m1, m2 =>
    simp only [List.mem_singleton] at m1 m2
    exact absurd (congrArg (·.1.head?) (m1.trans m2.symm)) (by simpa using hij)
  | _ :: _ :: _, _, _ => simp

theorem build_nil (f : Nat) : build f [] = .nil := by
  cases f <;> rfl

theorem build_of_two {f : Nat} {kvs : List (List Nib × Bytes)} (h : 2 ≤ kvs.length) :
    build (f + 1) kvs =
      if lcpAll kvs ≠ [] then .short (lcpAll kvs) (build f (dropKeys (lcpAll kvs).length kvs))
      else .full fun i => build f (dropKeys 1 (kvs.filter fun kv => kv.1.head? == some i)) := by
  match kvs, h with
  | _ :: _ :: _, _ => rfl

theorem filter_head_flatMap (g : Nib → List (List Nib × Bytes)) (i : Nib) : ∀ (is : List Nib), is.Nodup →
    (is.flatMap fun j => (g j).map fun kv => (j :: kv.1, kv.2)).filter (fun kv => kv.1.head? == some i) =
      if i ∈ is then (g i).map fun kv => (i :: kv.1, kv.2) else []
  | [], _ => by simp
  | j :: is, hnd => by
    have hj : j ∉ is := (List.nodup_cons.1 hnd).1
    have ih := filter_head_flatMap g i is (List.nodup_cons.1 hnd).2
    simp only [List.flatMap_cons, List.filter_append, ih]
    by_cases hji : j = i
    · subst hji
      rw [List.filter_eq_self.2 (List.forall_mem_map.2 fun _ _ => by simp)]
      simp [hj]
    · rw [List.filter_eq_nil_iff.2 (List.forall_mem_map.2 fun _ _ => by simp [hji])]
      simp [Ne.symm hji]

theorem toList_full_child (cs : Nib → Node) (i : Nib) :
    dropKeys 1 ((toList (.full cs)).filter fun kv => kv.1.head? == some i) = toList (cs i) := by
  simp only [toList]
  rw [filter_head_flatMap (fun j => toList (cs j)) i _ (List.nodup_finRange 17)]
  simp [dropKeys, List.map_map, Function.comp_def]

theorem build_toList {n : Node} (h : WF n) : ∀ f, (∀ kv ∈ toList n, kv.1.length < f) → build f (toList n) = n := by
  induction h with
  | leaf k v hk _ =>
    intro f hf
    obtain ⟨g, rfl⟩ : ∃ g, f = g + 1 := ⟨f - 1, by have := hf (k, v) (by simp [toList]); omega⟩
    simp [toList, build, term_ne_nil hk]
  | ext p cs hp hh hw ih =>
    intro f hf
    obtain ⟨h2, hl⟩ := full_toList_shape hw
    have hm : toList (.short p (.full cs)) = (toList (.full cs)).map fun kv => (p ++ kv.1, kv.2) := rfl
    have hne : toList (.full cs) ≠ [] := wf_toList_ne_nil hw
    rw [hm] at hf ⊢
    have hlen : ∀ kv ∈ toList (.full cs), kv.1.length + 1 < f := fun kv hkv => by
      have := hf _ (List.mem_map_of_mem hkv)
      have := List.length_pos_iff.2 hp
      simp at *
      omega
    obtain ⟨g, rfl⟩ : ∃ g, f = g + 1 := ⟨f - 1, by
      have := hlen _ (List.head_mem hne); omega⟩
    rw [build_of_two (by simpa using h2), lcpAll_map_append p _ hne, hl, List.append_nil, if_pos hp,
      dropKeys_map_append, ih g fun kv hkv => by have := hlen kv hkv; omega]
  | full cs c1 c2 c3 ih =>
    intro f hf
    have hw : WF (.full cs) := WF.full cs c1 c2 c3
    obtain ⟨h2, hl⟩ := full_toList_shape hw
    obtain ⟨g, rfl⟩ : ∃ g, f = g + 1 := ⟨f - 1, by
      have := hf _ (List.head_mem (wf_toList_ne_nil hw)); omega⟩
    rw [build_of_two h2, hl, if_neg (by simp)]
    congr 1
    funext i
    rw [toList_full_child]
    have hlen : ∀ kv ∈ toList (cs i), kv.1.length < g := by
      intro kv hkv
      have : (i :: kv.1, kv.2) ∈ toList (.full cs) := by
        simp only [toList, List.mem_flatMap, List.mem_map, List.mem_finRange, true_and]
        exact ⟨i, kv, hkv, rfl⟩
      have := hf _ this
      simp at this
      omega
    by_cases hn : cs i = .nil
    · rw [hn]; exact build_nil g
    · rcases (wf_full_iff.1 hw).1 i hn with ⟨-, v, -, e⟩ | ⟨hi, -⟩
      · rw [e] at hlen ⊢
        obtain ⟨g', rfl⟩ : ∃ g', g = g' + 1 := ⟨g - 1, by have := hlen ([], v) (by simp [toList]); simp at this; omega⟩
        simp [toList, build]
      · exact ih i hi hn g hlen

theorem length_le_keyLenSum : ∀ (kvs : List (List Nib × Bytes)) (kv : List Nib × Bytes), kv ∈ kvs → kv.1.length ≤ keyLenSum kvs
  | [], _, h => by cases h
  | a :: rest, kv, h => by
    simp only [keyLenSum, List.foldr_cons]
    cases h with
    | head => omega
    | tail _ h =>
      have := length_le_keyLenSum rest kv h
      simp only [keyLenSum] at this
      omega

theorem build_toList_root {t : Node} (h : WFRoot t) {f : Nat} (hf : keyLenSum (toList t) < f) : build f (toList t) = t := by
  rcases h with rfl | h
  · exact build_nil f
  · exact build_toList h f fun kv hkv => Nat.lt_of_le_of_lt (length_le_keyLenSum _ kv hkv) hf

theorem hashRoot_eq_mptRoot (H : Bytes → Bytes) {t : Node} (h : WFRoot t) : hashRoot H t = mptRoot H (toList t) := by
  rw [mptRoot, build_toList_root h (by omega)]

theorem root_eq_spec (H : Bytes → Bytes) (t : Node) (h : WFRoot t) (kvs : List (List Nib × Bytes))
    (hs : kvs.Pairwise (fun a b => keyLt a.1 b.1 = true)) (hc : ∀ k v, (k, v) ∈ kvs ↔ lookup t k = some v) :
    hashRoot H t = mptRoot H kvs := by
  rw [toList_unique t kvs hs hc]
  exact hashRoot_eq_mptRoot H h

theorem root_eq_spec_run (H : Bytes → Bytes) (ops : List Op) (t : Node) (hr : run ops = some t)
    (m : List (Bytes × Bytes)) (hs : m.Pairwise (fun a b => keyLt (keybytesToHex a.1) (keybytesToHex b.1) = true))
    (hc : ∀ kb v, (kb, v) ∈ m ↔ absOf ops kb = some v) :
    hashRoot H t = mptRoot H (m.map fun kv => (keybytesToHex kv.1, kv.2)) := by
  have hi := inv_of_run hr
  apply root_eq_spec H t hi.wf
  · rw [List.pairwise_map]
    exact hs
  · intro k v
    simp only [List.mem_map, Prod.mk.injEq]
    constructor
    · rintro ⟨⟨kb, w⟩, hm, rfl, rfl⟩
      rw [hi.content]; exact (hc kb w).1 hm
    · intro hl
      obtain ⟨kb, rfl⟩ := hi.bytekeys k (by rw [hl]; simp)
      rw [hi.content] at hl
      exact ⟨(kb, v), (hc kb v).2 hl, rfl, rfl⟩

theorem wfroot_unique {t₁ t₂ : Node} (h₁ : WFRoot t₁) (h₂ : WFRoot t₂) (h : ∀ k, lookup t₁ k = lookup t₂ k) : t₁ = t₂ := by
  have e : toList t₁ = toList t₂ := toList_unique t₂ _ (toList_sorted t₁) fun k v => by rw [mem_toList, h]
  rw [← build_toList_root h₁ (Nat.lt_succ_self _), e, build_toList_root h₂ (Nat.lt_succ_self _)]

theorem inv_unique {t₁ t₂ : Node} {m₁ m₂ : Bytes → Option Bytes} (h₁ : Inv t₁ m₁) (h₂ : Inv t₂ m₂)
    (h : ∀ kb, m₁ kb = m₂ kb) : t₁ = t₂ := by
  apply wfroot_unique h₁.wf h₂.wf
  intro k
  by_cases hk : ∃ kb, k = keybytesToHex kb
  · obtain ⟨kb, rfl⟩ := hk
    rw [h₁.content, h₂.content, h]
  · rw [Classical.not_not.1 (mt (h₁.bytekeys k) hk), Classical.not_not.1 (mt (h₂.bytekeys k) hk)]

end Aqv.Trie
