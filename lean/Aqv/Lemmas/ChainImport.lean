/-
  Aqv.Lemmas.ChainImport — lifting a state predicate that is stable under the two primitive writes of the import loop
  (`WriteBlockWithState`, `WriteBlockWithoutState`) through `processWinners`, `importOne` and `importChain`: each returns
  an `ImportOutcome`.  Instantiated with the C03 invariant here and with the C02 invariants in `ChainTd`.
-/
import Aqv.Lemmas.ChainOps
namespace Aqv.Chain

theorem processWinners_cons_err {s : St} {w : Blk} {l : List Blk} {coins : List Bool} {e : Err}
    (h : (processWinners s l coins).err = some e) : processWinners s (w :: l) coins = processWinners s l coins := by
  rw [processWinners]; simp only [h]

theorem processWinners_cons_hc {s : St} {w : Blk} {l : List Blk} {coins : List Bool} {e : Err}
    (h : (processWinners s l coins).err = none) (hc : headerCheck (processWinners s l coins).st.store w = some e) :
    processWinners s (w :: l) coins = ⟨(processWinners s l coins).st, some e⟩ := by
  rw [processWinners]; simp only [h, hc]

theorem processWinners_cons_ok {s : St} {w : Blk} {l : List Blk} {coins : List Bool}
    (h : (processWinners s l coins).err = none) (hc : headerCheck (processWinners s l coins).st.store w = none) :
    processWinners s (w :: l) coins =
      writeBlockWithState (processWinners s l coins).st w ((coins.drop l.length).headD false) := by
  rw [processWinners]; simp only [h, hc]

/-- what the import loop itself relies on -/
structure Base (U : Map Blk) (s : St) : Prop where
  sub : StoreExt s.store U
  headStored : ∃ hb, s.store s.head = some hb
  storeTd : ∀ k x, s.store k = some x → (s.td k).isSome = true

theorem Base.head_there {U : Map Blk} {s : St} (h : Base U s) : ¬(s.store s.head = none ∨ s.td s.head = none) := by
  obtain ⟨hb, hhs⟩ := h.headStored
  rintro (hn | hn)
  · rw [hhs] at hn; cases hn
  · have := h.storeTd _ _ hhs
    rw [hn] at this; cases this

theorem ginv_base {U : Map Blk} (W : World U) {s : St} (h : GInv U s) : Base U s := by
  obtain ⟨hh, HC, hG⟩ := h
  obtain ⟨cb, _, _, hcb⟩ := hG.headStored W
  exact ⟨hG.k.il.idx.sub, ⟨cb, hcb⟩, hG.k.storeTd⟩

theorem inv_base {U : Map Blk} {s : St} (h : Inv U s) : Base U s := by
  obtain ⟨hb, C, hI⟩ := h
  exact ⟨hI.sub, ⟨hb, hI.headStored⟩, hI.storeTd⟩

/-- `P` is maintained by the primitive writes; `NF` ("no failure") is a side condition under which `reorg` is
    guaranteed not to fail. -/
structure Stable (U : Map Blk) (P : St → Prop) (NF : Prop) : Prop where
  base : ∀ s, P s → Base U s
  wbws : ∀ (s : St) (b p : Blk) (coin : Bool), P s → U b.id = some b → parentOf s.store b = some p →
    s.hasState b.parent = true →
      ((writeBlockWithState s b coin).err ≠ some .reorgFail → P (writeBlockWithState s b coin).st) ∧
      (NF → (writeBlockWithState s b coin).err ≠ some .reorgFail)
  without : ∀ (s : St) (b p : Blk) (ptd : Nat), P s → U b.id = some b → parentOf s.store b = some p →
    s.td b.parent = some ptd →
      P { s with td := upd s.td b.id (some (ptd + b.diff)), store := upd s.store b.id (some b) }

theorem wbws_no_panic {U : Map Blk} {s : St} (h : Base U s) (b : Blk) (coin : Bool) :
    (writeBlockWithState s b coin).err ≠ some .modelPanic := by
  intro herr
  -- `modelPanic` is the error of a failed nil check on the head block or its record
  rcases wbws_err_eq herr with ⟨_, _, ⟨_, hne⟩ | hn⟩ | ⟨he, _⟩
  · exact hne rfl
  · exact h.head_there hn
  · cases he

structure ImportOutcome (P : St → Prop) (NF : Prop) (o : Out) : Prop where
  keeps : o.err ≠ some .reorgFail → P o.st
  noFail : NF → o.err ≠ some .reorgFail
  noPanic : o.err ≠ some .modelPanic

variable {U : Map Blk} {P : St → Prop} {NF : Prop}

theorem ImportOutcome.same {s : St} (h : P s) {e : Option Err} (h1 : e ≠ some .reorgFail) (h2 : e ≠ some .modelPanic) :
    ImportOutcome P NF ⟨s, e⟩ :=
  ⟨fun _ => h, fun _ => h1, h2⟩

theorem Stable.write (S : Stable U P NF) {s : St} (h : P s) {b p : Blk} (hbU : U b.id = some b)
    (hpar : parentOf s.store b = some p) (hps : s.hasState b.parent = true) (coin : Bool) :
    ImportOutcome P NF (writeBlockWithState s b coin) :=
  ⟨(S.wbws s b p coin h hbU hpar hps).1, (S.wbws s b p coin h hbU hpar hps).2, wbws_no_panic (S.base _ h) _ _⟩

theorem stable_winners (W : World U) (S : Stable U P NF) {s : St} (h : P s) : ∀ (f : Nat) (p : Blk) (l : List Blk),
    U p.id = some p → statelessAncestors s f p = some l → ∀ coins,
      StoreExt s.store (processWinners s l coins).st.store ∧ ImportOutcome P NF (processWinners s l coins) ∧
      ((processWinners s l coins).err = none → (processWinners s l coins).st.hasState p.id = true) := by
  intro f
  induction f with
  | zero => intro p l _ hl; cases hl
  | succ f ih =>
    intro p l hpU hl coins
    unfold statelessAncestors at hl
    split at hl
    · rename_i hst
      cases hl
      exact ⟨fun _ _ hx => hx, .same h (by simp) (by simp), fun _ => hst⟩
    · split at hl
      · cases hl
      · rename_i q hq
        split at hl
        · cases hl
        · rename_i l' hl'
          cases hl
          have hI := S.base s h
          have hqs := (parentOf_some hq).1
          have hqU : U q.id = some q := by
            have := hI.sub _ _ hqs
            rw [W.ids _ _ this]; exact this
          have hqid : q.id = p.parent := W.ids _ _ (hI.sub _ _ hqs)
          obtain ⟨hext, hrest, hst'⟩ := ih q l' hqU hl' coins
          cases herr : (processWinners s l' coins).err with
          | some e =>
            rw [processWinners_cons_err herr]
            exact ⟨hext, hrest, fun hnone => by rw [herr] at hnone; cases hnone⟩
          | none =>
            have hinv' := hrest.keeps (by rw [herr]; simp)
            cases hhc : headerCheck (processWinners s l' coins).st.store p with
            | some e =>
              rw [processWinners_cons_hc herr hhc]
              exact ⟨hext, .same hinv' (by simpa using (headerCheck_err hhc).1) (by simpa using (headerCheck_err hhc).2),
                fun hnone => by cases hnone⟩
            | none =>
              rw [processWinners_cons_ok herr hhc]
              obtain ⟨p', hp'⟩ := headerCheck_none hhc
              have hps : (processWinners s l' coins).st.hasState p.parent = true := by
                rw [← hqid]; exact hst' herr
              refine ⟨fun k x hx => wbws_storeExtK (S.base _ hinv').sub hpU _ _ _ (hext _ _ hx),
                S.write hinv' hpU hp' hps _, fun hnone => ?_⟩
              rw [wbws_ok_hasState hnone]; exact updB_same _ _ _

/-- The ways through one iteration of the import loop: what `importOne s b coins` returns, and under which tests.
    `write` covers both calls of `WriteBlockWithState s b` (a known block that is not skipped, an unknown block on a known
    parent); the last five are the side-chain branch (`ErrPrunedAncestor`: the parent has no state). -/
inductive ImportOne (s : St) (b : Blk) (coins : List Bool) : Out → Prop
  | refused {e : Err} : headerCheck s.store b = some e → ImportOne s b coins ⟨s, some e⟩
  | noHead : s.store s.head = none ∨ s.td s.head = none → ImportOne s b coins ⟨s, some .modelPanic⟩
  | skipped {lt : Nat} : s.td s.head = some lt → known s b.id = true → heavierThan s b lt = false →
      ImportOne s b coins ⟨s, none⟩
  | missingState : known s b.id = true → s.hasState b.parent = false → ImportOne s b coins ⟨s, some .missingState⟩
  | write {p : Blk} : parentOf s.store b = some p → s.hasState b.parent = true →
      ImportOne s b coins (writeBlockWithState s b (coins.headD false))
  | noParentTd {p : Blk} : known s b.parent = false → parentOf s.store b = some p → s.td b.parent = none →
      ImportOne s b coins ⟨s, some .modelPanic⟩
  | withoutState {p : Blk} {ptd lt : Nat} : known s b.parent = false → parentOf s.store b = some p →
      s.td b.parent = some ptd → s.td s.head = some lt → ptd + b.diff < lt →
      ImportOne s b coins ⟨{ s with td := upd s.td b.id (some (ptd + b.diff)), store := upd s.store b.id (some b) }, none⟩
  | orphan {p : Blk} : known s b.parent = false → parentOf s.store b = some p →
      statelessAncestors s (p.number + 1) p = none → ImportOne s b coins ⟨s, some .unknownAncestor⟩
  | winnersFailed {p : Blk} {winner : List Blk} {e : Err} : known s b.parent = false → parentOf s.store b = some p →
      statelessAncestors s (p.number + 1) p = some winner → (processWinners s winner coins).err = some e →
      ImportOne s b coins (processWinners s winner coins)
  | winners {p : Blk} {winner : List Blk} : known s b.parent = false → parentOf s.store b = some p →
      statelessAncestors s (p.number + 1) p = some winner → (processWinners s winner coins).err = none →
      ImportOne s b coins (writeBlockWithState (processWinners s winner coins).st b ((coins.drop winner.length).headD false))

theorem importOne_cases (s : St) (b : Blk) (coins : List Bool) : ImportOne s b coins (importOne s b coins) := by
  unfold importOne
  cases hhc : headerCheck s.store b with
  | some e => exact .refused hhc
  | none =>
    obtain ⟨p, hpar⟩ := headerCheck_none hhc
    cases hcur : s.store s.head with
    | none => exact .noHead (.inl hcur)
    | some cur =>
      cases hlt : s.td s.head with
      | none => exact .noHead (.inr hlt)
      | some lt =>
        simp only
        cases hk : known s b.id with
        | true =>
          simp only [if_true]
          split
          · rename_i hskip
            simp only [Bool.and_eq_true, Bool.not_eq_true'] at hskip
            exact .skipped hlt hk hskip.2
          · cases hps : s.hasState b.parent with
            | true => exact .write hpar hps
            | false => exact .missingState hk hps
        | false =>
          simp only [Bool.false_eq_true, if_false]
          cases hkp : known s b.parent with
          | true =>
            simp only [Bool.not_true, Bool.false_eq_true, if_false]
            exact .write hpar (by unfold known at hkp; rw [Bool.and_eq_true] at hkp; exact hkp.2)
          | false =>
            simp only [Bool.not_false, if_true]
            cases hptd : s.td b.parent with
            | none => exact .noParentTd hkp hpar hptd
            | some ptd =>
              simp only [hpar]
              split
              · exact .withoutState hkp hpar hptd hlt ‹_›
              · cases hsa : statelessAncestors s (p.number + 1) p with
                | none => exact .orphan hkp hpar hsa
                | some winner =>
                  simp only
                  cases herr : (processWinners s winner coins).err with
                  | some e => exact .winnersFailed hkp hpar hsa herr
                  | none => exact .winners hkp hpar hsa herr

theorem stable_importOne (W : World U) (S : Stable U P NF) {s : St} (h : P s) {b : Blk} (hbU : U b.id = some b)
    (coins : List Bool) : ImportOutcome P NF (importOne s b coins) := by
  have hI := S.base s h
  have hc := importOne_cases s b coins
  generalize importOne s b coins = o at hc ⊢
  cases hc with
  | refused hhc => exact .same h (by simpa using (headerCheck_err hhc).1) (by simpa using (headerCheck_err hhc).2)
  | noHead hno => exact absurd hno hI.head_there
  | skipped => exact .same h (by simp) (by simp)
  | missingState => exact .same h (by simp) (by simp)
  | write hpar hps => exact S.write h hbU hpar hps _
  | noParentTd _ hpar hptd =>
    have := hI.storeTd _ _ (parentOf_some hpar).1
    rw [hptd] at this; cases this
  | withoutState _ hpar hptd => exact .same (S.without s b _ _ h hbU hpar hptd) (by simp) (by simp)
  | orphan => exact .same h (by simp) (by simp)
  | @winnersFailed p winner e _ hpar hsa herr =>
    have hpid : p.id = b.parent := W.ids _ _ (hI.sub _ _ (parentOf_some hpar).1)
    have hpU : U p.id = some p := by rw [hpid]; exact hI.sub _ _ (parentOf_some hpar).1
    exact (stable_winners W S h _ _ _ hpU hsa coins).2.1
  | @winners p winner _ hpar hsa herr =>
    have hpid : p.id = b.parent := W.ids _ _ (hI.sub _ _ (parentOf_some hpar).1)
    have hpU : U p.id = some p := by rw [hpid]; exact hI.sub _ _ (parentOf_some hpar).1
    obtain ⟨hext, hrest, hst'⟩ := stable_winners W S h _ _ _ hpU hsa coins
    exact S.write (hrest.keeps (by rw [herr]; simp)) hbU (parentOf_mono hext hpar) (by rw [← hpid]; exact hst' herr) _

theorem stable_importSeq (W : World U) (S : Stable U P NF) : ∀ (l : List Blk) {s : St}, P s →
    (∀ b ∈ l, U b.id = some b) → ∀ (coins : List (List Bool)) (i : Nat), ImportOutcome P NF (importSeq s l coins i).1 := by
  intro l
  induction l with
  | nil => intro s h _ coins i; exact .same h (by simp) (by simp)
  | cons b l ih =>
    intro s h hU coins i
    have h1 := stable_importOne W S h (hU b (by simp)) (coins.headD [])
    unfold importSeq
    cases herr : (importOne s b (coins.headD [])).err with
    | some e =>
      simp only [herr]
      exact h1
    | none =>
      simp only [herr]
      exact ih (h1.keeps (by rw [herr]; simp)) (fun x hx => hU x (List.mem_cons_of_mem _ hx)) _ _

theorem stable_importChain (W : World U) (S : Stable U P NF) {s : St} (h : P s) (chain : List Blk)
    (hU : ∀ b ∈ chain, U b.id = some b) (coins : List (List Bool)) : ImportOutcome P NF (importChain s chain coins).1 :=
  stable_importSeq W S _ h (fun b hb => hU b (mem_contigPrefix _ _ hb)) _ _

theorem inv_stable (W : World U) : Stable U (Inv U) False where
  base := fun _ h => inv_base h
  wbws := fun s b p coin h hbU hpar hps => ⟨fun hok => inv_wbws W h hbU hpar hps coin hok, fun f => f.elim⟩
  without := fun s b p ptd h hbU hpar hptd => by
    obtain ⟨hb, C, hI⟩ := h
    exact ⟨hb, C, invC_withoutState W hI hbU hpar hptd⟩

theorem ginv_stable (W : World U) : Stable U (GInv U) False where
  base := fun _ h => ginv_base W h
  wbws := fun s b p coin h hbU hpar hps => ⟨fun hok => ginv_wbws W h hbU hpar hps coin hok, fun f => f.elim⟩
  without := fun s b p ptd h hbU hpar hptd => by
    obtain ⟨hh, HC, hG⟩ := h
    exact ⟨hh, HC, ginv_withoutState hG hbU hpar hptd⟩

theorem ginv_importChain (W : World U) {s : St} (h : GInv U s) (chain : List Blk)
    (hU : ∀ b ∈ chain, U b.id = some b) (coins : List (List Bool))
    (hok : (importChain s chain coins).1.err ≠ some .reorgFail) : GInv U (importChain s chain coins).1.st :=
  (stable_importChain W (ginv_stable W) h chain hU coins).keeps hok

theorem inv_importChain (W : World U) {s : St} (h : Inv U s) (chain : List Blk)
    (hU : ∀ b ∈ chain, U b.id = some b) (coins : List (List Bool))
    (hok : (importChain s chain coins).1.err ≠ some .reorgFail) : Inv U (importChain s chain coins).1.st :=
  (stable_importChain W (inv_stable W) h chain hU coins).keeps hok

/-- `InsertChain` never dereferences nil (the Go code with 7235ac1, see `statelessAncestors`) -/
theorem importChain_no_panic (W : World U) {s : St} (h : Inv U s) (chain : List Blk)
    (hU : ∀ b ∈ chain, U b.id = some b) (coins : List (List Bool)) :
    (importChain s chain coins).1.err ≠ some .modelPanic :=
  (stable_importChain W (inv_stable W) h chain hU coins).noPanic

end Aqv.Chain
