/- C08: core/vm/analysis.go codeBitmap / destinations.has against "a JUMPDEST byte that is not inside PUSH data"
  (EvmSpec.validJumpdest). -/
import Aqv.Lemmas.Big
import Aqv.Model.EvmOps
import Aqv.Model.EvmSpec
namespace Aqv.Evm
open Aqv Aqv.Big

def inSpan (lo n i : Nat) : Bool := decide (lo ≤ i ∧ i < lo + n)

theorem inSpan_zero (lo i : Nat) : inSpan lo 0 i = false := by
  unfold inSpan; rw [decide_eq_false_iff_not]; omega

theorem inSpan_add (lo a b i : Nat) : (inSpan lo a i || inSpan (lo + a) b i) = inSpan lo (a + b) i := by
  unfold inSpan
  rw [← Bool.decide_or, decide_eq_decide]
  omega

theorem testBit_set1 (bits pos i : Nat) : (set1 bits pos).testBit i = (bits.testBit i || inSpan pos 1 i) := by
  unfold set1 inSpan
  rw [Nat.testBit_or, Nat.one_shiftLeft, Nat.testBit_two_pow]
  congr 1
  rw [decide_eq_decide]; omega

theorem testBit_set8 (bits pos i : Nat) : (set8 bits pos).testBit i = (bits.testBit i || inSpan pos 8 i) := by
  unfold set8 inSpan
  rw [Nat.testBit_or, Nat.testBit_shiftLeft]
  have : (0xff : Nat) = 2 ^ 8 - 1 := by decide
  rw [this, Nat.testBit_two_pow_sub_one]
  congr 1
  by_cases h : pos ≤ i
  · simp [h]; omega
  · simp [h]

theorem loop8_spec (f numbits pc bits : Nat) (hf : numbits < 8 * (f + 1)) :
    ∃ nb pc' bits', loop8 f numbits pc bits = (nb, pc', bits') ∧ nb < 8 ∧ nb ≤ numbits ∧ pc' + nb = pc + numbits ∧
      ∀ i, bits'.testBit i = (bits.testBit i || inSpan pc (numbits - nb) i) := by
  induction f generalizing numbits pc bits with
  | zero =>
    refine ⟨numbits, pc, bits, rfl, by omega, Nat.le_refl _, rfl, fun i => ?_⟩
    rw [Nat.sub_self, inSpan_zero, Bool.or_false]
  | succ f ih =>
    unfold loop8
    split
    · obtain ⟨nb, pc', bits', he, hnb, hle, hpc, hb⟩ := ih (numbits - 8) (pc + 8) (set8 bits pc) (by omega)
      refine ⟨nb, pc', bits', he, hnb, by omega, by omega, fun i => ?_⟩
      rw [hb, testBit_set8, Bool.or_assoc, inSpan_add, show 8 + (numbits - 8 - nb) = numbits - nb by omega]
    · refine ⟨numbits, pc, bits, rfl, by omega, Nat.le_refl _, rfl, fun i => ?_⟩
      rw [Nat.sub_self, inSpan_zero, Bool.or_false]

theorem loop1_spec (f numbits pc bits : Nat) (hf : numbits ≤ f) :
    ∃ bits', loop1 f numbits pc bits = (pc + numbits, bits') ∧
      ∀ i, bits'.testBit i = (bits.testBit i || inSpan pc numbits i) := by
  induction f generalizing numbits pc bits with
  | zero =>
    have : numbits = 0 := by omega
    subst this
    exact ⟨bits, rfl, fun i => by rw [inSpan_zero, Bool.or_false]⟩
  | succ f ih =>
    unfold loop1
    split
    · obtain ⟨bits', he, hb⟩ := ih (numbits - 1) (pc + 1) (set1 bits pc) (by omega)
      refine ⟨bits', by rw [he]; congr 1; omega, fun i => ?_⟩
      rw [hb, testBit_set1, Bool.or_assoc, inSpan_add, show 1 + (numbits - 1) = numbits by omega]
    · have : numbits = 0 := by omega
      subst this
      exact ⟨bits, rfl, fun i => by rw [inSpan_zero, Bool.or_false]⟩

theorem inner_spec (numbits pc bits : Nat) (h : numbits ≤ 32) :
    ∃ bits', loop1 8 (loop8 4 numbits pc bits).1 (loop8 4 numbits pc bits).2.1 (loop8 4 numbits pc bits).2.2 = (pc + numbits, bits') ∧
      ∀ i, bits'.testBit i = (bits.testBit i || inSpan pc numbits i) := by
  obtain ⟨nb, pc', b1, he, hnb, hle, hpc, hb⟩ := loop8_spec 4 numbits pc bits (by omega)
  rw [he]
  obtain ⟨b2, he2, hb2⟩ := loop1_spec 8 nb pc' b1 (by omega)
  refine ⟨b2, by rw [he2]; congr 1, fun i => ?_⟩
  rw [hb2, hb, Bool.or_assoc, show pc' = pc + (numbits - nb) by omega, inSpan_add, show numbits - nb + nb = numbits by omega]

open EvmSpec in
theorem isCodeFrom_length (n : Nat) (l : List UInt8) : (isCodeFrom n l).length = l.length := by
  induction l generalizing n with
  | nil => cases n <;> rfl
  | cons x xs ih => cases n <;> simp [isCodeFrom, ih]

open EvmSpec in
theorem isCodeFrom_getD (n : Nat) (l : List UInt8) (j : Nat) :
    (isCodeFrom n l).getD j true =
      if j < n then (if j < l.length then false else true) else (isCodeFrom 0 (l.drop n)).getD (j - n) true := by
  induction n generalizing l j with
  | zero => simp
  | succ n ih =>
    cases l with
    | nil => simp [isCodeFrom]
    | cons x xs =>
      simp only [isCodeFrom, List.drop_succ_cons, List.length_cons]
      cases j with
      | zero => simp
      | succ j =>
        rw [List.getD_cons_succ, ih]
        have e3 : j + 1 - (n + 1) = j - n := by omega
        rw [e3]
        by_cases h1 : j < n
        · have h1' : j + 1 < n + 1 := by omega
          rw [if_pos h1, if_pos h1']
          by_cases h2 : j < xs.length
          · rw [if_pos h2, if_pos (by omega)]
          · rw [if_neg h2, if_neg (by omega)]
        · have h1' : ¬ j + 1 < n + 1 := by omega
          rw [if_neg h1, if_neg h1']

theorem pushLen_eq (op : UInt8) (h : op ≥ 0x60 ∧ op ≤ 0x7f) : (op - 0x60).toNat + 1 = EvmSpec.pushLen op ∧ EvmSpec.pushLen op ≤ 32 := by
  unfold EvmSpec.pushLen
  rw [if_pos h]
  obtain ⟨h1, h2⟩ := h
  rw [ge_iff_le, UInt8.le_iff_toNat_le] at h1
  rw [UInt8.le_iff_toNat_le] at h2
  have c1 : (0x60 : UInt8).toNat = 0x60 := by decide
  have c2 : (0x7f : UInt8).toNat = 0x7f := by decide
  rw [c1] at h1; rw [c2] at h2
  rw [UInt8.toNat_sub, c1]
  have := op.toNat_lt
  omega

open EvmSpec in
/-- position i is PUSH data when the code is decoded from the instruction boundary pc ≤ i -/
def dataFrom (code : List UInt8) (pc i : Nat) : Bool :=
  decide (pc ≤ i) && !((isCodeFrom 0 (code.drop pc)).getD (i - pc) true)

open EvmSpec in
theorem dataFrom_step (code : List UInt8) (pc i : Nat) (h : pc < code.length) (hi : i < code.length) :
    dataFrom code pc i = (inSpan (pc + 1) (pushLen code[pc]) i || dataFrom code (pc + 1 + pushLen code[pc]) i) := by
  unfold dataFrom inSpan
  rw [List.drop_eq_getElem_cons h]
  simp only [isCodeFrom]
  generalize pushLen code[pc] = n
  by_cases h1 : i ≤ pc
  · rw [show i - pc = 0 by omega, List.getD_cons_zero, decide_eq_false (by omega : ¬ (pc + 1 ≤ i ∧ i < pc + 1 + n)),
      decide_eq_false (by omega : ¬ pc + 1 + n ≤ i)]
    simp
  · rw [show i - pc = (i - pc - 1) + 1 by omega, List.getD_cons_succ, isCodeFrom_getD, List.drop_drop, List.length_drop,
      decide_eq_true (by omega : pc ≤ i)]
    split
    · rw [if_pos (by omega), decide_eq_true (by omega : pc + 1 ≤ i ∧ i < pc + 1 + n)]
      rfl
    · rw [decide_eq_false (by omega : ¬ (pc + 1 ≤ i ∧ i < pc + 1 + n)), decide_eq_true (by omega : pc + 1 + n ≤ i),
        show i - pc - 1 - n = i - (pc + 1 + n) by omega]
      rfl

theorem bitmapLoop_spec (code : Array UInt8) : ∀ fuel pc bits, code.size ≤ pc + fuel →
    ∀ i, i < code.size → (bitmapLoop code fuel pc bits).testBit i = (bits.testBit i || dataFrom code.toList pc i) := by
  have hend : ∀ pc i, ¬ pc < code.size → i < code.size → dataFrom code.toList pc i = false := by
    intro pc i h hi
    unfold dataFrom
    rw [decide_eq_false (by omega), Bool.false_and]
  intro fuel
  induction fuel with
  | zero =>
    intro pc bits hf i hi
    unfold bitmapLoop
    rw [hend pc i (by omega) hi, Bool.or_false]
  | succ f ih =>
    intro pc bits hf i hi
    unfold bitmapLoop
    split
    · rename_i hpc
      rw [dataFrom_step code.toList pc i (by simpa using hpc) (by simpa using hi), Array.getElem_toList]
      simp only []
      split
      · rename_i hpush
        obtain ⟨hn, hn32⟩ := pushLen_eq _ hpush
        rw [hn]
        obtain ⟨bits', he, hb⟩ := inner_spec _ (pc + 1) bits hn32
        rw [he]
        simp only []
        rw [ih _ bits' (by omega) i hi, hb, Bool.or_assoc]
      · rename_i hpush
        have hpl : EvmSpec.pushLen code[pc] = 0 := by unfold EvmSpec.pushLen; rw [if_neg hpush]
        rw [hpl, inSpan_zero, Bool.false_or, ih _ bits (by omega) i hi]
    · rename_i hpc
      rw [hend pc i hpc hi, Bool.or_false]

open EvmSpec in
theorem codeSegment_codeBitmap (code : Array UInt8) (i : Nat) (hi : i < code.size) :
    codeSegment (codeBitmap code) i = (isCode code.toList).getD i false := by
  unfold codeSegment codeBitmap isCode
  rw [bitmapLoop_spec code code.size 0 0 (by omega) i hi]
  have hlen : i < (isCodeFrom 0 code.toList).length := by rw [isCodeFrom_length]; simpa using hi
  simp [dataFrom, List.getD_eq_getElem?_getD, List.getElem?_eq_getElem hlen]

/-- destinations.has = D(c) of the Yellow Paper; `hsize` because Go refuses every destination with BitLen ≥ 63 -/
theorem hasJumpdest_eq (code : Array UInt8) (dest : Nat) (hsize : code.size < 2 ^ 62) :
    hasJumpdest code (dest : Int) = EvmSpec.validJumpdest code.toList dest := by
  unfold hasJumpdest EvmSpec.validJumpdest
  simp only [Array.length_toList, show bitLen (dest : Int) ≥ 63 ↔ dest ≥ 2 ^ 62 from bitLen_natCast_gt dest 62, uint64_natCast]
  by_cases hin : dest < code.size
  · have hg : code[dest]! = code.toList.getD dest 0 := by
      rw [getElem!_pos code dest hin, List.getD_eq_getElem?_getD, List.getElem?_eq_getElem (by simpa using hin)]
      simp
    rw [if_neg (by omega), Nat.mod_eq_of_lt (by omega), codeSegment_codeBitmap code dest hin, decide_eq_true hin, Bool.true_and, hg]
  · rw [if_pos (by omega), decide_eq_false hin]
    rfl
end Aqv.Evm
