/-
  Aqv.Lemmas.ChainHist — histories of operations on a chain fed by full imports (shared by Props C02 and C03):
  `run`, admissibility, and the induction over histories.
-/
import Aqv.Lemmas.ChainTd
namespace Aqv.Chain

inductive Op
  | insert (chain : List Blk) (coins : List (List Bool))   -- InsertChain; `coins` resolves the coin flips
  | setHead (n : Nat)
  | reopen

def step (s : St) : Op → Out
  | .insert chain coins => (importChain s chain coins).1
  | .setHead n => setHead s n
  | .reopen => ⟨reopen s, none⟩

def run (s : St) : List Op → St
  | [] => s
  | op :: ops => run (step s op).st ops

/-- the block `SetHead(n)` rewinds to still has its state -/
def stateAt (s : St) (n : Nat) : Bool :=
  match s.canon n with
  | some i => s.hasState i
  | none => true

def OpOk (U : Map Blk) (s : St) : Op → Prop
  | .insert chain _ => ∀ b ∈ chain, U b.id = some b
  | .setHead n => stateAt s n = true
  | .reopen => True

/-- `reorgFail` ("invalid new chain") is possible only once a rewind has orphaned side-chain blocks (`imports_admissible`);
    such runs are left out -/
def Admissible (U : Map Blk) (s : St) : List Op → Prop
  | [] => True
  | op :: ops => OpOk U s op ∧ (step s op).err ≠ some .reorgFail ∧ Admissible U (step s op).st ops

instance (U : Map Blk) (s : St) : (op : Op) → Decidable (OpOk U s op)
  | .insert chain _ => inferInstanceAs (Decidable (∀ b ∈ chain, U b.id = some b))
  | .setHead n => inferInstanceAs (Decidable (stateAt s n = true))
  | .reopen => isTrue trivial

instance decAdmissible (U : Map Blk) : ∀ (ops : List Op) (s : St), Decidable (Admissible U s ops)
  | [], _ => isTrue trivial
  | op :: ops, s =>
    have := decAdmissible U ops (step s op).st
    inferInstanceAs (Decidable (OpOk U s op ∧ (step s op).err ≠ some .reorgFail ∧ Admissible U (step s op).st ops))

def IsImport : Op → Prop
  | .setHead _ => False
  | _ => True

variable {U : Map Blk}

theorem inv_step (W : World U) {s : St} (h : Inv U s) (op : Op) (hop : OpOk U s op)
    (hok : (step s op).err ≠ some .reorgFail) : Inv U (step s op).st := by
  cases op with
  | insert chain coins => exact inv_importChain W h chain hop coins hok
  | setHead n =>
    apply Aqv.Chain.inv_setHead W h n
    intro i hi
    simp only [OpOk, stateAt, hi] at hop
    exact hop
  | reopen => exact Aqv.Chain.inv_reopen W h

theorem inv_run (W : World U) : ∀ (ops : List Op) {s : St}, Inv U s → Admissible U s ops → Inv U (run s ops) := by
  intro ops
  induction ops with
  | nil => intro s h _; exact h
  | cons op ops ih =>
    intro s h hadm
    exact ih (inv_step W h op hadm.1 hadm.2.1) hadm.2.2

theorem good_step (W : World U) {s : St} {g : Blk} {t0 : Nat} (h : Good U g t0 s) (op : Op) (himp : IsImport op)
    (hop : OpOk U s op) : (step s op).err ≠ some .reorgFail ∧ Good U g t0 (step s op).st := by
  cases op with
  | insert chain coins =>
    have := stable_importChain W (good_stable W g t0) h chain hop coins
    exact ⟨this.noFail trivial, this.keeps (this.noFail trivial)⟩
  | setHead n => exact himp.elim
  | reopen => exact ⟨by simp [step], good_reopen W h⟩

/-- an `InsertChain` of blocks of `U` or a restart is an import, admissible in every state -/
theorem importOp_ok {op : Op} (s : St)
    (h : match op with
      | .insert chain _ => ∀ b ∈ chain, U b.id = some b
      | .setHead _ => False
      | .reopen => True) : IsImport op ∧ OpOk U s op := by
  cases op with
  | insert chain coins => exact ⟨trivial, h⟩
  | setHead n => exact h.elim
  | reopen => exact ⟨trivial, trivial⟩

/-- `OpOk` is asked at the initial `s` for all later operations: on imports and restarts it does not read the state -/
theorem imports_admissible (W : World U) : ∀ (ops : List Op) {s : St} {g : Blk} {t0 : Nat}, Good U g t0 s →
    (∀ op ∈ ops, IsImport op ∧ OpOk U s op) → Admissible U s ops ∧ Good U g t0 (run s ops) := by
  intro ops
  induction ops with
  | nil => intro s g t0 h _; exact ⟨trivial, h⟩
  | cons op ops ih =>
    intro s g t0 h hops
    have hop := hops op (by simp)
    have hstep := good_step W h op hop.1 hop.2
    have hrest := ih hstep.2 (fun op' hop' => by
      have := hops op' (List.mem_cons_of_mem _ hop')
      refine ⟨this.1, ?_⟩
      cases op' with
      | insert chain coins => exact this.2
      | setHead n => exact this.1.elim
      | reopen => trivial)
    exact ⟨⟨hop.2, hstep.1, hrest.1⟩, hrest.2⟩

end Aqv.Chain
