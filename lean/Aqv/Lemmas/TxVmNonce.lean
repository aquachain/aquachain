/-
  Aqv.Lemmas.TxVmNonce — the signer's nonce over the C07 machine: `SenderIsEOA` derived from "no code at the signer".

  A transaction's signer is an address somebody holds the key of. It has code only if an earlier CREATE produced exactly that
  address, i.e. keccak(rlp(creator, nonce))[12:] collided with a key-controlled address — excluded as a hash assumption. What
  the fee machinery needs from this is stated on the PRE-STATE (`hasCode w.rest sender = false`) together with the discipline the
  oracle's effects obey towards a code-less signer (`CodeDiscipline`): they never install code there and never move its
  nonce — the nonce of an account moves only when a frame executing AS that account runs CREATE, and a code-less account executes
  no frame except the depth-0 `evm.Create` of its own transaction (entry 0's `nonceEff`, fixed by `OracleOk`).
-/
import Aqv.Lemmas.TxVm
import Aqv.Lemmas.Tx
namespace Aqv.TxVm
open Aqv.Tx

variable {ρ : Type}

structure CodeDiscipline (hasCode : ρ → Addr → Bool) (orc : Oracle ρ) : Prop where
  keepsCodeless : ∀ m g w t w', hasCode w'.rest m.sender = false →
    hasCode ((orc m g w t).eff w').rest m.sender = false ∧ hasCode ((orc m g w t).gasEff w').rest m.sender = false ∧
    hasCode ((orc m g w t).neutralEff w').rest m.sender = false ∧ hasCode ((orc m g w t).xferEff w').rest m.sender = false ∧
    hasCode ((orc m g w t).nonceEff w').rest m.sender = false ∧ hasCode ((orc m g w t).setCodeEff w').rest m.sender = false
  /-- no effect moves the nonce of a code-less signer, except the depth-0 Create's own bump (entry 0's nonceEff) -/
  keepsNonce : ∀ m g w t w', hasCode w'.rest m.sender = false →
    lookup ((orc m g w t).eff w').nonce m.sender = lookup w'.nonce m.sender ∧
    lookup ((orc m g w t).gasEff w').nonce m.sender = lookup w'.nonce m.sender ∧
    lookup ((orc m g w t).neutralEff w').nonce m.sender = lookup w'.nonce m.sender ∧
    lookup ((orc m g w t).xferEff w').nonce m.sender = lookup w'.nonce m.sender ∧
    lookup ((orc m g w t).setCodeEff w').nonce m.sender = lookup w'.nonce m.sender ∧
    (1 ≤ t → lookup ((orc m g w t).nonceEff w').nonce m.sender = lookup w'.nonce m.sender)

def NoCodeAtSigner (hasCode : ρ → Addr → Bool) (m : Msg) (w : World ρ) : Prop := hasCode w.rest m.sender = false

def SignerAt (hasCode : ρ → Addr → Bool) (s : Addr) (n : Nat) (w : World ρ) : Prop :=
  hasCode w.rest s = false ∧ lookup w.nonce s = n

theorem SignerAt.pres {hasCode : ρ → Addr → Bool} {s : Addr} {n : Nat} {f : World ρ → World ρ}
    (h : ∀ w', hasCode w'.rest s = false → hasCode (f w').rest s = false ∧ lookup (f w').nonce s = lookup w'.nonce s) :
    Pres (SignerAt hasCode s n) f :=
  fun w' hw' => ⟨(h w' hw'.1).1, (h w' hw'.1).2.trans hw'.2⟩

/-- `keepsCodeless` lists the six effects in the order of `Vm.AllEff` -/
theorem CodeDiscipline.codeless {hasCode : ρ → Addr → Bool} {orc : Oracle ρ} (hC : CodeDiscipline hasCode orc) (m : Msg) (g : Nat)
    (w : World ρ) (t : Nat) (w' : World ρ) (h : hasCode w'.rest m.sender = false) :
    Vm.AllEff (fun f => hasCode (f w').rest m.sender = false) (orc m g w t) :=
  Vm.allEff_iff.mpr (hC.keepsCodeless m g w t w' h)

/-- `CodeDiscipline` for one entry as the named record: every effect but `nonceEff` (which stands as `id` here) keeps a code-less
    signer as it is. `keepsNonce` lists `setCodeEff` fifth and `nonceEff`, from tick 1 on, last: this lemma and the next are the
    two places that read it. -/
theorem CodeDiscipline.others {hasCode : ρ → Addr → Bool} {orc : Oracle ρ} (hC : CodeDiscipline hasCode orc) (m : Msg) (g : Nat)
    (w : World ρ) (t n : Nat) : Vm.AllEff (Pres (SignerAt hasCode m.sender n)) { orc m g w t with nonceEff := id } :=
  have c := hC.codeless m g w t
  have k := hC.keepsNonce m g w t
  { eff := .pres fun w' h => ⟨(c w' h).eff, (k w' h).1⟩
    gasEff := .pres fun w' h => ⟨(c w' h).gasEff, (k w' h).2.1⟩
    neutral := .pres fun w' h => ⟨(c w' h).neutral, (k w' h).2.2.1⟩
    xfer := .pres fun w' h => ⟨(c w' h).xfer, (k w' h).2.2.2.1⟩
    nonce := fun _ h => h
    setCode := .pres fun w' h => ⟨(c w' h).setCode, (k w' h).2.2.2.2.1⟩ }

/-- … and of an entry the loop reads (t ≥ 1) `nonceEff` too -/
theorem signerAt_pres {hasCode : ρ → Addr → Bool} {orc : Oracle ρ} (hC : CodeDiscipline hasCode orc) (m : Msg) (g : Nat) (w : World ρ)
    {t : Nat} (ht : 1 ≤ t) (n : Nat) : Vm.AllEff (Pres (SignerAt hasCode m.sender n)) (orc m g w t) :=
  have o := hC.others m g w t n
  ⟨o.eff, o.gasEff, o.neutral, o.xfer,
    .pres fun w' h => ⟨(hC.codeless m g w t w' h).nonce, (hC.keepsNonce m g w t w' h).2.2.2.2.2 ht⟩, o.setCode⟩

/-- the statement `SenderIsEOA` makes, derived from a pre-state without code at the signer instead of assumed -/
theorem signer_nonce_over_vm {hasCode : ρ → Addr → Bool} (venv : Vm.Env) (orc : Oracle ρ) (hO : OracleOk orc) (hC : CodeDiscipline hasCode orc)
    (m : Msg) (g : Nat) (w : World ρ) (hno : hasCode w.rest m.sender = false)
    (hne : (vmRun venv orc m g w).err ≠ some .insufficientBalance) :
    hasCode (vmRun venv orc m g w).world.rest m.sender = false ∧
    lookup (vmRun venv orc m g w).world.nonce m.sender =
      if m.to.isSome then lookup w.nonce m.sender else nonceInc (lookup w.nonce m.sender) := by
  show SignerAt hasCode m.sender _ (machine venv orc m g w).db.cur
  have hE : ∀ n, EffOk 1 (SignerAt hasCode m.sender n) (orc m g w) := fun n _ ht => signerAt_pres hC m g w ht n
  -- entry 0 is read by the depth-0 wrapper alone; of its effects the wrapper applies `xferEff`, `neutralEff` / `setCodeEff`
  -- besides the nonce bump
  have o0 := fun n => hC.others m g w 0 n
  cases hto : m.to with
  | some t =>
    rw [machine_some hto]
    exact (topCall_inv_tick1 venv (hE _) (o0 _).xfer (o0 _).neutral _ _ _ _ (db := ⟨w, [], 0⟩) ⟨⟨hno, rfl⟩, nofun⟩).cur
  | none =>
    rw [machine_none hto]
    have h0 : SignerAt hasCode m.sender (nonceInc (lookup w.nonce m.sender)) ((orc m g w 0).nonceEff w) := by
      rw [hO.nonceEff]
      exact ⟨hno, (lookup_setNonce _ _ _ _).trans (if_pos rfl)⟩
    exact (topCreate_inv_tick1 venv (hE _) (o0 _).xfer (o0 _).setCode _ _ (db := ⟨w, [], 0⟩)
      (fun hct => absurd ((vmRun_insufficient_iff venv orc m g w).mpr hct) hne) ⟨h0, nofun⟩).cur

end Aqv.TxVm
