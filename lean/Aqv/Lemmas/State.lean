/-
  Aqv.Lemmas.State — basic lemmas about the StateDB model (Aqv.Model.State): point updates, the normal form `setObj` of
  every object-level write, the view-equivalence `Sim` and its compatibility with every journal `undo`, `undoN`, and
  `Ext` ("reached by journalled steps that unwind again").
-/
import Aqv.Model.State
namespace Aqv.State

@[simp] theorem upd_same {β : Type} (m : Nat → β) (a : Nat) (v : β) : upd m a v a = v := by simp [upd]
@[simp] theorem upd_ne {β : Type} (m : Nat → β) (a b : Nat) (v : β) (h : b ≠ a) : upd m a v b = m b := by simp [upd, h]
theorem upd_apply {β : Type} (m : Nat → β) (a b : Nat) (v : β) : upd m a v b = if b = a then v else m b := rfl

@[simp] theorem upd_upd {β : Type} (m : Nat → β) (a : Nat) (v w : β) : upd (upd m a v) a w = upd m a w := by
  funext b; simp only [upd]; split <;> rfl

theorem upd_self {β : Type} (m : Nat → β) (a : Nat) : upd m a (m a) = m := by
  funext b; simp only [upd]; split <;> simp [*]

/-- normal form of every object-level write and of the undo of every object-level journal entry. -/
def setObj (s : SDB) (a : Addr) (x : Option Obj) (d : List Addr) : SDB := { s with objs := upd s.objs a x, dirty := d }

theorem markDirty_eq (s : SDB) (a : Addr) :
    markDirty s a = { s with dirty := if a ∈ s.dirty then s.dirty else a :: s.dirty } := by
  by_cases h : a ∈ s.dirty <;> simp [markDirty, h]

theorem mem_markDirty (s : SDB) (a b : Addr) : b ∈ (markDirty s a).dirty ↔ b = a ∨ b ∈ s.dirty := by
  rw [markDirty_eq]; by_cases h : a ∈ s.dirty <;> simp [h]
  rintro rfl; exact h

theorem putObj_eq_setObj (s : SDB) (a : Addr) (o : Obj) : putObj s a o = setObj s a (some o) s.dirty := rfl

theorem writeObj_eq_setObj (s : SDB) (a : Addr) (o : Obj) :
    writeObj s a o = setObj s a (some { o with armed := false }) (if o.armed then (markDirty s a).dirty else s.dirty) := by
  unfold writeObj; split
  · rw [markDirty_eq]; rfl
  · rfl

@[simp] theorem setObj_setObj (s : SDB) (a : Addr) (x y : Option Obj) (d d' : List Addr) :
    setObj (setObj s a x d) a y d' = setObj s a y d' := by
  simp [setObj]

@[simp] theorem putObj_trie (s : SDB) (a : Addr) (o : Obj) : (putObj s a o).trie = s.trie := rfl
@[simp] theorem putObj_journal (s : SDB) (a : Addr) (o : Obj) : (putObj s a o).journal = s.journal := rfl
@[simp] theorem putObj_revs (s : SDB) (a : Addr) (o : Obj) : (putObj s a o).revs = s.revs := rfl
@[simp] theorem putObj_nextId (s : SDB) (a : Addr) (o : Obj) : (putObj s a o).nextId = s.nextId := rfl
@[simp] theorem putObj_refund (s : SDB) (a : Addr) (o : Obj) : (putObj s a o).refund = s.refund := rfl
@[simp] theorem putObj_logs (s : SDB) (a : Addr) (o : Obj) : (putObj s a o).logs = s.logs := rfl
@[simp] theorem putObj_logSize (s : SDB) (a : Addr) (o : Obj) : (putObj s a o).logSize = s.logSize := rfl
@[simp] theorem putObj_preimages (s : SDB) (a : Addr) (o : Obj) : (putObj s a o).preimages = s.preimages := rfl
@[simp] theorem putObj_thash (s : SDB) (a : Addr) (o : Obj) : (putObj s a o).thash = s.thash := rfl
@[simp] theorem putObj_fault (s : SDB) (a : Addr) (o : Obj) : (putObj s a o).fault = s.fault := rfl
@[simp] theorem putObj_dirty (s : SDB) (a : Addr) (o : Obj) : (putObj s a o).dirty = s.dirty := rfl

@[simp] theorem look_push (s : SDB) (e : Entry) (b : Addr) : look (push s e) b = look s b := rfl
theorem look_setJournal (s : SDB) (j : List Entry) (a : Addr) : look { s with journal := j } a = look s a := rfl
theorem look_setDirty (s : SDB) (d : List Addr) (a : Addr) : look { s with dirty := d } a = look s a := rfl

theorem look_of_none {s : SDB} {a : Addr} (h : s.objs a = none) : look s a = (s.trie a).map fromAcct := by
  unfold look; rw [h]

theorem look_of_some {s : SDB} {a : Addr} {o : Obj} (h : s.objs a = some o) : look s a = if o.deleted then none else some o := by
  unfold look; rw [h]

theorem look_of_live {s : SDB} {a : Addr} {o : Obj} (h : s.objs a = some o) (hd : o.deleted = false) : look s a = some o := by
  rw [look_of_some h, hd]; rfl

theorem look_congr {s t : SDB} {a : Addr} (ho : t.objs a = s.objs a) (ht : t.trie a = s.trie a) : look t a = look s a := by
  unfold look; rw [ho, ht]

theorem look_eq_some {s : SDB} {a : Addr} {o : Obj} (h : look s a = some o) :
    (s.objs a = some o ∧ o.deleted = false) ∨ (s.objs a = none ∧ ∃ c, s.trie a = some c ∧ o = fromAcct c) := by
  unfold look at h
  split at h
  · split at h
    · cases h
    · cases h; exact Or.inl ⟨‹_›, Bool.eq_false_iff.mpr ‹_›⟩
  · cases ht : s.trie a with
    | none => rw [ht] at h; cases h
    | some c => rw [ht] at h; cases h; exact Or.inr ⟨‹_›, c, rfl, rfl⟩

theorem look_not_deleted {s : SDB} {a : Addr} {o : Obj} (h : look s a = some o) : o.deleted = false := by
  rcases look_eq_some h with ⟨-, hd⟩ | ⟨-, c, -, rfl⟩
  · exact hd
  · rfl

theorem look_setObj_ne (s : SDB) {a b : Addr} (x : Option Obj) (d : List Addr) (h : b ≠ a) :
    look (setObj s a x d) b = look s b :=
  look_congr (upd_ne _ _ _ _ h) rfl

theorem look_setObj_none (s : SDB) (a : Addr) (d : List Addr) : look (setObj s a none d) a = (s.trie a).map fromAcct :=
  look_of_none (upd_same ..)

theorem look_setObj_same (s : SDB) (a : Addr) (o : Obj) (d : List Addr) :
    look (setObj s a (some o) d) a = if o.deleted then none else some o :=
  look_of_some (upd_same ..)

theorem look_setObj_live (s : SDB) (a : Addr) {o : Obj} (d : List Addr) (h : o.deleted = false) :
    look (setObj s a (some o) d) a = some o :=
  look_of_live (upd_same ..) h

theorem look_putObj (s : SDB) (a b : Addr) (o : Obj) :
    look (putObj s a o) b = if b = a then (if o.deleted then none else some o) else look s b := by
  rw [putObj_eq_setObj]; split
  · subst b; exact look_setObj_same ..
  · exact look_setObj_ne _ _ _ ‹_›

@[simp] theorem look_markDirty (s : SDB) (a b : Addr) : look (markDirty s a) b = look s b := by rw [markDirty_eq]; rfl

theorem look_writeObj (s : SDB) (a b : Addr) (o : Obj) :
    look (writeObj s a o) b = if b = a then (if o.deleted then none else some { o with armed := false }) else look s b := by
  rw [writeObj_eq_setObj]
  by_cases hb : b = a
  · subst hb; rw [if_pos rfl]; exact look_setObj_same ..
  · rw [if_neg hb]; exact look_setObj_ne _ _ _ hb

/-- two objects the getters cannot tell apart. -/
def ObjEq (o p : Obj) : Prop :=
  o.nonce = p.nonce ∧ o.balance = p.balance ∧ o.code = p.code ∧ o.suicided = p.suicided ∧ ∀ k, getState o k = getState p k

def OOEq : Option Obj → Option Obj → Prop
  | none, none => True
  | some o, some p => ObjEq o p
  | _, _ => False

theorem objEq_iff {o p : Obj} : ObjEq o p ↔ o.view = p.view := by
  simp only [ObjEq, Obj.view, AcctView.mk.injEq, funext_iff]

theorem ooeq_iff : ∀ {x y : Option Obj}, OOEq x y ↔ x.map Obj.view = y.map Obj.view
  | none, none => by simp [OOEq]
  | some _, some _ => by simp [OOEq, objEq_iff]
  | none, some _ => by simp [OOEq]
  | some _, none => by simp [OOEq]

theorem ObjEq.of_view {o p : Obj} (h : o.view = p.view) : ObjEq o p := objEq_iff.mpr h
theorem ObjEq.view {o p : Obj} (h : ObjEq o p) : o.view = p.view := objEq_iff.mp h
theorem ObjEq.empty {o p : Obj} (h : ObjEq o p) : o.empty = p.empty := by
  show (o.view.nonce == 0 && o.view.balance == 0 && o.view.code.isEmpty) = _
  rw [h.view]; rfl

theorem OOEq.rfl' (x : Option Obj) : OOEq x x := ooeq_iff.mpr rfl

/-- `Sim s t`: no getter (and no later journal undo) can tell `s` from `t`. The dirty set, the callback flags, the
    journal and the revision stack are deliberately not part of it. -/
structure Sim (s t : SDB) : Prop where
  trie : s.trie = t.trie
  refund : s.refund = t.refund
  logs : s.logs = t.logs
  logSize : s.logSize = t.logSize
  preimages : s.preimages = t.preimages
  thash : s.thash = t.thash
  fault : s.fault = t.fault
  objs : ∀ a, OOEq (look s a) (look t a)

theorem viewAt_congr {s t : SDB} (h : ∀ a, OOEq (look s a) (look t a)) : viewAt s = viewAt t := funext fun a => ooeq_iff.mp (h a)

theorem view_eq_of_sim {s t : SDB} (h : Sim s t) : view s = view t := by
  simp only [view, viewAt_congr h.objs, h.refund, h.logs, h.preimages]

theorem Sim.rfl' (s : SDB) : Sim s s := ⟨rfl, rfl, rfl, rfl, rfl, rfl, rfl, fun _ => OOEq.rfl' _⟩
theorem Sim.symm {s t : SDB} (h : Sim s t) : Sim t s :=
  ⟨h.trie.symm, h.refund.symm, h.logs.symm, h.logSize.symm, h.preimages.symm, h.thash.symm, h.fault.symm,
   fun a => ooeq_iff.mpr (ooeq_iff.mp (h.objs a)).symm⟩
theorem Sim.trans {s t u : SDB} (h : Sim s t) (g : Sim t u) : Sim s u :=
  ⟨h.trie.trans g.trie, h.refund.trans g.refund, h.logs.trans g.logs, h.logSize.trans g.logSize, h.preimages.trans g.preimages,
   h.thash.trans g.thash, h.fault.trans g.fault, fun a => ooeq_iff.mpr ((ooeq_iff.mp (h.objs a)).trans (ooeq_iff.mp (g.objs a)))⟩

theorem Sim.of_bookkeeping (s : SDB) (d : List Addr) (j : List Entry) (r : List (Nat × Nat)) (n : Nat) :
    Sim { s with dirty := d, journal := j, revs := r, nextId := n } s :=
  ⟨rfl, rfl, rfl, rfl, rfl, rfl, rfl, fun _ => OOEq.rfl' _⟩

theorem Sim.setFault {s t : SDB} (h : Sim s t) : Sim { s with fault := true } { t with fault := true } :=
  ⟨h.trie, h.refund, h.logs, h.logSize, h.preimages, h.thash, rfl, h.objs⟩

theorem Sim.setObj {s t : SDB} (h : Sim s t) (a : Addr) {x y : Option Obj} (d d' : List Addr)
    (ha : OOEq (look (setObj s a x d) a) (look (setObj t a y d') a)) : Sim (setObj s a x d) (setObj t a y d') := by
  refine ⟨h.trie, h.refund, h.logs, h.logSize, h.preimages, h.thash, h.fault, fun b => ?_⟩
  by_cases hb : b = a
  · subst hb; exact ha
  · rw [look_setObj_ne _ _ _ hb, look_setObj_ne _ _ _ hb]; exact h.objs b

theorem sim_setObj_self {u : SDB} {a : Addr} {x : Option Obj} (d : List Addr)
    (ha : OOEq (look (setObj u a x d) a) (look u a)) : Sim (setObj u a x d) u := by
  refine ⟨rfl, rfl, rfl, rfl, rfl, rfl, rfl, fun b => ?_⟩
  by_cases hb : b = a
  · subst hb; exact ha
  · rw [look_setObj_ne _ _ _ hb]; exact OOEq.rfl' _

theorem sim_setObj_live {u : SDB} {a : Addr} {n o : Obj} (hl : look u a = some o) (hn : ObjEq n o) (hd : n.deleted = false)
    (d : List Addr) : Sim (setObj u a (some n) d) u :=
  sim_setObj_self d (by rw [look_setObj_live _ _ _ hd, hl]; exact hn)

theorem Sim.look_cases {s t : SDB} (h : Sim s t) (a : Addr) :
    (look s a = none ∧ look t a = none) ∨ ∃ o p, look s a = some o ∧ look t a = some p ∧ ObjEq o p := by
  have := h.objs a
  cases hs : look s a <;> cases ht : look t a <;> simp [hs, ht, OOEq] at this ⊢
  exact this

theorem undo_createObject (a : Addr) (s : SDB) : undo (.createObject a) s = setObj s a none (s.dirty.filter (· != a)) := rfl
theorem undo_resetObject (a : Addr) (prev : Obj) (s : SDB) : undo (.resetObject a prev) s = setObj s a (some prev) s.dirty := rfl

/-- `s.getStateObject(a).setX(..)` as the undo methods do it: `r` is applied to the object found; a missing object is a
    nil dereference if `f` (for `suicideChange.undo`, which tests for nil, it is not). -/
def writeBack (s : SDB) (a : Addr) (r : Obj → Obj) (f : Bool) : SDB :=
  match look s a with
  | none => if f then { s with fault := true } else s
  | some o => writeObj s a (r o)

theorem undo_suicide (a : Addr) (prev : Bool) (pb : Int) (s : SDB) :
    undo (.suicide a prev pb) s = writeBack s a (fun o => { o with suicided := prev, balance := pb }) false := by
  simp only [undo, writeBack]; cases look s a <;> rfl
theorem undo_balance (a : Addr) (prev : Int) (s : SDB) :
    undo (.balance a prev) s = writeBack s a (fun o => { o with balance := prev }) true := rfl
theorem undo_nonce (a : Addr) (prev : Nat) (s : SDB) :
    undo (.nonce a prev) s = writeBack s a (fun o => { o with nonce := prev }) true := rfl
theorem undo_storage (a : Addr) (k : Slot) (prev : Word) (s : SDB) :
    undo (.storage a k prev) s = writeBack s a (fun o => { o with dirtySt := upd o.dirtySt k (some prev) }) true := rfl
theorem undo_code (a : Addr) (prev : Bytes) (s : SDB) :
    undo (.code a prev) s = writeBack s a (fun o => { o with code := prev }) true := rfl

theorem undo_touch (a : Addr) (prev pd : Bool) (s : SDB) :
    undo (.touch a prev pd) s =
      if !prev && a != ripemd then
        match look s a with
        | none => { s with fault := true }
        | some o => setObj s a (some { o with touched := prev }) (if !pd then s.dirty.filter (· != a) else s.dirty)
      else s := by
  simp only [undo]; split
  · cases look s a with
    | none => rfl
    | some o => simp only; split <;> rfl
  · rfl

theorem writeBack_some {s : SDB} {a : Addr} {o : Obj} (h : look s a = some o) (r : Obj → Obj) (f : Bool) :
    writeBack s a r f = writeObj s a (r o) := by
  simp [writeBack, h]

theorem getState_setDirtySt (o : Obj) (k k' : Slot) (v : Word) :
    getState { o with dirtySt := upd o.dirtySt k (some v) } k' = if k' = k then v else getState o k' := by
  by_cases h : k' = k <;> simp [getState, upd, h]

/-- `g` is what the write `r` does to the view of an object; such a write cannot tell view-equal objects apart. -/
theorem Sim.writeBack {s t : SDB} (h : Sim s t) (a : Addr) {r : Obj → Obj} (f : Bool) (g : AcctView → AcctView)
    (hr : ∀ o, (r o).view = g o.view) (hd : ∀ o, (r o).deleted = o.deleted) :
    Sim (writeBack s a r f) (writeBack t a r f) := by
  rcases h.look_cases a with ⟨hs, ht⟩ | ⟨o, p, hs, ht, hop⟩
  · simp only [State.writeBack, hs, ht]
    cases f
    · exact h
    · exact h.setFault
  · rw [writeBack_some hs, writeBack_some ht, writeObj_eq_setObj, writeObj_eq_setObj]
    refine h.setObj a _ _ ?_
    rw [look_setObj_same, look_setObj_same]
    simp only [hd, look_not_deleted hs, look_not_deleted ht, Bool.false_eq_true, if_false]
    exact .of_view (show (r o).view = (r p).view by rw [hr, hr, hop.view])

theorem Sim.undo {s t : SDB} (h : Sim s t) (e : Entry) : Sim (undo e s) (undo e t) := by
  cases e with
  | createObject a =>
    refine h.setObj a (x := none) (y := none) _ _ ?_
    rw [look_setObj_none, look_setObj_none, h.trie]; exact OOEq.rfl' _
  | resetObject a prev =>
    exact h.setObj a (x := some prev) (y := some prev) _ _ (by simp only [look_setObj_same]; exact OOEq.rfl' _)
  | suicide a prev pb =>
    rw [undo_suicide, undo_suicide]
    exact h.writeBack a _ (fun v => { v with suicided := prev, balance := pb }) (fun _ => rfl) fun _ => rfl
  | balance a prev =>
    rw [undo_balance, undo_balance]
    exact h.writeBack a _ (fun v => { v with balance := prev }) (fun _ => rfl) fun _ => rfl
  | nonce a prev =>
    rw [undo_nonce, undo_nonce]
    exact h.writeBack a _ (fun v => { v with nonce := prev }) (fun _ => rfl) fun _ => rfl
  | storage a k prev =>
    rw [undo_storage, undo_storage]
    refine h.writeBack a _ (fun v => { v with storage := fun k' => if k' = k then prev else v.storage k' }) (fun o => ?_) fun _ => rfl
    simp only [Obj.view, getState_setDirtySt]
  | code a prev =>
    rw [undo_code, undo_code]
    exact h.writeBack a _ (fun v => { v with code := prev }) (fun _ => rfl) fun _ => rfl
  | refund prev => exact ⟨h.trie, rfl, h.logs, h.logSize, h.preimages, h.thash, h.fault, h.objs⟩
  | addLog th =>
    exact ⟨h.trie, h.refund, by simp [State.undo, h.logs], by simp [State.undo, h.logSize], h.preimages, h.thash, h.fault, h.objs⟩
  | addPreimage hh =>
    exact ⟨h.trie, h.refund, h.logs, h.logSize, by simp [State.undo, h.preimages], h.thash, h.fault, h.objs⟩
  | touch a prev prevDirty =>
    rw [undo_touch, undo_touch]
    split
    · rcases h.look_cases a with ⟨hs, ht⟩ | ⟨o, p, hs, ht, hop⟩
      · simpa only [hs, ht] using h.setFault
      · simp only [hs, ht]
        refine h.setObj a _ _ ?_
        simp only [look_setObj_same, look_not_deleted hs, look_not_deleted ht, Bool.false_eq_true, if_false]
        exact hop
    · exact h

theorem writeBack_frame (s : SDB) (a : Addr) (r : Obj → Obj) (f : Bool) :
    (writeBack s a r f).journal = s.journal ∧ (writeBack s a r f).revs = s.revs ∧ (writeBack s a r f).nextId = s.nextId ∧
    (writeBack s a r f).trie = s.trie := by
  cases hl : look s a with
  | none => simp only [writeBack, hl]; cases f <;> exact ⟨rfl, rfl, rfl, rfl⟩
  | some o => rw [writeBack_some hl, writeObj_eq_setObj]; exact ⟨rfl, rfl, rfl, rfl⟩

theorem undo_frame (e : Entry) (s : SDB) :
    (undo e s).journal = s.journal ∧ (undo e s).revs = s.revs ∧ (undo e s).nextId = s.nextId ∧ (undo e s).trie = s.trie := by
  -- an undo is a `writeBack`, a `setObj`, the fault flag, or a write to a counter, the logs or the preimages
  cases e with
  | suicide a | balance a | nonce a | storage a | code a =>
    simp only [undo_suicide, undo_balance, undo_nonce, undo_storage, undo_code]
    exact writeBack_frame ..
  | touch a prev pd =>
    rw [undo_touch]
    split
    · cases look s a <;> exact ⟨rfl, rfl, rfl, rfl⟩
    · exact ⟨rfl, rfl, rfl, rfl⟩
  | _ => exact ⟨rfl, rfl, rfl, rfl⟩

@[simp] theorem undo_journal (e : Entry) (s : SDB) : (undo e s).journal = s.journal := (undo_frame e s).1
@[simp] theorem undo_revs (e : Entry) (s : SDB) : (undo e s).revs = s.revs := (undo_frame e s).2.1
@[simp] theorem undo_nextId (e : Entry) (s : SDB) : (undo e s).nextId = s.nextId := (undo_frame e s).2.2.1
@[simp] theorem undo_trie (e : Entry) (s : SDB) : (undo e s).trie = s.trie := (undo_frame e s).2.2.2

theorem undoN_zero (s : SDB) : undoN 0 s = s := rfl
theorem undoN_nil (k : Nat) (s : SDB) (h : s.journal = []) : undoN k s = s := by
  cases k with
  | zero => rfl
  | succ k => simp [undoN, h]
theorem undoN_succ_cons (k : Nat) (s : SDB) (e : Entry) (js : List Entry) (h : s.journal = e :: js) :
    undoN (k + 1) s = undoN k (undo e { s with journal := js }) := by
  simp [undoN, h]

theorem undoN_keeps {α : Type} (f : SDB → α) (hu : ∀ e s, f (undo e s) = f s) (hj : ∀ (s : SDB) j, f { s with journal := j } = f s) :
    ∀ (k : Nat) (s : SDB), f (undoN k s) = f s
  | 0, _ => rfl
  | k + 1, s => by
    cases hs : s.journal with
    | nil => rw [undoN_nil _ s hs]
    | cons e js => rw [undoN_succ_cons k s e js hs, undoN_keeps f hu hj k, hu, hj]

@[simp] theorem undoN_revs : ∀ (k : Nat) (s : SDB), (undoN k s).revs = s.revs := undoN_keeps _ undo_revs (fun _ _ => rfl)
@[simp] theorem undoN_nextId : ∀ (k : Nat) (s : SDB), (undoN k s).nextId = s.nextId := undoN_keeps _ undo_nextId (fun _ _ => rfl)
@[simp] theorem undoN_trie : ∀ (k : Nat) (s : SDB), (undoN k s).trie = s.trie := undoN_keeps _ undo_trie (fun _ _ => rfl)

theorem undoN_journal : ∀ (k : Nat) (s : SDB), (undoN k s).journal = s.journal.drop k
  | 0, s => rfl
  | k + 1, s => by
    cases hj : s.journal with
    | nil => rw [undoN_nil _ s hj, hj]; rfl
    | cons e js => rw [undoN_succ_cons k s e js hj, undoN_journal k, undo_journal]; rfl

theorem undoN_add : ∀ (a b : Nat) (s : SDB), undoN (a + b) s = undoN b (undoN a s)
  | 0, b, s => by rw [Nat.zero_add]; rfl
  | a + 1, b, s => by
    rw [Nat.add_right_comm]
    cases hj : s.journal with
    | nil => rw [undoN_nil _ s hj, undoN_nil _ s hj, undoN_nil b s hj]
    | cons e js => rw [undoN_succ_cons _ s e js hj, undoN_succ_cons _ s e js hj]; exact undoN_add a b _

theorem Sim.undoN : ∀ (k : Nat) {s t : SDB}, Sim s t → s.journal = t.journal → Sim (undoN k s) (undoN k t)
  | 0, _, _, h, _ => h
  | k + 1, s, t, h, hj => by
    cases hs : s.journal with
    | nil => rw [undoN_nil _ s hs, undoN_nil _ t (hj ▸ hs)]; exact h
    | cons e js =>
      rw [undoN_succ_cons k s e js hs, undoN_succ_cons k t e js (hj ▸ hs)]
      refine Sim.undoN k (Sim.undo ?_ e) (by simp)
      exact (Sim.of_bookkeeping s _ js _ _).trans (h.trans (Sim.of_bookkeeping t _ js _ _).symm)

/-- the address holds a deleted cached object (a tombstone left by Finalise/Commit). -/
def Tomb (s : SDB) (a : Addr) (q : Obj) : Prop := s.objs a = some q ∧ q.deleted = true

/-- a `resetObject` entry holds a live object: its undo puts that object back into the cache, and must not plant a tombstone. -/
def EntryOK : Entry → Prop
  | .resetObject _ p => p.deleted = false
  | _ => True

def Unwinds (s t : SDB) (es : List Entry) : Prop := t.journal = es ++ s.journal ∧ Sim (undoN es.length t) s

theorem Unwinds.trans {s t u : SDB} {es es' : List Entry} (h : Unwinds s t es) (g : Unwinds t u es') : Unwinds s u (es' ++ es) := by
  refine ⟨by rw [g.1, h.1, List.append_assoc], ?_⟩
  rw [List.length_append, undoN_add]
  exact (Sim.undoN es.length g.2 (by rw [undoN_journal, g.1, List.drop_left])).trans h.2

/-- `t'` is reached from `t` by journalled writes, which unwind again (`Ext.unwinds`). -/
structure Ext (t t' : SDB) : Prop where
  ex : ∃ es, t'.journal = es ++ t.journal ∧ Sim (undoN es.length t') t ∧ ∀ e ∈ es, EntryOK e
  revs : t'.revs = t.revs
  nextId : t'.nextId = t.nextId
  trie : t'.trie = t.trie
  tomb : ∀ b q, Tomb t' b q → Tomb t b q

theorem Ext.unwinds {t t' : SDB} (h : Ext t t') : ∃ es, Unwinds t t' es ∧ ∀ e ∈ es, EntryOK e :=
  let ⟨es, hj, hs, ho⟩ := h.ex
  ⟨es, ⟨hj, hs⟩, ho⟩

theorem Ext.rfl' (t : SDB) : Ext t t :=
  ⟨⟨[], rfl, Sim.rfl' t, by simp⟩, rfl, rfl, rfl, fun _ _ h => h⟩

theorem Ext.trans {t t' t'' : SDB} (h : Ext t t') (g : Ext t' t'') : Ext t t'' := by
  obtain ⟨es1, hu1, ho1⟩ := h.unwinds
  obtain ⟨es2, hu2, ho2⟩ := g.unwinds
  have hu := hu1.trans hu2
  exact ⟨⟨es2 ++ es1, hu.1, hu.2, fun e he => (List.mem_append.mp he).elim (ho2 e) (ho1 e)⟩, g.revs.trans h.revs,
    g.nextId.trans h.nextId, g.trie.trans h.trie, fun b q hb => h.tomb b q (g.tomb b q hb)⟩

theorem Ext.single {u t : SDB} {e : Entry} (hj : t.journal = e :: u.journal) (hrevs : t.revs = u.revs) (hid : t.nextId = u.nextId)
    (htrie : t.trie = u.trie) (htomb : ∀ b q, Tomb t b q → Tomb u b q) (hok : EntryOK e)
    (hsim : Sim (undo e { t with journal := u.journal }) u) : Ext u t :=
  ⟨⟨[e], hj, by rw [List.length_singleton, undoN_succ_cons 0 t e _ hj]; exact hsim, by simpa using hok⟩, hrevs, hid, htrie, htomb⟩

theorem tomb_setObj {s : SDB} {a b : Addr} {x : Option Obj} {d : List Addr} {q : Obj} (hx : ∀ o, x = some o → o.deleted = false)
    (h : Tomb (setObj s a x d) b q) : Tomb s b q := by
  have hq : upd s.objs a x b = some q := h.1
  by_cases hb : b = a
  · subst hb; rw [upd_same] at hq; cases (hx q hq).symm.trans h.2
  · rw [upd_ne _ _ _ _ hb] at hq; exact ⟨hq, h.2⟩

theorem tomb_putObj {s : SDB} {a b : Addr} {o q : Obj} (ho : o.deleted = false) (h : Tomb (putObj s a o) b q) : Tomb s b q :=
  tomb_setObj (by rintro _ ⟨⟩; exact ho) h

theorem tomb_writeObj {s : SDB} {a b : Addr} {o q : Obj} (ho : o.deleted = false) (h : Tomb (writeObj s a o) b q) : Tomb s b q := by
  rw [writeObj_eq_setObj] at h; exact tomb_setObj (by rintro _ ⟨⟩; exact ho) h

theorem Ext.setObj {u : SDB} {a : Addr} {e : Entry} {n : Obj} {d : List Addr} (hn : n.deleted = false) (hok : EntryOK e)
    (hsim : Sim (undo e (setObj u a (some n) d)) u) : Ext u (setObj (push u e) a (some n) d) :=
  Ext.single rfl rfl rfl rfl (fun _ _ => tomb_setObj (s := push u e) (d := d) (by rintro _ ⟨⟩; exact hn)) hok hsim

theorem ext_write {u : SDB} {a : Addr} {o o' : Obj} {e : Entry} {r : Obj → Obj} {f : Bool}
    (hl : look u a = some o) (hd : o'.deleted = false) (hundo : ∀ v, undo e v = writeBack v a r f)
    (hr : ObjEq (r { o' with armed := false }) o) (hrd : ∀ x, (r x).deleted = x.deleted) (hok : EntryOK e) :
    Ext u (writeObj (push u e) a o') := by
  rw [writeObj_eq_setObj]
  refine Ext.setObj hd hok ?_
  rw [hundo, writeBack_some (look_setObj_live (o := { o' with armed := false }) _ _ _ hd), writeObj_eq_setObj, setObj_setObj]
  exact sim_setObj_live hl (show ObjEq { r { o' with armed := false } with armed := false } o from hr) ((hrd _).trans hd) _

end Aqv.State
