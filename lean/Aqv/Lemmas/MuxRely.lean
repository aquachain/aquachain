/-
  Aqv.Lemmas.MuxRely — what the steps of everybody else can do to what the invariants of one Post read (`Rely`): they
  leave its program counter and locals alone, append only events that are not its own, close receivers but never reopen
  them, and do not touch `created` of a registered receiver.  A fact `φ` about Post `p` is stable under `Rely` when
  `Rely p s s'` and `φ s` give `φ s'`; such a fact (the fields of Lemmas/MuxInvB) is kept by every step for two separate
  reasons (`Step.own_or_rely`): the step is one of `p` itself and is looked at, or it is not and stability applies.
-/
import Aqv.Lemmas.MuxInvA
namespace Aqv.Mux
open Aqv.Feed (mem_snoc)
variable {s s' : St} {a : Act} {p : Pid}

/-- the Post that takes the step -/
def Act.post : Act → Option Pid
  | .postCall p _ | .postSnap p | .postNext p | .deliverSend p | .deliverSkip p => some p
  | _ => none

/-- the events that only a step of Post `p` appends -/
def Ev.ofPost (p : Pid) : Ev → Prop
  | .postCall q _ | .postRet q _ | .deliver _ q => q = p
  | _ => False

structure Rely (p : Pid) (s s' : St) : Prop where
  ppc : s'.ppc p = s.ppc p
  snapL : s'.snapL p = s.snapL p
  evtime : s'.evtime p = s.evtime p
  cur : s'.cur p = s.cur p
  tr : s'.tr = s.tr ∨ ∃ e, s'.tr = s.tr ++ [e] ∧ ¬ e.ofPost p
  closed : ∀ c, s.closed c = true → s'.closed c = true
  created : ∀ c, s.spc c = .registered → s'.created c = s.created c

theorem Step.rely (st : Step s a s') (hp : a.post ≠ some p) : Rely p s s' := by
  -- a step of another Post `q` writes the locals of `q` only, and the events it appends are of `q`
  have ne : ∀ {q}, Act.post a = some q → ¬ p = q := fun h e => hp (e ▸ h)
  constructor
  case ppc => cases st <;> first | rfl | exact if_neg (ne rfl)
  case snapL => cases st <;> first | rfl | exact if_neg (ne rfl)
  case evtime => cases st <;> first | rfl | exact if_neg (ne rfl)
  case cur => cases st <;> first | rfl | exact if_neg (ne rfl)
  case tr =>
    cases st <;> first | exact .inl rfl | exact .inr ⟨_, rfl, id⟩ | exact .inr ⟨_, rfl, fun e => ne rfl e.symm⟩
  case closed =>
    cases st with
    | subRegStopped | cwBegin | stopCwBegin => intro x hx; simp only [upd_apply]; split <;> first | rfl | exact hx
    | _ => exact fun _ h => h
  case created =>
    cases st with
    | subNew h0 => exact fun x hx => if_neg fun e => by rw [e, h0] at hx; cases hx
    | _ => exact fun _ _ => rfl

theorem Step.own_or_rely (st : Step s a s') (p : Pid) : a.post = some p ∨ Rely p s s' :=
  (Classical.em (a.post = some p)).imp_right st.rely

namespace Rely

theorem mem_mono (r : Rely p s s') {e : Ev} (h : e ∈ s.tr) : e ∈ s'.tr := by
  rcases r.tr with e1 | ⟨_, e1, _⟩ <;> rw [e1]
  · exact h
  · exact List.mem_append_left _ h

theorem before_mono (r : Rely p s s') {x y : Ev} (h : Before s.tr x y) : Before s'.tr x y := by
  rcases r.tr with e1 | ⟨_, e1, _⟩ <;> rw [e1]
  · exact h
  · exact before_snoc.mpr (.inl h)

theorem mem_own (r : Rely p s s') {e : Ev} (he : e.ofPost p) : e ∈ s'.tr ↔ e ∈ s.tr := by
  rcases r.tr with e1 | ⟨e', e1, hn⟩ <;> rw [e1]
  rw [mem_snoc, or_iff_left (fun (h : e = e') => hn (h ▸ he))]

theorem before_own (r : Rely p s s') {x y : Ev} (hy : y.ofPost p) : Before s'.tr x y ↔ Before s.tr x y := by
  rcases r.tr with e1 | ⟨e', e1, hn⟩ <;> rw [e1]
  rw [before_snoc, or_iff_left (fun (h : x ∈ s.tr ∧ y = e') => hn (h.2 ▸ hy))]

theorem count_own (r : Rely p s s') {e : Ev} (he : e.ofPost p) : s'.tr.count e = s.tr.count e := by
  rcases r.tr with e1 | ⟨e', e1, hn⟩ <;> rw [e1]
  rw [List.count_append, List.count_singleton, if_neg (fun h => hn (by rw [beq_iff_eq] at h; exact h ▸ he)), Nat.add_zero]

end Rely

end Aqv.Mux
