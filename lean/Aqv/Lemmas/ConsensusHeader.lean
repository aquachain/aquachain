/- C13: verifyHeader (as written, with int64/uint64 arithmetic) equals the rule list of the Spec. -/
import Aqv.Lemmas.Consensus
namespace Aqv.Consensus

theorem wrapI64_eq {x : Int} (h1 : -9223372036854775808 ≤ x) (h2 : x < 9223372036854775808) : wrapI64 x = x := by
  unfold wrapI64; omega

theorem toU64_eq {x : Int} (h1 : 0 ≤ x) (h2 : x < 18446744073709551616) : toU64 x = x.toNat := by
  unfold toU64; rw [Int.emod_eq_of_lt h1 h2]

/-- below 2^63 no conversion, and neither the subtraction nor the negation, leaves the int64 range -/
theorem gas_distance (pg hg : Nat) (hp : pg < two63) (hh : hg < two63) :
    toU64 (if wrapI64 (wrapI64 pg - wrapI64 hg) < 0 then wrapI64 (wrapI64 (wrapI64 pg - wrapI64 hg) * -1) else wrapI64 (wrapI64 pg - wrapI64 hg))
      = (if pg ≤ hg then hg - pg else pg - hg) := by
  unfold two63 at hp hh
  rw [wrapI64_eq (x := pg) (by omega) (by omega), wrapI64_eq (x := hg) (by omega) (by omega),
    wrapI64_eq (x := pg - hg) (by omega) (by omega)]
  split
  · rw [wrapI64_eq (by omega) (by omega), toU64_eq (by omega) (by omega)]
    split <;> omega
  · rw [toU64_eq (by omega) (by omega)]
    split <;> omega

theorem gasLimitBad_spec (pg hg : Nat) (hp : pg < two63) (hh : hg < two63) :
    gasLimitBad Spec.vParams pg hg = true ↔ (¬ ((if pg ≤ hg then hg - pg else pg - hg) < pg / 1024) ∨ hg < 5000) := by
  simp only [gasLimitBad, Bool.or_eq_true, decide_eq_true_eq, gas_distance pg hg hp hh, ge_iff_le, Nat.not_lt]
  rfl

theorem rule_congr {α : Type} {c d : Prop} [Decidable c] [Decidable d] {e : α} {r r' : Option α}
    (hc : c ↔ d) (hr : ¬ d → r = r') : (if c then some e else r) = (if d then some e else r') := by
  by_cases h : d
  · rw [if_pos h, if_pos (hc.2 h)]
  · rw [if_neg h, if_neg (mt hc.1 h), hr h]

/-- `hnow` / `htime`: the timestamp fits the uint64 the difficulty function is handed; for non-uncles the clock rule bounds it -/
theorem verifyHeader_eq_rule (env : Env) (h parent : Header) (grand : Option Header) (uncle doSeal : Bool)
    (hV : env.V = Spec.vParams) (hord : env.cfg.ordered = true)
    (hpg : parent.gasLimit < two63)
    (hnow : uncle = false → env.now + 15 < two64)
    (htime : uncle = true → h.time < two64) :
    verifyHeader env h parent grand uncle doSeal = headerRule env.P env.cfg env.now env.sealBad h parent uncle doSeal := by
  unfold verifyHeader headerRule
  rw [hV]
  refine rule_congr Iff.rfl fun _ => ?_                                                  -- extra
  refine rule_congr (by cases uncle <;> simp [two256]; omega) fun _ => ?_                -- largeTime (uncles)
  refine rule_congr (by cases uncle <;> simp [Spec.vParams]) fun c3 => ?_                -- future (non-uncles)
  refine rule_congr Nat.not_lt.symm fun _ => ?_                                          -- zeroTime
  have ht : h.time % two64 = h.time := by
    apply Nat.mod_eq_of_lt
    cases uncle
    · have := hnow rfl; simp at c3; omega
    · exact htime rfl
  rw [ht, calcDifficultyHFX_eq_spec env.P env.cfg hord]
  refine rule_congr ne_comm fun _ => ?_                                                  -- difficulty
  refine rule_congr (by unfold two63; omega) fun c6 => ?_                                -- gasCap
  refine rule_congr Iff.rfl fun _ => ?_                                                  -- gasUsed
  refine rule_congr (gasLimitBad_spec _ _ hpg (by omega)) fun _ => ?_                    -- gasLimit; `c6` bounds the header's own limit
  refine rule_congr (by omega) fun _ => ?_                                               -- number
  refine rule_congr (by simp) fun _ => rfl                                               -- sealErr

theorem headerRule_none_iff (S : DiffParams) (cfg : Config) (now : Nat) (sealBad : Header → Bool) (h parent : Header) (uncle doSeal : Bool) :
    headerRule S cfg now sealBad h parent uncle doSeal = none ↔ HeaderValid S cfg now sealBad h parent uncle doSeal := by
  unfold headerRule HeaderValid
  simp only [ite_some_eq_none]
  cases uncle <;> simp [not_or, and_assoc]

end Aqv.Consensus
