/-
  Aqv.Lemmas.FeedInvD — channel occupancy: a channel never holds more than its capacity plus one value per receiver
  blocked on it (unbuffered hand-off = capacity 0 with a waiting receiver); nothing is ever queued on a channel that was
  never subscribed; a Send sits in Select only with at least one active case.
-/
import Aqv.Lemmas.FeedInvA
namespace Aqv.Feed
variable {s s' : St} {a : Act}

structure InvD (s : St) : Prop where
  occ : ∀ c, (s.buf c).length ≤ s.cap c + s.waiting c
  fresh : ∀ c, s.subscribed c = false → s.buf c = []
  sel_pos : ∀ g, s.spc g = .sel → 0 < s.active

theorem occ_step (hf : ∀ c, s.subscribed c = false → s.buf c = [])
    (h : ∀ c, (s.buf c).length ≤ s.cap c + s.waiting c) (st : Step s a s') :
    ∀ c, (s'.buf c).length ≤ s'.cap c + s'.waiting c := by
  cases st with
  | subscribe hc => have := hf _ hc; grind
  | tryOk _ _ hp | selPlace _ _ hp => simp only [canPlace, decide_eq_true_eq] at hp; grind
  | recvBegin | recvTake => grind
  | _ => exact h

theorem fresh_step (ha : InvA s) (h : ∀ c, s.subscribed c = false → s.buf c = []) (st : Step s a s') :
    ∀ c, s'.subscribed c = false → s'.buf c = [] := by
  cases st with
  | subscribe | recvTake => grind
  | tryOk hg hi | selPlace hg hi => have := ha.sub_mem _ (.inr (ha.getD_mem hg rfl hi)); grind
  | _ => exact h

theorem sel_pos_step (ha : Own s) (h : ∀ g, s.spc g = .sel → 0 < s.active) (st : Step s a s') :
    ∀ g, s'.spc g = .sel → 0 < s'.active := by
  -- the steps that change `active` are taken by the token holder, who is not in Select afterwards, and nobody else is
  have other : ∀ {g p}, (s.spc g).held = true → p ≠ .sel → ∀ g', upd s.spc g p g' ≠ .sel := by
    intro g p hg hp g' e
    obtain rfl := ha.eq_of_held_upd hg (show (upd s.spc g p g').held = true by rw [e]; rfl)
    simp [hp] at e
  cases st with
  | merge hg | tryOk hg | selPlace hg | doRemove hg =>
    exact fun g' e => (other (by rw [hg]; rfl) (by simp) g' e).elim
  | toSelect _ _ h0 => exact fun _ _ => Nat.pos_of_ne_zero h0
  | _ => first | exact h | grind

theorem invD_init : InvD init := by
  constructor <;> simp [init]

theorem invD_step (ha : InvA s) (h : InvD s) (st : Step s a s') : InvD s' where
  occ := occ_step h.fresh h.occ st
  fresh := fresh_step ha h.fresh st
  sel_pos := sel_pos_step ha.toOwn h.sel_pos st

theorem invD_reach {s : St} (h : Reach s) : InvD s := by
  induction h with
  | init => exact invD_init
  | step a hr hs ih => exact invD_step (invA_reach hr) ih (.of_step hs)

end Aqv.Feed
