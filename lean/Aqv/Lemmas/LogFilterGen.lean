/-
  Aqv.Lemmas.LogFilterGen — building the bloom-bits index (C16): the generator transposes (invariant of `AddBloom`, what `Bitset`
  answers for a filled generator within and beyond the section size), and `processSection` (core/chain_indexer.go) commits
  exactly the transposition of a parent-linked run of headers.
-/
import Aqv.Lemmas.LogFilterBits
namespace Aqv.LogFilter

def colBit (done : List Bytes) (i n : Nat) : Bool := ((done[n]?).map (fun b => bloomBit b.toArray i)).getD false

structure GenInv (g : Generator) (size : Nat) (done : List Bytes) : Prop where
  sections : g.sections = size
  nextBit : g.nextBit = done.length
  len : g.blooms.length = 2048
  vlen : ∀ i, i < 2048 → (g.blooms.getD i []).length = size / 8
  bits : ∀ i, i < 2048 → ∀ n, vecBit (g.blooms.getD i []) n = colBit done i n

theorem colBit_of_lt {done : List Bytes} {n : Nat} (h : n < done.length) (i : Nat) :
    colBit done i n = bloomBit (done.getD n []).toArray i := by
  rw [colBit, getD_of_lt [] h, List.getElem?_eq_getElem h]; rfl

theorem colBit_of_ge {done : List Bytes} {n : Nat} (h : done.length ≤ n) (i : Nat) : colBit done i n = false := by
  rw [colBit, List.getElem?_eq_none h]; rfl

theorem colBit_snoc (done : List Bytes) (b : Bytes) (i n : Nat) :
    colBit (done ++ [b]) i n = (colBit done i n || (decide (n = done.length) && bloomBit b.toArray i)) := by
  by_cases h1 : n < done.length
  · rw [colBit, colBit, List.getElem?_append_left h1, decide_eq_false (by omega), Bool.false_and, Bool.or_false]
  · rw [colBit_of_ge (Nat.le_of_not_lt h1), Bool.false_or]
    by_cases h2 : n = done.length
    · subst h2; simp [colBit]
    · rw [colBit_of_ge (by simp; omega), decide_eq_false h2, Bool.false_and]

theorem genInv_new (size : Nat) (h8 : size % 8 = 0) :
    ∃ g, newGenerator size = .ok g ∧ GenInv g size [] := by
  have hget : ∀ i, i < 2048 →
      (List.replicate 2048 (List.replicate (size / 8) (0 : UInt8))).getD i [] = List.replicate (size / 8) 0 :=
    fun i hi => by rw [getD_of_lt [] (by rw [List.length_replicate]; exact hi), List.getElem_replicate]
  refine ⟨⟨List.replicate 2048 (List.replicate (size / 8) 0), size, 0⟩, ?_, rfl, rfl, List.length_replicate, ?_, ?_⟩
  · unfold newGenerator
    rw [h8]
    rfl
  · intro i hi
    show (List.getD _ i []).length = _
    rw [hget i hi, List.length_replicate]
  · intro i hi n
    show vecBit (List.getD _ i []) n = _
    rw [hget i hi, vecBit_replicate_zero, colBit_of_ge (Nat.zero_le n)]

/-- the state `AddBloom` produces when its two checks pass. -/
def addBloomResult (g : Generator) (b : Bytes) : Generator :=
  { g with
    blooms := g.blooms.mapIdx (fun i v => if bloomBit b.toArray i then v.modify (g.nextBit / 8) (fun x => x ||| ((1 : UInt8) <<< (7 - g.nextBit % 8).toUInt8)) else v)
    nextBit := g.nextBit + 1 }

theorem addBloom_ok (g : Generator) (b : Bytes) (h : g.nextBit < g.sections) : g.addBloom g.nextBit b = .ok (addBloomResult g b) := by
  unfold Generator.addBloom addBloomResult
  simp only [ge_iff_le, Nat.not_le.mpr h, if_false, bne_self_eq_false, Bool.false_eq_true]

theorem genInv_add {g : Generator} {size : Nat} {done : List Bytes} (h8 : size % 8 = 0) (b : Bytes) (hinv : GenInv g size done)
    (hlt : done.length < size) :
    g.addBloom done.length b = .ok (addBloomResult g b) ∧ GenInv (addBloomResult g b) size (done ++ [b]) := by
  obtain ⟨hs, hn, hl, hv, hb⟩ := hinv
  have hget : ∀ i, i < 2048 → (addBloomResult g b).blooms.getD i [] =
      if bloomBit b.toArray i then
        (g.blooms.getD i []).modify (done.length / 8) (fun x => x ||| ((1 : UInt8) <<< (7 - done.length % 8).toUInt8))
      else g.blooms.getD i [] := by
    intro i hi
    unfold addBloomResult
    rw [hn, getD_of_lt [] (by simpa [hl] using hi), List.getElem_mapIdx, getD_of_lt [] (by omega)]
  have hadd : g.addBloom done.length b = .ok (addBloomResult g b) := by
    rw [← hn]
    exact addBloom_ok g b (by omega)
  refine ⟨hadd,
    { sections := hs
      nextBit := by simp [addBloomResult, hn]
      len := by simp [addBloomResult, hl]
      vlen := ?_
      bits := ?_ }⟩
  · intro i hi
    rw [hget i hi]
    split
    · rw [List.length_modify]; exact hv i hi
    · exact hv i hi
  · intro i hi n
    rw [hget i hi, colBit_snoc, ← hb i hi n]
    cases bloomBit b.toArray i
    · simp
    · rw [if_pos rfl, vecBit_setBit _ _ _ (by rw [hv i hi]; omega), Bool.and_true]

/-- the `Process` fold over the remaining blooms of a section (errors of AddBloom are discarded, as in the code). -/
theorem genInv_fold {size : Nat} (h8 : size % 8 = 0) (rest : List Bytes) {g : Generator} {done : List Bytes}
    (hinv : GenInv g size done) (hlen : done.length + rest.length ≤ size) :
    GenInv ((rest.zipIdx done.length).foldl (fun g (bi : Bytes × Nat) =>
      match g.addBloom bi.2 bi.1 with
      | .ok g' => g'
      | .error _ => g) g) size (done ++ rest) := by
  induction rest generalizing g done with
  | nil => simpa using hinv
  | cons b rest ih =>
    simp only [List.length_cons] at hlen
    obtain ⟨hadd, hinv'⟩ := genInv_add h8 b hinv (by omega)
    simp only [List.zipIdx_cons, List.foldl_cons, hadd]
    simpa using ih hinv' (by simp; omega)

/-- `Reset; Process × n` leaves the generator in the invariant; `Commit` then asks it for the 2048 vectors. -/
theorem generateSection_eq (size : Nat) (h8 : size % 8 = 0) (blooms : List Bytes) (hlen : blooms.length ≤ size) :
    ∃ g, GenInv g size blooms ∧ generateSection size blooms = (List.range 2048).mapM g.bitset := by
  obtain ⟨g0, hnew, hinv0⟩ := genInv_new size h8
  have hinv := genInv_fold h8 blooms hinv0 (by simpa using hlen)
  rw [List.nil_append] at hinv
  refine ⟨_, hinv, ?_⟩
  unfold generateSection
  rw [hnew]
  rfl

theorem bitset_ok {g : Generator} {size : Nat} {blooms : List Bytes} (hinv : GenInv g size blooms) (hfull : blooms.length = size)
    {i : Nat} (hi : i < size) (hi' : i < 2048) : g.bitset i = .ok (g.blooms.getD i []) := by
  have hl : i < g.blooms.length := by rw [hinv.len]; exact hi'
  unfold Generator.bitset
  rw [hinv.nextBit, hinv.sections, hfull, List.getElem?_eq_getElem hl, getD_of_lt [] hl]
  simp [Nat.not_le.mpr hi]

/-- `Bitset` compares the bit index with the section size. -/
theorem bitset_oob {g : Generator} {size : Nat} {blooms : List Bytes} (hinv : GenInv g size blooms) (hfull : blooms.length = size)
    {i : Nat} (hi : size ≤ i) : g.bitset i = .error .sectionOutOfBounds := by
  unfold Generator.bitset
  rw [hinv.nextBit, hinv.sections, hfull]
  simp [hi]

theorem mapM_ok {α β ε : Type} (f : α → Except ε β) (g : α → β) (l : List α) (h : ∀ a ∈ l, f a = .ok (g a)) :
    l.mapM f = .ok (l.map g) := by
  induction l with
  | nil => rfl
  | cons a as ih =>
    rw [List.mapM_cons, h a (by simp), ih (fun x hx => h x (by simp [hx]))]
    rfl

theorem mapM_error {α β ε : Type} (f : α → Except ε β) (l : List α) (e : ε) (a : α) (ha : a ∈ l) (hfa : f a = .error e)
    (h : ∀ x ∈ l, f x = .error e ∨ ∃ y, f x = .ok y) : l.mapM f = .error e := by
  induction l with
  | nil => cases ha
  | cons x xs ih =>
    rw [List.mapM_cons]
    rcases h x (by simp) with hx | ⟨y, hx⟩
    · rw [hx]; rfl
    · have hax : a ∈ xs := by
        rcases List.mem_cons.mp ha with rfl | h'
        · rw [hfa] at hx; cases hx
        · exact h'
      rw [hx, ih hax (fun z hz => h z (by simp [hz]))]
      rfl

/-- `transpose_spec` in functional form. Needs `size % 8 = 0` (NewGenerator) and `2048 ≤ size` (Bitset's comparison). -/
theorem generateSection_spec (size : Nat) (h8 : size % 8 = 0) (h2048 : 2048 ≤ size) (blooms : List Bytes)
    (hlen : blooms.length = size) :
    ∃ vs, generateSection size blooms = .ok vs ∧ vs.length = 2048 ∧
      ∀ i, i < 2048 → (vs.getD i []).length = size / 8 ∧ ∀ n, vecBit (vs.getD i []) n = colBit blooms i n := by
  obtain ⟨g, hinv, hgen⟩ := generateSection_eq size h8 blooms (by omega)
  refine ⟨(List.range 2048).map (fun i => g.blooms.getD i []), ?_, by simp, fun i hi => ?_⟩
  · rw [hgen]
    exact mapM_ok _ _ _ fun i hi => bitset_ok hinv hlen (by have := List.mem_range.mp hi; omega) (List.mem_range.mp hi)
  · rw [getD_of_lt [] (by simpa using hi), List.getElem_map, List.getElem_range]
    exact ⟨hinv.vlen i hi, hinv.bits i hi⟩

theorem generateSection_bloomBit {size : Nat} (h8 : size % 8 = 0) (h2048 : 2048 ≤ size) {blooms : List Bytes}
    (hlen : blooms.length = size) {vs : List Bytes} (hgen : generateSection size blooms = .ok vs) {i : Nat} (hi : i < 2048) :
    (vs.getD i []).length = size / 8 ∧ ∀ n, n < size → vecBit (vs.getD i []) n = bloomBit (blooms.getD n []).toArray i := by
  obtain ⟨_, hgen', _, hspec⟩ := generateSection_spec size h8 h2048 blooms hlen
  cases hgen.symm.trans hgen'
  refine ⟨(hspec i hi).1, fun n hn => ?_⟩
  rw [(hspec i hi).2 n, colBit_of_lt (by omega)]

theorem generateSection_testBit {size : Nat} (h8 : size % 8 = 0) (h2048 : 2048 ≤ size) {blooms : List Bytes}
    (hlen : blooms.length = size) (h256 : ∀ b ∈ blooms, b.length = 256) {vs : List Bytes}
    (hgen : generateSection size blooms = .ok vs) {i : Nat} (hi : i < 2048) :
    (vs.getD i []).length = size / 8 ∧ ∀ n, n < size → vecBit (vs.getD i []) n = (beNat (blooms.getD n [])).testBit i := by
  obtain ⟨hl, hbit⟩ := generateSection_bloomBit h8 h2048 hlen hgen hi
  refine ⟨hl, fun n hn => ?_⟩
  rw [hbit n hn, bloomBit_eq_testBit _ (h256 _ (getD_mem [] (by omega))) i hi]

theorem specColumn_isVec (blooms : List Bytes) (size i : Nat) (h8 : size % 8 = 0) :
    IsVec (size / 8) (specColumn blooms size i)
      (fun n => decide (n < size) && ((blooms[n]?).map (fun b => (beNat b).testBit i)).getD false) := by
  unfold specColumn
  refine ⟨by simp only [packBits_length, List.length_map, List.length_range]; omega, fun n => ?_⟩
  simp only [vecBit_packBits, List.getElem?_toArray]
  by_cases hn : n < size
  · rw [getD_of_lt false (by simpa using hn)]
    simp [hn]
  · rw [getD_of_le false (by simp; omega)]
    simp [hn]

theorem bitset_eq_specColumn (size : Nat) (h8 : size % 8 = 0) (h2048 : 2048 ≤ size) (blooms : List Bytes)
    (hlen : blooms.length = size) (h256 : ∀ b ∈ blooms, b.length = 256) (vs : List Bytes)
    (hgen : generateSection size blooms = .ok vs) (i : Nat) (hi : i < 2048) : vs.getD i [] = specColumn blooms size i := by
  obtain ⟨hl, hbit⟩ := generateSection_testBit h8 h2048 hlen h256 hgen hi
  refine IsVec.unique ⟨hl, fun n => ?_⟩ (specColumn_isVec blooms size i h8)
  by_cases hn : n < size
  · rw [hbit n hn, List.getD_eq_getElem?_getD, List.getElem?_eq_getElem (by omega)]
    simp [hn]
  · rw [vecBit_of_length_le _ _ (by omega), decide_eq_false hn, Bool.false_and]

theorem buildIndex_spec (size : Nat) (blooms : List Bytes) (sections : Nat) (hsz : 0 < sections → size % 8 = 0 ∧ 2048 ≤ size)
    (h : sections * size ≤ blooms.length) :
    ∃ idx, buildIndex size blooms sections = .ok idx ∧ idx.length = sections ∧
      ∀ s, s < sections → generateSection size ((blooms.drop (s * size)).take size) = .ok (idx.getD s []) := by
  induction sections with
  | zero => exact ⟨[], rfl, rfl, fun s hs => by omega⟩
  | succ k ih =>
    obtain ⟨h8, h2048⟩ := hsz (by omega)
    have e1 : (k + 1) * size = k * size + size := Nat.succ_mul k size
    obtain ⟨idx, hidx, hlen, hsec⟩ := ih (fun _ => ⟨h8, h2048⟩) (by omega)
    obtain ⟨vs, hgen, _, _⟩ := generateSection_spec size h8 h2048 ((blooms.drop (k * size)).take size)
      (by rw [List.length_take, List.length_drop]; omega)
    refine ⟨idx ++ [vs], ?_, by simp [hlen], fun s hs => ?_⟩
    · unfold buildIndex
      rw [hidx]
      simp only
      rw [hgen]
    · by_cases hsk : s < k
      · rw [List.getD_eq_getElem?_getD, List.getElem?_append_left (by omega), ← List.getD_eq_getElem?_getD]
        exact hsec s hsk
      · have : s = k := by omega
        subst this
        rw [List.getD_eq_getElem?_getD, List.getElem?_append_right (by omega), hlen]
        simpa using hgen

theorem buildIndex_transposed (size : Nat) (blooms : List Bytes) (sections : Nat) (hsz : 0 < sections → size % 8 = 0 ∧ 2048 ≤ size)
    (h : sections * size ≤ blooms.length) :
    ∃ idx, buildIndex size blooms sections = .ok idx ∧ idx.length = sections ∧ Transposed size blooms idx := by
  obtain ⟨idx, hb, hlen, hsec⟩ := buildIndex_spec size blooms sections hsz h
  subst hlen
  have key : ∀ s, s < idx.length → ∀ i, i < 2048 → (indexVec idx s i).length = size / 8 ∧
      ∀ n, n < size → vecBit (indexVec idx s i) n = bloomBit (blooms.getD (s * size + n) []).toArray i := by
    intro s hs i hi
    obtain ⟨h8, h2048⟩ := hsz (by omega)
    have e1 : (s + 1) * size = s * size + size := Nat.succ_mul s size
    have hfit : (s + 1) * size ≤ blooms.length := Nat.le_trans (Nat.mul_le_mul_right _ hs) h
    have hl : ((blooms.drop (s * size)).take size).length = size := by rw [List.length_take, List.length_drop]; omega
    obtain ⟨hlen, hbit⟩ := generateSection_bloomBit h8 h2048 hl (hsec s hs) hi
    refine ⟨hlen, fun n hn => ?_⟩
    rw [show indexVec idx s i = (idx.getD s []).getD i [] from rfl, hbit n hn]
    simp [List.getD_eq_getElem?_getD, hn]
  exact ⟨idx, hb, rfl,
    { fits := h
      size_ok := fun hp => ⟨by have := (hsz hp).2; omega, (hsz hp).1⟩
      len := fun s hs i hi => (key s hs i hi).1
      bit := fun s hs i hi => (key s hs i hi).2 }⟩

def Linked : Nat → List Hdr → Prop
  | _, [] => True
  | lastHead, h :: rest => h.parent = lastHead ∧ Linked h.hash rest

/-- the section head; `lastHead` for the empty run. -/
def runHead : Nat → List Hdr → Nat
  | lastHead, [] => lastHead
  | _, h :: rest => runHead h.hash rest

theorem walkSection_ok_iff (lastHead : Nat) (walk : List Hdr) (newHead : Nat) :
    walkSection lastHead walk = .ok newHead ↔ Linked lastHead walk ∧ newHead = runHead lastHead walk := by
  induction walk generalizing lastHead with
  | nil => simp [walkSection, Linked, runHead, eq_comm]
  | cons x xs ih =>
    by_cases hp : x.parent = lastHead <;> simp [walkSection, Linked, runHead, hp, ih]

theorem processSection_ok_iff (size lastHead : Nat) (walk : List Hdr) (newHead : Nat) (vs : List Bytes) :
    processSection size lastHead walk = .ok (newHead, vs) ↔
      walkSection lastHead walk = .ok newHead ∧ generateSection size (walk.map (·.bloom)) = .ok vs := by
  unfold processSection
  cases walkSection lastHead walk <;> cases generateSection size (walk.map (·.bloom)) <;> simp

/-- `hinj`: collision-freedom of the header hash over the headers involved. -/
theorem linked_unique (a b : List Hdr) (la lb : Nat) (hlen : a.length = b.length) (ha : Linked la a) (hb : Linked lb b)
    (hne : a ≠ []) (hhead : runHead la a = runHead lb b)
    (hinj : ∀ x ∈ a, ∀ y ∈ b, x.hash = y.hash → x = y) : a = b := by
  induction a generalizing b la lb with
  | nil => exact absurd rfl hne
  | cons x xs ih =>
    cases b with
    | nil => simp at hlen
    | cons y ys =>
      simp only [List.length_cons, Nat.add_right_cancel_iff] at hlen
      cases xs with
      | nil =>
        have hys : ys = [] := List.eq_nil_of_length_eq_zero hlen.symm
        subst hys
        rw [hinj x (by simp) y (by simp) hhead]
      | cons z zs =>
        have htail := ih ys x.hash y.hash hlen ha.2 hb.2 (by simp) hhead (fun p hp q hq => hinj p (by simp [hp]) q (by simp [hq]))
        subst htail
        -- the second header of both runs is the same, so its parent is the hash of either first header
        rw [hinj x (by simp) y (by simp) (ha.2.1.symm.trans hb.2.1)]

end Aqv.LogFilter
