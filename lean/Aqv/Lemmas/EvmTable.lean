/- C08: the generated instruction tables, decoded by function name (`implEntry`), are the hand-written specification tables
  (`specEntry`), so the two interpreters look up the same entry, and the tables agree column by column (`rowOf`); what holds
  of every specification row. -/
import Aqv.Model.EvmRun
namespace Aqv.Evm
open Aqv Aqv.Big Aqv.Gen.VmTable

theorem tables_entries_agree : ∀ e ∈ Epoch.all,
    (table e).map (fun i => (i.op, implEntry i)) = (EvmSpec.opcodeTable (epochLevel e)).map (fun r => (r.op, specEntry r)) := by
  -- some 700 rows, each with string comparisons: left to the kernel, the elaborator's evaluator takes as long again
  decide +kernel

theorem find_pair {α γ : Type} (l : List α) (k : α → Nat) (f : α → γ) (opc : Nat) :
    (l.find? (fun a => k a == opc)).map f = ((l.map fun a => (k a, f a)).find? (fun p => p.1 == opc)).map (·.2) := by
  rw [List.find?_map, Option.map_map]; rfl

theorem specTab_eq (e : Epoch) : specTab (epochLevel e) = EvmSpec.opcodeTable (epochLevel e) := by
  cases e <;> rfl

theorem all_epochs (e : Epoch) : e ∈ Epoch.all := by cases e <;> decide

theorem lookup_agree (e : Epoch) (opc : Nat) : implLookup e opc = specLookup (epochLevel e) opc := by
  unfold implLookup specLookup specRowAt
  rw [specTab_eq, find_pair (table e), find_pair (EvmSpec.opcodeTable _), tables_entries_agree e (all_epochs e)]

def constOf : GasKind → Option Nat
  | .const g => some g
  | _ => none

/-- the specification row an (opcode, entry) pair came from: `implEntry` and `specEntry` keep every column, the constant gas
    inside `gasK` -/
def rowOf (p : Nat × Entry) : EvmSpec.Row :=
  { op := p.1, pops := p.2.pops, pushes := p.2.pushes, gas := constOf p.2.gasK, halts := p.2.halts, jumps := p.2.jumps,
    reverts := p.2.reverts }

theorem constOf_gasKindOfName (s : String) : constOf (gasKindOfName s) = none := by
  simp only [gasKindOfName, apply_ite constOf]
  simp only [constOf, ite_self]

theorem rowOf_implEntry (i : OpInfo) : rowOf (i.op, implEntry i) = projRow i := by
  unfold rowOf implEntry projRow
  cases i.constGas with
  | some g => rfl
  | none => dsimp only; rw [constOf_gasKindOfName]

theorem rowOf_specEntry (r : EvmSpec.Row) : rowOf (r.op, specEntry r) = r := by
  obtain ⟨op, pops, pushes, gas, halts, jumps, reverts⟩ := r
  unfold rowOf specEntry specGasKind
  cases gas with
  | some g => rfl
  | none =>
    simp only [apply_ite constOf]
    simp only [constOf, ite_self]

theorem tables_rows_agree (e : Epoch) : (table e).map projRow = EvmSpec.opcodeTable (epochLevel e) := by
  have := congrArg (List.map rowOf) (tables_entries_agree e (all_epochs e))
  simpa only [List.map_map, Function.comp_def, rowOf_implEntry, rowOf_specEntry, List.map_id'] using this

/-- what the prologue proofs need of a table entry: an instruction priced by a constant or by the EXP gas function has no
    memory operand (so no memory fee), and a constant price is at most 1000 (the bound is arbitrary: `implCost_computes` needs
    only g < 2^64). `spec_rows_ok` checks it of every specification row. -/
def wfEntry (en : Entry) : Prop :=
  match en.gasK with
  | .const g => en.memK = .none ∧ g ≤ 1000
  | .exp => en.memK = .none
  | _ => True

instance (en : Entry) : Decidable (wfEntry en) := by unfold wfEntry; split <;> infer_instance

def popsOk (r : EvmSpec.Row) : Bool :=
  match decode r.op with
  | .dup n => decide (n ≤ r.pops)
  | .swap k => decide (k + 1 ≤ r.pops)
  | _ => true

/-- the last conjunct: opcode 0 (STOP, what the loop reads past the end of the code) halts -/
theorem spec_rows_ok :
    ([0, 1, 2, 3].all fun lvl => (EvmSpec.opcodeTable lvl).all fun r =>
      decide (wfEntry (specEntry r)) && popsOk r && (r.op != 0 || r.halts)) = true := by
  decide +kernel

theorem level_mem (e : Epoch) : epochLevel e ∈ [0, 1, 2, 3] := by cases e <;> decide

/-- what the two interpreters' proofs use of the entry the table holds for an opcode -/
structure EntryOk (opc : Nat) (en : Entry) : Prop where
  memK : en.memK = specMemKind opc
  wf : wfEntry en
  dup : ∀ n, decode opc = .dup n → n ≤ en.pops
  swap : ∀ k, decode opc = .swap k → k + 1 ≤ en.pops
  /-- past the end of the code the loop reads opcode 0 -/
  stop : opc = 0 → en.halts = true

theorem specLookup_entry (e : Epoch) (opc : Nat) (en : Entry) (h : specLookup (epochLevel e) opc = some en) :
    ∃ r, r ∈ EvmSpec.opcodeTable (epochLevel e) ∧ en = specEntry r ∧ r.op = opc := by
  unfold specLookup specRowAt at h
  rw [specTab_eq] at h
  cases hf : (EvmSpec.opcodeTable (epochLevel e)).find? (fun r => r.op == opc) with
  | none => rw [hf] at h; cases h
  | some r =>
    rw [hf] at h
    cases h
    exact ⟨r, List.mem_of_find?_eq_some hf, rfl, by simpa using List.find?_some hf⟩

theorem specLookup_entryOk (e : Epoch) (opc : Nat) (en : Entry) (h : specLookup (epochLevel e) opc = some en) :
    EntryOk opc en := by
  obtain ⟨r, hmem, rfl, hop⟩ := specLookup_entry e opc en h
  have hok := List.all_eq_true.1 (List.all_eq_true.1 spec_rows_ok _ (level_mem e)) r hmem
  simp only [Bool.and_eq_true, decide_eq_true_eq, Bool.or_eq_true, bne_iff_ne] at hok
  obtain ⟨⟨hwf, hpok⟩, hstop⟩ := hok
  unfold popsOk at hpok
  rw [hop] at hpok
  exact
    { memK := hop ▸ rfl
      wf := hwf
      dup := fun n hn => by
        rw [hn] at hpok
        exact of_decide_eq_true hpok
      swap := fun k hk => by
        rw [hk] at hpok
        exact of_decide_eq_true hpok
      stop := fun h0 => hstop.resolve_left fun hne => hne (hop.trans h0) }

theorem specLevel_eq (c : ChainCfg) (n : Nat) : specLevel c n = epochLevel (selectEpoch c n) := by
  unfold selectEpoch specLevel
  cases isHF c 5 n <;> cases isForked c.constantinople n <;> cases isForked c.byzantium n <;>
    cases isForked c.homestead n <;> rfl

end Aqv.Evm
