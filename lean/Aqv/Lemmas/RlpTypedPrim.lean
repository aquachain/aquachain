/-
  The Stream primitives of Aqv.Model.RlpTyped: round trip on the encoder's output, canonicity of accepted input, no
  `fuel` outcome, consumption.  The untyped decoder `decItem` is `readBytes` on strings and `readList` followed by
  `decList` on lists (`decItem_ok_iff`), as `decodeInterface` calls `Bytes()` or `List()` in decode.go, so the untyped
  codec is proved here, on top of `readBytes_*` and `readList_*`, and not in Lemmas/Rlp.
-/
import Aqv.Lemmas.RlpCanon
import Aqv.Lemmas.Basic
import Aqv.Model.RlpTyped
namespace Aqv.Rlp
open Aqv

theorem readBytes_encStr (b : Bytes) (hb : b.length < 2 ^ 64) (rest : Bytes) :
    readBytes (encStr b ++ rest) = .ok (b, rest) := by
  by_cases h : ∀ x, b = [x] → ¬ x < 0x80
  · rw [encStr_of_not_lt h, List.append_assoc]
    simp only [readBytes, readHead_header_str _ hb, List.length_append, List.take_left', List.drop_left']
    rw [if_neg (by omega)]
    split
    · rename_i x; rw [if_neg (h x rfl)]
    · rfl
  · obtain ⟨x, rfl, hx⟩ : ∃ x, b = [x] ∧ x < 0x80 := by simpa using h
    simp only [encStr_of_lt hx, List.singleton_append, readBytes, readHead, hx, if_true]

theorem readBytes_ok (bs s rest : Bytes) (h : readBytes bs = .ok (s, rest)) :
    bs = encStr s ++ rest ∧ s.length < 2 ^ 64 := by
  unfold readBytes at h
  split at h
  · cases h
  · rename_i b r hh
    obtain ⟨rfl, hb⟩ := readHead_ok _ _ hh
    cases h
    exact ⟨by rw [encStr_of_lt hb]; rfl, by simp⟩
  · rename_i n r hh
    obtain ⟨rfl, hn⟩ := readHead_ok _ _ hh
    split at h
    · cases h
    · rename_i hl
      have hlen : (r.take n).length = n := by rw [List.length_take]; omega
      have hs : s = r.take n ∧ rest = r.drop n ∧ ∀ x, s = [x] → ¬ x < 0x80 := by
        split at h
        · rename_i x hx
          split at h
          · cases h
          · rename_i hx80; cases h; exact ⟨hx.symm, rfl, fun y hy => by cases hy; exact hx80⟩
        · rename_i hns; cases h; exact ⟨rfl, rfl, fun x hx => absurd hx (hns x)⟩
      obtain ⟨rfl, rfl, hns⟩ := hs
      rw [encStr_of_not_lt hns, hlen, List.append_assoc, List.take_append_drop]
      exact ⟨rfl, hn⟩
  · cases h

theorem readList_enc (p : Bytes) (hp : p.length < 2 ^ 64) (rest : Bytes) :
    readList (header 0xC0 p.length ++ p ++ rest) = .ok (p, rest) := by
  unfold readList
  rw [List.append_assoc, readHead_header_list _ hp]
  simp only [List.length_append, List.take_left', List.drop_left']
  rw [if_neg (by omega)]

theorem readList_ok (bs p rest : Bytes) (h : readList bs = .ok (p, rest)) :
    bs = header 0xC0 p.length ++ p ++ rest ∧ p.length < 2 ^ 64 := by
  unfold readList at h
  split at h
  · cases h
  · rename_i n r hh
    obtain ⟨rfl, hn⟩ := readHead_ok _ _ hh
    split at h
    · cases h
    · rename_i hl
      cases h
      have hlen : (r.take n).length = n := by rw [List.length_take]; omega
      rw [hlen, List.append_assoc, List.take_append_drop]
      exact ⟨rfl, hn⟩
  · cases h

theorem decItem_ok_iff (f : Nat) (bs : Bytes) (it : Item) (rest : Bytes) :
    decItem (f + 1) bs = .ok (it, rest) ↔
      (∃ s, readBytes bs = .ok (s, rest) ∧ it = .str s) ∨
      (∃ p xs, readList bs = .ok (p, rest) ∧ decList f p = .ok xs ∧ it = .list xs) := by
  simp only [decItem, readBytes, readList]
  cases readHead bs with
  | error e => simp
  | ok hd =>
    cases hd with
    | byte b r => simp [eq_comm, and_assoc, and_comm]
    | str n r =>
      simp only
      generalize List.take n r = t
      split
      · simp
      · rcases t with _ | ⟨x, _ | ⟨y, t⟩⟩ <;> simp [eq_comm, and_assoc, and_comm]
        split <;> simp [eq_comm, and_assoc, and_comm]
    | list n r =>
      simp only
      split
      · simp
      · cases hd : decList f (List.take n r) <;> simp [hd, eq_comm, and_assoc, and_comm]

mutual
  theorem decItem_enc (it : Item) (hs : it.sizeOk = true) (f : Nat) (rest : Bytes) (hf : weight it ≤ f) :
      decItem f (enc it ++ rest) = .ok (it, rest) := by
    cases it with
    | str b =>
      simp only [weight] at hf
      obtain ⟨g, rfl⟩ : ∃ g, f = g + 1 := ⟨f - 1, by omega⟩
      simp only [Item.sizeOk, decide_eq_true_eq] at hs
      exact (decItem_ok_iff _ _ _ _).2 (.inl ⟨b, readBytes_encStr b hs rest, rfl⟩)
    | list xs =>
      simp only [weight] at hf
      obtain ⟨g, rfl⟩ : ∃ g, f = g + 1 := ⟨f - 1, by omega⟩
      simp only [Item.sizeOk, Bool.and_eq_true, decide_eq_true_eq] at hs
      exact (decItem_ok_iff _ _ _ _).2 (.inr ⟨_, xs, readList_enc _ hs.1 rest, decList_encList xs hs.2 g (by omega), rfl⟩)
  theorem decList_encList (xs : List Item) (hs : Item.sizeOkList xs = true) (f : Nat) (hf : weightList xs ≤ f) :
      decList f (encList xs) = .ok xs := by
    cases xs with
    | nil =>
      simp only [weightList] at hf
      obtain ⟨g, rfl⟩ : ∃ g, f = g + 1 := ⟨f - 1, by omega⟩
      simp [encList, decList]
    | cons x xs =>
      simp only [weightList] at hf
      obtain ⟨g, rfl⟩ : ∃ g, f = g + 1 := ⟨f - 1, by omega⟩
      simp only [Item.sizeOkList, Bool.and_eq_true] at hs
      simp only [encList]
      cases he : enc x with
      | nil => exact absurd he (enc_ne_nil x)
      | cons b bs =>
        simp only [List.cons_append, decList]
        rw [← List.cons_append, ← he, decItem_enc x hs.1 g (encList xs) (by omega)]
        simp only
        rw [decList_encList xs hs.2 g (by omega)]
end

theorem dec_canon (f : Nat) :
    (∀ bs it rest, decItem f bs = .ok (it, rest) → bs = enc it ++ rest ∧ it.sizeOk = true) ∧
    (∀ bs xs, decList f bs = .ok xs → bs = encList xs ∧ Item.sizeOkList xs = true) := by
  induction f with
  | zero => constructor <;> intros <;> simp_all [decItem, decList]
  | succ f ih =>
    obtain ⟨ihI, ihL⟩ := ih
    constructor
    · intro bs it rest h
      rcases (decItem_ok_iff _ _ _ _).1 h with ⟨s, hb, rfl⟩ | ⟨p, xs, hl, hd, rfl⟩
      · obtain ⟨hbs, hs⟩ := readBytes_ok _ _ _ hb
        exact ⟨hbs, by simp [Item.sizeOk, hs]⟩
      · obtain ⟨hbs, hp⟩ := readList_ok _ _ _ hl
        obtain ⟨rfl, hso⟩ := ihL _ _ hd
        exact ⟨hbs, by simp [Item.sizeOk, hso, hp]⟩
    · intro bs xs h
      cases bs with
      | nil => simp only [decList, Except.ok.injEq] at h; subst h; simp [encList, Item.sizeOkList]
      | cons b bs' =>
        simp only [decList] at h
        split at h
        · rename_i x rest hx
          split at h
          · rename_i ys hys
            cases h
            obtain ⟨h1, s1⟩ := ihI _ _ _ hx
            obtain ⟨h2, s2⟩ := ihL _ _ hys
            exact ⟨by rw [h1, h2]; rfl, by simp [Item.sizeOkList, s1, s2]⟩
          · cases h
        · cases h

theorem decItem_consumes (f : Nat) (bs : Bytes) (it : Item) (rest : Bytes) (h : decItem f bs = .ok (it, rest)) :
    rest.length < bs.length := by
  have hp := enc_length_pos it
  rw [((dec_canon f).1 _ _ _ h).1, List.length_append]; omega

theorem readUint_ok_iff (k : Nat) (hk : 1 ≤ k) (bs : Bytes) (n : Nat) (rest : Bytes) :
    readUint k bs = .ok (n, rest) ↔
      ∃ s, readBytes bs = .ok (s, rest) ∧ s.length ≤ k ∧ (∀ b t, s = b :: t → b ≠ 0) ∧ n = beNat s := by
  unfold readUint readBytes
  cases readHead bs with
  | error e => simp
  | ok hd =>
    cases hd with
    | list m r => simp
    | byte b r =>
      simp only [Except.ok.injEq, Prod.mk.injEq, and_assoc, exists_eq_left', List.length_singleton,
        head_ne_zero_cons, beNat_singleton]
      by_cases hb : b = 0 <;> simp [hb, hk, eq_comm (a := n), and_comm]
    | str m r =>
      simp only
      by_cases hl : r.length < m
      · simp [hl]
      · have hlen : (r.take m).length = m := by rw [List.length_take]; omega
        simp only [hl, if_false]
        generalize List.take m r = t at hlen
        generalize List.drop m r = d
        subst hlen
        rcases t with _ | ⟨x, _ | ⟨y, t'⟩⟩
        · simp [beNat_nil, and_assoc, eq_comm (a := n), and_comm]
        · have hk' : ¬ k < 1 := by omega
          by_cases hx : x < 0x80
          · simp [hx, hk']
          · have hx0 : x ≠ 0 := by rintro rfl; exact hx (by decide)
            simp only [hx, hk', if_false, Except.ok.injEq, Prod.mk.injEq, and_assoc, exists_eq_left',
              List.length_singleton, head_ne_zero_cons, beNat_singleton]
            simp [hk, hx0, eq_comm (a := n), and_comm]
        · simp only [Except.ok.injEq, Prod.mk.injEq, and_assoc, exists_eq_left', head_ne_zero_cons, List.length_cons]
          by_cases hkm : k < t'.length + 1 + 1
          · -- longer than the width: overflow on the left, `s.length ≤ k` fails on the right
            simp [hkm]
            omega
          by_cases hx : x = 0
          · simp [hkm, hx]
          · -- accepted on both sides, with the same value; the length bound is `hkm`
            simp [hkm, hx, eq_comm (a := n), and_comm]
            omega

theorem readUint_enc (k : Nat) (hk : 1 ≤ k) (n : Nat) (h : n < 256 ^ k) (hsz : (beBytes n).length < 2 ^ 64) (rest : Bytes) :
    readUint k (encStr (beBytes n) ++ rest) = .ok (n, rest) :=
  (readUint_ok_iff k hk _ _ _).2
    ⟨beBytes n, readBytes_encStr _ hsz rest, beBytes_length_le n k h, beBytes_head_ne_zero n, (beNat_beBytes n).symm⟩

theorem readUint_ok (k : Nat) (hk : 1 ≤ k) (bs : Bytes) (n : Nat) (rest : Bytes) (h : readUint k bs = .ok (n, rest)) :
    bs = encStr (beBytes n) ++ rest ∧ n < 256 ^ k := by
  obtain ⟨s, hs, hlen, h0, rfl⟩ := (readUint_ok_iff k hk bs n rest).1 h
  rw [beBytes_beNat s h0]
  exact ⟨(readBytes_ok _ _ _ hs).1, Nat.lt_of_lt_of_le (beNat_lt s) (Nat.pow_le_pow_right (by omega) hlen)⟩

theorem readBool_enc (b : Bool) (rest : Bytes) :
    readBool ((if b then [0x01] else [0x80]) ++ rest) = .ok (b, rest) := by
  cases b <;> rfl

theorem readBool_ok (bs : Bytes) (b : Bool) (rest : Bytes) (h : readBool bs = .ok (b, rest)) :
    bs = (if b then [0x01] else [0x80]) ++ rest := by
  unfold readBool at h
  split at h
  · cases h
  · rename_i n r hu
    obtain ⟨hbs, _⟩ := readUint_ok 1 (by omega) _ _ _ hu
    -- `encStr (beBytes n)` is `[0x80]` for 0 and `[0x01]` for 1
    split at h
    · cases h; subst n; exact hbs
    · split at h
      · cases h; subst n; exact hbs
      · cases h

theorem readBig_ok_iff (bs : Bytes) (n : Nat) (rest : Bytes) :
    readBig bs = .ok (n, rest) ↔ ∃ s, readBytes bs = .ok (s, rest) ∧ (∀ b t, s = b :: t → b ≠ 0) ∧ n = beNat s := by
  unfold readBig
  cases readBytes bs with
  | error e => simp
  | ok p =>
    obtain ⟨s, r⟩ := p
    simp only [Except.ok.injEq, Prod.mk.injEq, and_assoc, exists_eq_left']
    cases s with
    | nil => simp [beNat_nil, eq_comm (a := n), and_comm]
    | cons b0 t =>
      simp only [head_ne_zero_cons]
      by_cases h0 : b0 = 0 <;> simp [h0, eq_comm (a := n), and_comm]

theorem readBig_enc (n : Nat) (hsz : (beBytes n).length < 2 ^ 64) (rest : Bytes) :
    readBig (encStr (beBytes n) ++ rest) = .ok (n, rest) :=
  (readBig_ok_iff _ _ _).2 ⟨beBytes n, readBytes_encStr _ hsz rest, beBytes_head_ne_zero n, (beNat_beBytes n).symm⟩

theorem readBig_ok (bs : Bytes) (n : Nat) (rest : Bytes) (h : readBig bs = .ok (n, rest)) :
    bs = encStr (beBytes n) ++ rest ∧ (beBytes n).length < 2 ^ 64 := by
  obtain ⟨s, hs, h0, rfl⟩ := (readBig_ok_iff _ _ _).1 h
  rw [beBytes_beNat s h0]
  exact readBytes_ok _ _ _ hs

theorem readByteArray_ok_iff (n : Nat) (bs s rest : Bytes) :
    readByteArray n bs = .ok (s, rest) ↔ readBytes bs = .ok (s, rest) ∧ s.length = n := by
  unfold readByteArray readBytes
  cases readHead bs with
  | error e => simp
  | ok hd =>
    cases hd with
    | list m r => simp
    | byte b r =>
      simp only
      by_cases hn : n = 1
      · -- a single byte is a string of length 1
        rw [if_pos hn]
        refine ⟨fun h => ⟨h, ?_⟩, And.left⟩
        cases h
        exact hn.symm
      · rw [if_neg hn]
        refine ⟨nofun, fun ⟨h1, h2⟩ => ?_⟩
        cases h1
        exact absurd h2.symm hn
    | str m r =>
      simp only
      by_cases hl : r.length < m
      · simp [hl]
      · simp only [hl, if_false]
        have hlen : (r.take m).length = m := by rw [List.length_take]; omega
        -- whichever shape the payload `t` has, the string accepted is `t`
        have acc : ∀ (t : Bytes) {s' : Bytes}, (match t with
            | [x] => if x < 0x80 then Except.error (TErr.rlp .canonSize) else .ok ([x], r.drop m)
            | s => .ok (s, r.drop m) : Except TErr (Bytes × Bytes)) = .ok (s', rest) → s' = t := by
          intro t s' h
          rcases t with _ | ⟨x, _ | ⟨y, t'⟩⟩
          · cases h; rfl
          · dsimp only at h
            split at h
            · cases h
            · cases h; rfl
          · cases h; rfl
        by_cases hmn : m = n
        · -- the length test passes and both sides are the same `match`
          rw [if_neg (fun h => h hmn)]
          refine ⟨fun h => ⟨h, ?_⟩, And.left⟩
          rw [acc _ h, hlen, hmn]
        · -- `sz ≠ n` is `wrongLen` on the left; on the right the accepted string is the payload, of length `m`
          rw [if_pos hmn]
          refine ⟨nofun, fun ⟨h1, h2⟩ => absurd ?_ hmn⟩
          rw [← h2, acc _ h1, hlen]

theorem readByteArray_enc (b : Bytes) (hb : b.length < 2 ^ 64) (rest : Bytes) :
    readByteArray b.length (encStr b ++ rest) = .ok (b, rest) :=
  (readByteArray_ok_iff _ _ _ _).2 ⟨readBytes_encStr b hb rest, rfl⟩

theorem readByteArray_ok (n : Nat) (bs s rest : Bytes) (h : readByteArray n bs = .ok (s, rest)) :
    bs = encStr s ++ rest ∧ s.length = n ∧ n < 2 ^ 64 := by
  obtain ⟨h1, h2⟩ := (readByteArray_ok_iff _ _ _ _).1 h
  obtain ⟨h3, h4⟩ := readBytes_ok _ _ _ h1
  exact ⟨h3, h2, by omega⟩

theorem readRaw_str (t : Bytes) (ht : t.length < 2 ^ 64) (rest : Bytes) :
    readRaw (header 0x80 t.length ++ t ++ rest) = .ok (header 0x80 t.length ++ t, rest) := by
  simp only [readRaw, List.append_assoc, readHead_header_str _ ht, List.length_append, List.take_left', List.drop_left']
  rw [if_neg (by omega)]

theorem readRaw_list (t : Bytes) (ht : t.length < 2 ^ 64) (rest : Bytes) :
    readRaw (header 0xC0 t.length ++ t ++ rest) = .ok (header 0xC0 t.length ++ t, rest) := by
  simp only [readRaw, List.append_assoc, readHead_header_list _ ht, List.length_append, List.take_left', List.drop_left']
  rw [if_neg (by omega)]

/-- the payload step of `readRaw_reread` for either kind; `hr` is `readRaw_str` or `readRaw_list`. -/
theorem readRaw_reread_payload (base n : Nat) (r : Bytes) (hl : ¬ r.length < n) (hn : n < 2 ^ 64)
    (hr : ∀ t : Bytes, t.length < 2 ^ 64 → ∀ rest,
      readRaw (header base t.length ++ t ++ rest) = .ok (header base t.length ++ t, rest)) :
    header base n ++ r = header base n ++ r.take n ++ r.drop n ∧
      ∀ rest', readRaw (header base n ++ r.take n ++ rest') = .ok (header base n ++ r.take n, rest') := by
  have hlen : (r.take n).length = n := by rw [List.length_take]; omega
  refine ⟨by rw [List.append_assoc, List.take_append_drop], fun rest' => ?_⟩
  have := hr (r.take n) (by rw [hlen]; exact hn) rest'
  rwa [hlen] at this

theorem readRaw_reread (bs b rest : Bytes) (h : readRaw bs = .ok (b, rest)) :
    bs = b ++ rest ∧ ∀ rest', readRaw (b ++ rest') = .ok (b, rest') := by
  unfold readRaw at h
  split at h
  · cases h
  · rename_i x r hh
    obtain ⟨rfl, hx⟩ := readHead_ok _ _ hh
    cases h
    exact ⟨rfl, fun rest' => by simp [readRaw, readHead, hx]⟩
  · rename_i n r hh
    obtain ⟨rfl, hn⟩ := readHead_ok _ _ hh
    split at h <;> cases h
    exact readRaw_reread_payload _ n r ‹_› hn readRaw_str
  · rename_i n r hh
    obtain ⟨rfl, hn⟩ := readHead_ok _ _ hh
    split at h <;> cases h
    exact readRaw_reread_payload _ n r ‹_› hn readRaw_list

theorem readRaw_ok (bs b rest : Bytes) (h : readRaw bs = .ok (b, rest)) :
    bs = b ++ rest ∧ readRaw b = .ok (b, []) := by
  obtain ⟨h1, h2⟩ := readRaw_reread _ _ _ h
  exact ⟨h1, by simpa using h2 []⟩

theorem rawOk_iff (b : Bytes) : rawOk b = true ↔ readRaw b = .ok (b, []) := by
  unfold rawOk
  constructor
  · intro h
    split at h
    · rename_i b' hb'
      rw [hb', ← List.append_nil b', ← (readRaw_ok _ _ _ hb').1]
    · cases h
  · intro h; rw [h]

theorem readRaw_enc (b : Bytes) (hb : rawOk b = true) (rest : Bytes) : readRaw (b ++ rest) = .ok (b, rest) :=
  (readRaw_reread _ _ _ ((rawOk_iff b).1 hb)).2 rest

theorem rawOk_ne_nil (b : Bytes) (hb : rawOk b = true) : b ≠ [] := by
  rintro rfl; simp [rawOk, readRaw, readHead] at hb

/-- the fuel that `dec`, `readItem` and the Stream entry points give, `3·len + 1`, carries an encoding through. -/
theorem decItem_enc_top (it : Item) (hs : it.sizeOk = true) (rest : Bytes) :
    decItem (3 * (enc it ++ rest).length + 1) (enc it ++ rest) = .ok (it, rest) := by
  have hw := weight_le it
  exact decItem_enc it hs _ rest (by simp only [List.length_append]; omega)

theorem readItem_enc (it : Item) (hs : it.sizeOk = true) (rest : Bytes) :
    readItem (enc it ++ rest) = .ok (it, rest) := by
  unfold readItem
  rw [decItem_enc_top it hs rest]

theorem readItem_ok (bs : Bytes) (it : Item) (rest : Bytes) (h : readItem bs = .ok (it, rest)) :
    bs = enc it ++ rest ∧ it.sizeOk = true := by
  unfold readItem at h
  split at h
  · rename_i r hd
    cases h
    exact (dec_canon _).1 _ _ _ hd
  · cases h

/-! ### no `fuel` outcome (only `decItem` and `decMany` are fuelled)

  Every branch of a primitive ends in a value or in a named error other than `fuel` — closed by `rintro ⟨⟩` — or hands on
  the error of the reader before it. -/

theorem readSize_ne_fuel (ll : Nat) (rest : Bytes) : readSize ll rest ≠ .error .fuel := by
  unfold readSize
  dsimp only
  repeat' split
  all_goals rintro ⟨⟩

theorem readHead_ne_fuel (bs : Bytes) : readHead bs ≠ .error .fuel := by
  cases bs with
  | nil => rintro ⟨⟩
  | cons b r =>
    have h1 := readSize_ne_fuel (b.toNat - 0xB7) r
    have h2 := readSize_ne_fuel (b.toNat - 0xF7) r
    rw [readHead_cons]
    repeat' split
    all_goals rintro ⟨⟩
    · exact h1 ‹_›
    · exact h2 ‹_›

theorem readBytes_ne_fuel (bs : Bytes) : readBytes bs ≠ .error (.rlp .fuel) := by
  have := readHead_ne_fuel bs
  unfold readBytes
  repeat' split
  all_goals rintro ⟨⟩
  exact this ‹_›

theorem readUint_ne_fuel (k : Nat) (bs : Bytes) : readUint k bs ≠ .error (.rlp .fuel) := by
  have := readHead_ne_fuel bs
  unfold readUint
  repeat' split
  all_goals rintro ⟨⟩
  exact this ‹_›

theorem readBool_ne_fuel (bs : Bytes) : readBool bs ≠ .error (.rlp .fuel) := by
  have := readUint_ne_fuel 1 bs
  unfold readBool
  repeat' split
  all_goals rintro ⟨⟩
  exact this ‹_›

theorem readBig_ne_fuel (bs : Bytes) : readBig bs ≠ .error (.rlp .fuel) := by
  have := readBytes_ne_fuel bs
  unfold readBig
  repeat' split
  all_goals rintro ⟨⟩
  exact this ‹_›

theorem readByteArray_ne_fuel (n : Nat) (bs : Bytes) : readByteArray n bs ≠ .error (.rlp .fuel) := by
  have := readHead_ne_fuel bs
  unfold readByteArray
  repeat' split
  all_goals rintro ⟨⟩
  exact this ‹_›

theorem readRaw_ne_fuel (bs : Bytes) : readRaw bs ≠ .error (.rlp .fuel) := by
  have := readHead_ne_fuel bs
  unfold readRaw
  repeat' split
  all_goals rintro ⟨⟩
  exact this ‹_›

theorem readList_ne_fuel (bs : Bytes) : readList bs ≠ .error (.rlp .fuel) := by
  have := readHead_ne_fuel bs
  unfold readList
  repeat' split
  all_goals rintro ⟨⟩
  exact this ‹_›

theorem decItem_ne_fuel (f : Nat) :
    (∀ bs, 1 ≤ f → 2 * bs.length ≤ f → decItem f bs ≠ .error .fuel) ∧
    (∀ bs, 2 * bs.length + 1 ≤ f → decList f bs ≠ .error .fuel) := by
  induction f with
  | zero => constructor <;> intros <;> omega
  | succ f ih =>
    obtain ⟨ihI, ihL⟩ := ih
    constructor
    · intro bs _ hf
      have hh := readHead_ne_fuel bs
      simp only [decItem]
      split
      · rintro ⟨⟩; exact hh ‹_›
      · rintro ⟨⟩
      · repeat' split
        all_goals rintro ⟨⟩
      · rename_i n r hr
        have hc : r.length < bs.length := readHead_consumes _ _ hr
        have := ihL (r.take n) (by simp only [List.length_take]; omega)
        repeat' split
        all_goals rintro ⟨⟩
        exact this ‹_›
    · intro bs hf
      cases bs with
      | nil => rintro ⟨⟩
      | cons b bs' =>
        simp only [List.length_cons] at hf
        have h1 := ihI (b :: bs') (by omega) (by simp only [List.length_cons]; omega)
        simp only [decList]
        split
        · rename_i x rest hx
          have hc := decItem_consumes _ _ _ _ hx
          simp only [List.length_cons] at hc
          have h2 := ihL rest (by omega)
          split <;> rintro ⟨⟩
          exact h2 ‹_›
        · rintro ⟨⟩; exact h1 ‹_›

theorem decItem_top_ne_fuel (n : Nat) (bs : Bytes) (h : bs.length ≤ n) : decItem (3 * n + 1) bs ≠ .error .fuel :=
  (decItem_ne_fuel (3 * n + 1)).1 bs (by omega) (by omega)

theorem readItem_ne_fuel (bs : Bytes) : readItem bs ≠ .error (.rlp .fuel) := by
  have := decItem_top_ne_fuel _ bs (Nat.le_refl _)
  unfold readItem
  split <;> rintro ⟨⟩
  exact this ‹_›

theorem dec_ok_iff_decItem (bs : Bytes) (it : Item) : dec bs = .ok it ↔ decItem (3 * bs.length + 1) bs = .ok (it, []) := by
  unfold dec
  split <;> simp_all

theorem dec_eq_ok_iff (bs : Bytes) (it : Item) : dec bs = .ok it ↔ enc it = bs ∧ it.sizeOk = true := by
  rw [dec_ok_iff_decItem]
  constructor
  · intro h
    obtain ⟨h1, h2⟩ := (dec_canon _).1 _ _ _ h
    exact ⟨by simpa using h1.symm, h2⟩
  · rintro ⟨rfl, hs⟩
    simpa using decItem_enc_top it hs []

theorem enc_inj {a b : Item} (ha : a.sizeOk = true) (hb : b.sizeOk = true) (h : enc a = enc b) : a = b :=
  inj_of_leftInv (d := fun bs => (dec bs).toOption) (P := fun it : Item => it.sizeOk = true)
    (fun it hs => by rw [(dec_eq_ok_iff _ _).2 ⟨rfl, hs⟩]; rfl) ha hb h

theorem readBytes_consumes (bs s rest : Bytes) (h : readBytes bs = .ok (s, rest)) : rest.length < bs.length := by
  have := List.length_pos_iff.2 (encStr_ne_nil s)
  rw [(readBytes_ok _ _ _ h).1, List.length_append]; omega

theorem readUint_consumes (k : Nat) (bs : Bytes) (n : Nat) (rest : Bytes) (h : readUint k bs = .ok (n, rest)) :
    rest.length < bs.length := by
  unfold readUint at h
  split at h
  · cases h
  · have := readHead_consumes _ _ (by assumption)
    split at h <;> cases h
    exact this
  · rename_i m r hh
    have := readHead_consumes _ _ hh
    have hd : (r.drop m).length ≤ r.length := by simp
    simp only at this
    repeat' split at h
    all_goals cases h
    all_goals omega
  · cases h

theorem readBool_consumes (bs : Bytes) (b : Bool) (rest : Bytes) (h : readBool bs = .ok (b, rest)) :
    rest.length < bs.length := by
  rw [readBool_ok bs b rest h]; cases b <;> exact Nat.lt_succ_self _

theorem readBig_consumes (bs : Bytes) (n : Nat) (rest : Bytes) (h : readBig bs = .ok (n, rest)) :
    rest.length < bs.length := by
  obtain ⟨s, hs, _⟩ := (readBig_ok_iff _ _ _).1 h
  exact readBytes_consumes _ _ _ hs

theorem readByteArray_consumes (n : Nat) (bs s rest : Bytes) (h : readByteArray n bs = .ok (s, rest)) :
    rest.length < bs.length :=
  readBytes_consumes _ _ _ ((readByteArray_ok_iff _ _ _ _).1 h).1

theorem readRaw_consumes (bs b rest : Bytes) (h : readRaw bs = .ok (b, rest)) : rest.length < bs.length := by
  obtain ⟨hbs, hb⟩ := readRaw_ok _ _ _ h
  have := List.length_pos_iff.2 (rawOk_ne_nil b ((rawOk_iff b).2 hb))
  rw [hbs, List.length_append]; omega

theorem readList_consumes (bs p rest : Bytes) (h : readList bs = .ok (p, rest)) : rest.length < bs.length := by
  have := header_length_pos 0xC0 p.length
  rw [(readList_ok _ _ _ h).1]; simp only [List.length_append]; omega

theorem readItem_consumes (bs : Bytes) (it : Item) (rest : Bytes) (h : readItem bs = .ok (it, rest)) :
    rest.length < bs.length := by
  have := enc_length_pos it
  rw [(readItem_ok _ _ _ h).1, List.length_append]; omega

end Aqv.Rlp
