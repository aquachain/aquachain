/-
  Aqv.Lemmas.FeedFrame — frame facts for the liveness argument: which steps can move a Send or a `remove`, `cases` of the
  token holder (`HolderView`) or the "a send on c can complete" status of a channel (`Step.canPlace_mono`), which steps
  a Send under the token or a `remove` in a solo phase can always take (`can_*`), and where its own steps take it.
-/
import Aqv.Lemmas.FeedInvA
namespace Aqv.Feed

/-- the Send call that takes the step, for the steps it takes while it holds the token (`sendCall` and `acquire`
    come before) -/
def actSender : Act → Option Sid
  | .merge g | .tryOk g | .tryFail g | .sweepEnd g | .selPlace g _ | .selRecv g _ | .doRemove g => some g
  | _ => none

def IsSendAct (g : Sid) (x : Act) : Prop := actSender x = some g

/-- only the steps that need nobody else: the inbox lookup and the two under the token -/
def actRemover : Act → Option Chan
  | .rmInbox c | .rmDelete c | .rmRelease c => some c
  | _ => none

def IsRemAct (c : Chan) (x : Act) : Prop := actRemover x = some c

theorem isSendAct_iff {g : Sid} {x : Act} : IsSendAct g x ↔
    x = .merge g ∨ x = .tryOk g ∨ x = .tryFail g ∨ x = .sweepEnd g ∨ (∃ i, x = .selPlace g i) ∨
      (∃ c, x = .selRecv g c) ∨ x = .doRemove g := by
  cases x <;> simp [IsSendAct, actSender, eq_comm]

theorem isRemAct_iff {c : Chan} {x : Act} : IsRemAct c x ↔ x = .rmInbox c ∨ x = .rmDelete c ∨ x = .rmRelease c := by
  cases x <;> simp [IsRemAct, actRemover, eq_comm]

variable {s s' : St} {a : Act}

theorem Step.sender_held (st : Step s a s') {g : Sid} (h : actSender a = some g) : (s.spc g).held = true := by
  cases st with
  | merge hg | tryOk hg | tryFail hg | sendRet hg | toSelect hg | selPlace hg | selRecv hg | doRemove hg | sendPanic hg =>
    cases h; rw [hg]; rfl
  | _ => cases h

/-- only a placement fills the buffer, `Subscribe` sets the capacity of a channel that is not subscribed yet, and a
    receiver that takes a value leaves the balance as it was -/
theorem Step.canPlace_mono (st : Step s a s') (ha : actSender a = none) {c : Chan} (hc : s.subscribed c = true)
    (h : canPlace s c = true) : canPlace s' c = true := by
  simp only [canPlace, decide_eq_true_eq] at h ⊢
  cases st with
  | tryOk | selPlace => cases ha
  | @subscribe c₀ k h0 =>
    have : c ≠ c₀ := fun e => by rw [e, h0] at hc; cases hc
    simpa only [upd_apply, if_neg this] using h
  | @recvBegin c₀ =>
    simp only [upd_apply]
    split
    · next e => subst e; omega
    · exact h
  | @recvTake c₀ v rest hb hw =>
    simp only [upd_apply]
    split
    · next e => subst e; rw [hb, List.length_cons] at h; omega
    · exact h
  | _ => exact h

/-- what the token holder `g` sees of itself and of `cases`, with the channels in `C` ready: only its own steps end it -/
structure HolderView (g : Sid) (p : SPc) (L : List Chan) (A : Nat) (C : Chan → Prop) (s : St) : Prop where
  pc : s.spc g = p
  sendCases : s.sendCases = L
  active : s.active = A
  ready : ∀ c, C c → canPlace s c = true

theorem HolderView.step {g : Sid} {p : SPc} {L : List Chan} {A : Nat} {C : Chan → Prop} (ha : InvA s)
    (hp : p.held = true) (hC : ∀ c, C c → c ∈ L) (h : HolderView g p L A C s) (hx : ¬ IsSendAct g a)
    (st : Step s a s') : HolderView g p L A C s' := by
  obtain ⟨rfl, rfl, rfl, hr⟩ := h
  -- a Send that takes a step under the token holds it, so it is `g`
  have hn : actSender a = none := by
    cases e : actSender a with
    | none => rfl
    | some g' => obtain rfl := ha.sender_unique g g' hp (st.sender_held e); exact absurd e hx
  have ready : ∀ c, C c → canPlace s' c = true := fun c hc =>
    st.canPlace_mono hn (ha.sub_mem c (.inr (hC c hc))) (hr c hc)
  have busy := ha.sender_busy g hp
  cases st with
  | merge | tryOk | tryFail | sendRet | toSelect | selPlace | selRecv | doRemove | sendPanic => cases hn
  | @sendCall g' hg =>
    -- another Send, since `g` is past its call
    exact ⟨if_neg fun e => (by rw [e, hg] at hp; cases hp), rfl, rfl, ready⟩
  | acquire _ hf | rmToken _ hf => rw [hf] at busy; cases busy
  | @rmDelete c hc | @rmPanic c hc | @rmRelease c hc =>
    exact (ha.sender_remover g c hp (by rw [hc]; rfl)).elim
  | _ => exact ⟨rfl, rfl, rfl, ready⟩

theorem start_frame (g : Sid) (x : Act) (h0 : s.spc g = .start) (hx : x ≠ .acquire g)
    (hs : step s x = some s') : s'.spc g = .start := by
  cases Step.of_step hs with
  | @acquire g' => exact (if_neg fun e => hx (by rw [e])).trans h0
  | @sendCall g' hg | @merge g' hg | @tryOk g' _ hg | @tryFail g' _ hg | @sendRet g' _ hg | @toSelect g' _ hg
  | @selPlace g' _ hg | @selRecv g' _ hg | @doRemove g' _ hg | @sendPanic g' _ hg =>
    -- these find their Send in another place than `start`
    exact (if_neg fun e => by rw [e, hg] at h0; cases h0).trans h0
  | _ => exact h0

theorem can_merge (g : Sid) (hg : s.spc g = .locked) : (step s (.merge g)).isSome := (Step.merge hg).isSome

theorem can_sweep (g : Sid) (i : Nat) (hg : s.spc g = .sweep i) :
    (step s (.tryOk g)).isSome ∨ (step s (.tryFail g)).isSome ∨ (step s (.sweepEnd g)).isSome := by
  by_cases h1 : i < s.active
  · cases hcp : canPlace s (s.sendCases.getD i 0) with
    | true => exact .inl (Step.tryOk hg h1 hcp).isSome
    | false => exact .inr (.inl (Step.tryFail hg h1 hcp).isSome)
  · by_cases h0 : s.active = 0
    · exact .inr (.inr (Step.sendRet hg h0).isSome)
    · exact .inr (.inr (Step.toSelect hg (Nat.le_of_not_lt h1) h0).isSome)

theorem InvA.can_doRemove (ha : InvA s) (g : Sid) (c : Chan) (hg : s.spc g = .removing c) :
    ∃ s', step s (.doRemove g) = some s' ∧ s'.spc g = .sweep 0 :=
  ⟨_, (Step.doRemove hg (ha.removing g c hg).1).to_step, if_pos rfl⟩

theorem can_rmInbox (c : Chan) (hc : s.rpc c = .start) : (step s (.rmInbox c)).isSome :=
  (Classical.em (c ∈ s.inbox)).elim (fun h => (Step.rmInbox hc h).isSome) fun h => (Step.rmMiss hc h).isSome

/-- `delete(find(ch))` yields some state whether or not the channel is found … -/
theorem can_rmDelete (c : Chan) (hc : s.rpc c = .token) : (step s (.rmDelete c)).isSome :=
  (Classical.em (c ∈ s.sendCases)).elim (fun h => (Step.rmDelete hc h).isSome) fun h => (Step.rmPanic hc h).isSome

/-- … and by the invariant it is found -/
theorem InvA.can_rmDelete (ha : InvA s) (c : Chan) (hc : s.rpc c = .token) :
    ∃ s', step s (.rmDelete c) = some s' ∧ s'.rpc c = .deleted :=
  ⟨_, (Step.rmDelete hc (ha.loc_sel c (.inr hc))).to_step, if_pos rfl⟩

theorem can_rmRelease (c : Chan) (hc : s.rpc c = .deleted) : (step s (.rmRelease c)).isSome :=
  (Step.rmRelease hc).isSome

theorem send_step_result (hr : Reach s) (g : Sid) (x : Act) (hx : IsSendAct g x) (hs : step s x = some s') :
    (s'.spc g).merged = true ∨ ∃ r, s'.spc g = .done r ∧ s'.tokenFree = true := by
  have hnp := (invA_reach (Reach.step x hr hs)).no_panic_s g
  have hx : actSender x = some g := hx
  cases Step.of_step hs with
  | merge | tryOk | tryFail | toSelect | selPlace | selRecv | doRemove => cases hx; exact .inl (by simp [SPc.merged])
  | sendRet => cases hx; exact .inr ⟨_, if_pos rfl, rfl⟩
  | sendPanic => cases hx; exact absurd (if_pos rfl) hnp
  | _ => cases hx

theorem merge_locked {g : Sid} (hs : step s (.merge g) = some s') : s.spc g = .locked := by
  cases Step.of_step hs; assumption

theorem acquire_result {g : Sid} (hs : step s (.acquire g) = some s') : (s'.spc g).held = true := by
  cases Step.of_step hs; simp [SPc.held]

theorem rmToken_result (c : Chan) (hs : step s (.rmToken c) = some s') : s'.rpc c = .token := by
  cases Step.of_step hs
  exact if_pos rfl

theorem selRecv_result (g : Sid) (c : Chan) (hs : step s (.selRecv g c) = some s') : s'.rpc c = .done := by
  cases Step.of_step hs
  exact if_pos rfl

/-- the phases of `remove` in which it needs nobody else to go on -/
def soloPhase (p : RPc) : Prop := p = .start ∨ p = .token ∨ p = .deleted

/-- the steps that write `rpc c`, by the phase their guard finds it in; `done` and `panicked` are final -/
theorem Step.rpc_eq_or (st : Step s a s') (c : Chan) : s'.rpc c = s.rpc c ∨
    match s.rpc c with
    | .idle => a = .unsubCall c
    | .start => a = .rmInbox c
    | .sel => a = .rmToken c ∨ ∃ g, a = .selRecv g c
    | .token => a = .rmDelete c
    | .deleted => a = .rmRelease c
    | _ => False := by
  cases st with
  | @unsubCall c₀ _ hc | @rmInbox c₀ hc | @rmMiss c₀ hc | @rmDelete c₀ hc | @rmPanic c₀ hc | @rmRelease c₀ hc =>
    by_cases e : c = c₀
    · subst e; rw [hc]; exact .inr rfl
    · exact .inl (if_neg e)
  | @rmToken c₀ hc =>
    by_cases e : c = c₀
    · subst e; rw [hc]; exact .inr (.inl rfl)
    · exact .inl (if_neg e)
  | @selRecv g c₀ _ hc =>
    by_cases e : c = c₀
    · subst e; rw [hc]; exact .inr (.inr ⟨g, rfl⟩)
    · exact .inl (if_neg e)
  | _ => exact .inl rfl

theorem rpc_start_frame (c : Chan) (x : Act) (h0 : s.rpc c = .start) (hx : x ≠ .rmInbox c)
    (hs : step s x = some s') : s'.rpc c = .start :=
  ((Step.of_step hs).rpc_eq_or c).elim (·.trans h0) fun h => by rw [h0] at h; exact absurd h hx

theorem rpc_sel_frame (c : Chan) (x : Act) (h0 : s.rpc c = .sel) (hx : x ≠ .rmToken c)
    (hx' : ∀ g, x ≠ .selRecv g c) (hs : step s x = some s') : s'.rpc c = .sel :=
  ((Step.of_step hs).rpc_eq_or c).elim (·.trans h0) fun h => by
    rw [h0] at h; exact h.elim (absurd · hx) fun ⟨g, e⟩ => absurd e (hx' g)

theorem rpc_token_frame (c : Chan) (x : Act) (h0 : s.rpc c = .token) (hx : x ≠ .rmDelete c)
    (hs : step s x = some s') : s'.rpc c = .token :=
  ((Step.of_step hs).rpc_eq_or c).elim (·.trans h0) fun h => by rw [h0] at h; exact absurd h hx

theorem rpc_deleted_frame (c : Chan) (x : Act) (h0 : s.rpc c = .deleted) (hx : x ≠ .rmRelease c)
    (hs : step s x = some s') : s'.rpc c = .deleted :=
  ((Step.of_step hs).rpc_eq_or c).elim (·.trans h0) fun h => by rw [h0] at h; exact absurd h hx

theorem rpc_solo_frame {c : Chan} {x : Act} (hp : soloPhase (s.rpc c)) (hx : ¬ IsRemAct c x)
    (hs : step s x = some s') : s'.rpc c = s.rpc c := by
  have hx' : ∀ y, IsRemAct c y → x ≠ y := fun y hy e => hx (e ▸ hy)
  rcases hp with h | h | h
  · exact (rpc_start_frame c x h (hx' _ rfl) hs).trans h.symm
  · exact (rpc_token_frame c x h (hx' _ rfl) hs).trans h.symm
  · exact (rpc_deleted_frame c x h (hx' _ rfl) hs).trans h.symm

/-- the guard of a step that `actRemover` lists is the phase of its `remove` -/
theorem Step.remover_phase (st : Step s a s') {c : Chan} (h : actRemover a = some c) :
    (a = .rmInbox c ∧ s.rpc c = .start) ∨ (a = .rmDelete c ∧ s.rpc c = .token) ∨
      (a = .rmRelease c ∧ s.rpc c = .deleted) := by
  cases st with
  | rmInbox hc | rmMiss hc =>
    cases h
    exact .inl ⟨rfl, hc⟩
  | rmDelete hc | rmPanic hc =>
    cases h
    exact .inr (.inl ⟨rfl, hc⟩)
  | rmRelease hc =>
    cases h
    exact .inr (.inr ⟨rfl, hc⟩)
  | _ => cases h

/-! Where its own step takes a `remove` in a solo phase: the phase names the action (`Step.remover_phase`). -/

theorem rem_start_result {c : Chan} {x : Act} (h0 : s.rpc c = .start) (hx : IsRemAct c x) (hs : step s x = some s') :
    s'.rpc c = .done ∨ s'.rpc c = .sel := by
  obtain ⟨rfl, _⟩ | ⟨_, h⟩ | ⟨_, h⟩ := (Step.of_step hs).remover_phase hx
  · cases Step.of_step hs with
    | rmInbox => exact .inl (if_pos rfl)
    | rmMiss => exact .inr (if_pos rfl)
  · rw [h0] at h; cases h
  · rw [h0] at h; cases h

theorem rem_token_result (hr : Reach s) {c : Chan} {x : Act} (h0 : s.rpc c = .token) (hx : IsRemAct c x)
    (hs : step s x = some s') : s'.rpc c = .deleted := by
  obtain ⟨_, h⟩ | ⟨rfl, _⟩ | ⟨_, h⟩ := (Step.of_step hs).remover_phase hx
  · rw [h0] at h; cases h
  · cases Step.of_step hs with
    | rmDelete => exact if_pos rfl
    | rmPanic _ hn => exact absurd ((invA_reach hr).loc_sel c (.inr h0)) hn
  · rw [h0] at h; cases h

theorem rem_deleted_result {c : Chan} {x : Act} (h0 : s.rpc c = .deleted) (hx : IsRemAct c x)
    (hs : step s x = some s') : s'.rpc c = .done ∧ s'.tokenFree = true := by
  obtain ⟨_, h⟩ | ⟨_, h⟩ | ⟨rfl, _⟩ := (Step.of_step hs).remover_phase hx
  · rw [h0] at h; cases h
  · rw [h0] at h; cases h
  · cases Step.of_step hs
    exact ⟨if_pos rfl, rfl⟩

theorem rpc_sel_step {c : Chan} {x : Act} (h0 : s.rpc c = .sel) (hs : step s x = some s') :
    s'.rpc c = .sel ∨ s'.rpc c = .token ∨ s'.rpc c = .done := by
  rcases (Step.of_step hs).rpc_eq_or c with h | h
  · exact .inl (h.trans h0)
  · -- the two ways out of the select
    rw [h0] at h
    rcases h with rfl | ⟨g, rfl⟩
    · exact .inr (.inl (rmToken_result c hs))
    · exact .inr (.inr (selRecv_result g c hs))

end Aqv.Feed
