/-
  Aqv.Lemmas.MuxInvB — delivery invariants of the TypeMux model.  `Walk`: a Post walks its (immutable, duplicate-free)
  snapshot from left to right; what it has delivered lies in the prefix it has passed, and every passed receiver was
  delivered to, was stale, or was closed.  `Cover`: the snapshot contains every receiver registered for the type before
  the Post was called and not yet unsubscribing; nothing is delivered to a receiver after its Unsubscribe has returned,
  and a Post that is called after Stop has returned takes no snapshot.
  Every field speaks of one Post `p` and is kept for the two reasons of `Step.own_or_rely` (Lemmas/MuxRely).  Of the steps
  of `p` itself the arms name those with something to say; in the catch-all arm `cases hp` dismisses the steps of others
  and `simp` the own steps that lead the pc out of the guard.  Under a step of anybody else what the field reads is
  rewritten by the equations of `Rely p`, and what it concludes of the history only grows.
-/
import Aqv.Lemmas.MuxRely
namespace Aqv.Mux
open Aqv.Feed (sub2_mem mem_snoc)
variable {s s' : St} {a : Act}

theorem mem_take_succ {l : List Nat} {i : Nat} (h : i < l.length) (x : Nat) :
    x ∈ l.take (i + 1) ↔ x ∈ l.take i ∨ x = l.getD i 0 := by
  rw [List.take_succ_eq_append_getElem h, List.mem_append, List.mem_singleton]
  simp [List.getD, h]

theorem getD_not_mem_take {l : List Nat} {i : Nat} (h : i < l.length) (hn : l.Nodup) : l.getD i 0 ∉ l.take i := by
  intro hin
  rw [List.mem_take_iff_getElem] at hin
  obtain ⟨j, hj, he⟩ := hin
  have e1 : l.getD i 0 = l[i] := by simp [List.getD, h]
  rw [e1] at he
  rw [List.nodup_iff_pairwise_ne, List.pairwise_iff_getElem] at hn
  exact hn j i (by omega) h (by omega) he

structure Walk (s : St) : Prop where
  pos_le : ∀ p i, s.ppc p = .deliv i → i ≤ (s.snapL p).length
  pos_in : ∀ p i, s.ppc p = .inDeliver i → i < (s.snapL p).length ∧ s.cur p = (s.snapL p).getD i 0
  none_yet : ∀ p c, (s.ppc p = .idle ∨ s.ppc p = .called ∨ s.ppc p = .done false) → Ev.deliver c p ∉ s.tr
  deliv_passed : ∀ p i c, (s.ppc p).idx = some i → Ev.deliver c p ∈ s.tr → c ∈ (s.snapL p).take i
  passed_why : ∀ p i c, (s.ppc p).idx = some i → c ∈ (s.snapL p).take i →
    Ev.deliver c p ∈ s.tr ∨ s.evtime p < s.created c ∨ s.closed c = true
  once : ∀ c p, s.tr.count (.deliver c p) ≤ 1

theorem Walk.step (hm : Mem s) (hl : Lists s) (h : Walk s) (st : Step s a s') : Walk s' where
  pos_le := by
    intro p i
    rcases st.own_or_rely p with hp | r
    · cases st with
      | postSnap =>
        cases hp
        intro e
        obtain rfl : 0 = i := by simpa using e
        exact Nat.zero_le _
      | @postNextStale _ j h0 hlt =>
        -- position `j` was inside the snapshot, which still has the length of the array
        cases hp
        intro e
        obtain rfl : j + 1 = i := by simpa using e
        have := (hm.snapImm p).2.2
        show j + 1 ≤ (s.snapL p).length
        omega
      | @deliverSend _ j h0 | @deliverSkip _ j h0 =>
        cases hp
        intro e
        obtain rfl : j + 1 = i := by simpa using e
        exact (h.pos_in p j h0).1
      | _ => cases hp <;> simp
    · rw [r.ppc, r.snapL]
      exact h.pos_le p i
  pos_in := by
    intro p i
    rcases st.own_or_rely p with hp | r
    · cases st with
      | @postNextEnter _ j h0 hlt =>
        -- the snapshot still holds what the array holds
        cases hp
        intro e
        obtain rfl : j = i := by simpa using e
        have him := hm.snapImm p
        exact ⟨show j < (s.snapL p).length by omega, by simp [him.2.1]⟩
      | _ => cases hp <;> simp
    · rw [r.ppc, r.snapL, r.cur]
      exact h.pos_in p i
  none_yet := by
    intro p c
    rcases st.own_or_rely p with hp | r
    · cases st with
      -- `postCall` and the failing `postSnap` stay among the three places
      | postCall h0 =>
        cases hp
        simpa [h0] using h.none_yet p c
      | postSnapStopped h0 =>
        cases hp
        simpa [h0] using h.none_yet p c
      | _ => cases hp <;> simp
    · rw [r.ppc, r.mem_own (show (Ev.deliver c p).ofPost p from rfl)]
      exact h.none_yet p c
  deliv_passed := by
    intro p i c
    rcases st.own_or_rely p with hp | r
    · cases st with
      | postSnap h0 =>
        -- nothing has been delivered for a Post that is only called
        cases hp
        exact fun _ hd => absurd hd (h.none_yet p c (.inr (.inl h0)))
      | @postNextEnter _ j h0 =>
        cases hp
        intro hi
        obtain rfl : j = i := by simpa [PPc.idx] using hi
        exact h.deliv_passed p j c (by simp [h0, PPc.idx])
      | @postNextStale _ j h0 hlt =>
        -- the prefix grows
        cases hp
        intro hi hd
        obtain rfl : j + 1 = i := by simpa [PPc.idx] using hi
        have := (hm.snapImm p).2.2
        exact (mem_take_succ (show j < (s.snapL p).length by omega) c).mpr
          (.inl (h.deliv_passed p j c (by simp [h0, PPc.idx]) hd))
      | @deliverSkip _ j h0 =>
        cases hp
        intro hi hd
        obtain rfl : j + 1 = i := by simpa [PPc.idx] using hi
        exact (mem_take_succ (h.pos_in p j h0).1 c).mpr
          (.inl (h.deliv_passed p j c (by simp [h0, PPc.idx]) hd))
      | @deliverSend _ j h0 =>
        -- the prefix grows by the receiver at `j`, which is the one delivered to
        cases hp
        intro hi hd
        obtain rfl : j + 1 = i := by simpa [PPc.idx] using hi
        have ⟨hlt, hc⟩ := h.pos_in p j h0
        rcases mem_snoc.mp hd with hd | e
        · exact (mem_take_succ hlt c).mpr (.inl (h.deliv_passed p j c (by simp [h0, PPc.idx]) hd))
        · cases e
          exact (mem_take_succ hlt _).mpr (.inr hc)
      | _ => cases hp <;> simp [PPc.idx]
    · rw [r.ppc, r.snapL, r.mem_own (show (Ev.deliver c p).ofPost p from rfl)]
      exact h.deliv_passed p i c
  passed_why := by
    intro p i c
    rcases st.own_or_rely p with hp | r
    · cases st with
      | postSnap =>
        -- the prefix passed is empty
        cases hp
        intro hi hx
        obtain rfl : 0 = i := by simpa [PPc.idx] using hi
        simp at hx
      | @postNextEnter _ j h0 =>
        cases hp
        intro hi
        obtain rfl : j = i := by simpa [PPc.idx] using hi
        exact h.passed_why p j c (by simp [h0, PPc.idx])
      | @postNextStale _ j h0 hlt hst =>
        -- the receiver at `j` is stale
        cases hp
        intro hi hx
        obtain rfl : j + 1 = i := by simpa [PPc.idx] using hi
        have him := hm.snapImm p
        rcases (mem_take_succ (show j < (s.snapL p).length by omega) c).mp hx with hx | rfl
        · exact h.passed_why p j c (by simp [h0, PPc.idx]) hx
        · exact .inr (.inl (him.2.1 ▸ hst))
      | @deliverSend _ j h0 =>
        -- the receiver at `j` is delivered to
        cases hp
        intro hi hx
        obtain rfl : j + 1 = i := by simpa [PPc.idx] using hi
        have ⟨hlt, hc⟩ := h.pos_in p j h0
        rcases (mem_take_succ hlt c).mp hx with hx | rfl
        · exact (h.passed_why p j c (by simp [h0, PPc.idx]) hx).imp_left (List.mem_append_left _)
        · exact .inl (mem_snoc.mpr (.inr (by rw [hc])))
      | @deliverSkip _ j h0 hcl =>
        -- the receiver at `j` is closed
        cases hp
        intro hi hx
        obtain rfl : j + 1 = i := by simpa [PPc.idx] using hi
        have ⟨hlt, hc⟩ := h.pos_in p j h0
        rcases (mem_take_succ hlt c).mp hx with hx | rfl
        · exact h.passed_why p j c (by simp [h0, PPc.idx]) hx
        · exact .inr (.inr (hc ▸ hcl))
      | _ => cases hp <;> simp [PPc.idx]
    · -- receivers in a snapshot are registered, so their `created` is not overwritten
      rw [r.ppc, r.snapL, r.evtime]
      intro hi hx
      rw [r.created c (hl.snap_reg p c (List.mem_of_mem_take hx))]
      exact (h.passed_why p i c hi hx).imp r.mem_mono (.imp_right (r.closed c))
  once := by
    intro c p
    rcases st.own_or_rely p with hp | r
    · cases st with
      | @deliverSend _ i h0 =>
        -- the receiver at position `i` is not in the prefix before it, so it has not been delivered to
        cases hp
        have ⟨hi, hc⟩ := h.pos_in p i h0
        have hn : Ev.deliver (s.cur p) p ∉ s.tr := fun hd =>
          getD_not_mem_take hi (hl.snap_nodup p) (hc ▸ h.deliv_passed p i _ (by simp [h0, PPc.idx]) hd)
        have := h.once c p
        have := List.count_eq_zero.mpr hn
        simp only [List.count_append, List.count_singleton]
        grind
      | _ =>
        cases hp <;> first | exact h.once c p | simpa [List.count_append, List.count_singleton] using h.once c p
    · rw [r.count_own (show (Ev.deliver c p).ofPost p from rfl)]
      exact h.once c p

structure Cover (s : St) : Prop where
  served : ∀ p c, s.ppc p = .done true → c ∈ s.snapL p →
    Ev.deliver c p ∈ s.tr ∨ s.evtime p < s.created c ∨ Before s.tr (.unsubCall c) (.postRet p true) ∨
    Before s.tr .stopCall (.postRet p true)
  -- `covers` inside the delivery loop, `covered` after the return; handed over at `postNextEnd`
  covers : ∀ p i c t, (s.ppc p).idx = some i → Before s.tr (.subRet c t) (.postCall p t) →
    c ∈ s.snapL p ∨ Ev.unsubCall c ∈ s.tr
  covered : ∀ p c t, s.ppc p = .done true → Before s.tr (.subRet c t) (.postCall p t) →
    c ∈ s.snapL p ∨ Before s.tr (.unsubCall c) (.postRet p true)
  late : ∀ c p, ¬ Before s.tr (.unsubRet c) (.deliver c p)
  after_stop : ∀ p t, Before s.tr .stopRet (.postCall p t) → s.ppc p = .called ∨ s.ppc p = .done false

theorem Cover.step (ha : InvA s) (hw : Walk s) (h : Cover s) (st : Step s a s') : Cover s' where
  served := by
    intro p c
    rcases st.own_or_rely p with hp | r
    · cases st with
      | @postNextEnd _ i h0 hi =>
        -- every receiver of the snapshot has been passed; a closed one was closed by an Unsubscribe or Stop that was called
        cases hp
        intro _ (hx : c ∈ s.snapL p)
        have hall : (s.snapL p).take i = s.snapL p := List.take_of_length_le (by have := (ha.snapImm p).2.2; omega)
        rcases hw.passed_why p i c (by simp [h0, PPc.idx]) (hall.symm ▸ hx) with hd | hst | hcl
        · exact .inl (List.mem_append_left _ hd)
        · exact .inr (.inl hst)
        · refine .inr (.inr ((ha.closed_by c hcl).imp (fun hu => ?_) fun hu => ?_)) <;>
            exact before_snoc.mpr (.inr ⟨(ha.seen _).mpr hu, rfl⟩)
      | _ => cases hp <;> simp
    · rw [r.ppc, r.snapL, r.evtime]
      intro hd hx
      rw [r.created c (ha.snap_reg p c hx)]
      exact (h.served p c hd hx).imp r.mem_mono (.imp_right (.imp r.before_mono r.before_mono))
  covers := by
    intro p i c t
    rcases st.own_or_rely p with hp | r
    · cases st with
      | postSnap h0 =>
        -- a receiver registered for the type whose Unsubscribe has not been called is in the list that is copied
        cases hp
        intro _ hb
        have := sub2_mem hb
        have := ha.listed c
        have := ha.seen (.subRet c t)
        have := ha.seen (.postCall p t)
        have := ha.seen (.unsubCall c)
        simp only [upd_apply, ha.toMem.slice]
        grind [Seen]
      | @postNextStale _ j h0 | @postNextEnter _ j h0 | @deliverSend _ j h0 | @deliverSkip _ j h0 =>
        cases hp
        intro _ hb
        have := h.covers p j c t (by simp [h0, PPc.idx])
        simp_all [before_snoc]
      | _ => cases hp <;> simp [PPc.idx]
    · rw [r.ppc, r.snapL, r.before_own (show (Ev.postCall p t).ofPost p from rfl)]
      exact fun hi hb => (h.covers p i c t hi hb).imp_right r.mem_mono
  covered := by
    intro p c t
    rcases st.own_or_rely p with hp | r
    · cases st with
      | @postNextEnd _ i h0 =>
        -- the hand-over from `covers`: an Unsubscribe that has been called was called before this return
        cases hp
        intro _ hb
        have hb : Before s.tr (.subRet c t) (.postCall p t) := by simpa [before_snoc] using hb
        exact (h.covers p i c t (by simp [h0, PPc.idx]) hb).imp id fun hu => before_snoc.mpr (.inr ⟨hu, rfl⟩)
      | _ => cases hp <;> simp
    · rw [r.ppc, r.snapL, r.before_own (show (Ev.postCall p t).ofPost p from rfl)]
      exact fun hd hb => (h.covered p c t hd hb).imp id r.before_mono
  late := by
    intro c p
    rcases st.own_or_rely p with hp | r
    · cases st with
      | deliverSend h0 hn =>
        -- `postC` of a receiver whose Unsubscribe has returned is nil
        cases hp
        rw [before_snoc]
        rintro (hb | ⟨hu, he⟩)
        · exact h.late c p hb
        · cases he
          rw [ha.done_nil _ ((ha.seen (.unsubRet _)).mp hu)] at hn
          cases hn
      | _ =>
        cases hp <;> first | exact h.late c p |
          exact fun hb => h.late c p ((before_snoc.mp hb).resolve_right (fun h => by cases h.2))
    · rw [r.before_own (show (Ev.deliver c p).ofPost p from rfl)]
      exact h.late c p
  after_stop := by
    intro p t
    rcases st.own_or_rely p with hp | r
    · cases st with
      | postSnap h0 _ hst =>
        -- Stop has not returned
        cases hp
        intro hb
        rw [ha.stopped_iff.mpr ((ha.seen .stopRet).mp (sub2_mem hb).1)] at hst
        cases hst
      | postCall | postSnapStopped =>
        cases hp
        simp
      | postNextStale h0 | postNextEnter h0 | postNextEnd h0 | deliverSend h0 | deliverSkip h0 =>
        -- past the snapshot this Post is in neither of the two places
        cases hp
        intro hb
        have := h.after_stop p t (by simpa [before_snoc] using hb)
        simp [h0] at this
      | _ => cases hp
    · rw [r.ppc, r.before_own (show (Ev.postCall p t).ofPost p from rfl)]
      exact h.after_stop p t

structure InvB (s : St) : Prop extends Walk s, Cover s

theorem invB_init : InvB init :=
  ⟨by constructor <;> simp [init, PPc.idx], by constructor <;> simp [init, Before]⟩

theorem invB_step (ha : InvA s) (h : InvB s) (st : Step s a s') : InvB s' :=
  ⟨h.toWalk.step ha.toMem ha.toLists st, h.toCover.step ha h.toWalk st⟩

theorem invB_reach {s : St} (h : Reach s) : InvB s := by
  induction h with
  | init => exact invB_init
  | step a hr hs ih => exact invB_step (invA_reach hr) ih (.of_step hs)

end Aqv.Mux
