/- C13: the result-ordering goroutine of VerifyHeaders keeps `errors[0..out-1]` emitted in order whatever the completion order
  of the workers; each worker computes what one-by-one VerifyHeader computes; refused import attempts; the linkage pre-check
  of ValidateHeaderChain as contiguity; the positional consumption of the result channel. -/
import Aqv.Lemmas.Consensus
namespace Aqv.Consensus

variable {α : Type}

/-- the invariant of the coordinator state between two `select` rounds. -/
structure Coord.Inv (errors : Nat → α) (n : Nat) (c : Coord α) : Prop where
  emitted : c.emitted = (List.range c.out).map errors
  le : c.out ≤ n
  below : ∀ i, i < c.out → i ∈ c.checked
  stop : c.out < n → c.out ∉ c.checked

theorem Coord.drain_checked (errors : Nat → α) (n : Nat) : ∀ (fuel : Nat) (c : Coord α), (Coord.drain errors n fuel c).checked = c.checked
  | 0, c => rfl
  | fuel + 1, c => by
    unfold Coord.drain
    split
    · rw [Coord.drain_checked errors n fuel]
    · rfl

theorem Coord.drain_inv (errors : Nat → α) (n : Nat) : ∀ (fuel : Nat) (c : Coord α),
    c.emitted = (List.range c.out).map errors → c.out ≤ n → (∀ i, i < c.out → i ∈ c.checked) → n - c.out ≤ fuel →
    Coord.Inv errors n (Coord.drain errors n fuel c)
  | 0, c, he, hle, hb, hf => ⟨he, hle, hb, fun h => by simp only [Coord.drain] at h; omega⟩
  | fuel + 1, c, he, hle, hb, hf => by
    unfold Coord.drain
    split
    · rename_i hc
      refine Coord.drain_inv errors n fuel _ ?_ (Nat.succ_le_of_lt hc.1) (fun i hi => ?_) (by simp only; omega)
      · simp only [he, List.range_succ, List.map_append, List.map_cons, List.map_nil]
      · rcases Nat.lt_succ_iff_lt_or_eq.1 hi with h | rfl
        · exact hb i h
        · simpa using hc.2
    · rename_i hc
      exact ⟨he, hle, hb, fun h hm => hc ⟨h, by simpa using hm⟩⟩

theorem Coord.onDone_checked (errors : Nat → α) (n : Nat) (c : Coord α) (index : Nat) :
    (Coord.onDone errors n c index).checked = index :: c.checked :=
  Coord.drain_checked ..

theorem Coord.onDone_inv (errors : Nat → α) (n : Nat) (c : Coord α) (index : Nat) (h : Coord.Inv errors n c) :
    Coord.Inv errors n (Coord.onDone errors n c index) :=
  Coord.drain_inv errors n n _ h.emitted h.le (fun i hi => List.mem_cons_of_mem _ (h.below i hi)) (Nat.sub_le ..)

theorem Coord.foldl_inv (errors : Nat → α) (n : Nat) : ∀ (completion : List Nat) (c : Coord α), Coord.Inv errors n c →
    Coord.Inv errors n (completion.foldl (Coord.onDone errors n) c) ∧
    (completion.foldl (Coord.onDone errors n) c).checked = completion.reverse ++ c.checked
  | [], c, h => ⟨h, rfl⟩
  | x :: rest, c, h => by
    have ih := Coord.foldl_inv errors n rest _ (Coord.onDone_inv errors n c x h)
    rw [Coord.onDone_checked] at ih
    simpa using ih

theorem Coord.init_inv (errors : Nat → α) (n : Nat) : Coord.Inv errors n { checked := [], out := 0, emitted := [] } :=
  ⟨rfl, Nat.zero_le _, fun i hi => absurd hi (Nat.not_lt_zero i), fun _ h => by cases h⟩

/-- whatever has completed, in whatever order: the results sent are those of the indices below the first one that has not
    completed yet -/
theorem coordinator_spec (errors : Nat → α) (n : Nat) (completion : List Nat) :
    ∃ k, k ≤ n ∧ (∀ i, i < k → i ∈ completion) ∧ (k < n → k ∉ completion) ∧
      coordinator errors n completion = (List.range k).map errors := by
  obtain ⟨h, hc⟩ := Coord.foldl_inv errors n completion _ (Coord.init_inv errors n)
  rw [List.append_nil] at hc
  exact ⟨_, h.le, fun i hi => by simpa [hc] using h.below i hi, fun hlt => by simpa [hc] using h.stop hlt, h.emitted⟩

def insertAll (chain : Chain) (l : List Header) : Chain := l.foldl Chain.insert chain

theorem insertAll_append (chain : Chain) (l : List Header) (x : Header) : insertAll chain (l ++ [x]) = (insertAll chain l).insert x := by
  unfold insertAll; rw [List.foldl_append]; rfl

theorem insert_hit (chain : Chain) (x : Header) : (chain.insert x).getHeader x.hash x.number = some x := by
  unfold Chain.insert; simp

theorem insert_miss (chain : Chain) (x : Header) (hash : Nat) {n : Nat} (h : n ≠ x.number) :
    (chain.insert x).getHeader hash n = chain.getHeader hash n :=
  if_neg fun hh => h hh.2

theorem insertAll_miss (hash n : Nat) : ∀ (l : List Header) (chain : Chain), (∀ x ∈ l, n ≠ x.number) →
    (insertAll chain l).getHeader hash n = chain.getHeader hash n
  | [], _, _ => rfl
  | y :: ys, chain, h => by
    show (insertAll (chain.insert y) ys).getHeader hash n = _
    rw [insertAll_miss hash n ys _ fun x hx => h x (List.mem_cons_of_mem _ hx), insert_miss _ _ _ (h y List.mem_cons_self)]

/-- what the pre-check `linked` of `ValidateHeaderChain` / `insertChain` establishes (`linked_contiguous`, `contiguous_linked`)
    and `BatchOk.contiguous` assumes. -/
abbrev Contiguous (hs : List Header) : Prop :=
  ∀ i a b, hs[i]? = some a → hs[i + 1]? = some b → b.number = a.number + 1 ∧ b.parentHash = a.hash

/-- what `batch_equals_sequential` assumes of a batch and the chain reader it is verified against: the batch as `InsertChain` /
    `ValidateHeaderChain` hand it to `VerifyHeaders`, over a well-formed, parent-closed, collision-free reader. -/
structure BatchOk (chain : Chain) (hs : List Header) : Prop where
  /-- `Contiguous hs`, what `ValidateHeaderChain` / `insertChain` enforce -/
  contiguous : ∀ i a b, hs[i]? = some a → hs[i + 1]? = some b → b.number = a.number + 1 ∧ b.parentHash = a.hash
  /-- no genesis in the batch -/
  first : ∀ a, hs[0]? = some a → 1 ≤ a.number
  small : ∀ a ∈ hs, a.number < two64
  wf : ∀ hash n x, chain.getHeader hash n = some x → x.hash = hash ∧ x.number = n
  /-- the database is closed under parents, as far as the batch can see -/
  closed : ∀ a ∈ hs, (chain.getHeader a.hash a.number).isSome →
    ∃ p, chain.getHeader a.parentHash (a.number - 1) = some p ∧ (2 < a.number → (chain.getHeader p.parentHash (a.number - 2)).isSome)
  /-- collision-freedom of the header hash on this finite set -/
  nocoll : ∀ hash n x, chain.getHeader hash n = some x → ∀ y ∈ hs, y.hash = x.hash → y = x

theorem BatchOk.number_at {chain : Chain} {hs : List Header} (ok : BatchOk chain hs) :
    ∀ i a a0, hs[0]? = some a0 → hs[i]? = some a → a.number = a0.number + i
  | 0, a, a0, h0, hi => by rw [h0] at hi; cases hi; rfl
  | i + 1, a, a0, h0, hi => by
    have hlt : i + 1 < hs.length := (List.getElem?_eq_some_iff.1 hi).1
    obtain ⟨b, hb⟩ : ∃ b, hs[i]? = some b := ⟨_, List.getElem?_eq_getElem (Nat.lt_of_succ_lt hlt)⟩
    rw [(ok.contiguous i b a hb hi).1, ok.number_at i b a0 h0 hb, Nat.add_assoc]

/-- `VerifyHeader` once the parent lookup has succeeded, with the tests in the order of the batch worker (grandparent
    before "already known"); the orders agree because a known header has a known grandparent. -/
theorem verifyHeaderEntry_of_parent (env : Env) (chain : Chain) (h parent : Header) (doSeal : Bool) (grand : Option Header)
    (hp : chain.getHeader h.parentHash (subU64 h.number 1) = some parent)
    (hg : (if h.number > 2 then chain.getHeader parent.parentHash (subU64 h.number 2) else none) = grand)
    (hn : h.number = parent.number + 1)
    (hclosed : (chain.getHeader h.hash h.number).isSome → 2 < h.number → grand.isSome) :
    verifyHeaderEntry env chain h doSeal =
      if grand.isNone && decide (parent.number > 1) then some .unknownGrandparent
      else if (chain.getHeader h.hash h.number).isSome then none
      else verifyHeader env h parent (resolveGrand chain parent grand) false doSeal := by
  unfold verifyHeaderEntry
  simp only [hp, hg]
  have e : decide (h.number > 2) = decide (parent.number > 1) := by rw [hn]; exact decide_eq_decide.2 ⟨by omega, by omega⟩
  by_cases hk : (chain.getHeader h.hash h.number).isSome = true
  · have hc : ¬ ((grand.isNone && decide (parent.number > 1)) = true) := by
      intro hc
      simp only [Bool.and_eq_true, decide_eq_true_eq] at hc
      have := hclosed hk (by omega)
      rw [Option.isNone_iff_eq_none.1 hc.1] at this
      cases this
    rw [if_pos hk, if_neg hc, if_pos hk]
  · rw [if_neg hk, if_neg hk, e, Bool.and_comm]

theorem BatchOk.one_le {chain : Chain} {hs : List Header} (ok : BatchOk chain hs) {i : Nat} {a : Header} (ha : hs[i]? = some a) :
    1 ≤ a.number := by
  have hlt := (List.getElem?_eq_some_iff.1 ha).1
  have h0 : hs[0]? = some hs[0] := List.getElem?_eq_getElem (by omega)
  have := ok.first _ h0
  have := ok.number_at i a _ h0 ha
  omega

theorem BatchOk.known {chain : Chain} {hs : List Header} (ok : BatchOk chain hs) {i : Nat} {a : Header} (ha : hs[i]? = some a)
    (hk : (chain.getHeader a.hash a.number).isSome) :
    ∃ p, chain.getHeader a.parentHash (subU64 a.number 1) = some p ∧
      (2 < a.number → (chain.getHeader p.parentHash (subU64 a.number 2)).isSome) := by
  have hm := List.mem_of_getElem? ha
  obtain ⟨p, hp, hg⟩ := ok.closed a hm hk
  rw [← subU64_of_le _ 1 (ok.one_le ha) (ok.small a hm)] at hp
  exact ⟨p, hp, fun h2 => by rw [subU64_of_le _ 2 (by omega) (ok.small a hm)]; exact hg h2⟩

theorem worker_eq_entry_zero (env : Env) (chain : Chain) (hs : List Header) (seals : List Bool) (ok : BatchOk chain hs)
    (h0 : Header) (hj : hs[0]? = some h0) :
    workerResult env chain hs seals 0 = verifyHeaderEntry env chain h0 (seals.getD 0 false) := by
  have h1 := ok.first h0 hj
  unfold workerResult
  simp only [hj, if_true]
  cases hp : chain.getHeader h0.parentHash (subU64 h0.number 1) with
  | none =>
    -- an unknown parent: the header is unknown too
    have hk : (chain.getHeader h0.hash h0.number).isSome = false := by
      cases hk : (chain.getHeader h0.hash h0.number).isSome
      · rfl
      · obtain ⟨p, hp', _⟩ := ok.known hj hk
        rw [hp] at hp'; cases hp'
    unfold verifyHeaderEntry
    simp [hp, hk, show h0.number ≠ 0 by omega]
  | some p =>
    have hpn := (ok.wf _ _ _ hp).2
    rw [subU64_of_le _ 1 h1 (ok.small h0 (List.mem_of_getElem? hj))] at hpn
    rw [verifyHeaderEntry_of_parent env chain h0 p _ _ hp rfl (by omega) fun hk h2 => by
      obtain ⟨p', hp', hg⟩ := ok.known hj hk
      rw [hp] at hp'; cases hp'
      rw [if_pos h2]; exact hg h2]

theorem worker_eq_entry_one (env : Env) (chain : Chain) (hs : List Header) (seals : List Bool) (ok : BatchOk chain hs)
    (h0 h1 : Header) (hj0 : hs[0]? = some h0) (hj1 : hs[1]? = some h1) :
    workerResult env chain hs seals 1 = verifyHeaderEntry env (chain.insert h0) h1 (seals.getD 1 false) := by
  have hn0 := ok.first h0 hj0
  have hsm0 := ok.small h0 (List.mem_of_getElem? hj0)
  have hsm1 := ok.small h1 (List.mem_of_getElem? hj1)
  obtain ⟨hnum, hlink⟩ := ok.contiguous 0 h0 h1 hj0 hj1
  have e1 : subU64 h1.number 1 = h0.number := by rw [subU64_of_le _ 1 (by omega) hsm1]; omega
  have e2 : subU64 h1.number 2 = subU64 h0.number 1 := by rw [subU64_of_le _ 2 (by omega) hsm1, subU64_of_le _ 1 hn0 hsm0]; omega
  have e3 : subU64 h0.number 1 ≠ h0.number := by rw [subU64_of_le _ 1 hn0 hsm0]; omega
  have hk : (chain.insert h0).getHeader h1.hash h1.number = chain.getHeader h1.hash h1.number := insert_miss _ _ _ (by omega)
  -- the parent is `headers[0]`, found through the insert; every other lookup is at another height and passes it by
  rw [verifyHeaderEntry_of_parent env (chain.insert h0) h1 h0 _
    (if h0.number > 1 then chain.getHeader h0.parentHash (subU64 h0.number 1) else none)
    (by rw [hlink, e1, insert_hit]) (by rw [e2, insert_miss _ _ _ e3]; exact ite_congr (propext (by omega)) (fun _ => rfl) (fun _ => rfl)) hnum
    fun hk' h2 => by
      rw [hk] at hk'
      obtain ⟨p, hp, hg⟩ := ok.known hj1 hk'
      have := ok.nocoll _ _ _ hp h0 (List.mem_of_getElem? hj0) (by rw [(ok.wf _ _ _ hp).1, hlink])
      subst this
      rw [if_pos (by omega), ← e2]; exact hg h2]
  have hres : resolveGrand (chain.insert h0) h0 = resolveGrand chain h0 := by
    funext g
    cases g with
    | some g => rfl
    | none => simp only [resolveGrand, insert_miss _ _ _ e3]
  unfold workerResult
  simp only [hj0, hj1, Nat.one_ne_zero, if_false, if_true, hk, hres]

theorem worker_eq_entry_ge_two (env : Env) (chain : Chain) (hs : List Header) (seals : List Bool) (ok : BatchOk chain hs)
    (j : Nat) (g p h : Header) (hg : hs[j]? = some g) (hp : hs[j + 1]? = some p) (hh : hs[j + 2]? = some h) :
    workerResult env chain hs seals (j + 2) = verifyHeaderEntry env (insertAll chain (hs.take (j + 2))) h (seals.getD (j + 2) false) := by
  have hlen : j + 2 < hs.length := (List.getElem?_eq_some_iff.1 hh).1
  have h0e : hs[0]? = some hs[0] := List.getElem?_eq_getElem (by omega)
  obtain ⟨np, lp⟩ := ok.contiguous j g p hg hp
  obtain ⟨nh, lh⟩ := ok.contiguous (j + 1) p h hp hh
  have hmiss : ∀ x ∈ hs.take j, h.number ≠ x.number := by
    have ng := ok.number_at j g _ h0e hg
    intro x hx
    obtain ⟨i, hi, rfl⟩ := List.mem_iff_getElem.1 hx
    have hil : i < j := by have := List.length_take_le j hs; omega
    rw [List.getElem_take]
    have := ok.number_at i (hs[i]'(by omega)) _ h0e (List.getElem?_eq_getElem (by omega))
    omega
  have h1g := ok.one_le hg
  have hsm := ok.small h (List.mem_of_getElem? hh)
  have e1 : subU64 h.number 1 = p.number := by rw [subU64_of_le _ 1 (by omega) hsm]; omega
  have e2 : subU64 h.number 2 = g.number := by rw [subU64_of_le _ 2 (by omega) hsm]; omega
  have htake : hs.take (j + 2) = hs.take j ++ [g] ++ [p] := by
    rw [List.take_add_one, List.take_add_one, hg, hp]; simp
  -- parent and grandparent are the two headers written last; the lookup of `h` itself passes all written headers by
  rw [htake, insertAll_append, insertAll_append,
    verifyHeaderEntry_of_parent env _ h p _ (some g) (by rw [lh, e1, insert_hit])
      (by rw [if_pos (by omega), e2, lp, insert_miss _ _ _ (by omega), insert_hit]) (by omega) (fun _ _ => rfl),
    insert_miss _ p _ (by omega), insert_miss _ g _ (by omega), insertAll_miss _ _ _ _ hmiss]
  unfold workerResult
  simp only [hh, h0e, show j + 2 ≠ 0 by omega, show j + 2 ≠ 1 by omega, if_false, Nat.add_sub_cancel,
    show j + 2 - 1 = j + 1 by omega, hp, hg, lh, if_true]
  rfl

theorem worker_eq_entry (env : Env) (chain : Chain) (hs : List Header) (seals : List Bool) (ok : BatchOk chain hs)
    (j : Nat) (h : Header) (hj : hs[j]? = some h) :
    workerResult env chain hs seals j = verifyHeaderEntry env (insertAll chain (hs.take j)) h (seals.getD j false) := by
  have hlen : j < hs.length := (List.getElem?_eq_some_iff.1 hj).1
  match j, hj, hlen with
  | 0, hj, _ => exact worker_eq_entry_zero env chain hs seals ok h hj
  | 1, hj, hlen =>
    have h0e : hs[0]? = some hs[0] := List.getElem?_eq_getElem (by omega)
    rw [show hs.take 1 = [hs[0]] by rw [List.take_add_one, h0e]; rfl]
    exact worker_eq_entry_one env chain hs seals ok _ h h0e hj
  | j + 2, hj, hlen =>
    exact worker_eq_entry_ge_two env chain hs seals ok j _ _ h (List.getElem?_eq_getElem (by omega)) (List.getElem?_eq_getElem (by omega)) hj

theorem sequential_eq_aux (env : Env) (chain : Chain) (hs : List Header) (seals : List Bool) (ok : BatchOk chain hs) :
    ∀ (rest pre : List Header), hs = pre ++ rest →
      sequentialFirstFailure env seals (insertAll chain pre) rest pre.length =
        (firstFailure ((List.range' pre.length rest.length).map (workerResult env chain hs seals))).map
          (fun ie => (ie.1 + pre.length, ie.2))
  | [], pre, _ => rfl
  | h :: rest, pre, hsplit => by
    have hw := worker_eq_entry env chain hs seals ok pre.length h (by rw [hsplit]; simp)
    rw [show hs.take pre.length = pre by rw [hsplit]; simp] at hw
    unfold sequentialFirstFailure
    rw [← hw, List.length_cons, List.range'_succ, List.map_cons]
    cases workerResult env chain hs seals pre.length with
    | some e => simp [firstFailure]
    | none =>
      have ih := sequential_eq_aux env chain hs seals ok rest (pre ++ [h]) (by rw [hsplit]; simp)
      rw [insertAll_append, List.length_append, List.length_singleton] at ih
      simp only [firstFailure, ih, Option.map_map]
      congr 1
      funext ie
      simp only [Function.comp, Prod.mk.injEq, and_true]
      omega

theorem sequential_eq_workers (env : Env) (chain : Chain) (hs : List Header) (seals : List Bool) (ok : BatchOk chain hs) :
    sequentialFirstFailure env seals chain hs 0 = firstFailure ((List.range hs.length).map (workerResult env chain hs seals)) := by
  have := sequential_eq_aux env chain hs seals ok hs [] rfl
  rw [List.range_eq_range']
  simpa [insertAll] using this

theorem offer_snd (env : Env) (chain : Chain) (h : Header) (doSeal : Bool) :
    (offer env chain h doSeal).2 = verifyHeaderEntry env chain h doSeal := by
  unfold offer
  cases verifyHeaderEntry env chain h doSeal <;> rfl

theorem offer_fst_of_rejected (env : Env) (chain : Chain) (h : Header) (doSeal : Bool) (hr : (offer env chain h doSeal).2 ≠ none) :
    (offer env chain h doSeal).1 = chain := by
  unfold offer at hr ⊢
  cases hv : verifyHeaderEntry env chain h doSeal with
  | none => rw [hv] at hr; exact absurd rfl hr
  | some e => rfl

theorem offerAll_fst_of_rejected (env : Env) (doSeal : Bool) : ∀ (history : List Header) (chain : Chain),
    (∀ v ∈ (offerAll env doSeal chain history).2, v ≠ none) → (offerAll env doSeal chain history).1 = chain
  | [], _, _ => rfl
  | x :: xs, chain, hr => by
    simp only [offerAll] at hr ⊢
    rw [offer_fst_of_rejected env chain x doSeal (hr _ List.mem_cons_self)] at hr ⊢
    exact offerAll_fst_of_rejected env doSeal xs chain fun v hv => hr v (List.mem_cons_of_mem _ hv)

theorem linked_cons_cons (x y : Header) (rest : List Header) :
    linked (x :: y :: rest) = true ↔
      (y.number % two64 = (x.number % two64 + 1) % two64 ∧ y.parentHash = x.hash) ∧ linked (y :: rest) = true := by
  rw [linked, Bool.and_eq_true, Bool.and_eq_true, decide_eq_true_eq, decide_eq_true_eq]

theorem contiguous_linked : ∀ (hs : List Header), Contiguous hs → linked hs = true
  | [], _ => rfl
  | [x], _ => rfl
  | x :: y :: rest, h => by
    have h0 := h 0 x y rfl rfl
    rw [linked_cons_cons, h0.1]
    unfold two64
    exact ⟨⟨by omega, h0.2⟩,
      contiguous_linked (y :: rest) fun i a b ha hb => h (i + 1) a b (by simpa using ha) (by simpa using hb)⟩

/-- a batch that passes the pre-check is contiguous, its numbers being in the uint64 range (the check compares them mod 2^64). -/
theorem linked_contiguous : ∀ (hs : List Header), (∀ a ∈ hs, a.number + 1 < two64) → linked hs = true → Contiguous hs
  | [], _, _ => fun i a b ha => by simp at ha
  | [x], _, _ => fun i a b _ hb => by simp at hb
  | x :: y :: rest, hsm, hl => by
    have hx := hsm x List.mem_cons_self
    have hy := hsm y (List.mem_cons_of_mem _ List.mem_cons_self)
    obtain ⟨⟨hn, hp⟩, hr⟩ := (linked_cons_cons x y rest).1 hl
    unfold two64 at hx hy hn
    intro i a b ha hb
    cases i with
    | zero =>
      simp at ha hb
      subst ha hb
      exact ⟨by omega, hp⟩
    | succ i =>
      exact linked_contiguous (y :: rest) (fun c hc => hsm c (List.mem_cons_of_mem _ hc)) hr i a b (by simpa using ha) (by simpa using hb)

/-- without an early `continue`, result `j` of the channel is paired with block `j`. -/
theorem consumeResults_lockstep : ∀ (rs : List α) (i : Nat),
    consumeResults (fun _ => false) i rs.length rs = (List.range' i rs.length).zip rs
  | [], _ => by simp [consumeResults]
  | r :: rest, i => by
    simp only [List.length_cons, consumeResults, Bool.false_eq_true, if_false, List.range'_succ, List.zip_cons_cons]
    rw [consumeResults_lockstep rest (i + 1)]

theorem consumeResults_lockstep_map (f : Nat → α) (n i : Nat) :
    consumeResults (fun _ => false) i n ((List.range' i n).map f) = (List.range' i n).map (fun j => (j, f j)) := by
  have h := consumeResults_lockstep ((List.range' i n).map f) i
  rw [List.length_map, List.length_range'] at h
  have hz := List.zip_map' (f := id) (g := f) (l := List.range' i n)
  rw [List.map_id] at hz
  exact h.trans hz

end Aqv.Consensus
