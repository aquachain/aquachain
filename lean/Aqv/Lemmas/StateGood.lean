/-
  Aqv.Lemmas.StateGood — `Good d` (the cache invariant `BInv` on top of `Reach d`) holds in every state reachable by a
  "safe" history: all Finalise calls use one delete-empty flag and no revert undoes a touch that found the onDirty callback
  armed (the two excluded patterns are exactly the defects F3 and F2 of the code as written). Also: a step on one instance
  of a `World` leaves the others alone.
-/
import Aqv.Lemmas.StateRoot
namespace Aqv.State

def TxOp.safeAt : TxOp → SDB → Prop
  | .revert id, s => revertSafe id s
  | _, _ => True

def SafeTx : List TxOp → SDB → Prop
  | [], _ => True
  | op :: ops, s => op.safeAt s ∧ ∀ t, stepTx op s = some t → SafeTx ops t

def Op.safeAt (d : Bool) : Op → SDB → Prop
  | .tx o, s => o.safeAt s
  | .finalise d', _ => d' = d
  | _, _ => True

def SafeOps (d : Bool) : List Op → SDB → Prop
  | [], _ => True
  | op :: ops, s => op.safeAt d s ∧ ∀ t, step op s = some t → SafeOps d ops t

/-- `Reach d` with the cache invariant `BInv` in place of `TxInv` (`Good.reach`, `Good.of_reach`): what the root theorems need. -/
structure Good (d : Bool) (s : SDB) : Prop where
  binv : BInv s
  revs : RevsOK s
  tomb : TombD d s

theorem Good.reach {d : Bool} {s : SDB} (h : Good d s) : Reach d s := ⟨h.binv.txInv, h.revs, h.tomb⟩

theorem Good.of_reach {d : Bool} {s : SDB} (hb : BInv s) (h : Reach d s) : Good d s := ⟨hb, h.revs, h.tomb⟩

theorem good_fresh (d : Bool) (c : Addr → Option Acct) : Good d (fresh c) := .of_reach (binv_fresh c) (reach_fresh d c)

theorem good_stepTx {d : Bool} {s t : SDB} (h : Good d s) (op : TxOp) (hs : op.safeAt s) (hst : stepTx op s = some t) : Good d t := by
  refine .of_reach ?_ (reach_stepTx h.reach op hst)
  cases op with
  | mutate m => cases hst; exact binv_applyMut m h.binv
  | snap => cases hst; exact binv_congr h.binv rfl rfl rfl rfl
  | revert id => exact binv_revertTo h.binv hst hs

theorem good_runTx {d : Bool} : ∀ (ops : List TxOp) (s t : SDB), Good d s → SafeTx ops s → runTx ops s = some t → Good d t
  | [], s, t, h, _, hr => by cases hr; exact h
  | op :: ops, s, t, h, hs, hr => by
    obtain ⟨s1, hst, hr⟩ := runTx_cons_some hr
    exact good_runTx ops s1 t (good_stepTx h op hs.1 hst) (hs.2 s1 hst) hr

theorem good_finalise {d : Bool} {s : SDB} (h : Good d s) : Good d (finalise d s) :=
  .of_reach (binv_finalise h.binv h.tomb) (reach_finalise h.reach)

theorem good_reset (d : Bool) (s : SDB) (c : Addr → Option Acct) : Good d (reset s c) :=
  .of_reach (binv_congr (binv_fresh c) rfl rfl rfl rfl) (reach_reset d s c)

theorem good_copy {d : Bool} {s : SDB} (h : Good d s) : Good d (copy s) := by
  refine ⟨binv_copy h.binv, fun _ hr => (nomatch hr), fun a o ho hod => ?_⟩
  obtain ⟨-, q, hq, rfl⟩ := copy_objs_some ho
  exact h.tomb a q hq hod

theorem good_run {d : Bool} : ∀ (ops : List Op) (s t : SDB), Good d s → SafeOps d ops s → run ops s = some t → Good d t
  | [], s, t, h, _, hr => by cases hr; exact h
  | op :: ops, s, t, h, hs, hr => by
    obtain ⟨s1, hst, hr⟩ := run_cons_some hr
    refine good_run ops s1 t ?_ (hs.2 s1 hst) hr
    cases op with
    | tx o => exact good_stepTx h o hs.1 hst
    | prepare th => cases hst; exact ⟨binv_congr h.binv rfl rfl rfl rfl, h.revs, h.tomb⟩
    | finalise d' => cases (hs.1 : d' = d); cases hst; exact good_finalise h
    | commitReset d' => cases hst; exact good_reset d _ _

theorem world_step_cases {w w' : World} {st : WStep} (h : w.step st = some w') :
    (∃ cs, w'.committed = w.committed ++ cs) ∧
    ((∃ i op s', st = .at i op ∧ w'.insts = w.insts.set i s') ∨ ∃ s', w'.insts = w.insts ++ [s']) := by
  cases st with
  | «at» i op =>
    simp only [World.step, World.stepAt] at h
    cases hi : w.insts[i]? with
    | none => simp [hi] at h
    | some s =>
      simp only [hi] at h
      cases op with
      | tx o =>
        obtain ⟨s', -, rfl⟩ := Option.map_eq_some_iff.mp h
        exact ⟨⟨[], (List.append_nil _).symm⟩, Or.inl ⟨i, _, s', rfl, rfl⟩⟩
      | prepare th => cases h; exact ⟨⟨[], (List.append_nil _).symm⟩, Or.inl ⟨i, _, _, rfl, rfl⟩⟩
      | finalise d => cases h; exact ⟨⟨[], (List.append_nil _).symm⟩, Or.inl ⟨i, _, _, rfl, rfl⟩⟩
      | commit d => cases h; exact ⟨⟨_, rfl⟩, Or.inl ⟨i, _, _, rfl, rfl⟩⟩
      | reset k =>
        obtain ⟨c, -, rfl⟩ := Option.map_eq_some_iff.mp h
        exact ⟨⟨[], (List.append_nil _).symm⟩, Or.inl ⟨i, _, _, rfl, rfl⟩⟩
  | openAt k =>
    obtain ⟨c, -, rfl⟩ := Option.map_eq_some_iff.mp h
    exact ⟨⟨[], (List.append_nil _).symm⟩, Or.inr ⟨_, rfl⟩⟩
  | copyOf i =>
    obtain ⟨s, -, rfl⟩ := Option.map_eq_some_iff.mp h
    exact ⟨⟨[], (List.append_nil _).symm⟩, Or.inr ⟨_, rfl⟩⟩

theorem world_step_others {w w' : World} {st : WStep} {j : Nat} (hj : j < w.insts.length) (ha : st.avoids j = true)
    (h : w.step st = some w') :
    w'.insts[j]? = w.insts[j]? ∧ j < w'.insts.length ∧ ∀ (k : Nat) c, w.committed[k]? = some c → w'.committed[k]? = some c := by
  obtain ⟨⟨cs, hc⟩, hi⟩ := world_step_cases h
  refine ⟨?_, ?_, fun k c hk => ?_⟩
  · rcases hi with ⟨i, op, s', rfl, hi⟩ | ⟨s', hi⟩
    · rw [hi, List.getElem?_set_ne (by simpa [WStep.avoids] using ha)]
    · rw [hi, List.getElem?_append_left hj]
  · rcases hi with ⟨i, op, s', -, hi⟩ | ⟨s', hi⟩
    · rw [hi, List.length_set]; exact hj
    · rw [hi, List.length_append]; exact Nat.lt_add_right _ hj
  · rw [hc, List.getElem?_append_left (List.getElem?_eq_some_iff.mp hk).1]; exact hk

end Aqv.State
