/- C08: `StepInv`, what one executed instruction preserves (in-range stack words, memory length, gas, lastGasCost), and the
  assumptions `EnvOk` on the environment. -/
import Aqv.Lemmas.EvmExec
namespace Aqv.Evm
open Aqv Aqv.Big Aqv.Gen.VmTable

structure EnvOk (env : Env) (H : Bytes → Bytes) : Prop where
  hH : ∀ x, (H x).length = 32
  hcode : env.code.size < 2 ^ 62
  hrd : env.returndata.length < 2 ^ 64
  hcd : env.calldata.length < 2 ^ 256
  haddr : env.address < 2 ^ 256
  hcaller : env.caller < 2 ^ 256
  horigin : env.origin < 2 ^ 256
  hvalue : env.callvalue < 2 ^ 256
  hprice : env.gasprice < 2 ^ 256
  hcoinbase : env.coinbase < 2 ^ 256
  htime : env.timestamp < 2 ^ 256
  hnumber : env.number < 2 ^ 256
  hdiff : env.difficulty < 2 ^ 256
  hlimit : env.gaslimit < 2 ^ 256

theorem specAlu_inRange (opc : Nat) (a : List Int) (r : Int) (h : specAlu opc a = some r) : InRange r := by
  unfold specAlu at h
  cases hs : specAluW opc (a.map w256) with
  | none => rw [hs] at h; cases h
  | some v =>
    rw [hs] at h
    cases h
    exact inRange_natCast v.isLt

def StepInv (m : Machine) : Step → Prop
  | .cont _ m2 => (∀ v ∈ m2.stack, InRange v) ∧ m2.mem.length = m.mem.length ∧ m2.gas = m.gas ∧ m2.last = m.last
  | _ => True

theorem exec_inv (env : Env) (H : Bytes → Bytes) (hE : EnvOk env H) (en : Entry) (opc : Nat) (m : Machine)
    (hst : ∀ v ∈ m.stack, InRange v) (hpc : m.pc < 2 ^ 62) (hmem : m.mem.length < 2 ^ 62) (hgas : m.gas < 2 ^ 60) :
    StepInv m (specExec env H en opc m) := by
  have hb := back_inRange m.stack hst
  have hrest : ∀ v ∈ m.stack.drop en.pops, InRange v := fun v hv => hst v (List.mem_of_mem_drop hv)
  have hcode := hE.hcode
  have hrd := hE.hrd
  -- the three shapes almost every instruction has: a word pushed, a memory range written, a jump
  have hN : ∀ v, v < 2 ^ 256 → StepInv m (pushN m (m.stack.drop en.pops) v) := fun v hv =>
    ⟨List.forall_mem_cons.2 ⟨inRange_natCast hv, hrest⟩, rfl, rfl, rfl⟩
  have hW : ∀ off bs, StepInv m (.cont [] { m with stack := m.stack.drop en.pops, mem := specWrite m.mem off bs }) :=
    fun _ _ => ⟨hrest, specWrite_length .., rfl, rfl⟩
  have hJ : ∀ (c : Bool) dest, StepInv m (if c then .cont [] { m with stack := m.stack.drop en.pops, pc := dest }
      else .fail .badjump) := by
    intro c dest
    split
    · exact ⟨hrest, rfl, rfl, rfl⟩
    · trivial
  unfold specExec
  cases hdec : decode opc with
  | push n =>
    have hd := decode_sound opc
    rw [hdec] at hd
    simp only [instrOk] at hd
    exact ⟨List.forall_mem_cons.2 ⟨inRange_natCast (beNat_lt_256 _ (by rw [specRead_length]; omega)), hst⟩, rfl, rfl, rfl⟩
  | dup n => exact ⟨List.forall_mem_cons.2 ⟨hb _, hst⟩, rfl, rfl, rfl⟩
  | swap k =>
    refine ⟨fun v hv => ?_, rfl, rfl, rfl⟩
    rcases List.mem_or_eq_of_mem_set hv with hv | rfl
    · rcases List.mem_or_eq_of_mem_set hv with hv | rfl
      · exact hst v hv
      · exact hb _
    · exact hb _
  | alu =>
    simp only []
    cases hs : specAlu opc (m.stack.take en.pops) with
    | none => trivial
    | some r => exact ⟨List.forall_mem_cons.2 ⟨specAlu_inRange _ _ _ hs, hrest⟩, rfl, rfl, rfl⟩
  | sha3 => exact hN _ (beNat_lt_256 _ (by rw [hE.hH]; omega))
  | address => exact hN _ hE.haddr
  | origin => exact hN _ hE.horigin
  | caller => exact hN _ hE.hcaller
  | callvalue => exact hN _ hE.hvalue
  | gasprice => exact hN _ hE.hprice
  | coinbase => exact hN _ hE.hcoinbase
  | timestamp => exact hN _ hE.htime
  | number => exact hN _ hE.hnumber
  | difficulty => exact hN _ hE.hdiff
  | gaslimit => exact hN _ hE.hlimit
  | calldatasize => exact hN _ hE.hcd
  | calldataload | mload => exact hN _ (beNat_lt_256 _ (by rw [specRead_length]; omega))
  | codesize | returndatasize | pc | msize | gas => exact hN _ (by omega)
  | calldatacopy | codecopy | mstore | mstore8 => exact hW _ _
  | returndatacopy =>
    simp only []
    split
    · trivial
    · exact hW _ _
  | jump => exact hJ _ _
  | jumpi =>
    simp only []
    split
    · exact hJ _ _
    · exact ⟨hrest, rfl, rfl, rfl⟩
  | stop | jumpdest => exact ⟨hst, rfl, rfl, rfl⟩
  | pop | ret => exact ⟨hrest, rfl, rfl, rfl⟩
  | other => trivial
end Aqv.Evm
