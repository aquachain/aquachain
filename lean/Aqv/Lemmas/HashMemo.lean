/-
  Aqv.Lemmas.HashMemo — the memo table in front of the driver's hash never changes a value and answers every listed item.
-/
import Aqv.Model.HashMemo
namespace Aqv.HashMemo

theorem lookup_some_mem (tbl : List (Bytes × Bytes)) (b h : Bytes) (hl : tbl.lookup b = some h) : (b, h) ∈ tbl := by
  obtain ⟨l₁, l₂, rfl, _⟩ := List.lookup_eq_some_iff.mp hl
  simp

theorem lookup_none_not_mem (tbl : List (Bytes × Bytes)) (b : Bytes) (hl : tbl.lookup b = none) : ∀ h, (b, h) ∉ tbl := by
  intro h hm
  have := List.lookup_eq_none_iff.mp hl _ hm
  simp at this

theorem mkH_eq (K : Bytes → Bytes) (tbl : List (Bytes × Bytes)) (h : TableOK K tbl) : mkH K tbl = K := by
  funext b
  unfold mkH
  cases hl : tbl.lookup b with
  | none => rfl
  | some v => exact h (b, v) (lookup_some_mem tbl b v hl)

theorem memo_ok (K : Bytes → Bytes) (tbl : List (Bytes × Bytes)) (items : List Bytes) (h : TableOK K tbl) :
    TableOK K (memo K tbl items) :=
  List.foldlRecOn (motive := TableOK K) items _ h fun t ht b _ => by
    split
    · exact ht
    · exact List.forall_mem_cons.mpr ⟨rfl, ht⟩

theorem memo_hit (K : Bytes → Bytes) (tbl : List (Bytes × Bytes)) (items : List Bytes) (b : Bytes)
    (hb : b ∈ items ∨ (tbl.lookup b).isSome) : ((memo K tbl items).lookup b).isSome := by
  unfold memo
  induction items generalizing tbl with
  | nil => exact hb.resolve_left (fun h => by cases h)
  | cons x xs ih =>
    rw [List.foldl_cons]
    refine ih _ ?_
    by_cases hx : b = x
    · subst hx
      right
      cases hl : tbl.lookup b <;> simp [hl]
    · have hk : (b == x) = false := by simpa using hx
      refine hb.imp (fun h => (List.mem_cons.mp h).resolve_left hx) (fun h => ?_)
      cases hl : tbl.lookup x <;> simp [List.lookup_cons, hk, h]

end Aqv.HashMemo
