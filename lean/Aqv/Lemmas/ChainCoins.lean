/-
  Aqv.Lemmas.ChainCoins — the coin vectors followed by the replay driver (`Aqv.Model.ChainReplay`): the enumeration is
  complete for every resolution with at most 3 coins `true` (all resolutions up to 6 resp. 8 slots), and a coin is only
  read at an exact total-difficulty tie (at equal height for blocks), so resolutions that differ at other calls coincide.
-/
import Aqv.Model.ChainReplay
namespace Aqv.Chain
open Aqv.ChainReplay

theorem mem_boolVecs : ∀ (n : Nat) (v : List Bool), v.length = n → v ∈ boolVecs n := by
  intro n
  induction n with
  | zero => intro v hv; cases v with | nil => simp [boolVecs] | cons a w => simp at hv
  | succ n ih =>
    intro v hv
    cases v with
    | nil => simp at hv
    | cons a w =>
      have hw : w ∈ boolVecs n := ih w (by simpa using hv)
      unfold boolVecs
      apply List.mem_flatMap.mpr
      refine ⟨w, hw, ?_⟩
      cases a <;> simp

theorem mem_sparseVecs : ∀ (n k : Nat) (v : List Bool), v.length = n → v.count true ≤ k → v ∈ sparseVecs n k := by
  intro n
  induction n with
  | zero => intro k v hv _; cases v with | nil => simp [sparseVecs] | cons a w => simp at hv
  | succ n ih =>
    intro k v hv hc
    cases v with
    | nil => simp at hv
    | cons a w =>
      have hlen : w.length = n := by simpa using hv
      unfold sparseVecs
      apply List.mem_append.mpr
      cases a with
      | false =>
        left
        have : w.count true ≤ k := by simpa using hc
        exact List.mem_map.mpr ⟨w, ih k w hlen this, rfl⟩
      | true =>
        right
        have hc' : w.count true + 1 ≤ k := by simpa using hc
        have hk : k ≠ 0 := by omega
        rw [if_neg hk]
        exact List.mem_map.mpr ⟨w, ih (k - 1) w hlen (by omega), rfl⟩

theorem mem_vecs (B n : Nat) (v : List Bool) (hv : v.length = n) (h : n ≤ B ∨ v.count true ≤ 3) :
    v ∈ (if n ≤ B then boolVecs n else sparseVecs n 3) := by
  by_cases hn : n ≤ B
  · rw [if_pos hn]; exact mem_boolVecs n v hv
  · rw [if_neg hn]
    exact mem_sparseVecs n 3 v hv (h.resolve_left hn)

theorem coinVecs_complete (n : Nat) (v : List Bool) (hv : v.length = n) (h : n ≤ 6 ∨ v.count true ≤ 3) :
    v ∈ coinVecs n := mem_vecs 6 n v hv h

theorem hdrCoinVecs_complete (n : Nat) (v : List Bool) (hv : v.length = n) (h : n ≤ 8 ∨ v.count true ≤ 3) :
    v ∈ hdrCoinVecs n := mem_vecs 8 n v hv h

theorem decideReorg_coin {e l bn hn : Nat} (h : e ≠ l ∨ bn ≠ hn) (c c' : Bool) :
    decideReorg e l bn hn c = decideReorg e l bn hn c' := by
  unfold decideReorg
  rcases h with h | h
  · have : (e == l) = false := by simpa using h
    simp [this]
  · have : (bn == hn) = false := by simpa using h
    simp [this]

/-- the state in which `WriteBlockWithState s b _` reads its coin -/
def tieAt (s : St) (b : Blk) : Prop :=
  ∃ ptd cur lt, s.td b.parent = some ptd ∧ s.store s.head = some cur ∧ s.td s.head = some lt ∧
    ptd + b.diff = lt ∧ b.number = cur.number

theorem wbws_coin_irrelevant (s : St) (b : Blk) (h : ¬ tieAt s b) (c c' : Bool) :
    writeBlockWithState s b c = writeBlockWithState s b c' := by
  unfold writeBlockWithState
  cases hptd : s.td b.parent with
  | none => rfl
  | some ptd =>
    simp only
    cases hcur : s.store s.head with
    | none => rfl
    | some cur =>
      cases hlt : s.td s.head with
      | none => rfl
      | some lt =>
        simp only
        have hd : decideReorg (ptd + b.diff) lt b.number cur.number c = decideReorg (ptd + b.diff) lt b.number cur.number c' := by
          apply decideReorg_coin
          by_cases h1 : ptd + b.diff = lt
          · right
            intro h2
            exact h ⟨ptd, cur, lt, hptd, hcur, hlt, h1, h2⟩
          · exact .inl h1
        rw [hd]

theorem writeHeader_coin_irrelevant (s : HSt) (h : Blk)
    (hne : ∀ ptd lt, s.td h.parent = some ptd → s.td s.hhead = some lt → ptd + h.diff ≠ lt) (c c' : Bool) :
    writeHeader s h c = writeHeader s h c' := by
  unfold writeHeader
  cases hptd : s.td h.parent with
  | none => rfl
  | some ptd =>
    simp only
    cases hcur : s.store s.hhead with
    | none => rfl
    | some cur =>
      cases hlt : s.td s.hhead with
      | none => rfl
      | some lt =>
        simp only
        have : (ptd + h.diff == lt) = false := by simpa using hne ptd lt hptd hlt
        simp [this]

end Aqv.Chain
