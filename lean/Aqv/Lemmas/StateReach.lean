/-
  Aqv.Lemmas.StateReach — the hypotheses of `revert_exact` (TxInv, RevsOK) hold in every state reachable from a freshly
  opened StateDB by a history whose Finalise calls all use the same delete-empty flag.
-/
import Aqv.Lemmas.StateRevert
import Aqv.Lemmas.StateBlock
namespace Aqv.State

/-- every tombstone is one that `Finalise d` would delete again (so re-finalising it is harmless). -/
def TombD (d : Bool) (s : SDB) : Prop := ∀ a o, s.objs a = some o → o.deleted = true → delCond d o = true

/-- what `revert_exact` asks of a state (`TxInv`, `RevsOK`) with `TombD d`, which carries `Coherent` across `Finalise d`: an
    invariant of the histories that use one delete-empty flag (`reach_run`); `Good d` adds the cache invariant to it. -/
structure Reach (d : Bool) (s : SDB) : Prop where
  inv : TxInv s
  revs : RevsOK s
  tomb : TombD d s

theorem reach_reset (d : Bool) (s : SDB) (c : Addr → Option Acct) : Reach d (reset s c) :=
  ⟨⟨fun _ _ h => (nomatch h), fun _ h => (nomatch h)⟩, fun _ h => (nomatch h), fun _ _ h => (nomatch h)⟩

theorem reach_fresh (d : Bool) (c : Addr → Option Acct) : Reach d (fresh c) := reach_reset d (fresh c) c

theorem reach_stepTx {d : Bool} {s t : SDB} (h : Reach d s) (op : TxOp) (hst : stepTx op s = some t) : Reach d t := by
  have hi := txinv_stepTx h.inv hst
  cases op with
  | mutate m =>
    cases hst
    have he := ext_applyMut m s h.inv.coh
    exact ⟨hi, fun r hr => he.nextId ▸ h.revs r (he.revs ▸ hr), fun a o ho hd => (he.tomb a o ⟨ho, hd⟩).elim (h.tomb a o)⟩
  | snap =>
    cases hst
    refine ⟨hi, fun r hr => ?_, h.tomb⟩
    rcases List.mem_cons.mp hr with rfl | h'
    · exact Nat.lt_succ_self _
    · exact Nat.lt_succ_of_lt (h.revs r h')
  | revert id =>
    obtain ⟨r, rest, hdw, -, rfl⟩ := revertTo_eq hst
    refine ⟨hi, fun x (hx : x ∈ rest) => ?_, fun a o ho hd => (tomb_undoN _ h.inv.jok ⟨ho, hd⟩).elim (h.tomb a o)⟩
    have := h.revs x (List.IsSuffix.mem (List.mem_cons_of_mem r hx) (hdw ▸ List.dropWhile_suffix _))
    simpa using this

theorem delCond_flush (d : Bool) (o : Obj) : delCond d o.flush = delCond d o := rfl
theorem delCond_deleted (d : Bool) (o : Obj) (b : Bool) : delCond d { o with deleted := b } = delCond d o := rfl

theorem tomb_finalise {d : Bool} {s : SDB} (hc : Coherent s) (ht : TombD d s) {a : Addr} {o : Obj}
    (ho : (finalise d s).objs a = some o) (hd : o.deleted = true) : (finalise d s).trie a = none ∧ delCond d o = true := by
  rw [finalise_objs] at ho
  rw [finalise_trie]
  by_cases ha : a ∈ s.dirty
  · rw [if_pos ha] at ho ⊢
    cases hso : s.objs a with
    | none => rw [hso] at ho; cases ho
    | some q =>
      rw [hso] at ho; cases ho
      by_cases hdc : delCond d q = true
      · simp [finLeaf, finObj, hdc, delCond_deleted]
      · simp only [finObj, hdc] at hd
        exact absurd (ht a q hso hd) hdc
  · rw [if_neg ha] at ho ⊢
    exact ⟨hc a o ho hd, ht a o ho hd⟩

theorem reach_finalise {d : Bool} {s : SDB} (h : Reach d s) : Reach d (finalise d s) :=
  ⟨⟨fun _ _ ho hd => (tomb_finalise h.inv.coh h.tomb ho hd).1, fun _ he => (nomatch he)⟩, fun _ hr => (nomatch hr),
   fun _ _ ho hd => (tomb_finalise h.inv.coh h.tomb ho hd).2⟩

/-- block-level histories whose Finalise calls all use the flag `d` (Commit+Reset may use any flag). -/
def Uniform (d : Bool) (ops : List Op) : Prop := ∀ d', Op.finalise d' ∈ ops → d' = d

theorem run_cons_some {op : Op} {ops : List Op} {s t : SDB} (h : run (op :: ops) s = some t) :
    ∃ s1, step op s = some s1 ∧ run ops s1 = some t := by
  simp only [run] at h
  split at h
  · cases h
  · exact ⟨_, ‹_›, h⟩

theorem reach_run {d : Bool} : ∀ (ops : List Op) (s t : SDB), Uniform d ops → Reach d s → run ops s = some t → Reach d t
  | [], s, t, _, h, hr => by cases hr; exact h
  | op :: ops, s, t, hu, h, hr => by
    obtain ⟨s1, hst, hr⟩ := run_cons_some hr
    refine reach_run ops s1 t (fun d' hd' => hu d' (List.mem_cons_of_mem _ hd')) ?_ hr
    cases op with
    | tx o => exact reach_stepTx h o hst
    | prepare th => cases hst; exact ⟨⟨h.inv.coh, h.inv.jok⟩, h.revs, h.tomb⟩
    | finalise d' => cases hu d' List.mem_cons_self; cases hst; exact reach_finalise h
    | commitReset d' => cases hst; exact reach_reset d _ _

end Aqv.State
