/-
  Aqv.Lemmas.TxSortedMap — the cache of txSortedMap stays coherent with its contents.
-/
import Aqv.Lemmas.TxList
import Aqv.Model.TxSortedMap
namespace Aqv.TxPool

theorem sorted_drop_below {l : List Tx} (th : Nat) (hs : Sorted l) :
    l.drop (l.filter (fun t => decide (t.nonce < th))).length = l.filter (fun t => !decide (t.nonce < th)) := by
  conv => lhs; arg 2; rw [← hs.filter_lt_append th]
  exact List.drop_left

def SMap.OK (m : SMap) : Prop := Sorted m.items ∧ m.Coherent

theorem SMap.coherent_none {items : List Tx} : (⟨items, none⟩ : SMap).Coherent := fun c h => by cases h

theorem SMap.step_ok (m : SMap) (op : SOp) (h : m.OK) : (m.step op).2.OK := by
  obtain ⟨hs, hc⟩ := h
  cases op with
  | put t => exact ⟨put_sorted hs, SMap.coherent_none⟩
  | forward th =>
    refine ⟨Sorted.filter _ hs, fun c hcc => ?_⟩
    obtain ⟨c0, hm, rfl⟩ := Option.map_eq_some_iff.mp hcc
    rw [hc c0 hm]
    exact sorted_drop_below th hs
  | filter p =>
    unfold SMap.step
    simp only
    split
    · exact ⟨hs, hc⟩
    · exact ⟨Sorted.filter _ hs, SMap.coherent_none⟩
  | cap k =>
    unfold SMap.step
    simp only
    split
    · exact ⟨hs, hc⟩
    · rename_i hlen
      refine ⟨Sorted.take _ hs, fun c hcc => ?_⟩
      obtain ⟨c0, hm, rfl⟩ := Option.map_eq_some_iff.mp hcc
      simp only [capL, hc c0 hm, List.length_drop]
      congr 1
      omega
  | remove n =>
    unfold SMap.step
    simp only
    split
    · exact ⟨hs, hc⟩
    · exact ⟨Sorted.filter _ hs, SMap.coherent_none⟩
  | ready start =>
    unfold SMap.step
    simp only
    split
    · exact ⟨hs, hc⟩
    · split
      · exact ⟨hs, hc⟩
      · rename_i x xs hi _
        refine ⟨?_, SMap.coherent_none⟩
        rw [← ready_append start m.items] at hs
        exact (sorted_append.mp hs).2.1
  | flatten =>
    unfold SMap.step
    simp only
    split
    · exact ⟨hs, hc⟩
    · exact ⟨hs, fun c h => by simp only [Option.some.injEq] at h; exact h.symm⟩

theorem SMap.run_ok (ops : List SOp) (m : SMap) (h : m.OK) : (m.run ops).OK :=
  foldl_pres SMap.OK _ SMap.step_ok ops m h

theorem SMap.empty_ok : SMap.empty.OK := ⟨Sorted.nil, SMap.coherent_none⟩

/-- the cache is not observable (only `Flatten` reads it) -/
theorem SMap.step_forget (m : SMap) (op : SOp) (h : m.Coherent) :
    (m.step op).1 = (SMap.step ⟨m.items, none⟩ op).1 ∧ (m.step op).2.items = (SMap.step ⟨m.items, none⟩ op).2.items := by
  cases op with
  | flatten =>
    unfold SMap.step
    cases hm : m.cache with
    | none => exact ⟨rfl, rfl⟩
    | some c => exact ⟨h c hm, rfl⟩
  | put t => exact ⟨rfl, rfl⟩
  | forward th => exact ⟨rfl, rfl⟩
  | filter p => unfold SMap.step; simp only; split <;> exact ⟨rfl, rfl⟩
  | cap k => unfold SMap.step; simp only; split <;> exact ⟨rfl, rfl⟩
  | remove n => unfold SMap.step; simp only; split <;> exact ⟨rfl, rfl⟩
  | ready start => unfold SMap.step; simp only; split; exact ⟨rfl, rfl⟩; split <;> exact ⟨rfl, rfl⟩

theorem SMap.flatten_spec (m : SMap) (h : m.Coherent) :
    (m.step .flatten).1 = m.items ∧ (m.step .flatten).2.items = m.items := m.step_forget .flatten h

theorem SMap.coherentB_iff (m : SMap) : m.coherentB = true ↔ m.Coherent := by
  unfold SMap.coherentB SMap.Coherent
  cases hm : m.cache with
  | none => simp
  | some c => simp

end Aqv.TxPool
