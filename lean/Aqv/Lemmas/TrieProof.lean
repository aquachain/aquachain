/-
  Aqv.Lemmas.TrieProof — Merkle proofs: decoding the encoding of a canonical node gives back the node (children as
  embedded nodes / hash references); VerifyProof's walk over a database that holds, or may lack, the nodes of the key's
  path (`verify_spec`): over any proof database that is collision-free against the genuine nodes it returns only the
  genuine value / absence, and over the output of `Prove` exactly that; equal roots force equal tries.
-/
import Aqv.Lemmas.TrieBuild
import Aqv.Lemmas.Rlp
import Aqv.Model.TrieProof
namespace Aqv.Trie
open Aqv Aqv.Rlp

def payload : Item → Bytes
  | .str b => b
  | .list xs => encList xs

def isListItem : Item → Bool
  | .str _ => false
  | .list _ => true

theorem split_enc (it : Item) (hs : it.sizeOk = true) (rest : Bytes) :
    split (enc it ++ rest) = some (isListItem it, payload it, rest) := by
  cases it with
  | str b =>
    simp only [Item.sizeOk, decide_eq_true_eq] at hs
    simp only [enc, isListItem, payload]
    unfold encStr
    split
    · rename_i x
      by_cases hx : x < 0x80
      · simp [hx, split, readHead]
      · simp only [hx, if_false]
        rw [List.append_assoc, split, readHead_header_str 1 (by omega)]
        simp [hx]
    · rw [List.append_assoc, split, readHead_header_str _ hs]
      simp only [List.length_append, List.take_left', List.drop_left']
      rw [if_neg (by omega)]
  | list xs =>
    simp only [Item.sizeOk, Bool.and_eq_true, decide_eq_true_eq] at hs
    simp only [enc, isListItem, payload]
    rw [List.append_assoc, split, readHead_header_list _ hs.1]
    simp only [List.length_append, List.take_left', List.drop_left']
    rw [if_neg (by omega)]

theorem splitString_enc_str (b : Bytes) (hb : (Item.str b).sizeOk = true) (rest : Bytes) :
    splitString (enc (.str b) ++ rest) = some (b, rest) := by
  simp [splitString, split_enc _ hb, isListItem, payload]

theorem splitList_enc_list (xs : List Item) (hs : (Item.list xs).sizeOk = true) (rest : Bytes) :
    splitList (enc (.list xs) ++ rest) = some (encList xs, rest) := by
  simp [splitList, split_enc _ hs, isListItem, payload]

theorem countValues_encList : ∀ (xs : List Item), Item.sizeOkList xs = true → ∀ f, (encList xs).length ≤ f →
    countValues f (encList xs) = some xs.length
  | [], _, f, _ => by cases f <;> rfl
  | x :: xs, hs, f, hf => by
    simp only [Item.sizeOkList, Bool.and_eq_true] at hs
    simp only [encList, List.length_append] at hf ⊢
    have hpos := enc_length_pos x
    obtain ⟨g, rfl⟩ : ∃ g, f = g + 1 := ⟨f - 1, by omega⟩
    cases he : enc x with
    | nil => exact absurd he (enc_ne_nil x)
    | cons b bs =>
      rw [List.cons_append, countValues, ← List.cons_append, ← he, split_enc x hs.1]
      simp only [countValues_encList xs hs.2 g (by omega), Option.map_some, List.length_cons]

theorem encList_append (a b : List Item) : encList (a ++ b) = encList a ++ encList b := by
  induction a with
  | nil => rfl
  | cons x a ih => simp [encList, ih]

theorem sizeOkList_mem : ∀ (xs : List Item), Item.sizeOkList xs = true → ∀ x ∈ xs, x.sizeOk = true
  | y :: ys, hs, x, h => by
    simp only [Item.sizeOkList, Bool.and_eq_true] at hs
    cases h with
    | head => exact hs.1
    | tail _ h => exact sizeOkList_mem ys hs.2 x h

theorem enc_mem_length_le : ∀ (xs : List Item) (x : Item), x ∈ xs → (enc x).length ≤ (encList xs).length := by
  intro xs x h
  induction h with
  | head => simp only [encList, List.length_append]; omega
  | tail _ _ ih => simp only [encList, List.length_append]; omega

theorem enc_list_length (xs : List Item) : (encList xs).length < (enc (.list xs)).length := by
  have := header_length_pos 0xC0 (encList xs).length
  simp only [enc, List.length_append]
  omega

theorem decodeNode_enc_list (xs : List Item) (hs : (Item.list xs).sizeOk = true) (g : Nat) (rest : Bytes) :
    decodeNode (g + 1) (enc (.list xs) ++ rest) =
      if xs.length = 2 then decodeShortWith (decodeNode g) (encList xs)
      else if xs.length = 17 then decodeFullWith (decodeNode g) (encList xs) else .error .err := by
  have hne : (enc (.list xs) ++ rest).length ≠ 0 := by
    have := enc_length_pos (.list xs); simp only [List.length_append]; omega
  have hs' := hs
  simp only [Item.sizeOk, Bool.and_eq_true, decide_eq_true_eq] at hs'
  simp only [decodeNode, hne, if_false, splitList_enc_list xs hs, countValues_encList xs hs'.2 _ (Nat.le_refl _)]
  split <;> simp_all

theorem first16_getD (g : Nib → PNode) (i : Nib) (hi : i ≠ T) :
    (((List.finRange 17).take 16).map g).getD i.val .nil = g i := by
  have hlt : i.val < 16 := by
    have := i.isLt
    have : i.val ≠ 16 := fun e => hi (Fin.ext e)
    omega
  rw [List.getD_eq_getElem?_getD, List.getElem?_map, List.getElem?_take, if_pos hlt,
    List.getElem?_eq_getElem (by simp), List.getElem_finRange]
  rfl

theorem decodeRefs_map (recNode : Bytes → Except DErr PNode) (items : Nib → Item) (ps : Nib → PNode) :
    ∀ (is : List Nib), (∀ i ∈ is, ∀ rest, decodeRefWith recNode (enc (items i) ++ rest) = .ok (ps i, rest)) →
      ∀ rest, decodeRefsWith recNode is.length (encList (is.map items) ++ rest) = .ok (is.map ps, rest)
  | [], _, _ => rfl
  | i :: is, h, rest => by
    simp only [List.map_cons, encList, List.length_cons, decodeRefsWith, List.append_assoc,
      h i (List.mem_cons_self ..), decodeRefs_map recNode items ps is (fun j hj => h j (List.mem_cons_of_mem _ hj))]

theorem decodeFull_items (recNode : Bytes → Except DErr PNode) (items : Nib → Item) (ps : Nib → PNode) (val : Bytes)
    (hrefs : ∀ i, i ≠ T → ∀ rest, decodeRefWith recNode (enc (items i) ++ rest) = .ok (ps i, rest))
    (hT : items T = .str val) (hval : (Item.str val).sizeOk = true)
    (hps : (if val.length > 0 then PNode.value val else .nil) = ps T) :
    decodeFullWith recNode (encList ((List.finRange 17).map items)) = .ok (.full ps) := by
  have h16 := decodeRefs_map recNode items ps ((List.finRange 17).take 16) (fun i hi => hrefs i (by revert i; decide))
    (encList ([T].map items))
  rw [show ((List.finRange 17).take 16).length = 16 from rfl] at h16
  rw [show List.finRange 17 = (List.finRange 17).take 16 ++ [T] by decide, List.map_append, encList_append,
    decodeFullWith, h16]
  simp only [List.map_cons, List.map_nil, encList, hT, splitString_enc_str val hval, hps, Except.ok.injEq,
    PNode.full.injEq]
  funext i
  by_cases hi : i = T
  · rw [if_pos hi, hi]
  · rw [if_neg hi, first16_getD ps i hi]

theorem decodeShort_leaf (recNode : Bytes → Except DErr PNode) {k : List Nib} (hk : Term k) (v : Bytes)
    (hsk : (Item.str (hexToCompact k)).sizeOk = true) (hsv : (Item.str v).sizeOk = true) :
    decodeShortWith recNode (encList [.str (hexToCompact k), .str v]) = .ok (.short k (.value v)) := by
  simp only [encList, decodeShortWith, splitString_enc_str _ hsk, compact_hex_roundtrip' k (Or.inr hk),
    term_hasTerm hk, if_true, splitString_enc_str _ hsv]

theorem decodeShort_ext (recNode : Bytes → Except DErr PNode) {k : List Nib} (hk : Hex k) (it : Item) (r : PNode)
    (hsk : (Item.str (hexToCompact k)).sizeOk = true) (href : decodeRefWith recNode (enc it ++ []) = .ok (r, [])) :
    decodeShortWith recNode (encList [.str (hexToCompact k), it]) = .ok (.short k r) := by
  simp only [encList, decodeShortWith, splitString_enc_str _ hsk, compact_hex_roundtrip' k (Or.inl hk),
    hex_not_hasTerm hk, Bool.false_eq_true, if_false, href]

/-- `hashRoot` (Model.Trie), by `rfl`; this name is used for inner nodes. -/
def hashOf (H : Bytes → Bytes) (n : Node) : Bytes := H (enc (body H n))

theorem hashOf_eq_hashRoot (H : Bytes → Bytes) (n : Node) : hashOf H n = hashRoot H n := rfl

/-- a child as `decodeRef` returns it: nil, value, embedded node (RLP < 32 bytes) or hash reference. -/
def refP (H : Bytes → Bytes) : Node → PNode
  | .nil => .nil
  | .value v => .value v
  | .short k c =>
    if (enc (body H (.short k c))).length < 32 then .short k (refP H c) else .hash (hashOf H (.short k c))
  | .full cs =>
    if (enc (body H (.full cs))).length < 32 then .full (fun i => refP H (cs i)) else .hash (hashOf H (.full cs))

/-- a node as `decodeNode` returns it from its own encoding. -/
def toP (H : Bytes → Bytes) : Node → PNode
  | .nil => .nil
  | .value v => .value v
  | .short k c => .short k (refP H c)
  | .full cs => .full fun i => refP H (cs i)

/-- every node's RLP (and every string in it) is shorter than 2^64 bytes — the range of RLP length headers. -/
def SizeOk (H : Bytes → Bytes) : Node → Prop
  | .nil => True
  | .value _ => True
  | .short k c => (body H (.short k c)).sizeOk = true ∧ SizeOk H c
  | .full cs => (body H (.full cs)).sizeOk = true ∧ ∀ i, SizeOk H (cs i)

variable (H : Bytes → Bytes)

/-- the embedding rule, read off the hasher's reference and off its decoded form at once. -/
theorem sf_cases {n : Node} (h : IsSF n) :
    ((enc (body H n)).length < 32 ∧ ref H n = body H n ∧ refP H n = toP H n) ∨
    (32 ≤ (enc (body H n)).length ∧ ref H n = .str (hashOf H n) ∧ refP H n = .hash (hashOf H n)) := by
  have hr : ref H n = wrap H (body H n) ∧
      refP H n = if (enc (body H n)).length < 32 then toP H n else .hash (hashOf H n) := by
    cases n with
    | nil => cases h
    | value _ => cases h
    | short _ _ => exact ⟨rfl, rfl⟩
    | full _ => exact ⟨rfl, rfl⟩
  rw [hr.1, hr.2, wrap]
  by_cases he : (enc (body H n)).length < 32
  · exact Or.inl ⟨he, if_pos he, if_pos he⟩
  · exact Or.inr ⟨Nat.le_of_not_lt he, if_neg he, if_neg he⟩

theorem enc_str32 (h : Bytes) (hl : h.length = 32) : (Item.str h).sizeOk = true := by
  simp [Item.sizeOk, hl]

/-- `hrec`: the decoder for embedded nodes inverts the child's encoding, needed when the child is embedded. -/
theorem decodeRef_ref (hH : ∀ x, (H x).length = 32) (recNode : Bytes → Except DErr PNode)
    (c : Node) (hc : c = .nil ∨ IsSF c) (hs : (ref H c).sizeOk = true)
    (hrec : IsSF c → ref H c = body H c → ∀ rest, recNode (enc (body H c) ++ rest) = .ok (toP H c))
    (rest : Bytes) :
    decodeRefWith recNode (enc (ref H c) ++ rest) = .ok (refP H c, rest) := by
  rcases hc with rfl | hsf
  · simp [ref, refP, decodeRefWith, split_enc (.str []) rfl, isListItem, payload]
  · rcases sf_cases H hsf with ⟨he, hr, hp⟩ | ⟨_, hr, hp⟩
    · have hl : isListItem (body H c) = true := by
        cases c with
        | nil => cases hsf
        | value _ => cases hsf
        | short _ _ => rfl
        | full _ => rfl
      rw [hp, decodeRefWith, hr, split_enc _ (hr ▸ hs), hl]
      simp only [List.length_append]
      rw [if_neg (by omega), hrec hsf hr rest]
    · rw [hp, hr, decodeRefWith, split_enc _ (hr ▸ hs)]
      simp [isListItem, payload, hH, hashOf]

theorem decodeNode_body (hH : ∀ x, (H x).length = 32) {n : Node} (hw : WF n) :
    SizeOk H n → ∀ f rest, (enc (body H n)).length < f → decodeNode f (enc (body H n) ++ rest) = .ok (toP H n) := by
  -- a child that is embedded in `n` has a shorter encoding than `n`, so the fuel left after opening `n` suffices
  have hchild : ∀ {xs : List Item} {c : Node} {g : Nat}, ref H c ∈ xs → ref H c = body H c →
      (enc (Item.list xs)).length < g + 1 → (enc (body H c)).length < g := by
    intro xs c g hm he hf
    have := Nat.lt_of_le_of_lt (enc_mem_length_le xs _ hm) (enc_list_length xs)
    rw [he] at this
    omega
  induction hw with
  | leaf k v hk hv =>
    intro hs f rest hf
    obtain ⟨g, rfl⟩ : ∃ g, f = g + 1 := ⟨f - 1, by omega⟩
    have hso : (Item.list [.str (hexToCompact k), .str v]).sizeOk = true := hs.1
    have h2 := sizeOkList_mem _ (Bool.and_eq_true _ _ ▸ hso).2
    exact (decodeNode_enc_list _ hso g rest).trans (decodeShort_leaf _ hk v (h2 _ (by simp)) (h2 _ (by simp)))
  | ext k cs hk hh hwf ih =>
    intro hs f rest hf
    obtain ⟨g, rfl⟩ : ∃ g, f = g + 1 := ⟨f - 1, by omega⟩
    have hso : (Item.list [.str (hexToCompact k), ref H (.full cs)]).sizeOk = true := hs.1
    have h2 := sizeOkList_mem _ (Bool.and_eq_true _ _ ▸ hso).2
    refine (decodeNode_enc_list _ hso g rest).trans (decodeShort_ext _ hh _ _ (h2 _ (by simp)) ?_)
    exact decodeRef_ref H hH _ (.full cs) (Or.inr trivial) (h2 _ (by simp))
      (fun _ he rest' => ih hs.2 g rest' (hchild (by simp) he hf)) []
  | full cs c1 c2 c3 ih =>
    intro hs f rest hf
    obtain ⟨g, rfl⟩ : ∃ g, f = g + 1 := ⟨f - 1, by omega⟩
    have hso : (Item.list ((List.finRange 17).map fun i => ref H (cs i))).sizeOk = true := hs.1
    have h2 := sizeOkList_mem _ (Bool.and_eq_true _ _ ▸ hso).2
    have hmem : ∀ i, ref H (cs i) ∈ (List.finRange 17).map fun i => ref H (cs i) :=
      fun i => List.mem_map.2 ⟨i, List.mem_finRange i, rfl⟩
    obtain ⟨val, hval, hv16⟩ : ∃ val, ref H (cs T) = .str val ∧
        (if val.length > 0 then PNode.value val else PNode.nil) = refP H (cs T) := by
      rcases c2 with e | ⟨v, hv, e⟩
      · exact ⟨[], by simp [e, ref, refP]⟩
      · exact ⟨v, by simp [e, ref], by simp [e, refP, List.length_pos_iff.2 hv]⟩
    refine (decodeNode_enc_list _ hso g rest).trans ?_
    simp only [List.length_map, List.length_finRange, Nat.reduceEqDiff, if_false, if_true]
    refine decodeFull_items _ _ (fun i => refP H (cs i)) val (fun i hi rest' => ?_) hval (hval ▸ h2 _ (hmem T)) hv16
    have hc : cs i = .nil ∨ IsSF (cs i) := by
      by_cases hn : cs i = .nil
      · exact Or.inl hn
      · exact Or.inr (wf_isSF (c1 i hi hn))
    refine decodeRef_ref H hH _ _ hc (h2 _ (hmem i)) (fun hsf he rest'' => ?_) rest'
    have hn : cs i ≠ .nil := by intro e; rw [e] at hsf; exact hsf
    exact ih i hi hn (hs.2 i) g rest'' (hchild (hmem i) he hf)

theorem decodeNode_self (hH : ∀ x, (H x).length = 32) {n : Node} (hw : WF n) (hs : SizeOk H n) :
    decodeNode ((enc (body H n)).length + 1) (enc (body H n)) = .ok (toP H n) := by
  have := decodeNode_body H hH hw hs _ [] (Nat.lt_succ_self _)
  rwa [List.append_nil] at this

inductive Sub : Node → Node → Prop
  | refl (n : Node) : Sub n n
  | short {m : Node} (k : List Nib) {c : Node} : Sub m c → Sub m (.short k c)
  | full {m : Node} {cs : Nib → Node} (i : Nib) : Sub m (cs i) → Sub m (.full cs)

theorem Sub.trans {a b c : Node} (h1 : Sub a b) (h2 : Sub b c) : Sub a c := by
  induction h2 with
  | refl => exact h1
  | short k _ ih => exact .short k ih
  | full i _ ih => exact .full i ih

/-- an unloaded node (Go `hashNode`): the one form at which a walk has to consult the database. -/
def isHashX : PNode → Bool
  | .hash _ => true
  | _ => false

theorem toP_not_hash {t : Node} (h : IsSF t) : isHashX (toP H t) = false := by
  cases t with
  | nil => cases h
  | value _ => cases h
  | short _ _ => rfl
  | full _ => rfl

/-- `refP H n` is nil, a value, an open short or full node over the reference forms of the children, or the hash of a
    node whose decoded form `toP H n` is such an open node. -/
theorem refP_induction {motive : PNode → Node → Prop}
    (nil : motive .nil .nil) (value : ∀ v, motive (.value v) (.value v))
    (short : ∀ p c, motive (refP H c) c → motive (.short p (refP H c)) (.short p c))
    (full : ∀ cs, (∀ i, motive (refP H (cs i)) (cs i)) → motive (.full fun i => refP H (cs i)) (.full cs))
    (hash : ∀ n, IsSF n → 32 ≤ (enc (body H n)).length → motive (toP H n) n → motive (.hash (hashOf H n)) n)
    (n : Node) (x : PNode) (hx : x = refP H n ∨ IsSF n ∧ x = toP H n) : motive x n := by
  suffices h : motive (refP H n) n ∧ (IsSF n → motive (toP H n) n) by
    rcases hx with rfl | ⟨hsf, rfl⟩
    · exact h.1
    · exact h.2 hsf
  clear hx
  have ref : ∀ n, IsSF n → motive (toP H n) n → motive (refP H n) n := by
    intro n hsf ht
    rcases sf_cases H hsf with ⟨_, _, e⟩ | ⟨he, _, e⟩ <;> rw [e]
    · exact ht
    · exact hash n hsf he ht
  induction n with
  | nil => exact ⟨nil, fun h => h.elim⟩
  | value v => exact ⟨value v, fun h => h.elim⟩
  | short p c ih =>
    have ht := short p c ih.1
    exact ⟨ref _ trivial ht, fun _ => ht⟩
  | full cs ih =>
    have ht := full cs fun i => (ih i).1
    exact ⟨ref _ trivial ht, fun _ => ht⟩

theorem provePath_short (p : List Nib) (c : Node) {k : List Nib} (hk : k ≠ []) :
    provePath (.short p c) k =
      if k.take p.length = p then (provePath c (k.drop p.length)).map (Node.short p c :: ·) else some [.short p c] := by
  obtain ⟨x, r, rfl⟩ := List.exists_cons_of_ne_nil hk
  rw [provePath]

theorem provePath_full_cons (cs : Nib → Node) (x : Nib) (k : List Nib) :
    provePath (.full cs) (x :: k) = (provePath (cs x) k).map (Node.full cs :: ·) := by
  rw [provePath]

theorem provePath_sub (n : Node) : ∀ k l, provePath n k = some l → ∀ m ∈ l, Sub m n ∧ IsSF m := by
  induction n with
  | nil => intro k l h m hm; cases k <;> cases h <;> cases hm
  | value w => intro k l h m hm; cases k <;> cases h; cases hm
  | short p c ih =>
    intro k l h m hm
    cases k with
    | nil => cases h; cases hm
    | cons x r =>
      rw [provePath_short p c (List.cons_ne_nil _ _)] at h
      split at h
      · obtain ⟨lc, hc, rfl⟩ := Option.map_eq_some_iff.1 h
        rcases List.mem_cons.1 hm with rfl | hm
        · exact ⟨.refl _, trivial⟩
        · exact ⟨.short p (ih _ lc hc m hm).1, (ih _ lc hc m hm).2⟩
      · cases h
        cases List.mem_singleton.1 hm
        exact ⟨.refl _, trivial⟩
  | full cs ih =>
    intro k l h m hm
    cases k with
    | nil => cases h; cases hm
    | cons x r =>
      obtain ⟨lc, hc, rfl⟩ := Option.map_eq_some_iff.1 ((provePath_full_cons cs x r).symm.trans h)
      rcases List.mem_cons.1 hm with rfl | hm
      · exact ⟨.refl _, trivial⟩
      · exact ⟨.full x (ih x r lc hc m hm).1, (ih x r lc hc m hm).2⟩

theorem provePath_total (n : Node) : ∀ k, Pos n k → ∃ l, provePath n k = some l ∧ ∀ m ∈ l, Sub m n ∧ WF m := by
  intro k hp
  suffices h : ∃ l, provePath n k = some l ∧ ∀ m ∈ l, WF m by
    obtain ⟨l, hl, hwf⟩ := h
    exact ⟨l, hl, fun m hm => ⟨(provePath_sub n k l hl m hm).1, hwf m hm⟩⟩
  induction n, k, hp using pos_induction with
  | nil k _ => exact ⟨[], by cases k <;> rfl, nofun⟩
  | value w _ => exact ⟨[], rfl, nofun⟩
  | hit nk c r hw hk ih =>
    obtain ⟨l, hl, hs⟩ := ih
    refine ⟨.short nk c :: l, ?_, List.forall_mem_cons.2 ⟨hw, hs⟩⟩
    rw [provePath_short nk c (term_ne_nil hk), if_pos (List.take_left' rfl), List.drop_left, hl]
    rfl
  | split cp a ka b kb c hab hw hk =>
    refine ⟨[_], ?_, List.forall_mem_cons.2 ⟨hw, nofun⟩⟩
    rw [provePath_short _ c (term_ne_nil hk), if_neg (split_take_ne hab _ _ _)]
  | full cs x r hw _ ih =>
    obtain ⟨l, hl, hs⟩ := ih
    refine ⟨.full cs :: l, ?_, List.forall_mem_cons.2 ⟨hw, hs⟩⟩
    rw [provePath_full_cons, hl]
    rfl

theorem provePath_head {n : Node} (hsf : IsSF n) {k : List Nib} (hk : k ≠ []) {l : List Node}
    (h : provePath n k = some l) : ∃ l', l = n :: l' := by
  cases n with
  | nil => cases hsf
  | value _ => cases hsf
  | short p c =>
    rw [provePath_short p c hk] at h
    split at h
    · obtain ⟨lc, _, rfl⟩ := Option.map_eq_some_iff.1 h
      exact ⟨lc, rfl⟩
    · exact ⟨[], (Option.some.inj h).symm⟩
  | full cs =>
    obtain ⟨x, r, rfl⟩ := List.exists_cons_of_ne_nil hk
    obtain ⟨lc, _, rfl⟩ := Option.map_eq_some_iff.1 ((provePath_full_cons cs x r).symm.trans h)
    exact ⟨lc, rfl⟩

theorem proofElems_cons (first : Bool) (n : Node) (l : List Node) :
    proofElems H first (n :: l) =
      if first = true ∨ 32 ≤ (enc (body H n)).length then enc (body H n) :: proofElems H false l
      else proofElems H false l := by
  simp [proofElems]

theorem mem_proofElems_of : ∀ (first : Bool) (l : List Node) (m : Node), m ∈ l →
    32 ≤ (enc (body H m)).length → enc (body H m) ∈ proofElems H first l
  | first, n :: l, m, hm, he => by
    rw [proofElems_cons]
    cases hm with
    | head => rw [if_pos (Or.inr he)]; exact List.mem_cons_self ..
    | tail _ hm =>
      have := mem_proofElems_of false l m hm he
      split
      · exact List.mem_cons_of_mem _ this
      · exact this

theorem mem_proofElems : ∀ (first : Bool) (l : List Node) (e : Bytes), e ∈ proofElems H first l →
    ∃ m ∈ l, e = enc (body H m)
  | _, [], _, h => nomatch h
  | first, n :: l, e, h => by
    have ht : e ∈ proofElems H false l → ∃ m ∈ n :: l, e = enc (body H m) := fun h =>
      (mem_proofElems false l e h).imp fun m hm => ⟨List.mem_cons_of_mem _ hm.1, hm.2⟩
    rw [proofElems_cons] at h
    split at h
    · exact (List.mem_cons.1 h).elim (fun he => ⟨n, List.mem_cons_self .., he⟩) ht
    · exact ht h

variable (db : Bytes → Option Bytes)

def resOf : Option Bytes → VRes
  | some v => .value v
  | none => .absent

/-- continue VerifyProof's loop from a position inside a decoded node. -/
def contAt (f : Nat) (pn : PNode) (k : List Nib) : VRes :=
  match pget pn k with
  | .absent => .absent
  | .value v => .value v
  | .panic => .panic
  | .hashref h k' => verify db f h k'

theorem contAt_short (f : Nat) (p : List Nib) (x : PNode) (k : List Nib) :
    contAt db f (.short p x) k = if k.take p.length = p then contAt db f x (k.drop p.length) else .absent := by
  by_cases h : k.take p.length = p <;> simp only [contAt, pget, h, if_true, if_false]

theorem contAt_full_cons (f : Nat) (cs : Nib → PNode) (x : Nib) (k : List Nib) :
    contAt db f (.full cs) (x :: k) = contAt db f (cs x) k := by
  simp only [contAt, pget]

theorem contAt_hash (f : Nat) (h : Bytes) (k : List Nib) :
    contAt db f (.hash h) k = verify db f h k := by
  simp only [contAt, pget]

theorem verify_step (hH : ∀ x, (H x).length = 32) {n : Node}
    (hw : WF n) (hs : SizeOk H n) (hdb : db (hashOf H n) = some (enc (body H n))) (f : Nat) (k : List Nib) :
    verify db (f + 1) (hashOf H n) k = contAt db f (toP H n) k := by
  simp only [verify, hdb, decodeNode_self H hH hw hs, contAt]
  cases pget (toP H n) k <;> rfl

/-- for the one node `m`, the two alternatives that `Repr.hash` and `Repr.gone` (Lemmas.TrieLoad) offer at every unloaded node. -/
def Holds (am : Bool) (m : Node) : Prop :=
  db (hashOf H m) = some (enc (body H m)) ∨ am = true ∧ db (hashOf H m) = none

/-- VerifyProof's walk from a reference inside a genuine trie, when the database `Holds` every node of the key's path
    that its parent references by hash: the content's answer, or `err` at a node the database lacks (`am = true` only), or
    `hang` when the rounds run out.  Every round of the loop but the first is preceded by at least one nibble consumed. -/
theorem contAt_spec (hH : ∀ x, (H x).length = 32) (am : Bool) :
    ∀ (n : Node) (x : PNode), (x = refP H n ∨ IsSF n ∧ x = toP H n) →
      ∀ k l, Pos n k → SizeOk H n → provePath n k = some l →
      (∀ m ∈ l, 32 ≤ (enc (body H m)).length → Holds H db am m) →
      ∀ f, contAt db f x k = resOf (lookup n k) ∨ am = true ∧ contAt db f x k = .err ∨
        contAt db f x k = .hang ∧ f < k.length + (if isHashX x then 1 else 0) := by
  refine refP_induction H ?nil ?value ?short ?full ?hash
  case nil =>
    intro k l _ _ _ _ f
    exact .inl (by simp [contAt, pget, lookup_nil, resOf])
  case value =>
    intro w k l hp _ _ _ f
    rw [pos_value hp]
    exact .inl (by simp [contAt, pget, lookup_value, resOf])
  case short =>
    intro p c ih k l hp hs hl hdb f
    obtain ⟨hk, hw⟩ := pos_sf hp trivial
    rw [contAt_short, lookup_short]
    rw [provePath_short p c (term_ne_nil hk)] at hl
    split
    · next ht =>
      rw [if_pos ht] at hl
      obtain ⟨lc, hc, rfl⟩ := Option.map_eq_some_iff.1 hl
      obtain ⟨r, rfl⟩ := take_eq_iff.1 ht
      rw [List.drop_left] at hc ⊢
      refine (ih r lc (pos_short_child hw hk) hs.2 hc (fun m hm => hdb m (List.mem_cons_of_mem _ hm)) f).imp_right
        (Or.imp_right fun ⟨e, h⟩ => ⟨e, ?_⟩)
      have := List.length_pos_iff.2 (wf_short_key_ne_nil hw)
      simp only [List.length_append, isHashX, Bool.false_eq_true, if_false]
      split at h <;> omega
    · exact .inl rfl
  case full =>
    intro cs ih k l hp hs hl hdb f
    obtain ⟨hk, hw⟩ := pos_sf hp trivial
    obtain ⟨x, r, rfl⟩ := List.exists_cons_of_ne_nil (term_ne_nil hk)
    obtain ⟨lc, hc, rfl⟩ := Option.map_eq_some_iff.1 ((provePath_full_cons cs x r).symm.trans hl)
    rw [contAt_full_cons, lookup_full_cons]
    refine (ih x r lc (pos_full_child hw hk) (hs.2 x) hc (fun m hm => hdb m (List.mem_cons_of_mem _ hm)) f).imp_right
      (Or.imp_right fun ⟨e, h⟩ => ⟨e, ?_⟩)
    simp only [List.length_cons, isHashX, Bool.false_eq_true, if_false]
    split at h <;> omega
  case hash =>
    intro n hsf he ih k l hp hs hl hdb f
    obtain ⟨hk, hw⟩ := pos_sf hp hsf
    obtain ⟨l', rfl⟩ := provePath_head hsf (term_ne_nil hk) hl
    rw [contAt_hash]
    cases f with
    | zero => exact .inr (.inr ⟨rfl, Nat.zero_lt_succ _⟩)
    | succ f =>
      rcases hdb n (List.mem_cons_self ..) he with hd | ⟨ha, hd⟩
      · rw [verify_step H db hH hw hs hd]
        refine (ih k _ hp hs hl hdb f).imp_right (Or.imp_right fun ⟨e, h⟩ => ⟨e, ?_⟩)
        rw [toP_not_hash H hsf] at h
        exact Nat.succ_lt_succ h
      · exact .inr (.inl ⟨ha, by simp [verify, hd]⟩)

/-- the same from the root hash, whatever the size of the root node. -/
theorem verify_spec (hH : ∀ x, (H x).length = 32) (am : Bool) {t : Node} (hw : WF t) (hs : SizeOk H t)
    {k : List Nib} (hk : Term k) {l : List Node} (hl : provePath t k = some l)
    (hdb : ∀ m ∈ l, (m = t ∨ 32 ≤ (enc (body H m)).length) → Holds H db am m) (f : Nat) :
    verify db f (hashOf H t) k = resOf (lookup t k) ∨ am = true ∧ verify db f (hashOf H t) k = .err ∨
      verify db f (hashOf H t) k = .hang ∧ f ≤ k.length := by
  have ht : t ∈ l := by
    obtain ⟨l', rfl⟩ := provePath_head (wf_isSF hw) (term_ne_nil hk) hl
    exact List.mem_cons_self ..
  cases f with
  | zero => exact .inr (.inr ⟨rfl, Nat.zero_le _⟩)
  | succ f =>
    rcases hdb t ht (.inl rfl) with hd | ⟨ha, hd⟩
    · rw [verify_step H db hH hw hs hd]
      refine (contAt_spec H db hH am t _ (.inr ⟨wf_isSF hw, rfl⟩) k l (pos_of_wf hw hk) hs hl
        (fun m hm he => hdb m hm (.inr he)) f).imp_right (Or.imp_right fun ⟨e, h⟩ => ⟨e, ?_⟩)
      rw [toP_not_hash H (wf_isSF hw)] at h
      exact h
    · exact .inr (.inl ⟨ha, by simp [verify, hd]⟩)

/-- Soundness: over a database that returns nothing but the genuine encoding under the hash of a genuine node. -/
theorem verify_core (hH : ∀ x, (H x).length = 32) {t : Node} (hw : WF t)
    (hs : SizeOk H t) (hg : ∀ m, Sub m t → WF m → ∀ blob, db (hashOf H m) = some blob → blob = enc (body H m))
    {k : List Nib} (hk : Term k) (f : Nat) :
    (∀ v, verify db f (hashOf H t) k = .value v → lookup t k = some v) ∧
    (verify db f (hashOf H t) k = .absent → lookup t k = none) ∧ verify db f (hashOf H t) k ≠ .panic := by
  obtain ⟨l, hl, hsub⟩ := provePath_total t k (pos_of_wf hw hk)
  have hdb : ∀ m ∈ l, (m = t ∨ 32 ≤ (enc (body H m)).length) → Holds H db true m := by
    intro m hm _
    cases hd : db (hashOf H m) with
    | none => exact .inr ⟨rfl, hd⟩
    | some b => exact .inl (by rw [hd, hg m (hsub m hm).1 (hsub m hm).2 b hd])
  rcases verify_spec H db hH true hw hs hk hl hdb f with e | ⟨-, e⟩ | ⟨e, -⟩ <;> rw [e]
  · cases lookup t k <;> simp [resOf]
  · simp
  · simp

/-- Completeness: over a database that holds the root and every node of the key's path referenced by hash. -/
theorem verify_complete (hH : ∀ x, (H x).length = 32) {t : Node}
    (hw : WF t) (hs : SizeOk H t) {k : List Nib} (hk : Term k) {l : List Node} (hl : provePath t k = some l)
    (hdb : ∀ m ∈ l, (m = t ∨ 32 ≤ (enc (body H m)).length) → db (hashOf H m) = some (enc (body H m)))
    (f : Nat) (hf : k.length + 1 < f) : verify db f (hashOf H t) k = resOf (lookup t k) := by
  rcases verify_spec H db hH false hw hs hk hl (fun m hm h => .inl (hdb m hm h)) f with e | ⟨h, -⟩ | ⟨-, h⟩
  · exact e
  · cases h
  · omega

theorem dbOf_some {H : Bytes → Bytes} {p : List Bytes} {h blob : Bytes} (hd : dbOf H p h = some blob) :
    blob ∈ p ∧ H blob = h :=
  ⟨List.mem_of_find?_eq_some hd, by simpa using List.find?_some hd⟩

theorem dbOf_self (els : List Bytes) (cf : ∀ e ∈ els, ∀ e' ∈ els, H e = H e' → e = e')
    (e : Bytes) (he : e ∈ els) : dbOf H els (H e) = some e := by
  cases hf : dbOf H els (H e) with
  | none => simpa using List.find?_eq_none.1 hf e he
  | some e' =>
    obtain ⟨h1, h2⟩ := dbOf_some hf
    rw [cf e' h1 e he h2]

theorem prove_verify_core (hH : ∀ x, (H x).length = 32) {t : Node} (hw : WF t) (hs : SizeOk H t)
    {k : List Nib} (hk : Term k) {els : List Bytes} (hp : prove H t k = some els)
    (hdb : ∀ e ∈ els, db (H e) = some e) (f : Nat) (hf : k.length + 1 < f) :
    verify db f (hashOf H t) k = resOf (lookup t k) := by
  obtain ⟨l, hl, rfl⟩ := Option.map_eq_some_iff.1 hp
  refine verify_complete H db hH hw hs hk hl (fun m hm h => hdb _ ?_) f hf
  rcases h with rfl | he
  · obtain ⟨l', rfl⟩ := provePath_head (wf_isSF hw) (term_ne_nil hk) hl
    rw [proofElems_cons, if_pos (Or.inl rfl)]
    exact List.mem_cons_self ..
  · exact mem_proofElems_of H true l m hm he

/-- the entry of `VerifyProof`: the empty root needs no node and answers `absent`; any other root starts the loop. -/
theorem verifyProof_root {t : Node} (hw : WFRoot t) (hroot : t ≠ .nil → hashRoot H t ≠ emptyRoot H) (f : Nat)
    (k : List Nib) :
    t = .nil ∧ verifyProof H db f (hashRoot H t) k = resOf (lookup t k) ∨
      WF t ∧ verifyProof H db f (hashRoot H t) k = verify db f (hashOf H t) k := by
  rcases hw with rfl | hw
  · exact .inl ⟨rfl, by rw [lookup_nil, verifyProof, if_pos (show hashRoot H .nil = emptyRoot H from rfl)]; rfl⟩
  · exact .inr ⟨hw, by rw [verifyProof, if_neg (hroot (wf_ne_nil hw)), hashOf_eq_hashRoot]⟩

/-- a lookup from nothing but the root hash, as a trie reopened from its committed root does it. -/
theorem reopen_get_core (hH : ∀ x, (H x).length = 32) {t : Node} (hw : WF t) (hs : SizeOk H t)
    (hdb : ∀ m, Sub m t → IsSF m → db (hashOf H m) = some (enc (body H m)))
    {k : List Nib} (hk : Term k) (f : Nat) (hf : k.length + 1 < f) :
    verify db f (hashOf H t) k = resOf (lookup t k) := by
  obtain ⟨l, hl, hsub⟩ := provePath_total t k (pos_of_wf hw hk)
  exact verify_complete H db hH hw hs hk hl (fun m hm _ => hdb m (hsub m hm).1 (wf_isSF (hsub m hm).2)) f hf

/-- `H` does not collide between a node of `a` and a node of `b` (unless they encode identically). -/
def CFp (H : Bytes → Bytes) (a b : Node) : Prop :=
  ∀ m₁ m₂, Sub m₁ a → Sub m₂ b → WF m₁ → WF m₂ → hashOf H m₁ = hashOf H m₂ → enc (body H m₁) = enc (body H m₂)

theorem toP_eq_of_enc_eq (hH : ∀ x, (H x).length = 32) {a b : Node} (ha : WF a) (hb : WF b)
    (sa : SizeOk H a) (sb : SizeOk H b) (h : enc (body H a) = enc (body H b)) : toP H a = toP H b := by
  have h1 := decodeNode_self H hH ha sa
  rw [h, decodeNode_self H hH hb sb] at h1
  exact (Except.ok.inj h1).symm

theorem refP_eq_nil {H : Bytes → Bytes} {n : Node} (h : refP H n = .nil) : n = .nil := by
  cases n with
  | nil => rfl
  | value _ => cases h
  | short _ _ => rw [refP] at h; split at h <;> cases h
  | full _ => rw [refP] at h; split at h <;> cases h

theorem refP_eq_value {H : Bytes → Bytes} {n : Node} {v : Bytes} (h : refP H n = .value v) : n = .value v := by
  cases n with
  | nil => cases h
  | value _ => cases h; rfl
  | short _ _ => rw [refP] at h; split at h <;> cases h
  | full _ => rw [refP] at h; split at h <;> cases h

theorem refP_eq_sf {H : Bytes → Bytes} {a b : Node} (ha : IsSF a) (hb : IsSF b) (h : refP H a = refP H b) :
    toP H a = toP H b ∨ hashOf H a = hashOf H b := by
  have hne : ∀ {n : Node} {x : Bytes}, IsSF n → toP H n ≠ .hash x := by
    intro n x hn e
    have := toP_not_hash H hn
    rw [e] at this
    cases this
  rcases sf_cases H ha with ⟨_, _, ea⟩ | ⟨_, _, ea⟩ <;> rcases sf_cases H hb with ⟨_, _, eb⟩ | ⟨_, _, eb⟩ <;>
    rw [ea, eb] at h
  · exact Or.inl h
  · exact absurd h (hne ha)
  · exact absurd h.symm (hne hb)
  · exact Or.inr (PNode.hash.inj h)

theorem refP_inj (hH : ∀ x, (H x).length = 32) (a : Node) :
    Slot a → SizeOk H a → ∀ b, Slot b → SizeOk H b → CFp H a b →
      (refP H a = refP H b → a = b) ∧ (WF a → WF b → toP H a = toP H b → a = b) := by
  have ref : ∀ {a : Node}, WF a → SizeOk H a → ∀ b, Slot b → SizeOk H b → CFp H a b →
      (WF b → toP H a = toP H b → a = b) → refP H a = refP H b → a = b := by
    intro a hwa sa b hb sb cf htop h
    rcases hb with rfl | ⟨w, rfl⟩ | hwb
    · exact refP_eq_nil h
    · exact refP_eq_value h
    · rcases refP_eq_sf (wf_isSF hwa) (wf_isSF hwb) h with e | e
      · exact htop hwb e
      · exact htop hwb (toP_eq_of_enc_eq H hH hwa hwb sa sb (cf _ _ (.refl _) (.refl _) hwa hwb e))
  induction a with
  | nil => intro _ _ b _ _ _; exact ⟨fun h => (refP_eq_nil h.symm).symm, fun hw => absurd hw not_wf_nil⟩
  | value v => intro _ _ b _ _ _; exact ⟨fun h => (refP_eq_value h.symm).symm, fun hw => absurd hw (not_wf_value v)⟩
  | short p c ih =>
    intro ha sa b hb sb cf
    have hwa := slot_wf_of_sf ha trivial
    have htop : WF b → toP H (.short p c) = toP H b → Node.short p c = b := by
      intro hwb h
      cases b with
      | nil => exact absurd hwb not_wf_nil
      | value w => exact absurd hwb (not_wf_value w)
      | full cs => cases h
      | short p' c' =>
        obtain ⟨rfl, hr⟩ := PNode.short.inj h
        rw [(ih (slot_short_child hwa) sa.2 c' (slot_short_child hwb) sb.2
          (fun m₁ m₂ h₁ h₂ => cf m₁ m₂ (.short p h₁) (.short p h₂))).1 hr]
    exact ⟨ref hwa sa b hb sb cf htop, fun _ => htop⟩
  | full cs ih =>
    intro ha sa b hb sb cf
    have hwa := slot_wf_of_sf ha trivial
    have htop : WF b → toP H (.full cs) = toP H b → Node.full cs = b := by
      intro hwb h
      cases b with
      | nil => exact absurd hwb not_wf_nil
      | value w => exact absurd hwb (not_wf_value w)
      | short p' c' => cases h
      | full cs' =>
        congr 1
        funext i
        exact (ih i (slot_full_child hwa i) (sa.2 i) (cs' i) (slot_full_child hwb i) (sb.2 i)
          (fun m₁ m₂ h₁ h₂ => cf m₁ m₂ (.full i h₁) (.full i h₂))).1 (congrFun (PNode.full.inj h) i)
    exact ⟨ref hwa sa b hb sb cf htop, fun _ => htop⟩

theorem root_binding_core (hH : ∀ x, (H x).length = 32) {t₁ t₂ : Node} (h₁ : WF t₁) (h₂ : WF t₂)
    (s₁ : SizeOk H t₁) (s₂ : SizeOk H t₂) (cf : CFp H t₁ t₂) (h : hashOf H t₁ = hashOf H t₂) : t₁ = t₂ :=
  (refP_inj H hH t₁ (slot_of_wf h₁) s₁ t₂ (slot_of_wf h₂) s₂ cf).2 h₁ h₂
    (toP_eq_of_enc_eq H hH h₁ h₂ s₁ s₂ (cf t₁ t₂ (.refl _) (.refl _) h₁ h₂ h))

end Aqv.Trie
