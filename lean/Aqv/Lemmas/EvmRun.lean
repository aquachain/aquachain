/- C08, the whole-program induction: the Go-mirroring interpreter and the Spec interpreter of Model.EvmRun, started from the
  same machine, produce the same outcome (up to the kind of exceptional halt) or both stop at a step whose operands lie in one
  of the two deviation sets. -/
import Aqv.Lemmas.EvmInv
namespace Aqv.Evm
open Aqv Aqv.Big Aqv.Gen.VmTable

theorem memGrow_length (mem : Bytes) (s : Nat) : (memGrow mem s).length = max mem.length s := by
  unfold memGrow
  split
  · simp; omega
  · omega

/-- keep syntactically equal to the `let m1` in `run` (Model.EvmRun): `run_agree` rewrites with it -/
abbrev charged (m : Machine) (p : Pre) : Machine :=
  { m with gas := m.gas - p.cost, last := p.last, mem := if p.memorySize > 0 then memGrow m.mem p.memorySize else m.mem }

theorem charged_mem_length {en : Entry} {m : Machine} {p : Pre} (hinv : Inv m) (hF : PreFacts en m p.memorySize p.last) :
    (charged m p).mem.length = 32 * EvmSpec.memExpand (m.mem.length / 32)
      (touchOf en.memK m.stack).1.toNat (touchOf en.memK m.stack).2.toNat := by
  have hms := hF.size_eq
  have hw := hinv.memWords
  show (if p.memorySize > 0 then memGrow m.mem p.memorySize else m.mem).length = _
  unfold EvmSpec.memExpand
  split at hms
  · rename_i hz
    rw [hms, if_neg (by omega), if_pos hz]; omega
  · rename_i hz
    have hpos : 0 < EvmSpec.words ((touchOf en.memK m.stack).1.toNat + (touchOf en.memK m.stack).2.toNat) := by
      unfold EvmSpec.words; omega
    rw [if_pos (by omega), memGrow_length, hms, if_neg hz]
    omega

theorem charged_execHyp (env : Env) (H : Bytes → Bytes) (hE : EnvOk env H) (e : Epoch) (opc : Nat) (en : Entry)
    (hl : specLookup (epochLevel e) opc = some en) (m : Machine) (hinv : Inv m) (hpops : ¬ m.stack.length < en.pops)
    (hg : devSet en opc m = false) (p : Pre) (hF : PreFacts en m p.memorySize p.last) :
    ExecHyp env H en opc (charged m p) := by
  have hen := specLookup_entryOk e opc en hl
  have hlen := charged_mem_length hinv hF
  have hnew := hF.words_le
  exact
    { hcode := hE.hcode, hrd := hE.hrd, hst := hinv.stackOk, hpops := Nat.le_of_not_lt hpops, hk := hen.memK
      hmem := by omega
      hsar := (devSet_eq_false hg).1, hdup := hen.dup, hswap := hen.swap
      hcov := fun hnz => by
        have hnz : (touchOf en.memK m.stack).2 ≠ 0 := hnz
        show (touchOf en.memK m.stack).1.toNat + (touchOf en.memK m.stack).2.toNat ≤ _
        rw [hlen]
        unfold EvmSpec.memExpand
        rw [if_neg fun hz => hnz (eq_zero_of_toNat (touch_inRange en.memK m.stack hinv.stackOk).2 hz)]
        have := words_ge ((touchOf en.memK m.stack).1.toNat + (touchOf en.memK m.stack).2.toNat)
        omega }

theorem inv_after {en : Entry} {m : Machine} {p : Pre} (hinv : Inv m) (hF : PreFacts en m p.memorySize p.last)
    {ret : Bytes} {m2 : Machine} (hs : StepInv (charged m p) (.cont ret m2)) (pc : Nat) :
    Inv { m2 with pc := pc } := by
  obtain ⟨hst2, hmem2, hgas2, hlast2⟩ := hs
  have hlen := charged_mem_length hinv hF
  have hnew := hF.words_le
  have hcm := cmem_lt_of_small hnew
  have := hinv.gasSmall
  refine ⟨hst2, ?_, ?_, ?_, ?_⟩
  · show m2.mem.length % 32 = 0; omega
  · show m2.mem.length ≤ _; omega
  · show m2.last.toNat = EvmSpec.cmem (m2.mem.length / 32)
    rw [hlast2, hmem2, hlen, show (charged m p).last = p.last from rfl, hF.last_eq, UInt64.toNat_ofNat',
      Nat.mod_eq_of_lt (by omega), Nat.mul_div_cancel_left _ (by decide)]
  · show m2.gas < _
    rw [hgas2]; show m.gas - p.cost < _; omega

theorem run_agree (env : Env) (H : Bytes → Bytes) (hE : EnvOk env H) (e : Epoch) (gt : GasTable) (eb : Nat)
    (hgt : gt.expByte = eb) (heb : 32 * eb + 10 < 2 ^ 64) :
    ∀ fuel m, Inv m →
      (runImpl env H e gt devSet fuel m).norm = (runSpec env H (epochLevel e) eb devSet fuel m).norm := by
  intro fuel
  induction fuel with
  | zero => intro m _; rfl
  | succ fuel ih =>
    intro m hinv
    unfold runImpl runSpec run
    dsimp only
    rw [lookup_agree]
    generalize hopc : fetch env m.pc = opc
    cases hl : specLookup (epochLevel e) opc with
    | none => rfl
    | some en =>
      dsimp only
      by_cases hpops : m.stack.length < en.pops
      · rw [if_pos hpops, if_pos hpops]
      rw [if_neg hpops, if_neg hpops]
      by_cases hlim : m.stack.length + en.pushes - en.pops > 1024
      · rw [if_pos hlim, if_pos hlim]
      rw [if_neg hlim, if_neg hlim]
      cases hg : devSet en opc m with
      | true => rfl
      | false =>
        rw [if_neg Bool.false_ne_true, if_neg Bool.false_ne_true]
        have hen := specLookup_entryOk e opc en hl
        have hpre := pre_agree gt eb hgt heb en hen.wf opc m hinv hg
        generalize implPre gt en opc m = ri at hpre
        generalize specPre eb en opc m = rs at hpre
        cases hpre with
        | skip op => rfl
        | failL f => rfl
        | failR p hp => dsimp only; rw [if_pos hp]
        | ok p hp hF =>
          dsimp only
          rw [if_neg (Nat.not_lt.2 hp), if_neg (Nat.not_lt.2 hp),
            exec_agree env H en opc _ (charged_execHyp env H hE e opc en hl m hinv hpops hg p hF)]
          cases hx : specExec env H en opc (charged m p) with
          | skip => rfl
          | fail f => rfl
          | cont ret m2 =>
            dsimp only
            cases hrv : en.reverts with
            | true => rfl
            | false =>
              cases hh : en.halts with
              | true => rfl
              | false =>
                simp only [Bool.false_eq_true, if_false]
                apply ih
                -- the step continues, so the opcode was fetched from the code: past its end the loop reads STOP, which halts
                have hpc : m.pc < 2 ^ 62 := by
                  by_cases hin : m.pc < env.code.size
                  · have := hE.hcode; omega
                  · have := hen.stop (by rw [← hopc]; unfold fetch; rw [dif_neg hin])
                    rw [hh] at this
                    cases this
                have hlen := charged_mem_length hinv hF
                have := hF.words_le
                have hs := exec_inv env H hE en opc (charged m p) hinv.stackOk hpc (by omega)
                  (by show m.gas - p.cost < _; have := hinv.gasSmall; omega)
                rw [hx] at hs
                cases en.jumps with
                | true => exact inv_after hinv hF hs m2.pc
                | false => exact inv_after hinv hF hs (m2.pc + 1)

theorem run_guard_irrelevant (env : Env) (lookup : Nat → Option Entry) (pre : Entry → Nat → Machine → Except Outcome Pre)
    (exec : Entry → Nat → Machine → Step) (guard : Entry → Nat → Machine → Bool) :
    ∀ fuel m, run env lookup pre exec guard fuel m ≠ .deviation →
      run env lookup pre exec guard fuel m = run env lookup pre exec noGuard fuel m := by
  intro fuel
  induction fuel with
  | zero => intro m _; rfl
  | succ fuel ih =>
    intro m hne
    unfold run at hne ⊢
    simp only [] at hne ⊢
    cases hl : lookup (fetch env m.pc) with
    | none => rfl
    | some en =>
      rw [hl] at hne
      simp only [] at hne ⊢
      by_cases h1 : m.stack.length < en.pops
      · simp only [if_pos h1]
      simp only [if_neg h1] at hne ⊢
      by_cases h2 : m.stack.length + en.pushes - en.pops > 1024
      · simp only [if_pos h2]
      simp only [if_neg h2] at hne ⊢
      cases hg : guard en (fetch env m.pc) m with
      | true => rw [hg] at hne; simp at hne
      | false =>
        rw [hg] at hne
        simp only [Bool.false_eq_true, if_false, noGuard] at hne ⊢
        cases hp : pre en (fetch env m.pc) m with
        | error o => rfl
        | ok p =>
          rw [hp] at hne
          simp only [] at hne ⊢
          by_cases h3 : p.cost > m.gas
          · simp only [if_pos h3]
          simp only [if_neg h3] at hne ⊢
          cases hx : exec en (fetch env m.pc) (charged m p) with
          | skip => rfl
          | fail f => rfl
          | cont ret m2 =>
            rw [hx] at hne
            simp only [] at hne ⊢
            cases hr : en.reverts with
            | true => rfl
            | false =>
              cases hh : en.halts with
              | true => rfl
              | false =>
                rw [hr, hh] at hne
                simp only [Bool.false_eq_true, if_false] at hne ⊢
                exact ih _ hne

theorem norm_eq_deviation (o : Outcome) : o.norm = .deviation ↔ o = .deviation := by
  cases o <;> simp [Outcome.norm]

theorem run_agree_noGuard (env : Env) (H : Bytes → Bytes) (hE : EnvOk env H) (e : Epoch) (gt : GasTable) (eb : Nat)
    (hgt : gt.expByte = eb) (heb : 32 * eb + 10 < 2 ^ 64) (fuel : Nat) (m : Machine) (hinv : Inv m)
    (hnodev : runSpec env H (epochLevel e) eb devSet fuel m ≠ .deviation) :
    (runImpl env H e gt noGuard fuel m).norm = (runSpec env H (epochLevel e) eb noGuard fuel m).norm := by
  have hg := run_agree env H hE e gt eb hgt heb fuel m hinv
  have hi : runImpl env H e gt devSet fuel m ≠ .deviation := fun hd =>
    hnodev ((norm_eq_deviation _).1 (by rw [← hg, hd]; rfl))
  exact (congrArg Outcome.norm (run_guard_irrelevant _ _ _ _ _ _ _ hi)).symm.trans
    (hg.trans (congrArg Outcome.norm (run_guard_irrelevant _ _ _ _ _ _ _ hnodev)))

theorem inv_start (gas : Nat) (h : gas < 2 ^ 60) : Inv (startMachine gas) :=
  ⟨(by intro v hv; cases hv), (by show (0 : Nat) % 32 = 0; decide), (by show (0 : Nat) ≤ _; decide),
    (by show (0 : UInt64).toNat = EvmSpec.cmem (0 / 32); decide), h⟩
end Aqv.Evm
