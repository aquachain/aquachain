/-
  Aqv.Lemmas.LogFilterBits — bits of bytes and of byte vectors (C16): UInt8 masks as `Nat.testBit`, the big-endian byte/bit
  correspondence behind `Bloom.Big()`; `IsVec`, through which the vector operations are used; `Transposed`, the property of an
  index through which the generator and the queries meet.
-/
import Aqv.Model.LogFilter
import Aqv.Lemmas.Basic
namespace Aqv.LogFilter

theorem toArray_getD (v : Bytes) (k : Nat) : v.toArray.getD k 0 = v.getD k 0 := by
  rw [Array.getD_eq_getD_getElem?, List.getElem?_toArray, ← List.getD_eq_getElem?_getD]

theorem mask_toNat (k : Nat) (hk : k < 8) : ((1 : UInt8) <<< k.toUInt8).toNat = 2 ^ k := by
  have : k = 0 ∨ k = 1 ∨ k = 2 ∨ k = 3 ∨ k = 4 ∨ k = 5 ∨ k = 6 ∨ k = 7 := by omega
  rcases this with h | h | h | h | h | h | h | h <;> subst h <;> decide

theorem nat_and_two_pow_ne_zero (a k : Nat) : (a &&& 2 ^ k != 0) = a.testBit k := by
  have h : a &&& 2 ^ k = if a.testBit k then 2 ^ k else 0 := by
    apply Nat.eq_of_testBit_eq
    intro j
    rw [Nat.testBit_and, Nat.testBit_two_pow]
    by_cases hkj : k = j
    · subst hkj; cases a.testBit k <;> simp
    · cases a.testBit k <;> simp [hkj]
  rw [h]
  cases a.testBit k <;> simp

theorem test_mask (x : UInt8) (k : Nat) (hk : k < 8) : (x &&& ((1 : UInt8) <<< k.toUInt8) != 0) = x.toNat.testBit k := by
  rw [← nat_and_two_pow_ne_zero, ← mask_toNat k hk, ← UInt8.toNat_and]
  generalize x &&& (1 : UInt8) <<< k.toUInt8 = y
  rw [Bool.eq_iff_iff, bne_iff_ne, bne_iff_ne, Ne, Ne, ← UInt8.toNat_inj]
  rfl

theorem vecBit_eq (v : Bytes) (n : Nat) : vecBit v n = (v.getD (n / 8) 0).toNat.testBit (7 - n % 8) :=
  test_mask _ _ (by omega)

theorem bloomBit_eq (arr : Array UInt8) (i : Nat) : bloomBit arr i = (arr.getD (255 - i / 8) 0).toNat.testBit (i % 8) :=
  test_mask _ _ (Nat.mod_lt _ (by decide))

theorem vecBit_of_byte_zero (v : Bytes) (n : Nat) (h : v.getD (n / 8) 0 = 0) : vecBit v n = false := by
  rw [vecBit_eq, h]; exact Nat.zero_testBit _

theorem vecBit_of_length_le (v : Bytes) (n : Nat) (h : v.length ≤ n / 8) : vecBit v n = false :=
  vecBit_of_byte_zero v n (getD_of_le 0 h)

theorem vecBit_replicate_zero (L n : Nat) : vecBit (List.replicate L (0 : UInt8)) n = false := by
  apply vecBit_of_byte_zero
  rw [List.getD_eq_getElem?_getD, List.getElem?_replicate]
  split <;> rfl

theorem vecBit_replicate_ff (L n : Nat) : vecBit (List.replicate L (0xff : UInt8)) n = decide (n / 8 < L) := by
  by_cases h : n / 8 < L
  · rw [vecBit_eq, getD_of_lt 0 (by simpa using h), List.getElem_replicate, decide_eq_true h]
    have hh : ∀ k, k < 8 → (0xff : UInt8).toNat.testBit k = true := by decide
    exact hh _ (by omega)
  · rw [vecBit_of_length_le _ _ (by simpa using h), decide_eq_false h]

theorem vecBit_of_testBytes_false (v : Bytes) (h : testBytes v = false) (n : Nat) : vecBit v n = false := by
  apply vecBit_of_byte_zero
  by_cases hn : n / 8 < v.length
  · have := List.any_eq_false.mp h _ (getD_mem 0 hn)
    simpa using this
  · exact getD_of_le 0 (by omega)

theorem vecBit_setBit (v : Bytes) (k n : Nat) (hk : k / 8 < v.length) :
    vecBit (v.modify (k / 8) (fun x => x ||| ((1 : UInt8) <<< (7 - k % 8).toUInt8))) n = (vecBit v n || decide (n = k)) := by
  rw [vecBit_eq, vecBit_eq, List.getD_eq_getElem?_getD, List.getElem?_modify]
  by_cases hb : k / 8 = n / 8
  · have hn : n / 8 < v.length := hb ▸ hk
    have hd : decide (7 - k % 8 = 7 - n % 8) = decide (n = k) := decide_eq_decide.mpr (by omega)
    simp only [hb, if_true, List.getElem?_eq_getElem hn, Option.map_eq_map, Option.map_some, Option.getD_some, getD_of_lt 0 hn]
    rw [UInt8.toNat_or, Nat.testBit_or, mask_toNat _ (by omega), Nat.testBit_two_pow, hd]
  · have hd : decide (n = k) = false := decide_eq_false (fun h => hb (by rw [h]))
    simp only [hb, if_false, hd, Bool.or_false, Option.map_eq_map, Option.map_id', List.getD_eq_getElem?_getD]

theorem bitsByte_testBit (b0 b1 b2 b3 b4 b5 b6 b7 : Bool) (j : Fin 8) :
    (bitsByte b0 b1 b2 b3 b4 b5 b6 b7).toNat.testBit (7 - j.val) = [b0, b1, b2, b3, b4, b5, b6, b7].getD j.val false := by
  have m : ∀ (b : Bool) (x : UInt8) (k : Nat), (if b then x else 0).toNat.testBit k = (b && x.toNat.testBit k) := by
    intro b x k; cases b <;> simp
  obtain ⟨j, hj⟩ := j
  have : j = 0 ∨ j = 1 ∨ j = 2 ∨ j = 3 ∨ j = 4 ∨ j = 5 ∨ j = 6 ∨ j = 7 := by omega
  unfold bitsByte
  simp only [UInt8.toNat_or, Nat.testBit_or, m]
  -- at each position exactly one of the eight masks has its bit set
  rcases this with rfl | rfl | rfl | rfl | rfl | rfl | rfl | rfl <;> simp [Nat.testBit]

theorem packBits_length (l : List Bool) : (packBits l).length = (l.length + 7) / 8 := by
  unfold packBits; simp

theorem vecBit_packBits (l : List Bool) (i : Nat) : vecBit (packBits l) i = l.getD i false := by
  by_cases h : i / 8 < (l.length + 7) / 8
  · rw [vecBit_eq, getD_of_lt 0 (by rw [packBits_length]; exact h)]
    unfold packBits
    rw [List.getElem_map, List.getElem_range, bitsByte_testBit _ _ _ _ _ _ _ _ ⟨i % 8, Nat.mod_lt _ (by decide)⟩]
    show ((List.range 8).map (fun j => l.getD (8 * (i / 8) + j) false)).getD (i % 8) false = _
    rw [getD_of_lt false (by simp; omega), List.getElem_map, List.getElem_range, Nat.div_add_mod]
  · rw [vecBit_of_length_le _ _ (by rw [packBits_length]; omega), getD_of_le false (by omega)]

theorem testBit_mul256_add (a : Nat) (b : UInt8) (j : Nat) :
    (a * 256 + b.toNat).testBit j = if j < 8 then b.toNat.testBit j else a.testBit (j - 8) := by
  have h := Nat.testBit_two_pow_mul_add a (b := b.toNat) (i := 8) b.toNat_lt j
  rwa [show 2 ^ 8 * a = a * 256 by omega] at h

theorem foldl_testBit (bs : Bytes) (acc i : Nat) :
    (bs.foldl (fun a b => a * 256 + b.toNat) acc).testBit i =
      if i / 8 < bs.length then (bs.getD (bs.length - 1 - i / 8) 0).toNat.testBit (i % 8) else acc.testBit (i - 8 * bs.length) := by
  induction bs generalizing acc with
  | nil => simp
  | cons b bs ih =>
    rw [List.foldl_cons, ih, List.length_cons]
    by_cases h1 : i / 8 < bs.length
    · rw [if_pos h1, if_pos (by omega), show bs.length + 1 - 1 - i / 8 = (bs.length - 1 - i / 8) + 1 by omega, List.getD_cons_succ]
    · rw [if_neg h1, testBit_mul256_add]
      by_cases h3 : i / 8 = bs.length
      · rw [if_pos (by omega), if_pos (by omega), show bs.length + 1 - 1 - i / 8 = 0 by omega,
          show i - 8 * bs.length = i % 8 by omega, List.getD_cons_zero]
      · rw [if_neg (by omega), if_neg (by omega), show i - 8 * bs.length - 8 = i - 8 * (bs.length + 1) by omega]

theorem beNat_testBit (bs : Bytes) (i : Nat) :
    (beNat bs).testBit i = ((bs.getD (bs.length - 1 - i / 8) 0).toNat.testBit (i % 8) && decide (i / 8 < bs.length)) := by
  unfold beNat
  rw [foldl_testBit]
  by_cases h : i / 8 < bs.length <;> simp [h]

/-- the generator's view of a 256-byte bloom is the integer's bit. -/
theorem bloomBit_eq_testBit (bloom : Bytes) (hl : bloom.length = 256) (i : Nat) (hi : i < 2048) :
    bloomBit bloom.toArray i = (beNat bloom).testBit i := by
  rw [bloomBit_eq, beNat_testBit, hl, toArray_getD, decide_eq_true (by omega), Bool.and_true]

theorem andBytes_length (a b : Bytes) : (andBytes a b).length = a.length := by
  induction a generalizing b with
  | nil => cases b <;> rfl
  | cons x xs ih => cases b with
    | nil => rfl
    | cons y ys => simp [andBytes, ih]

theorem orBytes_length (a b : Bytes) : (orBytes a b).length = a.length := by
  induction a generalizing b with
  | nil => cases b <;> rfl
  | cons x xs ih => cases b with
    | nil => rfl
    | cons y ys => simp [orBytes, ih]

theorem andBytes_getD (a b : Bytes) (h : a.length ≤ b.length) (j : Nat) :
    (andBytes a b).getD j 0 = a.getD j 0 &&& b.getD j 0 := by
  induction a generalizing b j with
  | nil => cases b <;> simp [andBytes]
  | cons x xs ih => cases b with
    | nil => simp at h
    | cons y ys =>
      cases j with
      | zero => simp [andBytes]
      | succ j => simp only [andBytes, List.getD_cons_succ]; exact ih ys (by simpa using h) j

theorem orBytes_getD (a b : Bytes) (h : a.length = b.length) (j : Nat) :
    (orBytes a b).getD j 0 = a.getD j 0 ||| b.getD j 0 := by
  induction a generalizing b j with
  | nil => cases b with
    | nil => simp [orBytes]
    | cons y ys => simp at h
  | cons x xs ih => cases b with
    | nil => simp at h
    | cons y ys =>
      cases j with
      | zero => simp [orBytes]
      | succ j => simp only [orBytes, List.getD_cons_succ]; exact ih ys (by simpa using h) j

theorem vecBit_andBytes (a b : Bytes) (h : a.length ≤ b.length) (n : Nat) :
    vecBit (andBytes a b) n = (vecBit a n && vecBit b n) := by
  rw [vecBit_eq, vecBit_eq, vecBit_eq, andBytes_getD a b h, UInt8.toNat_and, Nat.testBit_and]

theorem vecBit_orBytes (a b : Bytes) (h : a.length = b.length) (n : Nat) :
    vecBit (orBytes a b) n = (vecBit a n || vecBit b n) := by
  rw [vecBit_eq, vecBit_eq, vecBit_eq, orBytes_getD a b h, UInt8.toNat_or, Nat.testBit_or]

theorem copyN_eq (n : Nat) (data : Bytes) (h : data.length = n) : copyN n data = data := by
  unfold copyN
  rw [← h]
  simp

theorem byte_ext (a b : UInt8) (h : ∀ j, j < 8 → a.toNat.testBit j = b.toNat.testBit j) : a = b := by
  apply UInt8.toNat_inj.mp
  apply Nat.eq_of_testBit_eq
  intro j
  by_cases hj : j < 8
  · exact h j hj
  · have hp : 2 ^ 8 ≤ 2 ^ j := Nat.pow_le_pow_right (by decide) (by omega)
    rw [Nat.testBit_lt_two_pow (Nat.lt_of_lt_of_le a.toNat_lt hp), Nat.testBit_lt_two_pow (Nat.lt_of_lt_of_le b.toNat_lt hp)]

theorem bytes_ext_vecBit (a b : Bytes) (hl : a.length = b.length) (h : ∀ n, vecBit a n = vecBit b n) : a = b := by
  apply List.ext_getElem hl
  intro k h1 h2
  apply byte_ext
  intro j hj
  have := h (8 * k + (7 - j))
  rwa [vecBit_eq, vecBit_eq, show (8 * k + (7 - j)) / 8 = k by omega, show 7 - (8 * k + (7 - j)) % 8 = j by omega,
    getD_of_lt 0 h1, getD_of_lt 0 h2] at this

structure IsVec (L : Nat) (v : Bytes) (f : Nat → Bool) : Prop where
  len : v.length = L
  bit : ∀ n, vecBit v n = f n

namespace IsVec
variable {L : Nat} {a b : Bytes} {f g : Nat → Bool}

theorem of_length (h : a.length = L) : IsVec L a (vecBit a) := ⟨h, fun _ => rfl⟩

theorem congr (h : IsVec L a f) (hfg : ∀ n, f n = g n) : IsVec L a g := ⟨h.len, fun n => (h.bit n).trans (hfg n)⟩

theorem unique (ha : IsVec L a f) (hb : IsVec L b f) : a = b :=
  bytes_ext_vecBit a b (ha.len.trans hb.len.symm) fun n => (ha.bit n).trans (hb.bit n).symm

theorem and (ha : IsVec L a f) (hb : IsVec L b g) : IsVec L (andBytes a b) (fun n => f n && g n) :=
  ⟨by rw [andBytes_length, ha.len], fun n => by rw [vecBit_andBytes a b (Nat.le_of_eq (ha.len.trans hb.len.symm)), ha.bit, hb.bit]⟩

theorem or (ha : IsVec L a f) (hb : IsVec L b g) : IsVec L (orBytes a b) (fun n => f n || g n) :=
  ⟨by rw [orBytes_length, ha.len], fun n => by rw [vecBit_orBytes a b (ha.len.trans hb.len.symm), ha.bit, hb.bit]⟩

theorem zero (L : Nat) : IsVec L (List.replicate L 0) (fun _ => false) := ⟨List.length_replicate, vecBit_replicate_zero L⟩

theorem ones (L : Nat) : IsVec L (List.replicate L 0xff) (fun n => decide (n / 8 < L)) :=
  ⟨List.length_replicate, vecBit_replicate_ff L⟩

theorem foldl_or {α : Type} {w : α → Bytes} {h : α → Nat → Bool} (xs : List α) (hw : ∀ x ∈ xs, IsVec L (w x) (h x))
    (ha : IsVec L a f) : IsVec L (xs.foldl (fun o x => orBytes o (w x)) a) (fun n => f n || xs.any (fun x => h x n)) := by
  induction xs generalizing a f with
  | nil => exact ha.congr fun n => by simp
  | cons x xs ih =>
    exact (ih (fun y hy => hw y (List.mem_cons_of_mem _ hy)) (ha.or (hw x List.mem_cons_self))).congr fun n => by
      rw [List.any_cons, Bool.or_assoc]

end IsVec

/-- `IsVec` for the outcome of a matcher stage: a dropped section has no bits. -/
def IsOVec (L : Nat) (r : Option Bytes) (f : Nat → Bool) : Prop := (∀ o, r = some o → o.length = L) ∧ ∀ n, sectionBit r n = f n

/-- what a query needs of an index, however obtained -/
structure Transposed (size : Nat) (blooms : List Bytes) (index : List (List Bytes)) : Prop where
  fits : index.length * size ≤ blooms.length
  size_ok : 0 < index.length → 0 < size ∧ size % 8 = 0
  len : ∀ s, s < index.length → ∀ i, i < 2048 → (indexVec index s i).length = size / 8
  bit : ∀ s, s < index.length → ∀ i, i < 2048 → ∀ n, n < size →
    vecBit (indexVec index s i) n = bloomBit (blooms.getD (s * size + n) []).toArray i

end Aqv.LogFilter
