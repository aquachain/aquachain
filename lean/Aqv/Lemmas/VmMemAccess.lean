/- C07: the memory ranges dereferenced by the execute functions (`OpF.execRanges`, generated from the source of core/vm by
  go/extract/cmd/vmaccess) are covered by the memory-size function of the same opcode, hence lie within the memory after Resize. -/
import Aqv.Lemmas.VmTable
namespace Aqv.Vm
open Aqv.Gen.VmFlags

theorem calc_le (off len : Nat) (h : 0 < len) : off + len ≤ calcMemSize off len := by
  unfold calcMemSize; split <;> omega

theorem foldl_max_ge (a : List Nat) (l : List (Opnd × Opnd)) :
    ∀ init : Nat, init ≤ l.foldl (fun m r => max m (calcMemSize (r.1.eval a) (r.2.eval a))) init ∧
      ∀ r ∈ l, calcMemSize (r.1.eval a) (r.2.eval a) ≤ l.foldl (fun m r => max m (calcMemSize (r.1.eval a) (r.2.eval a))) init := by
  induction l with
  | nil => intro init; exact ⟨Nat.le_refl _, by simp⟩
  | cons x xs ih =>
    intro init
    simp only [List.foldl_cons]
    obtain ⟨h1, h2⟩ := ih (max init (calcMemSize (x.1.eval a) (x.2.eval a)))
    refine ⟨by omega, ?_⟩
    intro r hr
    rcases List.mem_cons.mp hr with h | h
    · subst h; omega
    · exact h2 r h

theorem exec_ranges_covered {ep : Epoch} {f : OpF} (hf : f ∈ table ep) (a : List Nat) (ms : Nat)
    (hms : memorySizeOf (memReq f.memFn a) = .ok ms) :
    ∀ r ∈ f.execRanges, 0 < r.2.eval a → r.1.eval a + r.2.eval a ≤ ms := by
  intro r hr hpos
  have hmem := (table_opOK hf).ranges r hr
  have hne : f.memFn ≠ .none := fun h => by simp [h, memFnRanges] at hmem
  simp only [memReq, hne, if_false] at hms
  have := (memorySizeOf_ok hms).2.2 _ rfl
  have := (foldl_max_ge a (memFnRanges f.memFn) 0).2 r hmem
  have := calc_le (r.1.eval a) (r.2.eval a) hpos
  omega

end Aqv.Vm
