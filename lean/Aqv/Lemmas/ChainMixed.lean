/-
  Aqv.Lemmas.ChainMixed — the td-level model of one chain fed through both import paths (`Aqv.Model.ChainMixed`):
  records stay intrinsic, the head block stays a heaviest validated block and its total difficulty never decreases
  whatever header imports happen in between, and a header import never lowers the head header's total difficulty and
  leaves it at least as heavy as every header it wrote.
-/
import Aqv.Model.ChainMixed
import Aqv.Lemmas.ChainInv
namespace Aqv.Chain

structure MInv (U : Map Blk) (s : MSt) : Prop where
  sub : StoreExt s.hdr U
  tdI : ∀ k t, s.td k = some t → ∃ x l, U k = some x ∧ Path U x l s.genesis ∧ t = s.genesis.diff + diffSum l
  hdrTd : ∀ k x, s.hdr k = some x → (s.td k).isSome = true
  blkHdr : ∀ k, s.blk k = true → (s.hdr k).isSome = true
  headBlk : s.blk s.head = true
  hheadHdr : (s.hdr s.hhead).isSome = true
  headMax : ∀ k t, s.blk k = true → s.td k = some t → ∃ th, s.td s.head = some th ∧ t ≤ th

structure MStep (U : Map Blk) (s s' : MSt) : Prop where
  inv : MInv U s'
  tdKeep : ∀ k t, s.td k = some t → s'.td k = some t
  headMono : ∀ th, s.td s.head = some th → ∃ th', s'.td s'.head = some th' ∧ th ≤ th'

structure MHStep (U : Map Blk) (s s' : MSt) : Prop extends MStep U s s' where
  headSame : s'.head = s.head
  hheadMono : ∀ th, s.td s.hhead = some th → ∃ th', s'.td s'.hhead = some th' ∧ th ≤ th'
  newMax : ∀ k, s.hdr k = none → (s'.hdr k).isSome = true →
    ∃ t th, s'.td k = some t ∧ s'.td s'.hhead = some th ∧ t ≤ th

variable {U : Map Blk}

theorem MStep.refl {s : MSt} (h : MInv U s) : MStep U s s :=
  ⟨h, fun _ _ hk => hk, fun th hth => ⟨th, hth, Nat.le_refl _⟩⟩

theorem MStep.trans {s s' s'' : MSt} (h1 : MStep U s s') (h2 : MStep U s' s'') : MStep U s s'' :=
  ⟨h2.inv, fun _ _ hk => h2.tdKeep _ _ (h1.tdKeep _ _ hk), headTd_trans h1.headMono h2.headMono⟩

theorem MHStep.refl {s : MSt} (h : MInv U s) : MHStep U s s :=
  { toMStep := MStep.refl h, headSame := rfl, hheadMono := fun th hth => ⟨th, hth, Nat.le_refl _⟩,
    newMax := fun k hk hk' => by rw [hk] at hk'; cases hk' }

theorem MHStep.trans {s s' s'' : MSt} (h1 : MHStep U s s') (h2 : MHStep U s' s'') : MHStep U s s'' :=
  { toMStep := h1.toMStep.trans h2.toMStep
    headSame := by rw [h2.headSame, h1.headSame]
    hheadMono := headTd_trans h1.hheadMono h2.hheadMono
    newMax := fun k hk hk'' => by
      cases hk' : s'.hdr k with
      | none => exact h2.newMax k hk' hk''
      | some x =>
        obtain ⟨t, th, ht, hth, hle⟩ := h1.newMax k hk (by rw [hk']; rfl)
        obtain ⟨th'', hth'', hle'⟩ := h2.hheadMono th hth
        exact ⟨t, th'', h2.tdKeep _ _ ht, hth'', by omega⟩ }

theorem minv_init (g : Blk) (hgU : U g.id = some g) : MInv U (minit g) where
  sub := fun k x hx => by
    obtain ⟨rfl, rfl⟩ := upd_empty_some.mp hx
    exact hgU
  tdI := tdIntr_init hgU
  hdrTd := fun k x hx => by
    obtain ⟨rfl, _⟩ := upd_empty_some.mp hx
    simp [minit]
  blkHdr := fun k hk => by
    rw [updB_empty_true.mp hk]
    simp [minit]
  headBlk := by simp [minit]
  hheadHdr := by simp [minit]
  headMax := fun k t _ ht => by
    obtain ⟨rfl, rfl⟩ := upd_empty_some.mp ht
    exact ⟨g.diff, by simp [minit], Nat.le_refl _⟩

theorem ancestry_mem {V : Map Blk} : ∀ (f : Nat) (b x : Blk), x ∈ ancestry V f b → x = b ∨ ∃ k, V k = some x := by
  intro f
  induction f with
  | zero => intro b x hx; cases hx
  | succ f ih =>
    intro b x hx
    simp only [ancestry, List.mem_cons] at hx
    rcases hx with hx | hx
    · exact .inl hx
    · cases hp : parentOf V b with
      | none => rw [hp] at hx; cases hx
      | some p =>
        rw [hp] at hx
        rcases ih p x hx with h1 | h1
        · exact .inr ⟨_, by rw [h1]; exact (parentOf_some hp).1⟩
        · exact .inr h1

theorem mstep_writeBlock (W : World U) {s : MSt} (h : MInv U s) {b p : Blk} (hbU : U b.id = some b)
    (hpar : parentOf s.hdr b = some p) (coin : Bool) (hh : Option Nat) : MStep U s (mWriteBlock s b coin hh).st := by
  unfold mWriteBlock
  cases hptd : s.td b.parent with
  | none => exact MStep.refl h
  | some ptd =>
    simp only
    obtain ⟨hx, hhx⟩ := Option.isSome_iff_exists.mp (h.blkHdr _ h.headBlk)
    obtain ⟨localTd, hlt⟩ := Option.isSome_iff_exists.mp (h.hdrTd _ _ hhx)
    rw [hhx, hlt]
    simp only
    obtain ⟨he1, he2⟩ := storeExt_updK h.sub hbU
    have hkeep := fun k t => TdIntr.rewrite h.tdI h.sub hbU hpar hptd (k := k) (t := t)
    have hblkHdr' : ∀ k, updB s.blk b.id true k = true → (upd s.hdr b.id (some b) k).isSome = true := by
      intro k hk
      by_cases hkb : k = b.id
      · subst hkb; simp
      · rw [updB_other _ _ _ _ hkb] at hk; rw [upd_other _ _ _ _ hkb]; exact h.blkHdr k hk
    have hhh' : (upd s.hdr b.id (some b) s.hhead).isSome = true := by
      obtain ⟨y, hy⟩ := Option.isSome_iff_exists.mp h.hheadHdr
      rw [he1 _ _ hy]; rfl
    -- the old records of the validated blocks other than `b` are bounded by the old head's
    have hold : ∀ k, updB s.blk b.id true k = true → k ≠ b.id → ∀ t, s.td k = some t → t ≤ localTd :=
      fun k hk hkb t ht => le_headTd (h.headMax k t (by rwa [updB_other _ _ _ _ hkb] at hk) ht) hlt
    -- wherever the fork choice leaves the head block; the head header is a stored header
    have key : ∀ head' hhead', ForkChoice s.head head' b (ptd + b.diff) localTd →
        (upd s.hdr b.id (some b) hhead').isSome = true →
        MStep U s { s with td := upd s.td b.id (some (ptd + b.diff)), hdr := upd s.hdr b.id (some b),
                           blk := updB s.blk b.id true, head := head', hhead := hhead' } := by
      intro head' hhead' hf hhh
      obtain ⟨th, hth, h1, h2⟩ := hf.headTd (hkeep _ _ hlt)
      have hhb : updB s.blk b.id true head' = true := by
        rcases hf with ⟨rfl, -⟩ | ⟨rfl, -⟩
        · exact updB_same _ _ _
        · exact updB_true_of _ _ _ h.headBlk
      exact
        { inv :=
            { sub := he2
              tdI := TdIntr.write h.tdI h.sub hbU hpar hptd
              hdrTd := upd_isSome_mono h.hdrTd _ _ _
              blkHdr := hblkHdr'
              headBlk := hhb
              hheadHdr := hhh
              -- the new head's record bounds the old head's, hence the old records, and that of `b`
              headMax := fun k t hk ht =>
                ⟨th, hth, upd_le (fun hkb t ht => Nat.le_trans (hold k hk hkb t ht) h1) h2 ht⟩ }
          tdKeep := hkeep
          headMono := fun th0 hth0 => ⟨th, hth, by rw [hlt] at hth0; cases hth0; exact h1⟩ }
    cases hdec : decideReorg (ptd + b.diff) localTd b.number hx.number coin with
    | true =>
      refine key _ _ (.inl ⟨rfl, decideReorg_ge hdec⟩) ?_
      -- the head header is b, one of its stored ancestors, or unchanged
      cases hh with
      | none => exact hhh'
      | some k =>
        simp only
        cases hg : (ancestry (upd s.hdr b.id (some b)) (b.number + 1) b)[k]? with
        | none => exact hhh'
        | some x =>
          simp only
          rcases ancestry_mem _ _ _ (List.mem_of_getElem? hg) with hxb | ⟨k', hk'⟩
          · rw [hxb]; simp
          · rw [W.ids _ _ (he2 _ _ hk'), hk']; rfl
    | false => exact key _ _ (.inr ⟨rfl, decideReorg_false_le hdec⟩) hhh'

theorem mstep_importOne (W : World U) {s : MSt} (h : MInv U s) {b : Blk} (hbU : U b.id = some b) (coin : Bool)
    (hh : Option Nat) : MStep U s (mImportOne s b coin hh).st := by
  unfold mImportOne
  cases hhc : headerCheck s.hdr b with
  | some e => exact MStep.refl h
  | none =>
    obtain ⟨p, hpar⟩ := headerCheck_none hhc
    have hw := mstep_writeBlock W h hbU hpar coin hh
    simp only
    -- every way through the loop body returns the state as it is or goes through `mWriteBlock`
    split
    · split
      · -- known block: skipped unless above the head or heavier
        split
        · exact MStep.refl h
        · exact hw
      · split
        · -- the parent is known as a header only
          exact MStep.refl h
        · exact hw
    · exact MStep.refl h

theorem mstep_importSeq (W : World U) : ∀ (l : List Blk) {s : MSt}, MInv U s → (∀ b ∈ l, U b.id = some b) →
    ∀ (cs : List (Bool × Option Nat)) (i : Nat), MStep U s (mImportSeq s l cs i).1.st := by
  intro l
  induction l with
  | nil => intro s h _ cs i; exact MStep.refl h
  | cons b l ih =>
    intro s h hU cs i
    have h1 := mstep_importOne W h (hU b (by simp)) (cs.headD (false, none)).1 (cs.headD (false, none)).2
    unfold mImportSeq
    cases herr : (mImportOne s b (cs.headD (false, none)).1 (cs.headD (false, none)).2).err with
    | some e => simp only [herr]; exact h1
    | none => simp only [herr]; exact h1.trans (ih h1.inv (fun x hx => hU x (List.mem_cons_of_mem _ hx)) _ _)

theorem mstep_importChain (W : World U) {s : MSt} (h : MInv U s) (chain : List Blk) (hU : ∀ b ∈ chain, U b.id = some b)
    (cs : List (Bool × Option Nat)) : MStep U s (mImportChain s chain cs).1.st :=
  mstep_importSeq W _ h (fun b hb => hU b (mem_contigPrefix _ _ hb)) _ _

/-- the local total difficulty is that of the head header, wherever block imports have put it -/
theorem mhstep_writeHeader {s : MSt} (h : MInv U s) {hd p : Blk} (hU : U hd.id = some hd)
    (hpar : parentOf s.hdr hd = some p) (coin : Bool) :
    MHStep U s (mWriteHeader s hd coin).st ∧
      ((mWriteHeader s hd coin).err = none → (mWriteHeader s hd coin).st.hdr hd.id = some hd) := by
  unfold mWriteHeader
  cases hptd : s.td hd.parent with
  | none => exact ⟨MHStep.refl h, fun he => by cases he⟩
  | some ptd =>
    simp only
    obtain ⟨y, hy⟩ := Option.isSome_iff_exists.mp h.hheadHdr
    obtain ⟨localTd, hlt⟩ := Option.isSome_iff_exists.mp (h.hdrTd _ _ hy)
    rw [hlt]
    simp only
    obtain ⟨he1, he2⟩ := storeExt_updK h.sub hU
    have hkeep := fun k t => TdIntr.rewrite h.tdI h.sub hU hpar hptd (k := k) (t := t)
    have hblkHdr' : ∀ k, s.blk k = true → (upd s.hdr hd.id (some hd) k).isSome = true := by
      intro k hk
      obtain ⟨z, hz⟩ := Option.isSome_iff_exists.mp (h.blkHdr k hk)
      rw [he1 _ _ hz]; rfl
    have hmax' : ∀ k t, s.blk k = true → upd s.td hd.id (some (ptd + hd.diff)) k = some t →
        ∃ th, upd s.td hd.id (some (ptd + hd.diff)) s.head = some th ∧ t ≤ th := by
      intro k t hk ht
      obtain ⟨z, hz⟩ := Option.isSome_iff_exists.mp (h.blkHdr k hk)
      obtain ⟨t0, ht0⟩ := Option.isSome_iff_exists.mp (h.hdrTd _ _ hz)
      rw [hkeep _ _ ht0] at ht; cases ht
      obtain ⟨th, hth, hle⟩ := h.headMax k t hk ht0
      exact ⟨th, hkeep _ _ hth, hle⟩
    have hnewOnly : ∀ k, s.hdr k = none → (upd s.hdr hd.id (some hd) k).isSome = true → k = hd.id := by
      intro k hk hk'
      apply Classical.byContradiction
      intro hne
      rw [upd_other _ _ _ _ hne, hk] at hk'
      cases hk'
    -- wherever the fork choice leaves the head header
    have key : ∀ hhead', ForkChoice s.hhead hhead' hd (ptd + hd.diff) localTd →
        MHStep U s { s with td := upd s.td hd.id (some (ptd + hd.diff)), hdr := upd s.hdr hd.id (some hd), hhead := hhead' } := by
      intro hhead' hf
      obtain ⟨th, hth, h1, h2⟩ := hf.headTd (hkeep _ _ hlt)
      have hhh : (upd s.hdr hd.id (some hd) hhead').isSome = true := by
        rcases hf with ⟨rfl, -⟩ | ⟨rfl, -⟩
        · rw [upd_same]; rfl
        · rw [he1 _ _ hy]; rfl
      exact
        { inv := ⟨he2, TdIntr.write h.tdI h.sub hU hpar hptd, upd_isSome_mono h.hdrTd _ _ _, hblkHdr', h.headBlk, hhh, hmax'⟩
          tdKeep := hkeep
          headMono := fun th hth => ⟨th, hkeep _ _ hth, Nat.le_refl _⟩
          headSame := rfl
          hheadMono := fun th0 hth0 => ⟨th, hth, by rw [hlt] at hth0; cases hth0; exact h1⟩
          newMax := fun k hk hk' => by
            rw [hnewOnly k hk hk']
            exact ⟨ptd + hd.diff, th, upd_same _ _ _, hth, h2⟩ }
    cases hdec : (decide (ptd + hd.diff > localTd) || (ptd + hd.diff == localTd && coin)) with
    | true =>
      refine ⟨key _ (.inl ⟨rfl, ?_⟩), fun _ => upd_same _ _ _⟩
      simp only [Bool.or_eq_true, decide_eq_true_eq, Bool.and_eq_true, beq_iff_eq] at hdec
      omega
    | false =>
      refine ⟨key _ (.inr ⟨rfl, ?_⟩), fun _ => upd_same _ _ _⟩
      simp only [Bool.or_eq_false_iff, decide_eq_false_iff_not, Bool.and_eq_false_iff, beq_eq_false_iff_ne] at hdec
      omega

theorem mhstep_insertHeaders : ∀ (l : List Blk) (s : MSt) (coins : List Bool) (i : Nat),
    MInv U s → (∀ h ∈ l, U h.id = some h) → isContig l = true →
    (∀ h0 ∈ l.head?, ∃ p, parentOf s.hdr h0 = some p) → MHStep U s (mInsertHeaders s l coins i).1.st := by
  intro l
  induction l with
  | nil => intro s coins i hI _ _ _; exact MHStep.refl hI
  | cons h rest ih =>
    intro s coins i hI hU hc hp0
    obtain ⟨p, hpar⟩ := hp0 h (by simp)
    have hhU := hU h (by simp)
    have hrest : ∀ (s' : MSt) (coins' : List Bool), MInv U s' → s'.hdr h.id = some h →
        MHStep U s' (mInsertHeaders s' rest coins' (i + 1)).1.st := fun s' coins' hI' hs' =>
      ih s' coins' (i + 1) hI' (fun x hx => hU x (List.mem_cons_of_mem _ hx)) (isContig_tail hc) (isContig_next hc hs')
    unfold mInsertHeaders
    cases hknown : s.hdr h.id with
    | some x =>
      have hxh : x = h := by
        have := hI.sub _ _ hknown
        rw [hhU] at this; cases this; rfl
      exact hrest s coins hI (hxh ▸ hknown)
    | none =>
      obtain ⟨h1, hst⟩ := mhstep_writeHeader hI hhU hpar (coins.headD false)
      simp only [Option.isSome_none, Bool.false_eq_true, if_false]
      cases herr : (mWriteHeader s h (coins.headD false)).err with
      | some e => exact h1
      | none => exact h1.trans (hrest _ coins.tail h1.inv (hst herr))

theorem mhstep_importHeaders {s : MSt} (h : MInv U s) (chain : List Blk)
    (hU : ∀ x ∈ chain, U x.id = some x) (coins : List Bool) : MHStep U s (mImportHeaders s chain coins).1.st := by
  unfold mImportHeaders
  cases hc : isContig chain with
  | false => exact MHStep.refl h
  | true =>
    cases chain with
    | nil => exact MHStep.refl h
    | cons x rest =>
      simp only [Bool.not_true, Bool.false_eq_true, if_false]
      cases hhc : headerCheck s.hdr x with
      | some e => exact MHStep.refl h
      | none => exact mhstep_insertHeaders _ s coins 0 h hU hc (fun h0 hh0 => by cases hh0; exact headerCheck_none hhc)

def MOpOk (U : Map Blk) : MOp → Prop
  | .blocks chain _ => ∀ b ∈ chain, U b.id = some b
  | .headers chain _ => ∀ b ∈ chain, U b.id = some b

instance (U : Map Blk) : (op : MOp) → Decidable (MOpOk U op)
  | .blocks chain _ => inferInstanceAs (Decidable (∀ b ∈ chain, U b.id = some b))
  | .headers chain _ => inferInstanceAs (Decidable (∀ b ∈ chain, U b.id = some b))

theorem mstep_op (W : World U) {s : MSt} (h : MInv U s) (op : MOp) (hop : MOpOk U op) : MStep U s (mstep s op).st := by
  cases op with
  | blocks chain cs => exact mstep_importChain W h chain hop cs
  | headers chain coins => exact (mhstep_importHeaders h chain hop coins).toMStep

theorem mstep_run (W : World U) : ∀ (ops : List MOp) {s : MSt}, MInv U s → (∀ op ∈ ops, MOpOk U op) →
    MStep U s (mrun s ops) := by
  intro ops
  induction ops with
  | nil => intro s h _; exact MStep.refl h
  | cons op ops ih =>
    intro s h hops
    have h1 := mstep_op W h op (hops op (by simp))
    exact h1.trans (ih h1.inv (fun o ho => hops o (List.mem_cons_of_mem _ ho)))

end Aqv.Chain
