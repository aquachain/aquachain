/- C08: the Go data-movement primitives of Model.EvmRun (getDataBig / RightPadBytes, Memory.Get/Set, PaddedBigBytes,
  Stack.dup/swap on the top-last slice) against the pointwise definitions of the specification. -/
import Aqv.Lemmas.Big
import Aqv.Lemmas.Bytes
import Aqv.Model.EvmRun
namespace Aqv.Evm
open Aqv Aqv.Big

theorem specRead_length (data : Bytes) (off n : Nat) : (specRead data off n).length = n := by
  unfold specRead; simp; omega

theorem specRead_getElem? (data : Bytes) (off n i : Nat) :
    (specRead data off n)[i]? = if i < n then some (data.getD (off + i) 0) else none := by
  unfold specRead
  simp only []
  have hl : ((data.drop off).take n).length = min n (data.length - off) := by simp
  rw [List.getElem?_append, hl]
  by_cases h : i < n
  · rw [if_pos h]
    by_cases h1 : i < min n (data.length - off)
    · rw [if_pos h1, List.getElem?_take, if_pos h, List.getElem?_drop, List.getD_eq_getElem?_getD,
        List.getElem?_eq_getElem (by omega)]; rfl
    · rw [if_neg h1, List.getElem?_replicate, if_pos (by omega), List.getD_eq_getElem?_getD,
        List.getElem?_eq_none (by omega)]; rfl
  · rw [if_neg h, if_neg (by omega), List.getElem?_replicate, if_neg (by omega)]

theorem slicePad_eq (data : Bytes) (start size : Nat) :
    rightPad ((data.drop (min start data.length)).take (min (min start data.length + size) data.length - min start data.length)) size
      = specRead data start size := by
  have key : (data.drop (min start data.length)).take (min (min start data.length + size) data.length - min start data.length)
      = (data.drop start).take size := by
    by_cases h : start ≤ data.length
    · rw [Nat.min_eq_left h, List.take_eq_take_iff, List.length_drop]; omega
    · rw [List.drop_eq_nil_of_le (by omega), List.drop_eq_nil_of_le (by omega), List.take_nil, List.take_nil]
  unfold rightPad specRead
  rw [key, if_neg (by rw [List.length_take]; omega)]

theorem getDataBig_spec (data : Bytes) (start size : Nat) (h : size < 2 ^ 64) :
    getDataBig data start size = specRead data start size := by
  unfold getDataBig
  simp only []
  rw [Nat.mod_eq_of_lt h]
  exact slicePad_eq data start size

theorem specRead_zero (data : Bytes) (off : Nat) : specRead data off 0 = [] :=
  List.eq_nil_of_length_eq_zero (specRead_length _ _ _)

theorem dropTake_eq_specRead (data : Bytes) (off n : Nat) (h : off + n ≤ data.length) :
    (data.drop off).take n = specRead data off n := by
  unfold specRead
  simp only []
  rw [show n - ((data.drop off).take n).length = 0 by rw [List.length_take, List.length_drop]; omega]
  exact (List.append_nil _).symm

theorem memGet_spec (mem : Bytes) (off size : Nat) (h : size ≠ 0 → off + size ≤ mem.length) :
    memGet mem off size = some (specRead mem off size) := by
  unfold memGet
  by_cases hs : size = 0
  · subst hs
    rw [if_pos rfl, specRead_zero]
  · have hc := h hs
    rw [if_neg hs, if_pos (by omega), if_pos hc, dropTake_eq_specRead _ _ _ hc]

theorem specWrite_length (mem : Bytes) (off : Nat) (bs : Bytes) : (specWrite mem off bs).length = mem.length := by
  unfold specWrite
  split
  · rfl
  · simp; omega

theorem specWrite_getElem? (mem : Bytes) (off : Nat) (bs : Bytes) (i : Nat) :
    (specWrite mem off bs)[i]? = if i < mem.length then
      (if off ≤ i ∧ i < off + bs.length then some (bs.getD (i - off) 0) else mem[i]?) else none := by
  unfold specWrite
  by_cases hoff : off ≥ mem.length
  · rw [if_pos hoff]
    by_cases hi : i < mem.length
    · rw [if_pos hi, if_neg (by omega)]
    · rw [if_neg hi, List.getElem?_eq_none (by omega)]
  · rw [if_neg hoff]
    have hl1 : (mem.take off).length = off := by simp; omega
    have hl2 : (bs.take (mem.length - off)).length = min (mem.length - off) bs.length := by simp
    by_cases hi : i < mem.length
    · rw [if_pos hi]
      by_cases h1 : i < off
      · rw [List.append_assoc, List.getElem?_append_left (by omega), List.getElem?_take, if_pos h1, if_neg (by omega)]
      · rw [List.append_assoc, List.getElem?_append_right (by omega), hl1]
        by_cases h2 : i < off + bs.length
        · rw [List.getElem?_append_left (by omega), List.getElem?_take, if_pos (by omega), if_pos (by omega),
            List.getD_eq_getElem?_getD, List.getElem?_eq_getElem (by omega)]; rfl
        · rw [List.getElem?_append_right (by omega), hl2, List.getElem?_drop, if_neg (by omega)]
          congr 1; omega
    · rw [if_neg hi]
      apply List.getElem?_eq_none
      simp; omega

theorem specWrite_nil (mem : Bytes) (off : Nat) : specWrite mem off [] = mem := by
  unfold specWrite
  split
  · rfl
  · simp

theorem memSet_spec (mem : Bytes) (off size : Nat) (value : Bytes) (hv : value.length = size)
    (h : size ≠ 0 → off + size ≤ mem.length) : memSet mem off size value = some (specWrite mem off value) := by
  unfold memSet
  by_cases hs : size = 0
  · subst hs
    rw [List.eq_nil_of_length_eq_zero hv, if_neg (by omega), if_neg (by omega), specWrite_nil]
  · have hc := h hs
    unfold specWrite
    rw [if_neg (by omega), if_pos (by omega), if_pos hc, if_neg (by omega)]
    simp only []
    rw [Nat.min_eq_left (by omega), List.take_of_length_le (l := value) (by omega),
      List.take_of_length_le (l := value) (by omega), hv]

theorem set_eq_specWrite (mem : Bytes) (off : Nat) (b : UInt8) (h : off < mem.length) :
    mem.set off b = specWrite mem off [b] := by
  unfold specWrite
  rw [List.set_eq_take_append_cons_drop, if_pos h, if_neg (by omega), List.take_of_length_le (l := [b]) (by show 1 ≤ _; omega)]
  simp

theorem reverse_set {α : Type} (l : List α) (i : Nat) (a : α) (h : i < l.length) :
    (l.set i a).reverse = l.reverse.set (l.length - 1 - i) a := by
  apply List.ext_getElem?
  intro j
  by_cases hj : j < l.length
  · rw [List.getElem?_reverse (by simpa using hj), List.getElem?_set, List.getElem?_set, List.getElem?_reverse hj,
      List.length_set, List.length_reverse]
    by_cases e : i = l.length - 1 - j
    · rw [if_pos e, if_pos h, if_pos (show l.length - 1 - i = j by omega), if_pos (show l.length - 1 - i < l.length by omega)]
    · rw [if_neg e, if_neg (show ¬ l.length - 1 - i = j by omega)]
  · rw [List.getElem?_eq_none (by simp; omega), List.getElem?_eq_none (by simp; omega)]

theorem dup_spec (st : List Int) (n : Nat) (h1 : 1 ≤ n) (h2 : n ≤ st.length) :
    st.reverse.getD (st.reverse.length - n) 0 = st.getD (n - 1) 0 := by
  rw [List.getD_eq_getElem?_getD, List.getD_eq_getElem?_getD, List.length_reverse, List.getElem?_reverse (by omega),
    show st.length - 1 - (st.length - n) = n - 1 by omega]

theorem swap_spec (st : List Int) (k : Nat) (h1 : 1 ≤ k) (h2 : k + 1 ≤ st.length) :
    ((st.reverse.set (st.reverse.length - (k + 1)) (st.reverse.getD (st.reverse.length - 1) 0)).set (st.reverse.length - 1)
        (st.reverse.getD (st.reverse.length - (k + 1)) 0)).reverse
      = (st.set 0 (st.getD k 0)).set k (st.getD 0 0) := by
  have hl : st.reverse.length = st.length := List.length_reverse
  rw [dup_spec st 1 (by omega) (by omega), dup_spec st (k + 1) (by omega) h2, hl,
    reverse_set _ _ _ (by rw [List.length_set, hl]; omega), reverse_set _ _ _ (by rw [hl]; omega), List.reverse_reverse,
    List.length_set, hl, show st.length - 1 - (st.length - 1) = 0 by omega, show st.length - 1 - (st.length - (k + 1)) = k by omega]
  exact List.set_comm _ _ (by omega)

def digits (k v : Nat) : Bytes := (List.range k).map fun i => UInt8.ofNat (v / 256 ^ (k - 1 - i) % 256)

theorem digits_succ (k v : Nat) : digits (k + 1) v = digits k (v / 256) ++ [UInt8.ofNat (v % 256)] := by
  unfold digits
  rw [List.range_succ, List.map_append]
  congr 1
  · apply List.map_congr_left
    intro i hi
    have hi' : i < k := List.mem_range.1 hi
    have e : k + 1 - 1 - i = (k - 1 - i) + 1 := by omega
    rw [e, Nat.pow_succ, Nat.mul_comm, Nat.div_div_eq_div_mul]
  · simp

theorem beNat_digits (k v : Nat) : beNat (digits k v) = v % 256 ^ k := by
  induction k generalizing v with
  | zero => simp [digits, beNat, Nat.mod_one]
  | succ k ih =>
    rw [digits_succ, beNat_append_singleton, ih, UInt8.toNat_ofNat_mod]
    rw [Nat.pow_succ, Nat.mul_comm (256 ^ k) 256, Nat.mod_mul]
    omega

theorem digits_length (k v : Nat) : (digits k v).length = k := by unfold digits; simp

theorem specWord_length (v : Nat) : (specWord v).length = 32 := digits_length 32 v

theorem paddedBigBytes_spec (v : Nat) (hv : v < 2 ^ 256) : paddedBigBytes v 32 = specWord v := by
  have h256 : (2 : Nat) ^ 256 = 256 ^ 32 := by decide
  rw [h256] at hv
  apply beNat_inj_of_length
  · rw [specWord_length]
    unfold paddedBigBytes
    have hle := beBytes_length_le v 32 hv
    split
    · rename_i hbig
      -- bit length ≥ 256 → at least 32 bytes
      have hge : v ≥ 256 ^ 31 := by
        have := natBitLen_gt_iff v 248
        have h31 : (256 : Nat) ^ 31 = 2 ^ 248 := by decide
        rw [h31]; omega
      have := beNat_lt (beBytes v)
      rw [beNat_beBytes] at this
      have hlen : ¬ (beBytes v).length ≤ 31 := by
        intro hc
        have : 256 ^ (beBytes v).length ≤ 256 ^ 31 := Nat.pow_le_pow_right (by decide) hc
        omega
      omega
    · simp; omega
  · show _ = beNat (digits 32 v)
    rw [beNat_digits, Nat.mod_eq_of_lt hv]
    unfold paddedBigBytes
    split
    · exact beNat_beBytes v
    · rw [beNat_append, beNat_replicate_zero, beNat_beBytes]; simp
end Aqv.Evm
