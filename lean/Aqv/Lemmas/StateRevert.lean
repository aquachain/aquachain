/-
  Aqv.Lemmas.StateRevert — RevertToSnapshot restores the view for any nesting of snapshots and any interleaving of
  mutators (the induction behind Props.C09.revert_exact).
-/
import Aqv.Lemmas.StateStep
namespace Aqv.State

def JOK (s : SDB) : Prop := ∀ e ∈ s.journal, EntryOK e

/-- what the per-transaction theorems need of the starting state. -/
structure TxInv (s : SDB) : Prop where
  coh : Coherent s
  jok : JOK s

theorem Ext.jok {t t' : SDB} (h : Ext t t') (hj : JOK t) : JOK t' := by
  obtain ⟨es, hu, hok⟩ := h.unwinds
  intro e he
  rw [hu.1] at he
  exact (List.mem_append.mp he).elim (hok e) (hj e)

theorem Ext.txinv {t t' : SDB} (h : Ext t t') (hi : TxInv t) : TxInv t' := ⟨h.coherent hi.coh, h.jok hi.jok⟩

theorem tomb_setJournal {s : SDB} {j : List Entry} {b : Addr} {q : Obj} : Tomb { s with journal := j } b q ↔ Tomb s b q := Iff.rfl

theorem tomb_writeBack {s : SDB} {a b : Addr} {r : Obj → Obj} {f : Bool} {q : Obj} (h : Tomb (writeBack s a r f) b q)
    (hd : ∀ o, (r o).deleted = o.deleted) : Tomb s b q := by
  cases hl : look s a with
  | none => simp only [writeBack, hl] at h; cases f <;> exact h
  | some o => rw [writeBack_some hl] at h; exact tomb_writeObj ((hd o).trans (look_not_deleted hl)) h

theorem tomb_undo {e : Entry} {s : SDB} {b : Addr} {q : Obj} (hok : EntryOK e) (h : Tomb (undo e s) b q) : Tomb s b q := by
  cases e with
  | createObject a => exact tomb_setObj (by rintro _ ⟨⟩) h
  | resetObject a prev => exact tomb_putObj hok h
  | suicide a | balance a | nonce a | storage a | code a =>
    simp only [undo_suicide, undo_balance, undo_nonce, undo_storage, undo_code] at h
    exact tomb_writeBack h fun _ => rfl
  | refund | addLog | addPreimage => exact h
  | touch a prev prevDirty =>
    rw [undo_touch] at h
    split at h
    · cases hl : look s a with
      | none => rw [hl] at h; exact h
      | some o =>
        have hod := look_not_deleted hl
        rw [hl] at h; exact tomb_setObj (by rintro _ ⟨⟩; exact hod) h
    · exact h

theorem tomb_undoN : ∀ (k : Nat) {s : SDB} {b : Addr} {q : Obj}, JOK s → Tomb (undoN k s) b q → Tomb s b q
  | 0, _, _, _, _, h => h
  | k + 1, s, b, q, hj, h => by
    cases hjj : s.journal with
    | nil => rwa [undoN_nil _ s hjj] at h
    | cons e js =>
      rw [undoN_succ_cons k s e js hjj] at h
      rw [JOK, hjj] at hj
      have hj' : JOK (undo e { s with journal := js }) := fun e' he' => hj e' (List.mem_cons_of_mem _ (by simpa using he'))
      exact tomb_setJournal.mp (tomb_undo (hj e List.mem_cons_self) (tomb_undoN k hj' h))

theorem txinv_undoN (k : Nat) {s : SDB} (hi : TxInv s) : TxInv (undoN k s) := by
  refine ⟨fun a o ho hd => ?_, fun e he => ?_⟩
  · obtain ⟨hq, hqd⟩ := tomb_undoN k hi.jok (q := o) ⟨ho, hd⟩
    rw [undoN_trie]; exact hi.coh a o hq hqd
  · rw [undoN_journal] at he
    exact hi.jok e (List.mem_of_mem_drop he)

theorem txinv_setRevs {s : SDB} (hi : TxInv s) (r : List (Nat × Nat)) (n : Nat) : TxInv { s with revs := r, nextId := n } :=
  ⟨hi.coh, hi.jok⟩

theorem revertTo_eq {id : Nat} {s t : SDB} (h : revertTo id s = some t) :
    ∃ r rest, s.revs.dropWhile (fun r => id < r.1) = r :: rest ∧ r.1 = id ∧
      t = { undoN (s.journal.length - r.2) s with revs := rest } := by
  unfold revertTo at h
  split at h
  · cases h
  · split at h
    · cases h; exact ⟨_, _, ‹_›, ‹_›, rfl⟩
    · cases h

theorem txinv_revertTo {id : Nat} {s t : SDB} (hi : TxInv s) (h : revertTo id s = some t) : TxInv t := by
  obtain ⟨r, rest, -, -, rfl⟩ := revertTo_eq h
  exact txinv_setRevs (txinv_undoN _ hi) _ _

@[simp] theorem push_revs (s : SDB) (e : Entry) : (push s e).revs = s.revs := rfl
@[simp] theorem push_nextId (s : SDB) (e : Entry) : (push s e).nextId = s.nextId := rfl

theorem txinv_stepTx {s t : SDB} (hi : TxInv s) {op : TxOp} (hst : stepTx op s = some t) : TxInv t := by
  cases op with
  | mutate m => cases hst; exact (ext_applyMut m s hi.coh).txinv hi
  | snap => cases hst; exact txinv_setRevs hi _ _
  | revert id => exact txinv_revertTo hi hst

theorem runTx_cons_some {op : TxOp} {ops : List TxOp} {s t : SDB} (h : runTx (op :: ops) s = some t) :
    ∃ s1, stepTx op s = some s1 ∧ runTx ops s1 = some t := by
  simp only [runTx] at h
  split at h
  · cases h
  · exact ⟨_, ‹_›, h⟩

/-- every live revision id has been handed out already, so the id of the next Snapshot is new. -/
def RevsOK (s : SDB) : Prop := ∀ r ∈ s.revs, r.1 < s.nextId

theorem Unwinds.congr {s t t' : SDB} {es : List Entry} (h : Unwinds s t es) (hs : Sim t' t) (hj : t'.journal = t.journal) :
    Unwinds s t' es :=
  ⟨hj.trans h.1, (Sim.undoN es.length hs hj).trans h.2⟩

theorem Unwinds.undoN {s t : SDB} {es : List Entry} (h : Unwinds s t es) {k : Nat} (hk : k ≤ es.length) :
    Unwinds s (undoN k t) (es.drop k) := by
  refine ⟨by rw [undoN_journal, h.1, List.drop_append_of_le_length hk], ?_⟩
  rw [← undoN_add, List.length_drop, Nat.add_sub_cancel' hk]
  exact h.2

/-- the snapshot taken at `s0` (id `s0.nextId`, journal length of `s0`) is still live in `t`, and unwinding `t`'s journal
    down to it gives a state indistinguishable from `s0`. -/
structure Alive (s0 t : SDB) : Prop where
  ex : ∃ es, Unwinds s0 t es
  revs : ∃ newer, t.revs = newer ++ (s0.nextId, s0.journal.length) :: s0.revs ∧
    ∀ r ∈ newer, s0.nextId < r.1 ∧ s0.journal.length ≤ r.2
  nid : s0.nextId < t.nextId

/-- the snapshot id of `s0` is gone for good. -/
def Dead (s0 t : SDB) : Prop := (∀ r ∈ t.revs, r.1 ≠ s0.nextId) ∧ s0.nextId < t.nextId

theorem alive_init (s0 : SDB) : Alive s0 (snapshot s0).1 :=
  ⟨⟨[], rfl, Sim.of_bookkeeping s0 _ _ _ _⟩, ⟨[], rfl, by simp⟩, Nat.lt_succ_self _⟩

theorem alive_ext {s0 t t' : SDB} (h : Alive s0 t) (g : Ext t t') : Alive s0 t' := by
  obtain ⟨es, hu⟩ := h.ex
  obtain ⟨es', hu', -⟩ := g.unwinds
  exact ⟨⟨_, hu.trans hu'⟩, g.revs ▸ h.revs, g.nextId ▸ h.nid⟩

theorem alive_snap {s0 t : SDB} (h : Alive s0 t) : Alive s0 (snapshot t).1 := by
  obtain ⟨es, hu⟩ := h.ex
  obtain ⟨newer, hr, hn⟩ := h.revs
  refine ⟨⟨es, hu.congr (Sim.of_bookkeeping t _ _ _ _) rfl⟩, ⟨(t.nextId, t.journal.length) :: newer, by simp [snapshot, hr], ?_⟩,
    Nat.lt_succ_of_lt h.nid⟩
  intro r hrm
  rcases List.mem_cons.mp hrm with rfl | h'
  · exact ⟨h.nid, by simp [hu.1]⟩
  · exact hn r h'

theorem alive_revert {s0 t t' : SDB} (h : Alive s0 t) (hro : RevsOK s0) {id' : Nat} (hrev : revertTo id' t = some t') :
    Alive s0 t' ∨ Dead s0 t' := by
  obtain ⟨r, rest, hdw, -, rfl⟩ := revertTo_eq hrev
  obtain ⟨es, hu⟩ := h.ex
  obtain ⟨newer, hr, hn⟩ := h.revs
  rw [hr, List.dropWhile_append] at hdw
  cases hnd : newer.dropWhile (fun r => decide (id' < r.1)) with
  | nil =>
    -- our snapshot (or an older one) was the target: what is left of the stack is older than ours
    right
    refine ⟨fun x (hx : x ∈ rest) => Nat.ne_of_lt (hro x ?_), by simpa using h.nid⟩
    simp only [hnd, List.isEmpty_nil, ↓reduceIte] at hdw
    rcases List.suffix_cons_iff.mp (hdw ▸ List.dropWhile_suffix _) with heq | hsuf
    · cases heq; exact hx
    · exact List.IsSuffix.mem (List.mem_cons_of_mem _ hx) hsuf
  | cons r₁ n2 =>
    -- the target snapshot is younger than ours
    left
    simp only [hnd, List.isEmpty_cons, Bool.false_eq_true, ↓reduceIte, List.cons_append, List.cons.injEq] at hdw
    obtain ⟨rfl, rfl⟩ := hdw
    have hsub : (r₁ :: n2).Sublist newer := hnd ▸ List.dropWhile_sublist _
    have hk : t.journal.length - r₁.2 ≤ es.length := by
      have := (hn r₁ (hsub.mem List.mem_cons_self)).2
      rw [hu.1, List.length_append]; omega
    exact ⟨⟨_, (hu.undoN hk).congr (Sim.of_bookkeeping _ _ _ _ _) rfl⟩,
      ⟨n2, rfl, fun x hx => hn x (hsub.mem (List.mem_cons_of_mem _ hx))⟩, by simpa using h.nid⟩

theorem dead_revert {s0 t t' : SDB} (h : Dead s0 t) {id' : Nat} (hrev : revertTo id' t = some t') : Dead s0 t' := by
  obtain ⟨r, rest, hdw, -, rfl⟩ := revertTo_eq hrev
  refine ⟨fun x (hx : x ∈ rest) => h.1 x ?_, by simpa using h.2⟩
  exact List.IsSuffix.mem (List.mem_cons_of_mem r hx) (hdw ▸ List.dropWhile_suffix _)

theorem alive_or_dead_step {s0 t t' : SDB} (hro : RevsOK s0) (hi : TxInv t) (h : Alive s0 t ∨ Dead s0 t) {op : TxOp}
    (hst : stepTx op t = some t') : Alive s0 t' ∨ Dead s0 t' := by
  cases op with
  | mutate m =>
    cases hst
    have he := ext_applyMut m t hi.coh
    exact h.imp (alive_ext · he) fun hd => ⟨he.revs ▸ hd.1, he.nextId ▸ hd.2⟩
  | snap =>
    cases hst
    refine h.imp alive_snap fun hd => ⟨fun r hr => ?_, Nat.lt_succ_of_lt hd.2⟩
    rcases List.mem_cons.mp hr with rfl | h'
    · exact Nat.ne_of_gt hd.2
    · exact hd.1 r h'
  | revert id =>
    rcases h with ha | hd
    · exact alive_revert ha hro hst
    · exact Or.inr (dead_revert hd hst)

theorem alive_or_dead_run {s0 : SDB} (hro : RevsOK s0) :
    ∀ (ops : List TxOp) (t t' : SDB), TxInv t → (Alive s0 t ∨ Dead s0 t) → runTx ops t = some t' → (Alive s0 t' ∨ Dead s0 t')
  | [], t, t', _, h, hr => by cases hr; exact h
  | op :: ops, t, t', hi, h, hr => by
    obtain ⟨t1, hst, hr⟩ := runTx_cons_some hr
    exact alive_or_dead_run hro ops t1 t' (txinv_stepTx hi hst) (alive_or_dead_step hro hi h hst) hr

theorem revert_restores {s0 s2 r : SDB} (hi : TxInv s0) (hro : RevsOK s0) (ops : List TxOp)
    (hrun : runTx ops (snapshot s0).1 = some s2) (hrev : revertTo (snapshot s0).2 s2 = some r) :
    Sim r s0 ∧ r.journal = s0.journal ∧ r.revs = s0.revs := by
  obtain ⟨x, rest, hdw, hxid, rfl⟩ := revertTo_eq (show revertTo s0.nextId s2 = some r from hrev)
  rcases alive_or_dead_run hro ops _ _ (txinv_setRevs hi _ _) (Or.inl (alive_init s0)) hrun with ha | hd
  · obtain ⟨es, hu⟩ := ha.ex
    obtain ⟨newer, hrv, hn⟩ := ha.revs
    -- every younger snapshot is dropped, ours is the first that stays
    rw [hrv, List.dropWhile_append_of_pos (fun y hy => decide_eq_true (hn y hy).1),
      List.dropWhile_cons_of_neg (by simp)] at hdw
    cases hdw
    have hk : s2.journal.length - s0.journal.length = es.length := by rw [hu.1, List.length_append]; omega
    have hu' := hu.undoN (Nat.le_refl es.length)
    rw [List.drop_length] at hu'
    show Sim { undoN (s2.journal.length - s0.journal.length) s2 with revs := s0.revs } s0 ∧ _ ∧ _
    rw [hk]
    exact ⟨(Sim.of_bookkeeping _ _ _ _ _).trans hu'.2, hu'.1, rfl⟩
  · exact absurd hxid (hd.1 x (List.IsSuffix.mem List.mem_cons_self (hdw ▸ List.dropWhile_suffix _)))

end Aqv.State
