/- C07: the induction over the call tree for the gas side of Model.Vm.run (`run_sound`), and the three entry points — a frame,
  the four call wrappers, Create — at which the C07 theorems are read off: `Good` is put together from `Sound` and from what
  `Reach` says of the StateDB (Lemmas/VmReach), which needs neither `EnvOK` nor a bound on the gas. -/
import Aqv.Lemmas.VmCreate
import Aqv.Lemmas.VmReach
namespace Aqv.Vm
open Aqv.Gen.VmFlags
variable {W V : Type}

theorem stepWith_sound {env : Env} (hE : EnvOK env) (o : Nat → StepIn W) {fuel : Nat} {rec : Frame → Db W → Nat → Res W}
    (ih : Child env fuel rec) {fr : Frame} {db : Db W} {t : Nat} (hfr : FrameInv fr) :
    Sound env (fuel + 1) fr.gas fr.ro (stepWith env o rec fr db t) := by
  unfold stepWith
  simp only
  cases hpre : pre env (o t) fr db t with
  | stop r =>
    simp only
    exact (pre_stop hpre).sound (Nat.le_refl _) nofun fun _ => nofun
  | go f g ms db1 =>
    simp only
    obtain ⟨hl, _, _, _, hg, _, _⟩ := pre_go hpre
    obtain ⟨hinv1, hev, hsum⟩ := paid_inv hfr hpre
    have hlt := hfr.gas_lt
    by_cases hcr : f.execFn = .opCreate
    · simp only [hcr, if_true]
      generalize hfwd : (if env.eip150 = true then (paidFrame fr f g ms).gas - (paidFrame fr f g ms).gas / 64
        else (paidFrame fr f g ms).gas) = fwd
      obtain ⟨a1, a3⟩ := create_acct hfr hpre hcr fwd (by rw [← hfwd]; split <;> omega)
      have hr := createWrap_sound ih (i := o t) (depth := fr.depth) (ro := fr.ro) (db := db1) (t := t + 1) (Nat.lt_trans a1 hlt)
      refine Sound.resume hev id (hr.lift a1) fun _ => ?_
      obtain ⟨b1, b2⟩ := a3 _ hr.gas_le
      obtain ⟨e, hinv2⟩ := hinv1.resumeGas (Nat.lt_trans b1 hlt) b2
      exact (ih _ _ _ hinv2).lift (e.symm ▸ b1)
    · simp only [hcr, if_false]
      cases hk : execKind f.execFn with
      | some k =>
        simp only
        obtain ⟨a1, a3⟩ := call_acct hE hfr hpre hk _ rfl
        have hr := callWrap_sound (env := env) ih (k := k) (i := o t) (depth := fr.depth) (ro := fr.ro)
          (valueNZ := (k == .call || k == .callcode) && valueNZOf f (o t).args) (db := db1) (t := t + 1) (Nat.lt_trans a1 hlt)
        refine Sound.resume hev id ((hr.weaken (by simp +contextual)).lift a1) fun _ => ?_
        obtain ⟨b1, b2⟩ := a3 _ hr.gas_le
        obtain ⟨e, hinv2⟩ := hinv1.resumeGas (Nat.lt_trans b1 hlt) b2
        exact (ih _ _ _ hinv2).lift (e.symm ▸ b1)
      | none =>
        simp only
        cases hx : execLocal f (o t) (paidFrame fr f g ms) db1 t (eventOf fr (o t) f g ms) with
        | inl r =>
          simp only
          exact (execLocal_inl hx).sound (by omega) (by simpa using hev) (by simp; exact fun h => h)
        | inr db2 =>
          simp only
          obtain ⟨c1, c2, _⟩ := execLocal_inr hx
          have hc1 := continuing_costs hE (lookup_ok hl) hg c1 c2
          exact ((ih _ db2 (t + 1) hinv1).lift (by omega)).cons hev id

theorem run_sound {env : Env} (hE : EnvOK env) (o : Nat → StepIn W) : ∀ fuel, Child env fuel (run env o fuel)
  | 0 => fun _ _ _ _ => ⟨Nat.le_refl _, nofun, nofun, fun _ => nofun⟩
  | fuel + 1 => fun _ _ _ hfr => stepWith_sound hE o (run_sound hE o fuel) hfr

theorem preOrd_true : PreOrd (fun _ _ : W => True) := ⟨fun _ => trivial, fun _ _ => trivial⟩

theorem run_true (env : Env) (o : Nat → StepIn W) (fuel : Nat) : ChildReach (fun _ _ => True) 0 false (run env o fuel) :=
  run_reach preOrd_true env (s := false) (fun _ _ => ⟨fun _ => trivial, fun _ => ⟨fun _ => trivial, fun _ => trivial, fun _ => trivial,
    fun _ => trivial, fun _ => trivial, fun _ => trivial⟩⟩) nofun fuel

/-- what `Reach` gives of a wrapper's result `r` from `db`, as the C07 theorems read it; `back`: the world on an error (under `rules`) -/
structure WrapDb (db : Db W) (r : Res W) (rules : Prop) (back : W) : Prop where
  ext : Ext db r.db
  no_panic : r.out ≠ .panic
  reverts : rules → r.out.isErr = true → r.db.cur = back

/-- Call, CallCode, DelegateCall, StaticCall: on an error the world at entry -/
theorem call_db (env : Env) (o : Nat → StepIn W) (fuel : Nat) (k : CallKind) (i : StepIn W) (depth : Nat) (ro : Bool) (gas : Nat)
    (valueNZ : Bool) (db : Db W) (t : Nat) :
    WrapDb db (callWrap env (run env o fuel) k i depth ro gas valueNZ db t) True db.cur :=
  have h := callWrap_reach (env := env) preOrd_true (run_true env o fuel) k (i := i) (valueNZ := valueNZ)
    (fun _ _ _ => trivial) (fun _ => trivial) depth (ro := ro) nofun gas (db := db) (Nat.zero_le t)
  ⟨h.1.reach.ext, h.1.no_panic, fun _ => h.2⟩

/-- Create: on an error under Homestead rules the world at entry plus the creator's nonce bump, which a refusal precedes -/
theorem create_db (env : Env) (o : Nat → StepIn W) (fuel : Nat) (i : StepIn W) (depth : Nat) (ro : Bool) (gas : Nat)
    (db : Db W) (t : Nat) :
    WrapDb db (createWrap env (run env o fuel) i depth ro gas db t) (env.homestead = true)
      (if depth > callCreateDepth ∨ i.canTransfer = false then db.cur else i.nonceEff db.cur) := by
  have h := createWrap_reach (env := env) preOrd_true (run_true env o fuel) (i := i) (fun _ => trivial) (fun _ => trivial)
    depth (ro := ro) nofun gas (db := db) (Nat.zero_le t)
  refine ⟨Ext.trans ?_ h.1.reach.ext, h.1.no_panic, h.2⟩
  split
  · exact Ext.refl _
  · exact Ext.app _ _

/-- `static_no_write`, world level: under Byzantium rules a call from read-only context that does not itself carry value leaves
    every observation `view` of the world that the zero-value Call plumbing does not change -/
theorem call_view (env : Env) (hB : env.byzantium = true) (o : Nat → StepIn W) (view : W → V)
    (hN : ∀ t w, view ((o t).neutralEff w) = view w) (fuel : Nat) (k : CallKind) (i : StepIn W)
    (hNi : ∀ w, view (i.neutralEff w) = view w) (depth : Nat) (ro : Bool) (gas : Nat) (valueNZ : Bool) (db : Db W) (t : Nat)
    (hst : (ro || k == .static) = true) (hnv : (k == .call && valueNZ) = false) :
    view (callWrap env (run env o fuel) k i depth ro gas valueNZ db t).db.cur = view db.cur :=
  have hR : PreOrd (fun w w' => view w' = view w) := ⟨fun _ => rfl, fun h1 h2 => h2.trans h1⟩
  (callWrap_reach (n := 0) hR (run_reach hR env (s := true) (fun t _ => ⟨hN t, nofun⟩) (fun _ => hB) fuel) k
    (fun hk hv => by simp [hk, hv] at hnv) hNi depth (fun _ => hst) gas (Nat.zero_le t)).1.reach.cur

/-! ### `Good` at the three entry points, with the trivial `view` (the read-only clause for a real one is `call_view`) -/

theorem frame_good {env : Env} (hE : EnvOK env) (o : Nat → StepIn W) (fuel : Nat) {fr : Frame} {db : Db W} (t : Nat)
    (hfr : FrameInv fr) : Good env (fun _ => ()) fuel fr.gas fr.ro db (run env o fuel fr db t) :=
  have s := run_sound hE o fuel fr db t hfr
  have d := run_true env o fuel fr db t nofun (Nat.zero_le t)
  ⟨d.reach.ext, s.gas_le, d.no_panic, s.fuel_ok, s.events, fun _ _ => rfl⟩

theorem call_good {env : Env} (hE : EnvOK env) (o : Nat → StepIn W) (fuel : Nat) {k : CallKind} {i : StepIn W}
    {depth : Nat} {ro : Bool} {gas : Nat} {valueNZ : Bool} {db : Db W} {t : Nat} (hg : gas < two64) :
    Good env (fun _ => ()) fuel gas (ro || k == .static) db (callWrap env (run env o fuel) k i depth ro gas valueNZ db t) :=
  have s := callWrap_sound (run_sound hE o fuel) (k := k) (i := i) (depth := depth) (ro := ro) (valueNZ := valueNZ) (db := db) (t := t) hg
  have d := call_db env o fuel k i depth ro gas valueNZ db t
  ⟨d.ext, s.gas_le, d.no_panic, s.fuel_ok, s.events, fun _ _ => rfl⟩

theorem create_good {env : Env} (hE : EnvOK env) (o : Nat → StepIn W) (fuel : Nat) {i : StepIn W}
    {depth : Nat} {ro : Bool} {gas : Nat} {db : Db W} {t : Nat} (hg : gas < two64) :
    Good env (fun _ => ()) fuel gas ro db (createWrap env (run env o fuel) i depth ro gas db t) :=
  have s := createWrap_sound (run_sound hE o fuel) (i := i) (depth := depth) (ro := ro) (db := db) (t := t) hg
  have d := create_db env o fuel i depth ro gas db t
  ⟨d.ext, s.gas_le, d.no_panic, s.fuel_ok, s.events, fun _ _ => rfl⟩

end Aqv.Vm
