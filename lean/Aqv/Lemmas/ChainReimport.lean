/-
  Aqv.Lemmas.ChainReimport — re-feeding blocks to a chain whose head lags behind its store (the situation after a crash:
  property C04, clause "feeding the original blocks again converges").  Works on the chain model of C02/C03 (fork choice
  with the 130fc0e rule "a known block heavier than the head is re-imported"), but under a WEAKER invariant than C03's
  `Inv`: nothing is assumed about transaction lookups, canonical entries above the head, or the head being the heaviest
  stored block — exactly what a crash leaves open.
-/
import Aqv.Lemmas.ChainHist
namespace Aqv.Chain

variable {U : Map Blk}

/-- what a recovered archive image satisfies.  NOT assumed: head heaviest, lookups, canonical entries,
    LastHeader/LastFast. -/
structure WInv (U : Map Blk) (g : Blk) (s : St) : Prop where
  gen : s.genesis = g
  gnum : g.number = 0
  sub : StoreExt s.store U
  closed : Closed s
  tdOk : ∀ k x, s.store k = some x → ∃ t, s.td k = some t ∧ TDof U g x t
  headStored : ∃ hb, s.store s.head = some hb
  state : ∀ k x, s.store k = some x → s.hasState k = true

theorem WInv.ids (W : World U) {g : Blk} {s : St} (h : WInv U g s) {k : Nat} {x : Blk} (hx : s.store k = some x) :
    x.id = k := W.ids k x (h.sub k x hx)

theorem tdof_child {g : Blk} {s : St} (h : WInv U g s) {b p : Blk} {ptd : Nat}
    (hpar : parentOf s.store b = some p) (hptd : s.td b.parent = some ptd) : TDof U g b (ptd + b.diff) := by
  obtain ⟨t, ht, htd⟩ := h.tdOk _ _ (parentOf_some hpar).1
  rw [hptd] at ht; cases ht
  exact htd.child (parentOf_mono h.sub hpar)

theorem td_upd_stored {g : Blk} {s : St} (h : WInv U g s) {b p : Blk} {ptd : Nat}
    (hbU : U b.id = some b) (hpar : parentOf s.store b = some p) (hptd : s.td b.parent = some ptd) {k : Nat} {x : Blk}
    (hx : s.store k = some x) : upd s.td b.id (some (ptd + b.diff)) k = s.td k := by
  by_cases hk : k = b.id
  · subst hk
    have hxb : x = b := by
      have := h.sub _ _ hx
      rw [hbU] at this; cases this; rfl
    subst hxb
    obtain ⟨t, ht, htd⟩ := h.tdOk _ _ hx
    rw [upd_same, ht, (tdof_child h hpar hptd).unique htd]
  · exact upd_other _ _ _ _ hk

structure Wrote (s s' : St) (b : Blk) (ptd : Nat) : Prop where
  store : s'.store = upd s.store b.id (some b)
  td : s'.td = upd s.td b.id (some (ptd + b.diff))
  hasState : s'.hasState = updB s.hasState b.id true
  genesis : s'.genesis = s.genesis
  head : s'.head = b.id ∨ s'.head = s.head

theorem wbws_weak {g : Blk} {s : St} (h : WInv U g s) {b p : Blk} (hbU : U b.id = some b)
    (hpar : parentOf s.store b = some p) (coin : Bool) :
    ∃ s' ptd lt, writeBlockWithState s b coin = ⟨s', none⟩ ∧ s.td b.parent = some ptd ∧ s.td s.head = some lt ∧
      Wrote s s' b ptd ∧ ForkChoice s.head s'.head b (ptd + b.diff) lt := by
  obtain ⟨hps, _⟩ := parentOf_some hpar
  obtain ⟨ptd, hptd, _⟩ := h.tdOk _ _ hps
  obtain ⟨hb, hhs⟩ := h.headStored
  obtain ⟨lt, hlt, _⟩ := h.tdOk _ _ hhs
  -- no error: the parent's record, the head block and its record exist, and the store is ancestor-closed
  have herr : (writeBlockWithState s b coin).err = none := by
    cases he : (writeBlockWithState s b coin).err with
    | none => rfl
    | some e =>
      rcases wbws_err_eq he with ⟨_, _, ⟨hn, _⟩ | hn | hn⟩ | ⟨rfl, _⟩
      · rw [hptd] at hn; cases hn
      · rw [hhs] at hn; cases hn
      · rw [hlt] at hn; cases hn
      · exact absurd he (wbws_no_reorgFail h.sub h.closed (h.gen ▸ h.gnum) hbU hpar coin)
  obtain ⟨ptd, lt, hptd, hlt, _, _, _, _, _, e, hc⟩ := wbws_ok_eq herr
  refine ⟨_, ptd, lt, by rw [← herr], hptd, hlt, ?_⟩
  rw [e]
  exact ⟨⟨rfl, rfl, rfl, rfl, hc.imp And.left And.left⟩, hc⟩

theorem winv_wrote (W : World U) {g : Blk} {s s' : St} (h : WInv U g s) {b p : Blk} {ptd lt : Nat}
    (hbU : U b.id = some b) (hpar : parentOf s.store b = some p) (hptd : s.td b.parent = some ptd)
    (hlt : s.td s.head = some lt) (hw : Wrote s s' b ptd)
    (hhead : ForkChoice s.head s'.head b (ptd + b.diff) lt) :
    WInv U g s' ∧ StoreExt s.store s'.store ∧ s'.store b.id = some b ∧
      (∀ k x, s'.store k = some x → s.store k = some x ∨ x = b) ∧
      ∃ th, s'.td s'.head = some th ∧ lt ≤ th ∧ ptd + b.diff ≤ th := by
  obtain ⟨hext, hsubU⟩ := storeExt_updK h.sub hbU
  have hstore' : ∀ k x, s'.store k = some x → s.store k = some x ∨ x = b := fun k x hx =>
    upd_some_cases (hw.store ▸ hx)
  have hid : ∀ k x, s'.store k = some x → k = x.id := fun k x hx =>
    (W.ids k x (hsubU k x (hw.store ▸ hx))).symm
  have hbs : s'.store b.id = some b := by rw [hw.store]; simp
  have htdb : s'.td b.id = some (ptd + b.diff) := by rw [hw.td]; simp
  have htdk : ∀ k x, s.store k = some x → s'.td k = s.td k := fun k x hx => by
    rw [hw.td]; exact td_upd_stored h hbU hpar hptd hx
  have hclosed : Closed s' := by
    intro k x hx
    rw [hw.genesis]
    rw [hw.store] at hx ⊢
    exact closed_upd h.closed hpar hext (fun _ _ => upd_some_cases) k x hx
  refine ⟨⟨by rw [hw.genesis]; exact h.gen, h.gnum, by rw [hw.store]; exact hsubU, hclosed, ?_, ?_, ?_⟩,
    by rw [hw.store]; exact hext, hbs, hstore', ?_⟩
  · intro k x hx
    rcases hstore' k x hx with hx' | rfl
    · obtain ⟨t, ht, htd⟩ := h.tdOk k x hx'
      exact ⟨t, by rw [htdk k x hx']; exact ht, htd⟩
    · obtain rfl := hid k x hx
      exact ⟨_, htdb, tdof_child h hpar hptd⟩
  · rcases hw.head with hh | hh
    · exact ⟨b, by rw [hh]; exact hbs⟩
    · obtain ⟨hb, hhs⟩ := h.headStored
      exact ⟨hb, by rw [hh, hw.store]; exact hext _ _ hhs⟩
  · intro k x hx
    rw [hw.hasState]
    rcases hstore' k x hx with hx' | rfl
    · exact updB_true_of _ _ _ (h.state k x hx')
    · obtain rfl := hid k x hx
      simp [updB]
  · obtain ⟨hb, hhs⟩ := h.headStored
    rw [hw.td]
    exact hhead.headTd ((td_upd_stored h hbU hpar hptd hhs).trans hlt)

theorem importOne_weak (W : World U) {g : Blk} {s : St} (h : WInv U g s) {b p : Blk} (hbU : U b.id = some b)
    (hpar : parentOf s.store b = some p) (coins : List Bool) :
    ∃ s', importOne s b coins = ⟨s', none⟩ ∧ WInv U g s' ∧ StoreExt s.store s'.store ∧ s'.store b.id = some b ∧
      (∀ k x, s'.store k = some x → s.store k = some x ∨ x = b) ∧
      ∃ lt th tb, s.td s.head = some lt ∧ s'.td s'.head = some th ∧ TDof U g b tb ∧ lt ≤ th ∧ tb ≤ th := by
  obtain ⟨hps, hpn⟩ := parentOf_some hpar
  obtain ⟨hb, hhs⟩ := h.headStored
  obtain ⟨lt, hlt, _⟩ := h.tdOk _ _ hhs
  have hpstate : s.hasState b.parent = true := h.state _ _ hps
  -- the header check: parent and (above height 1) grandparent are stored
  have hhc : headerCheck s.store b = none := headerCheck_none_iff.mpr ⟨p, hpar, fun hgt => by
    obtain ⟨l, hl⟩ := h.closed _ _ hps
    cases hl with
    | nil =>
      have : s.genesis.number = 0 := by rw [h.gen]; exact h.gnum
      omega
    | cons hpp _ => exact ⟨_, hpp⟩⟩
  have hkp : known s b.parent = true := by
    unfold known
    rw [hps, hpstate]; rfl
  -- of the ways through the loop body two are left: the block is skipped (stored, not heavier than the head) or written
  have hc := importOne_cases s b coins
  generalize importOne s b coins = o at hc
  cases hc with
  | skipped hlt' hk hnh =>
    rw [hlt] at hlt'; cases hlt'
    obtain ⟨x, hx⟩ : ∃ x, s.store b.id = some x := by
      unfold known at hk
      simp only [Bool.and_eq_true] at hk
      exact Option.isSome_iff_exists.mp hk.1
    have hxb : x = b := by have := h.sub _ _ hx; rw [hbU] at this; cases this; rfl
    subst hxb
    obtain ⟨tb, htb, htd⟩ := h.tdOk _ _ hx
    have hle : tb ≤ lt := by
      unfold heavierThan at hnh
      rw [htb] at hnh
      simpa using hnh
    exact ⟨s, rfl, h, fun _ _ hx => hx, hx, fun k x hx => .inl hx, lt, lt, tb, hlt, hlt, htd, Nat.le_refl _, hle⟩
  | write _ _ =>
    obtain ⟨s', ptd', lt', he', hptd', hlt', hw, hhead⟩ := wbws_weak h hbU hpar (coins.headD false)
    obtain ⟨h1, h2, h3, h4, th, hth, hle1, hle2⟩ := winv_wrote W h hbU hpar hptd' hlt' hw hhead
    exact ⟨s', he', h1, h2, h3, h4, lt', th, _, hlt', hth, tdof_child h hpar hptd', hle1, hle2⟩
  | refused he => rw [hhc] at he; cases he
  | noHead hn =>
    rcases hn with hn | hn
    · rw [hhs] at hn; cases hn
    · rw [hlt] at hn; cases hn
  | missingState _ hps' => rw [hpstate] at hps'; cases hps'
  -- the side-chain branch needs a parent without state
  | noParentTd hkp' | withoutState hkp' | orphan hkp' | winnersFailed hkp' | winners hkp' => rw [hkp] at hkp'; cases hkp'

/-- the blocks arrive parents first (relative to what is stored) -/
def POrder (store : Map Blk) : List Blk → Prop
  | [] => True
  | b :: rest => (∃ p, parentOf store b = some p) ∧ POrder (upd store b.id (some b)) rest

theorem POrder.mono : ∀ {l : List Blk} {store store' : Map Blk}, StoreExt store store' → POrder store l → POrder store' l
  | [], _, _, _, _ => trivial
  | b :: rest, store, store', he, ⟨⟨p, hp⟩, hr⟩ => by
    refine ⟨⟨p, parentOf_mono he hp⟩, POrder.mono ?_ hr⟩
    intro k x hx
    by_cases hk : k = b.id
    · subst hk; simpa using hx
    · rw [upd_other _ _ _ _ hk] at hx ⊢; exact he _ _ hx

theorem importSeq_weak (W : World U) {g : Blk} : ∀ (l : List Blk) {s : St}, WInv U g s → (∀ b ∈ l, U b.id = some b) →
    POrder s.store l → ∀ (coins : List (List Bool)) (i : Nat),
    ∃ s', (importSeq s l coins i).1 = ⟨s', none⟩ ∧ WInv U g s' ∧ StoreExt s.store s'.store ∧
      (∀ k x, s'.store k = some x → s.store k = some x ∨ x ∈ l) ∧
      ∃ lt th, s.td s.head = some lt ∧ s'.td s'.head = some th ∧ lt ≤ th ∧
        ∀ b ∈ l, ∃ tb, TDof U g b tb ∧ tb ≤ th := by
  intro l
  induction l with
  | nil =>
    intro s h _ _ coins i
    obtain ⟨hb, hhs⟩ := h.headStored
    obtain ⟨lt, hlt, _⟩ := h.tdOk _ _ hhs
    exact ⟨s, rfl, h, fun _ _ hx => hx, fun k x hx => .inl hx, lt, lt, hlt, hlt, Nat.le_refl _, by simp⟩
  | cons b rest ih =>
    intro s h hU hord coins i
    obtain ⟨⟨p, hpar⟩, hrest⟩ := hord
    obtain ⟨s1, he1, h1, hext1, hb1, hsub1, lt, th1, tb, hlt, hth1, htb, hle1, hle2⟩ :=
      importOne_weak W h (hU b (by simp)) hpar (coins.headD [])
    have hord1 : POrder s1.store rest := by
      refine POrder.mono ?_ hrest
      intro k x hx
      by_cases hk : k = b.id
      · subst hk; simp at hx; subst hx; exact hb1
      · rw [upd_other _ _ _ _ hk] at hx; exact hext1 _ _ hx
    obtain ⟨s2, he2, h2, hext2, hsub2, lt2, th2, hlt2, hth2, hle3, hall⟩ :=
      ih h1 (fun b' hb' => hU b' (List.mem_cons_of_mem _ hb')) hord1 coins.tail (i + 1)
    rw [hth1] at hlt2; cases hlt2
    refine ⟨s2, ?_, h2, fun k x hx => hext2 _ _ (hext1 _ _ hx), ?_, lt, th2, hlt, hth2, by omega, ?_⟩
    · unfold importSeq
      simp only [he1]
      exact he2
    · -- the store grows by the fed blocks only
      intro k x hx
      rcases hsub2 k x hx with hx' | hx'
      · rcases hsub1 k x hx' with hx'' | rfl
        · exact .inl hx''
        · exact .inr (by simp)
      · exact .inr (List.mem_cons_of_mem _ hx')
    · intro b' hb'
      rcases List.mem_cons.mp hb' with rfl | hb'
      · exact ⟨tb, htb, by omega⟩
      · exact hall b' hb'

/-- **Re-import converges.**  `s` is any weakly invariant state (what recovery exposes after a crash); `ops` is the
    crash-free history (imports and restarts from genesis) in which every block of the universe got fully validated.
    Feeding all blocks again, parents first, never fails and ends with a head of exactly the crash-free head's total
    difficulty; when total difficulties are injective on the universe (no exact tie) it is the same head. -/
theorem refeed_matches_crashfree (W : World U) (g : Blk) (hgU : U g.id = some g) (hg0 : g.number = 0) (hgt : g.txs = [])
    {s : St} (h : WInv U g s) (L : List Blk) (hLU : ∀ b ∈ L, U b.id = some b)
    (hcover : ∀ k x, U k = some x → x = g ∨ x ∈ L) (hord : POrder s.store L) (coins : List (List Bool)) (i : Nat)
    (archive : Bool) (ops : List Op) (hops : ∀ op ∈ ops, IsImport op ∧ OpOk U (init g archive) op)
    (hall : ∀ k x, U k = some x → (run (init g archive) ops).seen k = true) :
    ∃ s', (importSeq s L coins i).1 = ⟨s', none⟩ ∧ WInv U g s' ∧
      s'.td s'.head = (run (init g archive) ops).td (run (init g archive) ops).head ∧
      ((∀ x y t, U x.id = some x → U y.id = some y → TDof U g x t → TDof U g y t → x = y) →
        s'.head = (run (init g archive) ops).head) := by
  obtain ⟨s', he, h', _, _, lt, th', _, hth', _, hall'⟩ := importSeq_weak W L h hLU hord coins i
  obtain ⟨_, hG⟩ := imports_admissible W ops (good_init g archive hgU hg0 hgt) hops
  obtain ⟨hbs, C, hI⟩ := hG.inv
  obtain ⟨ths, hths, _⟩ := hG.headTdGe
  obtain ⟨hb', hhs'⟩ := h'.headStored
  have hb'U : U s'.head = some hb' := h'.sub _ _ hhs'
  have hid' : hb'.id = s'.head := W.ids _ _ hb'U
  obtain ⟨t', ht', htd'⟩ := h'.tdOk _ _ hhs'
  rw [hth'] at ht'; cases ht'
  have hbsU : U (run (init g archive) ops).head = some hbs := hI.sub _ _ hI.headStored
  have hids : hbs.id = (run (init g archive) ops).head := W.ids _ _ hbsU
  have hT : TdIntr U g (run (init g archive) ops).td := by
    have := hI.tdIntr
    rwa [hG.gen] at this
  have htds : TDof U g hbs ths := (hT _ _ hths).tdof hbsU
  -- ≤ : the refeed head was fully validated in the crash-free run, whose head is maximal
  have hle : th' ≤ ths := by
    have hseen := hall _ _ hb'U
    obtain ⟨t, ht⟩ := Option.isSome_iff_exists.mp (hG.seenTd _ hseen)
    have hle := le_headTd (hG.headMax _ _ hseen ht) hths
    have : t = th' := ((hT _ _ ht).tdof hb'U).unique htd'
    omega
  -- ≥ : the crash-free head is the genesis block or one of the fed blocks
  have hge : ths ≤ th' := by
    rcases hcover _ _ hbsU with hg | hL
    · have : ths = g.diff := by
        rw [hg] at htds
        exact htds.unique ⟨[], .nil g, by simp [diffSum]⟩
      rw [this]; exact htd'.ge_genesis
    · obtain ⟨tb, htb, hle⟩ := hall' _ hL
      rw [htds.unique htb]; exact hle
  have heq : th' = ths := by omega
  refine ⟨s', he, h', by rw [hth', hths, heq], fun hinj => ?_⟩
  have := hinj hb' hbs th' (by rw [hid']; exact hb'U) (by rw [hids]; exact hbsU) htd' (by rw [heq]; exact htds)
  rw [← hid', ← hids, this]

end Aqv.Chain
