/-
  Aqv.Lemmas.TxPoolCount — the counting argument behind "no limit binds while the pool is small":
  `accts` and `all` are duplicate-free, hence every list length and both pool-wide counters are bounded by the size of any
  list that contains everything pooled (`count_le`).  With it the reorg clause for every sender: while what is pooled and what
  is re-injected fit every limit (`Room`, `Fits`), no eviction happens during a reset (`reset_reinjects`).
-/
import Aqv.Lemmas.TxPoolReorg
namespace Aqv.TxPool

/-- `accts` and `all` model Go maps -/
def ND (s : Pool) : Prop := s.accts.Nodup ∧ s.all.Nodup

theorem insertAll_nodup {t : Tx} {l : List Tx} (h : l.Nodup) : (insertAll t l).Nodup := by
  unfold insertAll; split
  · exact h
  · rename_i hn; exact List.nodup_cons.mpr ⟨hn, h⟩

theorem withAcct_nodup {a : Addr} {l : List Addr} (h : l.Nodup) : (withAcct a l).Nodup := by
  unfold withAcct; split
  · exact h
  · rename_i hn; exact List.nodup_cons.mpr ⟨hn, h⟩

theorem allPut_nodup {t : Tx} {old : Option Tx} {l : List Tx} (h : l.Nodup) : (allPut t old l).Nodup := by
  cases old with
  | none => exact insertAll_nodup h
  | some o => exact insertAll_nodup (h.filter _)

theorem enqueueTx_nd {s : Pool} (t : Tx) (h : ND s) : ND (s.enqueueTx t).2.2 := by
  cases hins : ((s.queue t.sender).add t s.cfg.priceBump).1 with
  | false => rw [enqueueTx_refused hins]; exact h
  | true => rw [enqueueTx_inserted hins]; exact ⟨withAcct_nodup h.1, allPut_nodup h.2⟩

theorem promoteTx_nd {s : Pool} (a : Addr) (t : Tx) (h : ND s) : ND (s.promoteTx a t) := by
  cases hins : ((s.pending a).add t s.cfg.priceBump).1 with
  | false => rw [promoteTx_refused hins]; exact ⟨h.1, h.2.filter _⟩
  | true => rw [promoteTx_inserted hins]; exact ⟨withAcct_nodup h.1, allPut_nodup h.2⟩

theorem enqueueAll_nd {s : Pool} (us : List Tx) (h : ND s) : ND (enqueueAll s us) :=
  foldl_pres ND _ (fun _ u hs => enqueueTx_nd u hs) us s h

theorem promoteAll_nd {s : Pool} (a : Addr) (ts : List Tx) (h : ND s) : ND (promoteAll s a ts) :=
  foldl_pres ND _ (fun _ t hs => promoteTx_nd a t hs) ts s h

theorem lowerN_nd {s : Pool} (a : Addr) (n : Nat) (h : ND s) : ND (lowerN s a n) := by
  rw [lowerN_eq]; exact h

theorem removeTx_nd {s : Pool} (t : Tx) (h : ND s) : ND (s.removeTx t) := by
  have h1 : ND ({ s with all := delAll t s.all } : Pool) := ⟨h.1, h.2.filter _⟩
  rw [removeTx_eq]
  split
  · exact h
  · split
    · exact lowerN_nd _ _ (enqueueAll_nd _ h1)
    · exact h1

theorem capOne_nd {s : Pool} (a : Addr) (h : ND s) : ND (s.capOne a) :=
  ⟨(capOne_facts s a).accts ▸ h.1, capOne_all s a ▸ h.2.filter _⟩

theorem promoteAcct_nd {s : Pool} (a : Addr) (h : ND s) : ND (s.promoteAcct a) := by
  rw [promoteAcct_eq]
  have h3 : ND (paS3 s a) := ⟨h.1, (h.2.filter _).filter _⟩
  have h4 : ND (paS4 s a) := promoteAll_nd a _ h3
  have h5 : ND (paS5 s a) := by
    unfold paS5; simp only; split
    · exact ⟨h4.1, h4.2.filter _⟩
    · exact h4
  exact h5

theorem demoteAcct_nd (g : Bool) {s : Pool} (a : Addr) (h : ND s) : ND (s.demoteAcct g a) := by
  rw [demoteAcct_eq]
  have h3 : ND (dS3 s a) := ⟨h.1, (h.2.filter _).filter _⟩
  have h4 : ND (dS4 s a) := enqueueAll_nd _ h3
  have h5 : ND (dS5 g s a) := h4
  have h6 : ND (dS6 g s a) := enqueueAll_nd _ h5
  exact h6

theorem addClosed_nd : AddClosed ND :=
  { rem := fun _ t h => removeTx_nd t h
    cap := fun _ a h => capOne_nd a h
    acct := fun _ a h => promoteAcct_nd a h
    replace := fun _ _ h _ _ _ _ => ⟨h.1, allPut_nodup h.2⟩
    enqueue := fun _ t h _ _ => enqueueTx_nd t h
    locals := fun _ _ h => h }

theorem sumLen_eq_flatMap (f : Addr → TxL) (as : List Addr) : sumLen f as = (as.flatMap (fun a => (f a).items)).length := by
  rw [List.length_flatMap]; rfl

theorem flatMap_nodup {f : Addr → TxL} {as : List Addr} (hnd : as.Nodup) (hs : ∀ a, Sorted (f a).items)
    (hown : ∀ a, ∀ t ∈ (f a).items, t.sender = a) : (as.flatMap (fun a => (f a).items)).Nodup := by
  rw [List.nodup_iff_pairwise_ne, List.pairwise_flatMap]
  refine ⟨fun a _ => List.nodup_iff_pairwise_ne.mp (hs a).nodup, ?_⟩
  exact List.Pairwise.imp (fun {a b} hab x hx y hy e => by
    subst e; exact hab ((hown a x hx).symm.trans (hown b x hy))) (List.nodup_iff_pairwise_ne.mp hnd)

def Within (A : List Tx) (s : Pool) : Prop := ∀ u, s.pooled u → u ∈ A

theorem count_le {A : List Tx} {s : Pool} (hw : WeakAll s) (ha : AllOK s) (hnd : ND s) (hin : Within A s) :
    s.pendingCount ≤ A.length ∧ s.queuedCount ≤ A.length ∧ (∀ a, (s.queue a).items.length ≤ A.length) ∧
    s.all.length ≤ A.length := by
  refine ⟨?_, ?_, fun a => ?_, ?_⟩
  · unfold Pool.pendingCount
    rw [sumLen_eq_flatMap]
    apply List.Nodup.length_le_of_subset (flatMap_nodup hnd.1 (fun a => (hw.weak a).psorted) (fun a => (hw.weak a).powner))
    intro x hx
    obtain ⟨a, _, hxa⟩ := List.mem_flatMap.mp hx
    exact hin x (by rw [pooled_iff, (hw.weak a).powner x hxa]; exact Or.inl hxa)
  · unfold Pool.queuedCount
    rw [sumLen_eq_flatMap]
    apply List.Nodup.length_le_of_subset (flatMap_nodup hnd.1 (fun a => (hw.weak a).qsorted) (fun a => (hw.weak a).qowner))
    intro x hx
    obtain ⟨a, _, hxa⟩ := List.mem_flatMap.mp hx
    exact hin x (by rw [pooled_iff, (hw.weak a).qowner x hxa]; exact Or.inr hxa)
  · apply List.Nodup.length_le_of_subset (hw.weak a).qsorted.nodup
    intro x hx
    exact hin x (by rw [pooled_iff, (hw.weak a).qowner x hx]; exact Or.inr hx)
  · apply List.Nodup.length_le_of_subset hnd.2
    intro x hx
    exact hin x ((ha x).mp hx)

/-- `B` is the view-switched pool, `A` a list containing everything that is or will be pooled -/
structure Room (B : Pool) (A : List Tx) (m : Pool) : Prop where
  inv    : LoopInv B m
  nd     : ND m
  within : Within A m

structure Fits (B : Pool) (A : List Tx) : Prop where
  pos : 1 ≤ A.length
  aq  : A.length ≤ B.cfg.accountQueue
  gq  : A.length ≤ B.cfg.globalQueue
  gs  : A.length ≤ B.cfg.globalSlots

structure Slack (m : Pool) : Prop where
  slots     : m.pendingCount ≤ m.cfg.globalSlots
  queue     : m.queuedCount ≤ m.cfg.globalQueue
  acctQueue : ∀ a, (m.queue a).items.length ≤ m.cfg.accountQueue
  notFull   : m.all.length < m.cfg.globalSlots + m.cfg.globalQueue

theorem Room.slack {B : Pool} {A : List Tx} {m : Pool} (h : Room B A m) (hf : Fits B A) : Slack m := by
  obtain ⟨c1, c2, c3, c4⟩ := count_le h.inv.wa.1 h.inv.wa.2 h.nd h.within
  have := hf.pos; have := hf.aq; have := hf.gq; have := hf.gs
  constructor <;> rw [h.inv.env.cfg]
  · omega
  · omega
  · exact fun a => by have := c3 a; omega
  · omega

theorem paCap_room {s : Pool} (a : Addr) (hwa : Weak (s.pending a) (s.queue a) a)
    (hcap : (s.queue a).items.length ≤ s.cfg.accountQueue) : (paReady s a).2.length ≤ paCap s a := by
  have hq := paq s a hwa
  have hlen : (paReady s a).2.length ≤ (s.queue a).items.length := by
    apply List.Nodup.length_le_of_subset
    · exact hq.restsorted.nodup
    · intro x hx; exact (hq.q2sub x (hq.restsub x hx)).1
  by_cases hl : a ∈ s.locals
  · rw [paCap_local hl]
    exact Nat.le_refl _
  · rw [paCap_nonlocal hl]
    omega

def RoomFor (B : Pool) (A : List Tx) (u : Tx) (m : Pool) : Prop := Room B A m ∧ m.pooled u

theorem promoteExecutables_room {B : Pool} {A : List Tx} {u : Tx} (hf : Fits B A) (hv : ValidIn B u) (m : Pool)
    (accounts : Option (List Addr)) (slots qorder : List Addr) (h : RoomFor B A u m) :
    RoomFor B A u (m.promoteExecutables accounts slots qorder) := by
  rw [promoteExecutables_eq]
  have h1 : RoomFor B A u ((accounts.getD m.accts).foldl (fun s a => s.promoteAcct a) m) := by
    apply foldl_pres (RoomFor B A u) _ _ _ m h
    intro m a ⟨hm, hp⟩
    exact ⟨{ inv := (closed_loopInv B).acct m a hm.inv, nd := promoteAcct_nd a hm.nd
             within := fun w hw => hm.within w (promoteAcct_nonew a hm.inv.wa.1 w hw) },
      promoteAcct_keeps a hm.inv.wa.1 hp (hv.env hm.inv.env)
        (fun _ => paCap_room a (hm.inv.wa.1.weak a) ((hm.slack hf).acctQueue a))⟩
  generalize (accounts.getD m.accts).foldl (fun s a => s.promoteAcct a) m = m1 at h1 ⊢
  rw [slotEvict_id slots (h1.1.slack hf).slots, queueEvict_id qorder (h1.1.slack hf).queue]
  exact h1

theorem demoteAcct_room (g : Bool) {B : Pool} {A : List Tx} {u : Tx} (hv : ValidIn B u) (m : Pool) (a : Addr)
    (h : RoomFor B A u m) : RoomFor B A u (m.demoteAcct g a) := by
  obtain ⟨hm, hp⟩ := h
  have hf := demoteAcct_facts g a hm.inv.wa.1
  exact ⟨{ inv := hm.inv.touch hf.touch ⟨hf.weak, demoteAcct_allok g a hm.inv.wa.1 hm.inv.wa.2⟩
           nd := demoteAcct_nd g a hm.nd
           within := fun w hw => hm.within w (demoteAcct_nonew g a hm.inv.wa.1 w hw) },
    demoteAcct_keeps g a hm.inv.wa.1 hp (hv.env hm.inv.env)⟩

theorem RoomFor.pnonce {B : Pool} {A : List Tx} {u : Tx} (m : Pool) (f : Addr → Nat) (h : RoomFor B A u m) :
    RoomFor B A u { m with pnonce := f } :=
  have hinv : LoopInv B { m with pnonce := f } :=
    { wa := h.1.inv.wa
      locals := h.1.inv.locals
      env := h.1.inv.env.trans ⟨rfl, rfl, rfl, rfl⟩
      gasPrice := h.1.inv.gasPrice }
  ⟨{ inv := hinv, nd := h.1.nd, within := h.1.within }, h.2⟩

theorem add_room {B : Pool} {A : List Tx} {m : Pool} (x : Tx) (sh : Shape) (vs : List Tx) (h : Room B A m) (hx : x ∈ A) :
    Room B A (m.add x false sh vs).2.2 :=
  { inv := add_loopInv x sh vs h.inv
    nd := add_pres addClosed_nd m x false sh vs h.nd
    within := fun w hw => by
      rcases add_sub x false sh vs h.inv.wa.1 w hw with e | hp
      · exact e ▸ hx
      · exact h.within w hp }

/-- C15 `reorg_reinjects`: with `hroom` the pool never fills up and no limit binds during the reset -/
theorem reset_reinjects (g : Bool) (s : Pool) (v : View) (oldNum newNum : Nat) (disc inc : List Tx) (o : ResetOracle)
    (hwa : WA s) (hnd : ND s)
    (hdepth : (if oldNum ≤ newNum then newNum - oldNum else oldNum - newNum) ≤ 64)
    (t : Tx) (ht : t ∈ txDifference disc inc)
    (hval : (s.atView v).validateTx t false .wellformed = .ok)
    (hfresh : Fresh s (txDifference disc inc)) (hdistinct : (txDifference disc inc).Pairwise SlotNe)
    (hroom : (s.all ++ txDifference disc inc).length ≤ s.cfg.accountQueue ∧
             (s.all ++ txDifference disc inc).length ≤ s.cfg.globalQueue ∧
             (s.all ++ txDifference disc inc).length ≤ s.cfg.globalSlots) :
    (s.reset g v oldNum newNum true disc inc o).pooled t := by
  have hfit : Fits (s.atView v)
      (s.all ++ txDifference disc inc) :=
    ⟨by rw [List.length_append]; have := List.length_pos_of_mem ht; omega, hroom.1, hroom.2.1, hroom.2.2⟩
  have hvalid := validate_ok hval
  exact (reset_reinjects_of (J := Room _ (s.all ++ txDifference disc inc)) (K := RoomFor _ _ t) rfl hdepth ht hval hfresh
    hdistinct
    (hJ := fun _ hm => hm.inv)
    (h0 := { inv := ⟨hwa, rfl, SameEnv.refl _, rfl⟩, nd := hnd
             within := fun u hu => List.mem_append_left _ ((hwa.2 u).mpr hu) })
    (hadd := fun m x vs hm hx => add_room x _ vs hm (List.mem_append_right _ hx))
    (hfull := fun m hm hf _ => by
      -- with room the pool is never full
      have := (hm.slack hfit).notFull
      omega)
    (hdisc := fun m vs hm hp => by
      -- nor does it discard
      rw [afterDiscard_id vs (hm.slack hfit).notFull]
      exact hp)
    (hK := fun _ => And.intro)
    (hpe := promoteExecutables_room hfit hvalid)
    (hde := demoteAcct_room g hvalid)
    (hn := RoomFor.pnonce)).2

end Aqv.TxPool
