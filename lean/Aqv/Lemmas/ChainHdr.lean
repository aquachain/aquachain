/-
  Aqv.Lemmas.ChainHdr — the header chain (`HeaderChain.WriteHeader`, `InsertHeaderChain`, `SetHead` on a chain without
  blocks).  The invariant `HInvC`: number index = ancestry of the header head, nothing above (`IdxC` of `ChainIndex`), td
  records intrinsic.  An import is followed through the relation `HStep`, which also carries the C02 facts (the header head
  stays a heaviest header when the import returns no error, as it always does on an ancestor-closed store; its total
  difficulty never decreases).  The unwinding loop of `SetHead` is that of the block chain on the header tables (`St.hdr`,
  `hunwind_hdr`), so `hinv_setHead` rests on `unwind_spec` and `IdxC.rewind`.
-/
import Aqv.Lemmas.ChainRewind
import Aqv.Lemmas.ChainWorld
namespace Aqv.Chain

structure HInvC (U : Map Blk) (s : HSt) (hb : Blk) (C : List Blk) : Prop where
  sub : StoreExt s.store U
  headStored : s.store s.hhead = some hb
  path : Path s.store hb C s.genesis
  canon : ∀ n i, s.canon n = some i ↔ ∃ x ∈ C ++ [s.genesis], x.number = n ∧ x.id = i
  tdIntr : ∀ k t, s.td k = some t →
    ∃ x l, U k = some x ∧ Path U x l s.genesis ∧ t = s.genesis.diff + diffSum l
  storeTd : ∀ k x, s.store k = some x → (s.td k).isSome = true
  genNum : s.genesis.number = 0

def HInv (U : Map Blk) (s : HSt) : Prop := ∃ hb C, HInvC U s hb C

def HMax (s : HSt) : Prop := ∀ k t, s.td k = some t → ∃ th, s.td s.hhead = some th ∧ t ≤ th

def HClosed (s : HSt) : Prop := AncClosed s.store s.genesis

namespace HInvC
variable {U : Map Blk} {s : HSt} {hb : Blk} {C : List Blk}

theorem headId (W : World U) (h : HInvC U s hb C) : hb.id = s.hhead := W.ids _ _ (h.sub _ _ h.headStored)

theorem toIdxC (W : World U) (h : HInvC U s hb C) : IdxC U s.store s.genesis s.canon hb C :=
  { sub := h.sub, headStored := by rw [h.headId W]; exact h.headStored, path := h.path, canon := h.canon,
    genNum := h.genNum }

theorem ofIdx (hI : IdxC U s.store s.genesis s.canon hb C) (hh : s.hhead = hb.id) (htd : TdIntr U s.genesis s.td)
    (hst : ∀ k x, s.store k = some x → (s.td k).isSome = true) : HInvC U s hb C :=
  { sub := hI.sub, headStored := by rw [hh]; exact hI.headStored, path := hI.path, canon := hI.canon, tdIntr := htd,
    storeTd := hst, genNum := hI.genNum }

theorem genStored (W : World U) (h : HInvC U s hb C) : s.store s.genesis.id = some s.genesis :=
  (h.toIdxC W).genStored W

theorem canonHead (h : HInvC U s hb C) : s.canon hb.number = some hb.id :=
  (h.canon _ _).mpr ⟨hb, h.path.head_mem, rfl, rfl⟩

theorem tdStrict (W : World U) (h : HInvC U s hb C) {x : Blk} (hx : x ∈ C ++ [s.genesis]) (hne : x ≠ hb) {tx th : Nat}
    (htx : s.td x.id = some tx) (hth : s.td hb.id = some th) : tx < th := by
  have hI := h.toIdxC W
  obtain ⟨O, R, _, hO, _⟩ := hI.splitAt hx
  have hOne : O ≠ [] := by
    rintro rfl
    cases hO
    exact hne rfl
  exact td_lt_of_path W h.tdIntr (h.sub _ _ hI.headStored) (h.sub _ _ (hI.chainStored W x hx)) (hO.mono h.sub) hOne
    hth htx

end HInvC

theorem hinvC_init {U : Map Blk} (g : Blk) (hgU : U g.id = some g) (hg0 : g.number = 0) : HInvC U (hinit g) g [] where
  sub := fun k x hx => by
    obtain ⟨rfl, rfl⟩ := upd_empty_some.mp hx
    exact hgU
  headStored := by simp [hinit]
  path := .nil _
  canon := fun n i => by
    simp only [hinit, List.nil_append, List.mem_singleton, upd_empty_some]
    constructor
    · rintro ⟨rfl, rfl⟩; exact ⟨g, rfl, hg0, rfl⟩
    · rintro ⟨x, rfl, hxn, hxi⟩; exact ⟨by omega, hxi⟩
  tdIntr := tdIntr_init hgU
  storeTd := fun k x hx => by
    obtain ⟨rfl, _⟩ := upd_empty_some.mp hx
    simp [hinit]
  genNum := hg0

theorem hmax_init (g : Blk) : HMax (hinit g) := by
  intro k t hk
  obtain ⟨rfl, rfl⟩ := upd_empty_some.mp hk
  exact ⟨g.diff, by simp [hinit], Nat.le_refl _⟩

theorem hclosed_init (g : Blk) : HClosed (hinit g) := ancClosed_init g

/-- the read-only walk of fix 2ee9efd succeeds exactly when the overwrite loop would not hit a missing header (the loop
    only writes at heights it has already passed) -/
theorem overwriteStale_flag {store : Map Blk} : ∀ (f : Nat) (canon canon' : Map Nat) (hh hn : Nat),
    (∀ n, n ≤ hn → canon' n = canon n) →
    (overwriteStale store f canon' hh hn).2 = ancestryOk store f canon hh hn := by
  intro f
  induction f with
  | zero => intro canon canon' hh hn _; rfl
  | succ f ih =>
    intro canon canon' hh hn hagree
    unfold overwriteStale ancestryOk
    rw [hagree hn (Nat.le_refl _)]
    split
    · rfl
    · simp only
      cases hx : store hh with
      | none => rfl
      | some x =>
        simp only
        split
        · rfl
        · cases hn with
          | zero => rfl
          | succ k =>
            simp only
            apply ih
            intro n hn'
            rw [upd_other _ _ _ _ (by omega)]
            exact hagree n (by omega)

/-- after `WriteTd` and `WriteHeader` of `rawdb` for `h` -/
def hWritten (s : HSt) (h : Blk) (ptd : Nat) : HSt :=
  { s with td := upd s.td h.id (some (ptd + h.diff)), store := upd s.store h.id (some h) }

/-- `WriteHeader` past its nil checks, for a header above height 0 -/
theorem writeHeader_eq {s : HSt} {h cur : Blk} {ptd lt k : Nat} (hptd : s.td h.parent = some ptd)
    (hcur : s.store s.hhead = some cur) (hlt : s.td s.hhead = some lt) (hk : h.number = k + 1) (coin : Bool) :
    writeHeader s h coin =
      if decide (ptd + h.diff > lt) || (ptd + h.diff == lt && coin) then
        if !ancestryOk (hWritten s h ptd).store (k + 1) s.canon h.parent k then ⟨hWritten s h ptd, some .unknownAncestor⟩
        else
          match overwriteStale (hWritten s h ptd).store (k + 1) (delCanonAbove s.canon (cur.number + 1) (k + 1 + 1))
              h.parent k with
          | (c2, false) => ⟨{ hWritten s h ptd with canon := c2 }, some .modelPanic⟩
          | (c2, true) => ⟨{ hWritten s h ptd with canon := upd c2 (k + 1) (some h.id), hhead := h.id }, none⟩
      else ⟨hWritten s h ptd, none⟩ := by
  unfold writeHeader
  simp only [hptd, hcur, hlt, hk]
  rfl

theorem writeHeader_shape (s : HSt) (h : Blk) (coin : Bool) :
    (∃ e, writeHeader s h coin = ⟨s, some e⟩) ∨
    ∃ ptd c hd e, writeHeader s h coin = ⟨{ hWritten s h ptd with canon := c, hhead := hd }, e⟩ ∧
      (hd = s.hhead ∨ hd = h.id) := by
  unfold writeHeader
  split
  · exact .inl ⟨_, rfl⟩
  · next ptd _ =>
    split
    · refine .inr ⟨ptd, ?_⟩
      simp only []
      split
      · -- heavier, or a tie and the coin: the header is to become the head
        split
        · -- at height 0
          exact ⟨s.canon, s.hhead, _, rfl, .inl rfl⟩
        · split
          · -- refused by the read-only walk
            exact ⟨s.canon, s.hhead, _, rfl, .inl rfl⟩
          · split
            · -- the overwrite loop ran into a missing header
              exact ⟨_, s.hhead, _, rfl, .inl rfl⟩
            · exact ⟨_, h.id, _, rfl, .inr rfl⟩
      · -- not heavier
        exact ⟨s.canon, s.hhead, _, rfl, .inl rfl⟩
    · exact .inl ⟨_, rfl⟩

theorem writeHeader_gen (s : HSt) (h : Blk) (coin : Bool) : (writeHeader s h coin).st.genesis = s.genesis := by
  rcases writeHeader_shape s h coin with ⟨e, he⟩ | ⟨ptd, c, hd, e, he, -⟩ <;> rw [he] <;> rfl

theorem writeHeader_hhead (s : HSt) (h : Blk) (coin : Bool) :
    (writeHeader s h coin).st.hhead = s.hhead ∨ (writeHeader s h coin).st.hhead = h.id := by
  rcases writeHeader_shape s h coin with ⟨e, he⟩ | ⟨ptd, c, hd, e, he, hh⟩ <;> rw [he]
  · exact .inl rfl
  · exact hh

theorem writeHeader_stored (s : HSt) (h : Blk) (coin : Bool) (herr : (writeHeader s h coin).err = none) :
    (writeHeader s h coin).st.store h.id = some h := by
  rcases writeHeader_shape s h coin with ⟨e, he⟩ | ⟨ptd, c, hd, e, he, -⟩ <;> rw [he] at herr ⊢
  · cases herr
  · exact upd_same _ _ _

theorem writeHeader_ext {U : Map Blk} {s : HSt} (hI : HInv U s) {h : Blk} (hhU : U h.id = some h) (coin : Bool) :
    StoreExt s.store (writeHeader s h coin).st.store := by
  obtain ⟨hb, C, hI⟩ := hI
  rcases writeHeader_shape s h coin with ⟨e, he⟩ | ⟨ptd, c, hd, e, he, -⟩ <;> rw [he]
  · exact fun _ _ hx => hx
  · exact (storeExt_updK hI.sub hhU).1

theorem HInvC.written {U : Map Blk} {s : HSt} {hb : Blk} {C : List Blk} (hI : HInvC U s hb C) {h p : Blk}
    (hhU : U h.id = some h) (hpar : parentOf s.store h = some p) {ptd : Nat} (hptd : s.td h.parent = some ptd) :
    HInvC U (hWritten s h ptd) hb C :=
  have he := storeExt_updK hI.sub hhU
  { sub := he.2, headStored := he.1 _ _ hI.headStored, path := hI.path.mono he.1, canon := hI.canon,
    tdIntr := TdIntr.write hI.tdIntr hI.sub hhU hpar hptd, storeTd := upd_isSome_mono hI.storeTd _ _ _, genNum := hI.genNum }

/-- `WriteHeader` writes record and header; then a stored ancestor is missing and the call is refused (fix 2ee9efd: index and
    head untouched), or the head has gone through the fork choice (`ForkChoice`): it stays, or the header becomes the head and
    the index its ancestry.  The three index loops are those of `idxC_switch`; by `overwriteStale_flag` the overwrite loop
    cannot fail once the read-only walk has succeeded. -/
theorem writeHeader_spec {U : Map Blk} (W : World U) {s : HSt} {hb : Blk} {C : List Blk} (hI : HInvC U s hb C)
    {h p : Blk} (hhU : U h.id = some h) (hpar : parentOf s.store h = some p) (coin : Bool) :
    ∃ ptd lt, s.td h.parent = some ptd ∧ s.td s.hhead = some lt ∧ HInvC U (hWritten s h ptd) hb C ∧
      ((¬ HClosed s ∧ writeHeader s h coin = ⟨hWritten s h ptd, some .unknownAncestor⟩) ∨
       (∃ c' hd' hb' C', HInvC U { hWritten s h ptd with canon := c', hhead := hd' } hb' C' ∧
         ForkChoice s.hhead hd' h (ptd + h.diff) lt ∧
         writeHeader s h coin = ⟨{ hWritten s h ptd with canon := c', hhead := hd' }, none⟩)) := by
  obtain ⟨hps, hpn⟩ := parentOf_some hpar
  obtain ⟨ptd, hptd⟩ := Option.isSome_iff_exists.mp (hI.storeTd _ _ hps)
  obtain ⟨lt, hlt⟩ := Option.isSome_iff_exists.mp (hI.storeTd _ _ hI.headStored)
  obtain ⟨he1, he2⟩ := storeExt_updK hI.sub hhU
  have hI1 := hI.written hhU hpar hptd
  refine ⟨ptd, lt, hptd, hlt, hI1, ?_⟩
  obtain ⟨k, hk⟩ : ∃ k, h.number = k + 1 := ⟨p.number, hpn.symm⟩
  rw [writeHeader_eq hptd hI.headStored hlt hk]
  by_cases hdec : (decide (ptd + h.diff > lt) || (ptd + h.diff == lt && coin)) = true
  · rw [if_pos hdec]
    have hge : lt ≤ ptd + h.diff := by
      simp only [Bool.or_eq_true, decide_eq_true_eq, Bool.and_eq_true, beq_iff_eq] at hdec
      omega
    have hflag := overwriteStale_flag (store := (hWritten s h ptd).store) (k + 1) s.canon
      (delCanonAbove s.canon (hb.number + 1) (k + 1 + 1)) h.parent k (fun n hn => delCanonAbove_below _ _ _ _ (by omega))
    cases hanc : ancestryOk (hWritten s h ptd).store (k + 1) s.canon h.parent k with
    | false =>
      refine .inl ⟨fun hcl => ?_, rfl⟩
      -- on an ancestor-closed store the overwrite loop, hence the walk, reaches the indexed genesis header
      obtain ⟨lp, hlp⟩ := hcl _ _ hps
      have hpid := W.ids _ _ (hI.sub _ _ hps)
      have hok := (hI.toIdxC W).overwrite_ok (fun k' x hx => W.ids _ _ (he2 _ _ hx)) (hlp.mono he1)
        (he1 _ _ (by rw [hpid]; exact hps)) hb.number
      rw [hpid, show p.number = k by omega] at hok
      rw [hanc] at hflag
      exact absurd (hflag.symm.trans hok) (by simp)
    | true =>
      rw [hanc] at hflag
      cases hos : overwriteStale (hWritten s h ptd).store (k + 1) (delCanonAbove s.canon (hb.number + 1) (k + 1 + 1))
          h.parent k with
      | mk c2 ok =>
        rw [hos] at hflag
        cases hflag
        obtain ⟨l, R, -, hnew⟩ := idxC_switch W (hI1.toIdxC W) (upd_same _ _ _) (parentOf_mono he1 hpar)
          (Nat.le_refl _) hk hos
        rw [hk] at hnew
        exact .inr ⟨_, _, h, _, .ofIdx hnew rfl hI1.tdIntr hI1.storeTd, .inl ⟨rfl, hge⟩, rfl⟩
  · rw [if_neg hdec]
    refine .inr ⟨s.canon, s.hhead, hb, C, hI1, .inr ⟨rfl, ?_⟩, rfl⟩
    simp only [Bool.or_eq_true, decide_eq_true_eq, Bool.and_eq_true, beq_iff_eq, not_or, not_and] at hdec
    omega

/-- fix 2ee9efd: a refused header leaves the number index and the head alone -/
theorem writeHeader_refusal {U : Map Blk} (W : World U) {s : HSt} (hI : HInv U s) {h p : Blk} (hhU : U h.id = some h)
    (hpar : parentOf s.store h = some p) (coin : Bool) (herr : (writeHeader s h coin).err ≠ none) :
    (writeHeader s h coin).st.canon = s.canon ∧ (writeHeader s h coin).st.hhead = s.hhead := by
  obtain ⟨hb, C, hI⟩ := hI
  obtain ⟨ptd, lt, -, -, -, ⟨-, he⟩ | ⟨c', hd', hb', C', -, -, he⟩⟩ := writeHeader_spec W hI hhU hpar coin
  · rw [he]; exact ⟨rfl, rfl⟩
  · rw [he] at herr; exact absurd rfl herr

theorem writeHeader_closed {U : Map Blk} (W : World U) {s : HSt} (hI : HInv U s) {h p : Blk} (hhU : U h.id = some h)
    (hpar : parentOf s.store h = some p) (coin : Bool) (hc : HClosed s) :
    (writeHeader s h coin).err = none ∧ HClosed (writeHeader s h coin).st := by
  obtain ⟨hb, C, hI⟩ := hI
  obtain ⟨ptd, lt, -, -, -, ⟨hnc, -⟩ | ⟨c', hd', hb', C', -, -, he⟩⟩ := writeHeader_spec W hI hhU hpar coin
  · exact absurd hc hnc
  · rw [he]
    exact ⟨rfl, closed_upd hc hpar (storeExt_updK hI.sub hhU).1 (fun _ _ => upd_some_cases)⟩

/-- `modelPanic` cannot occur: with 2ee9efd a header whose stored ancestry has a hole is refused before the index is
    touched -/
theorem hinv_writeHeader {U : Map Blk} (W : World U) {s : HSt} (hI : HInv U s) {h p : Blk} (hhU : U h.id = some h)
    (hpar : parentOf s.store h = some p) (coin : Bool) :
    HInv U (writeHeader s h coin).st ∧ (writeHeader s h coin).err ≠ some .modelPanic ∧
      ((writeHeader s h coin).err = none → HMax s → HMax (writeHeader s h coin).st) ∧
      (∀ th, s.td s.hhead = some th →
        ∃ th', (writeHeader s h coin).st.td (writeHeader s h coin).st.hhead = some th' ∧ th ≤ th') := by
  obtain ⟨hb, C, hI⟩ := hI
  obtain ⟨ptd, lt, hptd, hlt, hI1, hcase⟩ := writeHeader_spec W hI hhU hpar coin
  have hkeep := fun {k t} => TdIntr.rewrite hI.tdIntr hI.sub hhU hpar hptd (k := k) (t := t)
  rcases hcase with ⟨-, he⟩ | ⟨c', hd', hb', C', hI2, hf, he⟩
  · rw [he]
    exact ⟨⟨hb, C, hI1⟩, by simp, fun herr => (by cases herr), fun th hth => ⟨th, hkeep hth, Nat.le_refl _⟩⟩
  · rw [he]
    obtain ⟨th, hth, h1, h2⟩ := hf.headTd (hkeep hlt)
    exact ⟨⟨hb', C', hI2⟩, by simp,
      fun _ hmax k t hk => ⟨th, hth, upd_le (fun _ t ht => Nat.le_trans (le_headTd (hmax _ _ ht) hlt) h1) h2 hk⟩,
      fun th0 hth0 => ⟨th, hth, by rw [hlt] at hth0; cases hth0; exact h1⟩⟩

/-- relation between a header-chain state and a later one within an import that ended with error `e` -/
structure HStep (U : Map Blk) (s s' : HSt) (e : Option Err) : Prop where
  inv : HInv U s'
  ext : StoreExt s.store s'.store
  closed : HClosed s → HClosed s'
  /-- an import that returned no error leaves the header head a heaviest header -/
  max : e = none → HMax s → HMax s'
  mono : ∀ th, s.td s.hhead = some th → ∃ th', s'.td s'.hhead = some th' ∧ th ≤ th'
  noPanic : e ≠ some .modelPanic
  gen : s'.genesis = s.genesis

theorem HStep.refl {U : Map Blk} {s : HSt} (h : HInv U s) {e : Option Err} (he : e ≠ some .modelPanic) : HStep U s s e :=
  ⟨h, fun _ _ hx => hx, id, fun _ => id, fun th hth => ⟨th, hth, Nat.le_refl _⟩, he, rfl⟩

theorem HStep.trans {U : Map Blk} {s s' s'' : HSt} {e : Option Err} (h1 : HStep U s s' none) (h2 : HStep U s' s'' e) :
    HStep U s s'' e :=
  ⟨h2.inv, fun k x hx => h2.ext _ _ (h1.ext _ _ hx),
    fun hc => h2.closed (h1.closed hc), fun he hm => h2.max he (h1.max rfl hm),
    headTd_trans h1.mono h2.mono, h2.noPanic, by rw [h2.gen, h1.gen]⟩

theorem hstep_writeHeader {U : Map Blk} (W : World U) {s : HSt} (hI : HInv U s) {h p : Blk} (hhU : U h.id = some h)
    (hpar : parentOf s.store h = some p) (coin : Bool) :
    HStep U s (writeHeader s h coin).st (writeHeader s h coin).err := by
  obtain ⟨hinv, hnp, hmax, hmono⟩ := hinv_writeHeader W hI hhU hpar coin
  have hcl := writeHeader_closed W hI hhU hpar coin
  exact ⟨hinv, writeHeader_ext hI hhU coin, fun hc => (hcl hc).2, hmax, hmono, hnp,
    writeHeader_gen s h coin⟩

theorem hstep_insertSeq {U : Map Blk} (W : World U) : ∀ (l : List Blk) (s : HSt) (coins : List Bool) (i : Nat),
    HInv U s → (∀ h ∈ l, U h.id = some h) → isContig l = true →
    (∀ h0 ∈ l.head?, ∃ p, parentOf s.store h0 = some p) →
    HStep U s (hInsertSeq s l coins i).1.st (hInsertSeq s l coins i).1.err ∧
      (HClosed s → (hInsertSeq s l coins i).1.err = none) := by
  intro l
  induction l with
  | nil => intro s coins i hI _ _ _; exact ⟨HStep.refl hI (by simp [hInsertSeq]), fun _ => rfl⟩
  | cons h rest ih =>
    intro s coins i hI hU hc hp0
    obtain ⟨p, hpar⟩ := hp0 h (by simp)
    have hhU := hU h (by simp)
    -- the rest of the batch, from a state in which `h` is stored
    have hrest := fun (s' : HSt) (coins' : List Bool) (hI' : HInv U s') (hs' : s'.store h.id = some h) =>
      ih s' coins' (i + 1) hI' (fun x hx => hU x (List.mem_cons_of_mem _ hx)) (isContig_tail hc) (isContig_next hc hs')
    unfold hInsertSeq
    cases hknown : s.store h.id with
    | some x =>
      have hxh : x = h := by
        obtain ⟨hb, C, hC⟩ := hI
        have := hC.sub _ _ hknown
        rw [hhU] at this; cases this; rfl
      simp only [Option.isSome_some, if_true]
      exact hrest s coins hI (hxh ▸ hknown)
    | none =>
      simp only [Option.isSome_none, Bool.false_eq_true, if_false]
      have h1 := hstep_writeHeader W hI hhU hpar (coins.headD false)
      have hcl := writeHeader_closed W hI hhU hpar (coins.headD false)
      cases herr : (writeHeader s h (coins.headD false)).err with
      | some e => exact ⟨h1, fun hc => nomatch herr.symm.trans (hcl hc).1⟩
      | none =>
        obtain ⟨h2, h3⟩ := hrest _ coins.tail h1.inv (writeHeader_stored s h _ herr)
        rw [herr] at h1
        exact ⟨h1.trans h2, fun hc => h3 (hcl hc).2⟩

theorem hInsertSeq_hhead : ∀ (l : List Blk) (s : HSt) (coins : List Bool) (i : Nat),
    (hInsertSeq s l coins i).1.st.hhead = s.hhead ∨ ∃ y ∈ l, (hInsertSeq s l coins i).1.st.hhead = y.id := by
  intro l
  induction l with
  | nil => intro s coins i; exact .inl rfl
  | cons h rest ih =>
    intro s coins i
    have tl (s' : HSt) (coins' : List Bool) : (hInsertSeq s' rest coins' (i + 1)).1.st.hhead = s'.hhead ∨
        ∃ y ∈ h :: rest, (hInsertSeq s' rest coins' (i + 1)).1.st.hhead = y.id :=
      (ih s' coins' (i + 1)).imp_right fun ⟨y, hy, e⟩ => ⟨y, List.mem_cons_of_mem _ hy, e⟩
    have hw : (writeHeader s h (coins.headD false)).st.hhead = s.hhead ∨
        ∃ y ∈ h :: rest, (writeHeader s h (coins.headD false)).st.hhead = y.id :=
      (writeHeader_hhead s h (coins.headD false)).imp_right fun e => ⟨h, List.mem_cons_self, e⟩
    unfold hInsertSeq
    split
    · exact tl s coins
    · simp only
      split
      · exact hw
      · exact (tl _ coins.tail).elim (fun e => by rw [e]; exact hw) .inr

/-- what `InsertHeaderChain` does before it writes -/
theorem hImportChain_eq (s : HSt) (chain : List Blk) (coins : List Bool) :
    (∃ e, e ≠ some .modelPanic ∧ hImportChain s chain coins = (⟨s, e⟩, 0)) ∨
    (isContig chain = true ∧ (∀ h0 ∈ chain.head?, ∃ p, parentOf s.store h0 = some p) ∧
      hImportChain s chain coins = hInsertSeq s chain coins 0) := by
  unfold hImportChain
  cases hc : isContig chain with
  | false => exact .inl ⟨some .nonContiguous, by simp, rfl⟩
  | true =>
    cases chain with
    | nil => exact .inl ⟨none, by simp, rfl⟩
    | cons h rest =>
      simp only [Bool.not_true, Bool.false_eq_true, if_false]
      cases hhc : headerCheck s.store h with
      | some e => exact .inl ⟨some e, by simpa using (headerCheck_err hhc).2, rfl⟩
      | none => exact .inr ⟨trivial, fun h0 hh0 => by cases hh0; exact headerCheck_none hhc, rfl⟩

theorem hImportChain_hhead (s : HSt) (chain : List Blk) (coins : List Bool) :
    (hImportChain s chain coins).1.st.hhead = s.hhead ∨ ∃ y ∈ chain, (hImportChain s chain coins).1.st.hhead = y.id := by
  rcases hImportChain_eq s chain coins with ⟨e, -, he⟩ | ⟨-, -, he⟩ <;> rw [he]
  · exact .inl rfl
  · exact hInsertSeq_hhead chain s coins 0

theorem hstep_importChain {U : Map Blk} (W : World U) {s : HSt} (hI : HInv U s) (chain : List Blk)
    (hU : ∀ h ∈ chain, U h.id = some h) (coins : List Bool) :
    HStep U s (hImportChain s chain coins).1.st (hImportChain s chain coins).1.err := by
  rcases hImportChain_eq s chain coins with ⟨e, hne, he⟩ | ⟨hc, hp0, he⟩
  · rw [he]; exact HStep.refl hI hne
  · rw [he]; exact (hstep_insertSeq W _ s coins 0 hI hU hc hp0).1

/-- a header chain as a block database; the fields beyond the header tables are fillers (`hunwind_hdr` holds for every `St`) -/
def HSt.toSt (s : HSt) : St :=
  { genesis := s.genesis, archive := true, store := s.store, td := s.td, canon := s.canon, head := s.hhead,
    hhead := s.hhead, fhead := s.hhead, lookup := fun _ => none, receipts := fun _ => false,
    hasState := fun _ => false, onDisk := fun _ => false, seen := fun _ => false }

/-- the header tables of a block database as they are (`toH` and `hview` of the mixed model overlay a separate header store) -/
def St.hdr (s : St) : HSt := ⟨s.genesis, s.store, s.td, s.canon, s.hhead⟩

/-- the unwinding loop of `HeaderChain.SetHead` does to the header tables what it does on a chain with blocks -/
theorem hunwind_hdr : ∀ (f : Nat) (s : St) (cur : Option Blk) (n : Nat),
    hunwind f s.hdr cur n = ((unwind f s cur n).1.hdr, (unwind f s cur n).2) := by
  intro f
  induction f with
  | zero => intro s cur n; rfl
  | succ f ih =>
    intro s cur n
    cases cur with
    | none => rfl
    | some x =>
      unfold hunwind unwind
      split
      · exact ih { s with lookup := dropLookupsOf s.lookup x x.txs, store := upd s.store x.id none, td := upd s.td x.id none }
          _ n
      · rfl

theorem hunwind_spec (O : List Blk) (s : HSt) (x c : Blk) (f n : Nat)
    (hids : ∀ k y, s.store k = some y → y.id = k) (hx : s.store x.id = some x) (hp : Path s.store x O c) (hc : c.number ≤ n)
    (hOn : ∀ y ∈ O, n < y.number) (hf : O.length < f) :
    ∃ st td, hunwind f s (some x) n = ({ s with store := st, td := td }, some c) ∧
      (∀ k, st k = if ∃ y ∈ O, y.id = k then none else s.store k) ∧
      (∀ k, td k = if ∃ y ∈ O, y.id = k then none else s.td k) := by
  obtain ⟨lk, st, td, hun, hst, htd, -⟩ := unwind_spec O s.toSt x c f n hids hx hp hc hOn hf
  exact ⟨st, td, (hunwind_hdr f s.toSt (some x) n).trans (by rw [hun]; rfl), hst, htd⟩

/-- `HeaderChain.SetHead(n)`; no condition: a header chain has no state to lose -/
theorem hinv_setHead {U : Map Blk} (W : World U) {s : HSt} (h : HInv U s) (n : Nat) : HInv U (hSetHead s n).st := by
  obtain ⟨hb, C, h⟩ := h
  have hI := h.toIdxC W
  unfold hSetHead
  rw [h.headStored]
  simp only
  obtain ⟨O, R, c, hsplit, hO, hR, hOn, hcn, hcase⟩ := h.path.splitAbove n (by rw [h.genNum]; omega)
  obtain ⟨st, td, hun, hst, htd⟩ :=
    hunwind_spec O s hb c (hb.number + 1) n (hI.storeIds W) hI.headStored hO hcn hOn (by have := hO.number; omega)
  rw [hun]
  simp only [Option.getD_some]
  have hI' := hI.rewind W hsplit hO hR hcn hcase hst
  obtain ⟨htdI, hstd⟩ := removed_td hst htd h.tdIntr h.storeTd
  exact ⟨c, R, .ofIdx hI' rfl htdI hstd⟩

/-- the invariant implies C03 as stated, for the header chain -/
theorem hspec_of_inv {U : Map Blk} (W : World U) {s : HSt} (h : HInv U s) : HSpecInv s := by
  obtain ⟨hb, C, h⟩ := h
  have hI := h.toIdxC W
  refine ⟨⟨hb, h.headStored⟩, ?_, ?_⟩
  · intro hb' hhb' n hn
    rw [h.headStored] at hhb'; cases hhb'
    obtain ⟨z, hzm, hup, hzn, hzc⟩ := hI.below W hn
    exact ⟨z, h.headId W ▸ hup, hzn, hzc, h.storeTd _ _ (hI.chainStored W z hzm)⟩
  · intro hb' hhb' n hn
    rw [h.headStored] at hhb'; cases hhb'
    exact hI.canonAbove n hn

inductive HOp
  | insert (chain : List Blk) (coins : List Bool)    -- InsertHeaderChain
  | setHead (n : Nat)

def hstep (s : HSt) : HOp → HOut
  | .insert chain coins => (hImportChain s chain coins).1
  | .setHead n => hSetHead s n

def hrun (s : HSt) : List HOp → HSt
  | [] => s
  | op :: ops => hrun (hstep s op).st ops

def HOpOk (U : Map Blk) : HOp → Prop
  | .insert chain _ => ∀ h ∈ chain, U h.id = some h
  | .setHead _ => True

/-- no further condition: with 2ee9efd no call can crash on a missing ancestor -/
def HAdmissible (U : Map Blk) (s : HSt) : List HOp → Prop
  | [] => True
  | op :: ops => HOpOk U op ∧ HAdmissible U (hstep s op).st ops

instance (U : Map Blk) : (op : HOp) → Decidable (HOpOk U op)
  | .insert chain _ => inferInstanceAs (Decidable (∀ h ∈ chain, U h.id = some h))
  | .setHead _ => isTrue trivial

instance decHAdmissible (U : Map Blk) : ∀ (ops : List HOp) (s : HSt), Decidable (HAdmissible U s ops)
  | [], _ => isTrue trivial
  | op :: ops, s =>
    have := decHAdmissible U ops (hstep s op).st
    inferInstanceAs (Decidable (HOpOk U op ∧ HAdmissible U (hstep s op).st ops))

theorem hinv_run {U : Map Blk} (W : World U) : ∀ (ops : List HOp) {s : HSt}, HInv U s → HAdmissible U s ops →
    HInv U (hrun s ops) := by
  intro ops
  induction ops with
  | nil => intro s h _; exact h
  | cons op ops ih =>
    intro s h hadm
    apply ih _ hadm.2
    cases op with
    | insert chain coins => exact (hstep_importChain W h chain hadm.1 coins).inv
    | setHead n => exact hinv_setHead W h n

def HImports (U : Map Blk) (ops : List HOp) : Prop :=
  ∀ op ∈ ops, match op with
    | .insert chain _ => ∀ h ∈ chain, U h.id = some h
    | .setHead _ => False

theorem himports_admissible {U : Map Blk} : ∀ {ops : List HOp}, HImports U ops → ∀ s, HAdmissible U s ops
  | [], _, _ => trivial
  | .insert _ _ :: _, h, _ => ⟨h _ List.mem_cons_self, himports_admissible (fun o ho => h o (List.mem_cons_of_mem _ ho)) _⟩
  | .setHead _ :: _, h, _ => (h _ List.mem_cons_self).elim

/-- a history of header imports on an ancestor-closed store as one step: nothing is refused there, and a batch turned
    away by the checks in front has written nothing -/
theorem himports_run {U : Map Blk} (W : World U) : ∀ (ops : List HOp) {s : HSt}, HInv U s → HClosed s → HImports U ops →
    HStep U s (hrun s ops) none := by
  intro ops
  induction ops with
  | nil => intro s h _ _; exact HStep.refl h (by simp)
  | cons op ops ih =>
    intro s h hc hops
    have hop := hops op (by simp)
    cases op with
    | setHead n => exact hop.elim
    | insert chain coins =>
      have hst : HStep U s (hImportChain s chain coins).1.st none := by
        rcases hImportChain_eq s chain coins with ⟨e, -, he⟩ | ⟨hcg, hp0, he⟩
        · rw [he]
          exact HStep.refl h (by simp)
        · rw [he]
          obtain ⟨h1, hok⟩ := hstep_insertSeq W _ s coins 0 h hop hcg hp0
          rw [hok hc] at h1
          exact h1
      exact hst.trans (ih hst.inv (hst.closed hc) (fun o ho => hops o (List.mem_cons_of_mem _ ho)))

theorem hImportChain_no_panic {U : Map Blk} (W : World U) {s : HSt} (hI : HInv U s) (chain : List Blk)
    (hU : ∀ h ∈ chain, U h.id = some h) (coins : List Bool) :
    (hImportChain s chain coins).1.err ≠ some .modelPanic := (hstep_importChain W hI chain hU coins).noPanic

end Aqv.Chain
