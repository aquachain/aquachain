/-
  Aqv.Lemmas.TxPoolReplace — what the insertion core `addCore` of `add` does to pending ∪ queue: it refuses only a
  transaction that does not outbid the occupant of its slot, and otherwise puts it into that slot and changes nothing else.
  From this the pool-level "a same-nonce replacement is accepted only with the configured price bump" (`addTx_replacement`).
-/
import Aqv.Lemmas.TxPoolOps
namespace Aqv.TxPool

theorem WeakAll.slot_unique {s : Pool} (hw : WeakAll s) {o n : Tx} (ho : s.pooled o) (hn : s.pooled n)
    (hs : o.sender = n.sender) (hno : o.nonce = n.nonce) : o = n :=
  (hw.weak o.sender).unique ho (hs ▸ hn) hno

theorem add_union {l x : TxL} {t : Tx} {b : Nat} (hs : Sorted l.items) (hx : ∀ u ∈ x.items, u.nonce ≠ t.nonce)
    (h : (l.add t b).1 = true) :
    (∀ w, (w ∈ (l.add t b).2.2.items ∨ w ∈ x.items) ↔ w = t ∨ ((w ∈ l.items ∨ w ∈ x.items) ∧ w.nonce ≠ t.nonce)) ∧
    ∀ o, (o ∈ l.items ∨ o ∈ x.items) → o.nonce = t.nonce → bumpOK o t b = true := by
  refine ⟨fun w => ?_, fun o ho hn => ?_⟩
  · have := hx w
    rw [TxL.mem_add hs h w]
    grind
  · rcases ho with ho | ho
    · exact TxL.add_bump h (hn ▸ getN_of_mem hs ho)
    · exact absurd hn (hx o ho)

theorem pooled_insert {s s' : Pool} {t : Tx} (hp : ∀ b, b ≠ t.sender → s'.pending b = s.pending b)
    (hq : ∀ b, b ≠ t.sender → s'.queue b = s.queue b)
    (h : ∀ w, (w ∈ (s'.pending t.sender).items ∨ w ∈ (s'.queue t.sender).items) ↔
      w = t ∨ ((w ∈ (s.pending t.sender).items ∨ w ∈ (s.queue t.sender).items) ∧ w.nonce ≠ t.nonce)) (w : Tx) :
    s'.pooled w ↔ w = t ∨ (s.pooled w ∧ ¬(w.sender = t.sender ∧ w.nonce = t.nonce)) := by
  rw [pooled_iff, pooled_iff]
  by_cases hs : w.sender = t.sender
  · rw [hs, h w]; simp only [true_and]
  · rw [hp _ hs, hq _ hs]
    constructor
    · exact fun h1 => Or.inr ⟨h1, fun c => hs c.1⟩
    · rintro (rfl | h1)
      · exact absurd rfl hs
      · exact h1.1

inductive CoreCase (s : Pool) (t : Tx) (r : Err × Bool × Pool) : Prop
  | inserted (hok : r.1 = .ok)
      (hpooled : ∀ w, r.2.2.pooled w ↔ w = t ∨ (s.pooled w ∧ ¬(w.sender = t.sender ∧ w.nonce = t.nonce)))
      (hbump : ∀ o, s.pooled o → o.sender = t.sender → o.nonce = t.nonce → bumpOK o t s.cfg.priceBump = true)
  | refused (herr : r.1 = .replace) (hsame : r.2.2 = s) (o : Tx) (ho : s.pooled o) (hsender : o.sender = t.sender)
      (hnonce : o.nonce = t.nonce) (hb : bumpOK o t s.cfg.priceBump = false)

theorem addCore_spec {s : Pool} (t : Tx) (loc : Bool) (hw : WeakAll s) : CoreCase s t (s.addCore t loc) := by
  have hwa := hw.weak t.sender
  have hocc : ∀ o, s.pooled o → o.sender = t.sender →
      o ∈ (s.pending t.sender).items ∨ o ∈ (s.queue t.sender).items := fun o ho hs => by rwa [pooled_iff, hs] at ho
  rcases addCore_cases s t loc with ⟨he, e, hr⟩ | ⟨hov, hins, hok, e⟩ | ⟨hov, hins, hok, e⟩
  · split at hr
    · obtain ⟨o, ho, hb⟩ := (TxL.add_refused hr).2
      exact .refused he e o (by rw [pooled_iff, hwa.powner o (getN_some ho).1]; exact Or.inl (getN_some ho).1)
        (hwa.powner o (getN_some ho).1) (getN_some ho).2 hb
    · obtain ⟨o, ho, hb⟩ := (TxL.add_refused hr).2
      exact .refused he e o (by rw [pooled_iff, hwa.qowner o (getN_some ho).1]; exact Or.inr (getN_some ho).1)
        (hwa.qowner o (getN_some ho).1) (getN_some ho).2 hb
  · -- the queue holds nothing at the nonce: the pending list does
    have hx : ∀ u ∈ (s.queue t.sender).items, u.nonce ≠ t.nonce := fun u hu e => by
      cases hg : getN (s.pending t.sender).items t.nonce with
      | none => have := overlaps_true hov; rw [hg] at this; cases this
      | some o => exact hwa.disj o (getN_some hg).1 u hu ((getN_some hg).2.trans e.symm)
    obtain ⟨h1, h2⟩ := add_union hwa.psorted hx hins
    refine .inserted hok (pooled_insert ?_ ?_ ?_) (fun o ho hs => h2 o (hocc o ho hs)) <;> rw [e]
    · exact fun b hb => upd_other _ _ hb
    · exact fun _ _ => rfl
    · intro w; show w ∈ (upd s.pending t.sender _ t.sender).items ∨ _ ↔ _
      rw [upd_same]; exact h1 w
  · have hf := enqueueTx_facts s t
    have hq : (s.enqueueTx t).2.2.queue t.sender = ((s.queue t.sender).add t s.cfg.priceBump).2.2 := by
      rw [enqueueTx_inserted hins]; exact upd_same _ _ _
    obtain ⟨h1, h2⟩ := add_union hwa.qsorted (overlaps_false hov) hins
    refine .inserted hok (pooled_insert ?_ ?_ ?_) (fun o ho hs hn => h2 o (hocc o ho hs).symm hn) <;> rw [e]
    · exact fun b _ => congrFun hf.pending b
    · exact hf.qother
    · intro w; show w ∈ ((s.enqueueTx t).2.2.pending t.sender).items ∨ w ∈ ((s.enqueueTx t).2.2.queue t.sender).items ↔ _
      rw [hf.pending, hq, Or.comm, h1 w, Or.comm (a := w ∈ (s.queue t.sender).items)]

/-- `loc = false`: marking the sender local writes `locals` -/
theorem addCore_touch {s : Pool} (t : Tx) (hw : WeakAll s) : Touch s t.sender (s.addCore t false).2.2 := by
  rcases addCore_cases s t false with ⟨_, e, _⟩ | ⟨hov, hins, _, e⟩ | ⟨_, _, _, e⟩ <;> rw [e]
  · exact Touch.refl _ _
  · exact (replace_weak _ hw hov hins).2
  · exact (enqueueTx_facts s t).touch

theorem add_sub {s : Pool} (t : Tx) (loc : Bool) (sh : Shape) (vs : List Tx) (hw : WeakAll s) :
    ∀ w, (s.add t loc sh vs).2.2.pooled w → w = t ∨ s.pooled w := by
  intro w h
  rcases add_cases s t loc sh vs with e | ⟨e, _⟩ <;> rw [e] at h
  · exact Or.inr h
  · obtain ⟨d1, d2⟩ := (closed_nonew s).afterDiscard vs ⟨hw, fun _ h => h⟩
    cases addCore_spec t loc d1 with
    | inserted _ hp _ => exact ((hp w).mp h).imp_right fun h1 => d2 w h1.1
    | refused _ e2 => rw [e2] at h; exact Or.inr (d2 w h)

theorem addTx_replacement (s : Pool) (t : Tx) (loc : Bool) (sh : Shape) (vs : List Tx) (sl qo : List Addr) (hw : WeakAll s)
    (hnf : s.all.length < s.cfg.globalSlots + s.cfg.globalQueue) :
    ReplacementOK s (s.addTx t loc sh vs sl qo).2 := by
  intro o n ho hn hs hno hne
  -- the final promotion pools nothing new
  have hn' : (s.add t (loc && !s.cfg.noLocals) sh vs).2.2.pooled n := by
    rw [addTx_snd] at hn
    split at hn
    · exact (promoteExecutables_pres (closed_nonew _) _ _ sl qo
        ⟨add_pres addClosed_weak s t _ sh vs hw, fun _ h => h⟩).2 n hn
    · exact hn
  have hold : ¬ s.pooled n := fun hp => hne (hw.slot_unique ho hp hs hno)
  rcases add_cases s t (loc && !s.cfg.noLocals) sh vs with e | ⟨e, _⟩ <;> rw [e] at hn'
  · exact absurd hn' hold
  · rw [afterDiscard_id vs hnf] at hn'
    cases addCore_spec t (loc && !s.cfg.noLocals) hw with
    | inserted _ hp hb =>
      rcases (hp n).mp hn' with rfl | hp'
      · exact hb o ho hs hno
      · exact absurd hp'.1 hold
    | refused _ e2 => rw [e2] at hn'; exact absurd hn' hold

end Aqv.TxPool
