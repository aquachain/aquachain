/-
  Aqv.Lemmas.ChainDb — lemmas about the chain-database model (C04): the store (`TouchesOnly`: the keys a write may change),
  what each reader depends on, closedness, the number index along an ancestry, `repair`, traces and their prefixes
  (`traceOK_iff_prefixes`; `firstBad` finds nothing exactly when `TraceOK` holds), trie `commit` (children first), the locks
  of `Database.Commit`, the block cache.
-/
import Aqv.Model.ChainDb
namespace Aqv.ChainDb

@[simp] theorem get_nil (k : Key) : get [] k = none := rfl

theorem get_cons (k' : Key) (v : Val) (db : Db) (k : Key) :
    get ((k', v) :: db) k = if k' = k then some v else get db k := rfl

theorem get_put (db : Db) (k : Key) (v : Val) (k' : Key) :
    get (put db k v) k' = if k = k' then some v else get db k' := rfl

theorem get_put_same (db : Db) (k : Key) (v : Val) : get (put db k v) k = some v := by
  simp [get_put]

theorem get_put_ne (db : Db) {k k' : Key} (v : Val) (h : k ≠ k') : get (put db k v) k' = get db k' := by
  simp [get_put, h]

theorem get_del (db : Db) (k k' : Key) : get (del db k) k' = if k = k' then none else get db k' := by
  induction db with
  | nil => simp [del]
  | cons e rest ih =>
    obtain ⟨k₀, v₀⟩ := e
    unfold del at ih ⊢
    by_cases h0 : k₀ = k
    · rw [List.filter_cons_of_neg (by simpa using h0), ih, get_cons]
      subst h0
      by_cases hk : k₀ = k' <;> simp [hk]
    · rw [List.filter_cons_of_pos (by simpa using h0), get_cons, ih, get_cons]
      by_cases hk : k = k'
      · subst hk; simp [h0]
      · simp [hk]

theorem mem_keys_of_get {db : Db} {k : Key} {v : Val} (h : get db k = some v) : ∃ v', (k, v') ∈ db := by
  induction db with
  | nil => simp at h
  | cons e rest ih =>
    rw [get_cons] at h
    by_cases h0 : e.1 = k
    · exact ⟨e.2, by simp [← h0]⟩
    · obtain ⟨v', hv⟩ := ih (by simpa [h0] using h)
      exact ⟨v', List.mem_cons_of_mem _ hv⟩

theorem get_isSome_of_mem {db : Db} {k : Key} {v : Val} (h : (k, v) ∈ db) : (get db k).isSome = true := by
  induction db with
  | nil => simp at h
  | cons e rest ih =>
    rw [get_cons]
    by_cases h0 : e.1 = k
    · simp [h0]
    · rcases List.mem_cons.mp h with rfl | h1
      · exact absurd rfl h0
      · simpa [h0] using ih h1

def TouchesOnly (P : Key → Bool) (db db' : Db) : Prop := ∀ k, P k = false → get db' k = get db k

theorem TouchesOnly.refl (P : Key → Bool) (db : Db) : TouchesOnly P db db := fun _ _ => rfl

theorem TouchesOnly.trans {P : Key → Bool} {a b c : Db} (h1 : TouchesOnly P a b) (h2 : TouchesOnly P b c) :
    TouchesOnly P a c := fun k hk => by rw [h2 k hk, h1 k hk]

theorem TouchesOnly.mono {P Q : Key → Bool} {a b : Db} (h : TouchesOnly P a b) (hPQ : ∀ k, P k = true → Q k = true) :
    TouchesOnly Q a b := fun k hk => h k (by cases hP : P k with | false => rfl | true => rw [hPQ k hP] at hk; cases hk)

theorem touchesOnly_put {P : Key → Bool} (db : Db) {k : Key} (v : Val) (hk : P k = true) :
    TouchesOnly P db (put db k v) := fun k' hk' => get_put_ne db v (by intro e; subst e; rw [hk] at hk'; cases hk')

theorem touchesOnly_del {P : Key → Bool} (db : Db) {k : Key} (hk : P k = true) :
    TouchesOnly P db (del db k) := fun k' hk' => by
  rw [get_del, if_neg]
  intro e; subst e; rw [hk] at hk'; cases hk'

theorem touchesOnly_batch {P : Key → Bool} (ws : List (Key × Option Val)) (db : Db) (h : ∀ w ∈ ws, P w.1 = true) :
    TouchesOnly P db (apply db (.batch ws)) := by
  induction ws generalizing db with
  | nil => exact .refl P db
  | cons w rest ih =>
    have hw := h w (by simp)
    refine .trans ?_ (ih (applyW db w) fun w' hw' => h w' (List.mem_cons_of_mem _ hw'))
    obtain ⟨k, _ | v⟩ := w
    · exact touchesOnly_del db hw
    · exact touchesOnly_put db v hw

def Event.writesOnly (P : Key → Bool) : Event → Prop
  | .put k _ | .del k => P k = true
  | .batch ws => ∀ w ∈ ws, P w.1 = true

theorem touchesOnly_apply {P : Key → Bool} {e : Event} (h : e.writesOnly P) (db : Db) : TouchesOnly P db (apply db e) := by
  cases e with
  | put k v => exact touchesOnly_put db v h
  | del k => exact touchesOnly_del db h
  | batch ws => exact touchesOnly_batch ws db h

theorem blockNumber_congr {db db' : Db} {h : Hash} (e : get db' (.hashNum h) = get db (.hashNum h)) :
    blockNumber db' h = blockNumber db h := by unfold blockNumber; rw [e]

theorem getHeader_congr {db db' : Db} {h : Hash} (e : get db' (.header h) = get db (.header h)) (n : Nat) :
    getHeader db' h n = getHeader db h n := by unfold getHeader; rw [e]

theorem getBlock_congr {db db' : Db} {h : Hash} (e : get db' (.header h) = get db (.header h))
    (eb : get db' (.body h) = get db (.body h)) (n : Nat) : getBlock db' h n = getBlock db h n := by
  unfold getBlock; rw [getHeader_congr e, eb]

theorem canonHash_congr {db db' : Db} {n : Nat} (e : get db' (.canon n) = get db (.canon n)) :
    canonHash db' n = canonHash db n := by unfold canonHash; rw [e]

theorem headPtr_congr {db db' : Db} (e : get db' .lastBlock = get db .lastBlock) : headPtr db' = headPtr db := by
  unfold headPtr; rw [e]

/-- a write that leaves the block records (header, body, hash→number) alone, seen through the readers -/
structure SameBlocks (db db' : Db) : Prop where
  header : ∀ h n, getHeader db' h n = getHeader db h n
  block : ∀ h n, getBlock db' h n = getBlock db h n
  number : ∀ h, blockNumber db' h = blockNumber db h

theorem TouchesOnly.sameBlocks {P : Key → Bool} {db db' : Db} (t : TouchesOnly P db db')
    (hP : ∀ h, P (.header h) = false ∧ P (.body h) = false ∧ P (.hashNum h) = false) : SameBlocks db db' :=
  ⟨fun h n => getHeader_congr (t _ (hP h).1) n, fun h n => getBlock_congr (t _ (hP h).1) (t _ (hP h).2.1) n,
    fun h => blockNumber_congr (t _ (hP h).2.2)⟩

theorem blockNumber_eq_some {db : Db} {h : Hash} {n : Nat} :
    blockNumber db h = some n ↔ get db (.hashNum h) = some (.num n) := by
  unfold blockNumber
  split <;> simp_all

theorem canonHash_eq_some {db : Db} {n : Nat} {h : Hash} :
    canonHash db n = some h ↔ get db (.canon n) = some (.ref h) := by
  unfold canonHash
  split <;> simp_all

theorem headPtr_eq_some {db : Db} {h : Hash} : headPtr db = some h ↔ get db .lastBlock = some (.ref h) := by
  unfold headPtr
  split <;> simp_all

theorem getHeader_eq_some {db : Db} {h : Hash} {n : Nat} {hd : Hdr} :
    getHeader db h n = some hd ↔ get db (.header h) = some (.hdr hd.parent hd.num hd.root) ∧ hd.num = n := by
  unfold getHeader
  split
  · rename_i p n' r hg
    obtain ⟨p', m, r'⟩ := hd
    by_cases e : n' = n
    -- the header comes back: the iff is between the same record read two ways
    · subst e
      simp [hg]
      exact fun _ hm _ => hm.symm
    -- nothing comes back; the right side fails at `hd.num = n`, the stored number being another
    · simp [hg, e]
      rintro _ rfl _
      exact e
  · rename_i hg; simpa using fun e _ => hg _ _ _ e

theorem getBlock_eq_some {db : Db} {h : Hash} {n : Nat} {hd : Hdr} :
    getBlock db h n = some hd ↔ getHeader db h n = some hd ∧ (get db (.body h)).isSome = true := by
  unfold getBlock
  split
  · rename_i hd' hh; by_cases e : (get db (.body h)).isSome = true <;> simp [e, hh]
  · rename_i hh; simp [hh]

theorem getBlockByHash_eq_some {db : Db} {h : Hash} {hd : Hdr} :
    getBlockByHash db h = some hd ↔ ∃ n, blockNumber db h = some n ∧ getBlock db h n = some hd := by
  unfold getBlockByHash
  split <;> simp_all

theorem getBlock_header {db : Db} {h : Hash} {n : Nat} {hd : Hdr} (hb : getBlock db h n = some hd) :
    getHeader db h n = some hd := (getBlock_eq_some.mp hb).1

theorem getHeader_num {db : Db} {h : Hash} {n : Nat} {hd : Hdr} (hg : getHeader db h n = some hd) : hd.num = n :=
  (getHeader_eq_some.mp hg).2

theorem getBlock_num {db : Db} {h : Hash} {n : Nat} {hd : Hdr} (hg : getBlock db h n = some hd) : hd.num = n :=
  getHeader_num (getBlock_header hg)

theorem getBlock_num_unique {db : Db} {h : Hash} {n n' : Nat} {hd hd' : Hdr} (h1 : getBlock db h n = some hd)
    (h2 : getBlock db h n' = some hd') : n = n' := by
  obtain ⟨g1, e1⟩ := getHeader_eq_some.mp (getBlock_header h1)
  obtain ⟨g2, e2⟩ := getHeader_eq_some.mp (getBlock_header h2)
  rw [g1] at g2
  injection g2 with g2; injection g2
  omega

theorem closedB_iff (db : Db) : closedB db = true ↔ Closed db := by
  unfold closedB
  rw [List.all_eq_true]
  constructor
  · intro hc h cs hg c hcmem
    obtain ⟨v', hv'⟩ := mem_keys_of_get hg
    have := hc _ hv'
    simp only [hg, List.all_eq_true] at this
    exact this c hcmem
  · intro hcl e _
    split
    · split
      · rename_i hg; exact List.all_eq_true.mpr (hcl _ _ hg)
      · rfl
    · rfl

instance (db : Db) : Decidable (Closed db) := decidable_of_iff _ (closedB_iff db)

theorem closed_congr {db db' : Db} (e : ∀ c, get db' (.node c) = get db (.node c)) (hc : Closed db) : Closed db' := by
  intro h cs hg c hcm
  rw [e] at hg ⊢
  exact hc h cs hg c hcm

theorem stateComplete_of_closed {db : Db} (hc : Closed db) {root : Hash} (hr : hasState db root = true) :
    StateComplete db root := by
  intro x hx
  induction hx with
  | refl => exact hr
  | step _ hg hmem _ => exact hc _ _ hg _ hmem

theorem canonAgrees_block {db : Db} {h : Hash} {n : Nat} (hc : CanonAgrees db h n) : ∃ hd, getBlock db h n = some hd := by
  cases hc with
  | genesis hb _ => exact ⟨_, hb⟩
  | succ hb _ _ => exact ⟨_, hb⟩

theorem canonAgrees_canon {db : Db} {h : Hash} {n : Nat} (hc : CanonAgrees db h n) : canonHash db n = some h := by
  cases hc with
  | genesis _ hcan => exact hcan
  | succ _ hcan _ => exact hcan

theorem canonAgrees_parent {db : Db} {h : Hash} {n : Nat} {hd : Hdr} (hc : CanonAgrees db h (n + 1))
    (hb : getBlock db h (n + 1) = some hd) : CanonAgrees db hd.parent n := by
  cases hc with
  | succ hb' _ hp => rw [hb] at hb'; cases hb'; exact hp

theorem genesis_of_canonAgrees {db : Db} {h : Hash} {n : Nat} (hc : CanonAgrees db h n) :
    ∃ g hg, canonHash db 0 = some g ∧ getBlock db g 0 = some hg := by
  induction hc with
  | genesis hb hcan => exact ⟨_, _, hcan, hb⟩
  | succ _ _ _ ih => exact ih

theorem canonAgrees_mono {db db' : Db}
    (hb : ∀ h n hd, getBlock db h n = some hd → getBlock db' h n = some hd) :
    ∀ {h : Hash} {n : Nat}, CanonAgrees db h n → (∀ k, k ≤ n → canonHash db' k = canonHash db k) → CanonAgrees db' h n := by
  intro h n hc
  induction hc with
  | genesis hblk hcan => intro hk; exact .genesis (hb _ _ _ hblk) (by rw [hk 0 (Nat.le_refl _)]; exact hcan)
  | succ hblk hcan _ ih =>
    intro hk
    exact .succ (hb _ _ _ hblk) (by rw [hk _ (Nat.le_refl _)]; exact hcan) (ih fun k hkle => hk k (Nat.le_succ_of_le hkle))

theorem canonAgrees_of_chainOK {db : Db} : ∀ (fuel : Nat) (h : Hash) (n : Nat),
    chainOK db fuel h n = true → CanonAgrees db h n := by
  intro fuel
  induction fuel with
  | zero => intro h n hc; simp [chainOK] at hc
  | succ fuel ih =>
    intro h n hc
    unfold chainOK at hc
    split at hc
    · cases hc
    · rename_i hd hb
      simp only [Bool.and_eq_true, beq_iff_eq, Bool.or_eq_true] at hc
      cases n with
      | zero => exact .genesis hb hc.1
      | succ m => exact .succ hb hc.1 (ih _ _ (by simpa using hc.2))

theorem chainOK_of_canonAgrees {db : Db} {h : Hash} {n : Nat} (hc : CanonAgrees db h n) :
    chainOK db (n + 1) h n = true := by
  induction hc with
  | genesis hb hcan => simp [chainOK, hb, hcan]
  | succ hb hcan _ ih => unfold chainOK; simp [hb, hcan, ih]

theorem repairable_of_canonAgrees {db : Db} {h : Hash} {n : Nat} (hc : CanonAgrees db h n)
    (hg : ∃ g0 hd0, canonHash db 0 = some g0 ∧ getBlock db g0 0 = some hd0 ∧ hasState db hd0.root = true) :
    repairable db (n + 1) h n = true := by
  induction hc with
  | genesis hb hcan =>
    obtain ⟨g0, hd0, hc0, hb0, hs0⟩ := hg
    rw [hcan] at hc0; cases hc0
    rw [hb] at hb0; cases hb0
    simp [repairable, hb, hs0]
  | succ hb _ _ ih => unfold repairable; simp [hb, ih]

theorem canonAgrees_of_nearest {db : Db} {h a : Hash} {n m : Nat} (hn : NearestWithState db h n a m)
    (hc : CanonAgrees db h n) : CanonAgrees db a m := by
  induction hn with
  | here _ _ => exact hc
  | up hb _ _ ih => exact ih (canonAgrees_parent hc hb)

/-- `repair` finds the nearest block of the head chain whose state root is on disk -/
theorem repair_spec {db : Db} : ∀ (fuel : Nat) (h : Hash) (n : Nat), repairable db fuel h n = true →
    ∃ hd, getBlock db h n = some hd ∧ ∃ a m hda, repair db fuel h hd = .ok a m ∧ NearestWithState db h n a m ∧
      getBlock db a m = some hda ∧ hasState db hda.root = true := by
  intro fuel
  induction fuel with
  | zero => intro h n hr; simp [repairable] at hr
  | succ fuel ih =>
    intro h n hr
    unfold repairable at hr
    split at hr
    · cases hr
    · rename_i hd hb
      have hnum := getBlock_num hb
      refine ⟨hd, hb, ?_⟩
      unfold repair
      cases hs : hasState db hd.root with
      | true => exact ⟨h, n, hd, by simp [hnum], .here hb hs, hb, hs⟩
      | false =>
        simp only [hs, Bool.false_or, Bool.and_eq_true, bne_iff_ne, ne_eq] at hr
        obtain ⟨k, rfl⟩ : ∃ k, n = k + 1 := ⟨n - 1, by omega⟩
        obtain ⟨hd', hpb, a, m, hda, hrep, hnear, hba, hsa⟩ := ih hd.parent k hr.2
        exact ⟨a, m, hda, by simpa [hnum, hpb] using hrep, .up hb hs hnear, hba, hsa⟩

theorem ghostAt_cons (g : Hash) (e : Event) (g' : Hash) (p : List GEvent) :
    ghostAt g ((e, g') :: p) = ghostAt g' p := by
  unfold ghostAt
  cases p with
  | nil => rfl
  | cons x xs =>
    rw [List.getLast?_cons_cons]
    cases hl : (x :: xs).getLast? with
    | none => simp at hl
    | some y => rfl

theorem ghostAt_snoc (g : Hash) (tr : List GEvent) (e : Event) (g' : Hash) : ghostAt g (tr ++ [(e, g')]) = g' := by
  unfold ghostAt; simp

theorem applyAll_snoc (db : Db) (es : List Event) (e : Event) : applyAll db (es ++ [e]) = apply (applyAll db es) e := by
  unfold applyAll; simp

theorem traceOK_iff_prefixes {ar : Bool} : ∀ (tr : List GEvent) (db : Db) (g : Hash), TraceOK ar db g tr = true ↔
    ∀ p, p <+: tr → imageOK ar (applyAll db (p.map (·.1))) (ghostAt g p) = true := by
  intro tr
  induction tr with
  | nil =>
    intro db g
    exact ⟨fun h p hp => by obtain rfl := List.prefix_nil.mp hp; exact h, fun h => h [] (List.prefix_refl _)⟩
  | cons x rest ih =>
    intro db g
    obtain ⟨e, g'⟩ := x
    simp only [TraceOK, Bool.and_eq_true, ih, List.prefix_cons_iff]
    constructor
    · rintro ⟨h0, h⟩ p (rfl | ⟨t, rfl, ht⟩)
      · exact h0
      · simpa [applyAll, ghostAt_cons] using h t ht
    · intro h
      exact ⟨h [] (.inl rfl), fun t ht => by simpa [applyAll, ghostAt_cons] using h (_ :: t) (.inr ⟨t, rfl, ht⟩)⟩

theorem traceOK_snoc {ar : Bool} : ∀ (tr : List GEvent) (db : Db) (g : Hash) (e : Event) (g' : Hash),
    TraceOK ar db g (tr ++ [(e, g')]) =
      (TraceOK ar db g tr && imageOK ar (applyAll db ((tr ++ [(e, g')]).map (·.1))) g') := by
  intro tr
  induction tr with
  | nil => intro db g e g'; simp [TraceOK, applyAll]
  | cons x rest ih =>
    intro db g e g'
    obtain ⟨e1, g1⟩ := x
    simp only [List.cons_append, TraceOK, ih, List.map_cons, applyAll, List.foldl_cons, Bool.and_assoc]

theorem firstBad_eq_none_iff {ar : Bool} : ∀ (tr : List GEvent) (db : Db) (g : Hash) (i : Nat),
    firstBad ar db g tr i = none ↔ TraceOK ar db g tr = true
  | [], db, g, i => by simp [firstBad, TraceOK]
  | (e, g') :: rest, db, g, i => by
    unfold firstBad TraceOK
    split <;> simp [*, firstBad_eq_none_iff rest]

theorem get_putNode (db : Db) (p : Hash × List Hash) (k : Key) :
    get (putNode db p) k = if Key.node p.1 = k then some (Val.node p.2) else get db k := rfl

theorem present_putNode {db : Db} (p : Hash × List Hash) {c : Hash} (h : (get db (.node c)).isSome = true) :
    (get (putNode db p) (.node c)).isSome = true := by
  rw [get_putNode]
  split
  · rfl
  · exact h

theorem present_foldl_putNode {db : Db} (ps : List (Hash × List Hash)) {c : Hash}
    (h : (get db (.node c)).isSome = true) : (get (ps.foldl putNode db) (.node c)).isSome = true := by
  induction ps generalizing db with
  | nil => exact h
  | cons p rest ih => exact ih (present_putNode p h)

theorem childrenFirstB_cons (db : Db) (p : Hash × List Hash) (rest : List (Hash × List Hash)) :
    childrenFirstB db (p :: rest) = true ↔
      (∀ c ∈ p.2, (get db (.node c)).isSome = true) ∧ childrenFirstB (putNode db p) rest = true := by
  simp [childrenFirstB]

theorem childrenFirstB_mono {db db' : Db} (hm : ∀ c, (get db (.node c)).isSome = true → (get db' (.node c)).isSome = true) :
    ∀ (ps : List (Hash × List Hash)), childrenFirstB db ps = true → childrenFirstB db' ps = true := by
  intro ps
  induction ps generalizing db db' with
  | nil => intro _; rfl
  | cons p rest ih =>
    rw [childrenFirstB_cons, childrenFirstB_cons]
    refine fun h => ⟨fun c hc => hm c (h.1 c hc), ih ?_ h.2⟩
    intro c
    rw [get_putNode, get_putNode]
    split
    · exact id
    · exact hm c

theorem childrenFirstB_append (db : Db) (xs ys : List (Hash × List Hash)) :
    childrenFirstB db (xs ++ ys) = (childrenFirstB db xs && childrenFirstB (xs.foldl putNode db) ys) := by
  induction xs generalizing db with
  | nil => simp [childrenFirstB]
  | cons x rest ih =>
    simp only [List.cons_append, childrenFirstB, List.foldl_cons, ih, Bool.and_assoc]

theorem childrenFirstB_prefix {db : Db} {ps qs : List (Hash × List Hash)} (hpre : qs <+: ps)
    (h : childrenFirstB db ps = true) : childrenFirstB db qs = true := by
  obtain ⟨r, rfl⟩ := hpre
  rw [childrenFirstB_append, Bool.and_eq_true] at h
  exact h.1

mutual
theorem commitPuts_spec : ∀ (t : MTree) (db : Db),
    (∀ c ∈ t.diskRefs, (get db (.node c)).isSome = true) →
    childrenFirstB db (commitPuts t) = true ∧ (get ((commitPuts t).foldl putNode db) (.node t.hash)).isSome = true
  | .node h kids dk, db, hd => by
    obtain ⟨h1, h2⟩ := commitPutsL_spec kids db fun c hc => hd c (by simp [MTree.diskRefs, hc])
    unfold commitPuts
    rw [childrenFirstB_append, List.foldl_append, h1, Bool.true_and, childrenFirstB_cons]
    refine ⟨?_, ?_⟩
    -- the node's own put comes last: its references are the kids just committed, or on disk; nothing follows it
    · refine ⟨fun c hc => ?_, rfl⟩
      rcases List.mem_append.mp hc with hc | hc
      · obtain ⟨t, ht, rfl⟩ := List.mem_map.mp hc
        exact h2 t ht
      · exact present_foldl_putNode _ (hd c (by simp [MTree.diskRefs, hc]))
    · simp [MTree.hash, get_putNode]
theorem commitPutsL_spec : ∀ (ts : List MTree) (db : Db),
    (∀ c ∈ MTree.diskRefsL ts, (get db (.node c)).isSome = true) →
    childrenFirstB db (commitPutsL ts) = true ∧
      ∀ t ∈ ts, (get ((commitPutsL ts).foldl putNode db) (.node t.hash)).isSome = true
  | [], db, _ => by simp [commitPutsL, childrenFirstB]
  | t :: ts, db, hd => by
    obtain ⟨h1, h2⟩ := commitPuts_spec t db fun c hc => hd c (by simp [MTree.diskRefsL, hc])
    obtain ⟨h3, h4⟩ := commitPutsL_spec ts ((commitPuts t).foldl putNode db)
      fun c hc => present_foldl_putNode _ (hd c (by simp [MTree.diskRefsL, hc]))
    unfold commitPutsL
    rw [childrenFirstB_append, List.foldl_append]
    refine ⟨by simp [h1, h3], fun t' ht' => ?_⟩
    rcases List.mem_cons.mp ht' with rfl | ht'
    · exact present_foldl_putNode _ h2
    · exact h4 t' ht'
end

theorem closed_putNode {db : Db} (hc : Closed db) (p : Hash × List Hash)
    (hp : ∀ c ∈ p.2, (get db (.node c)).isSome = true) : Closed (putNode db p) := by
  intro h cs hg c hcm
  rw [get_putNode] at hg
  split at hg
  · cases hg
    exact present_putNode p (hp c hcm)
  · exact present_putNode p (hc h cs hg c hcm)

theorem closed_foldl_putNode {db : Db} (hc : Closed db) : ∀ (ps : List (Hash × List Hash)),
    childrenFirstB db ps = true → Closed (ps.foldl putNode db) := by
  intro ps
  induction ps generalizing db with
  | nil => intro _; exact hc
  | cons p rest ih =>
    rw [childrenFirstB_cons]
    exact fun h => ih (closed_putNode hc p h.1) h.2

def nodeBatch (c : List (Hash × List Hash)) : Event := .batch (c.map fun p => (Key.node p.1, some (Val.node p.2)))

theorem apply_nodeBatch (db : Db) (c : List (Hash × List Hash)) : apply db (nodeBatch c) = c.foldl putNode db := by
  unfold nodeBatch apply
  induction c generalizing db with
  | nil => rfl
  | cons p rest ih => exact ih _

theorem applyAll_nodeBatches (db : Db) (chunks : List (List (Hash × List Hash))) :
    applyAll db (chunks.map nodeBatch) = chunks.flatten.foldl putNode db := by
  induction chunks generalizing db with
  | nil => rfl
  | cons c rest ih =>
    simp only [List.map_cons, applyAll, List.foldl_cons, List.flatten_cons, List.foldl_append]
    rw [apply_nodeBatch]
    exact ih _

theorem lockOps_append (xs ys : List Act) : lockOps (xs ++ ys) = lockOps xs ++ lockOps ys := by
  induction xs with
  | nil => rfl
  | cons a rest ih => cases a <;> simp [lockOps, ih]

theorem held_append (xs ys : List LockOp) :
    held (xs ++ ys) = ((held xs).1 + (held ys).1, (held xs).2 + (held ys).2) := by
  induction xs with
  | nil => simp [held]
  | cons a rest ih =>
    cases a <;> simp only [List.cons_append, held, ih] <;> ext <;> simp <;> omega

theorem writeBatch_lockOps {f : Option Nat} {s s' : CState} {ok : Bool} (h : writeBatch f s = (ok, s')) :
    lockOps s'.acts = lockOps s.acts := by
  unfold writeBatch at h
  split at h <;> cases h <;> simp [lockOps_append, lockOps]

theorem preLoop_lockOps (limit : Nat) (f : Option Nat) : ∀ (pre : List (Hash × Nat)) (s : CState),
    lockOps (preLoop limit f pre s).2.acts = lockOps s.acts := by
  intro pre
  induction pre with
  | nil => intro s; rfl
  | cons p rest ih =>
    intro s
    unfold preLoop
    simp only
    split
    · split
      · rename_i hw; exact (writeBatch_lockOps hw :)
      · rename_i hw; rw [ih]; exact (writeBatch_lockOps hw :)
    · rw [ih]

theorem nodeLoop_lockOps (limit : Nat) (f : Option Nat) : ∀ (nodes : List (Hash × List Hash × Nat)) (s : CState),
    lockOps (nodeLoop limit f nodes s).2.acts = lockOps s.acts := by
  intro nodes
  induction nodes with
  | nil => intro s; rfl
  | cons p rest ih =>
    intro s
    unfold nodeLoop
    simp only
    split
    · split
      · rename_i hw; exact (writeBatch_lockOps hw :)
      · rename_i hw; rw [ih]; exact (writeBatch_lockOps hw :)
    · rw [ih]

/-- the lock operations of a run of `Commit`, for any inputs and any failing write: the read lock is taken and released —
    except where the preimage loop fails in the code before 69e8ea6 — and a successful run then takes and releases the
    write lock -/
theorem commitRun_lockOps (fixed : Bool) (limit : Nat) (pre : List (Hash × Nat)) (nodes : List (Hash × List Hash × Nat))
    (failAt : Option Nat) :
    lockOps (commitRun fixed limit pre nodes failAt).1 =
      if (preLoop limit failAt pre { acts := [.lk .rlock] }).1 = false then
        (if fixed then [.rlock, .runlock] else [.rlock])
      else if (nodeLoop limit failAt nodes (preLoop limit failAt pre { acts := [.lk .rlock] }).2).1 = false then [.rlock, .runlock]
      else if (writeBatch failAt (nodeLoop limit failAt nodes (preLoop limit failAt pre { acts := [.lk .rlock] }).2).2).1 = false
        then [.rlock, .runlock]
      else [.rlock, .runlock, .lock, .unlock] := by
  unfold commitRun
  simp only
  have hp := preLoop_lockOps limit failAt pre { acts := [.lk .rlock] }
  cases hpl : preLoop limit failAt pre { acts := [.lk .rlock] } with
  | mk okp sp =>
    rw [hpl] at hp
    cases okp with
    | false => cases fixed <;> simp [lockOps_append, hp, lockOps]
    | true =>
      simp only [Bool.true_eq_false, if_false]
      have hn := nodeLoop_lockOps limit failAt nodes sp
      cases hnl : nodeLoop limit failAt nodes sp with
      | mk okn sn =>
        rw [hnl] at hn
        cases okn with
        | false => simp [lockOps_append, hn, hp, lockOps]
        | true =>
          simp only [Bool.true_eq_false, if_false]
          cases hwl : writeBatch failAt sn with
          | mk okw sw => cases okw <;> simp [lockOps_append, writeBatch_lockOps hwl, hn, hp, lockOps]

theorem commitRun_lockOps_released (fixed : Bool) (limit : Nat) (pre : List (Hash × Nat))
    (nodes : List (Hash × List Hash × Nat)) (failAt : Option Nat)
    (h : fixed = true ∨ (preLoop limit failAt pre { acts := [.lk .rlock] }).1 = true) :
    lockOps (commitRun fixed limit pre nodes failAt).1 = [.rlock, .runlock] ∨
      lockOps (commitRun fixed limit pre nodes failAt).1 = [.rlock, .runlock, .lock, .unlock] := by
  rw [commitRun_lockOps]
  split
  · rename_i hpl
    rw [h.resolve_right (by simp [hpl])]
    exact .inl rfl
  · split
    · exact .inl rfl
    · split
      · exact .inl rfl
      · exact .inr rfl

/-! ### the block cache: populated only by reads (and never before a flush), it stays coherent -/

/-- the steps the code as written performs on (cache, store) during imports, Stop and failed writes; no import/Stop
    event removes a stored block -/
def CodeStep (db : Db) : CacheStep → Prop
  | .read _ _ => True
  | .wrote e => ∀ h n hd, getBlock db h n = some hd → getBlock (apply db e) h n = some hd
  | .failed _ => True
  | .addUnflushed _ _ => False

theorem coherent_cstep {c : BlockCache} {db : Db} (hc : Coherent c db) (st : CacheStep) (hs : CodeStep db st) :
    Coherent (cstep (c, db) st).1 (cstep (c, db) st).2 := by
  cases st with
  | read h n =>
    simp only [cstep]
    split
    · exact hc
    · split
      · rename_i hd hb
        intro h' hd' hg
        simp only [cacheGet] at hg
        split at hg
        · rename_i e
          cases hg; subst e
          rw [getBlock_num hb]; exact hb
        · exact hc h' hd' hg
      · exact hc
  | wrote e => exact fun h hd hg => hs h hd.num hd (hc h hd hg)
  | failed e => exact hc
  | addUnflushed h hd => exact hs.elim

end Aqv.ChainDb
