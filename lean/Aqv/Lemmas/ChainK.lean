/-
  Aqv.Lemmas.ChainK — what `BlockChain.insert` (fix 3f14ce8) does to the number index and the transaction lookups of a
  chain fed by full imports, read against the header head (`IdxL`), which the block head may lag behind (after a rewind
  onto a block without state); then the invariant read the same way (`InvK`, `GInvC`) and its relation to `InvC`.
-/
import Aqv.Lemmas.ChainIndex
namespace Aqv.Chain

def LkOf (lk : Map Loc) (L : List Blk) : Prop :=
  ∀ t l, lk t = some l ↔ ∃ x ∈ L, x.id = l.blk ∧ x.number = l.num ∧ x.txs[l.idx]? = some t

/-- what `insert` touches — number index and lookups — read against the header head `hh` and its ancestry `HC` -/
structure IdxL (U : Map Blk) (s : St) (hh : Blk) (HC : List Blk) : Prop where
  idx : IdxC U s.store s.genesis s.canon hh HC
  hhead : s.hhead = hh.id
  lookup : LkOf s.lookup (HC ++ [s.genesis])
  genTxs : s.genesis.txs = []

theorem IdxL.fuel {U : Map Blk} {s : St} {hh : Blk} {HC : List Blk} (h : IdxL U s hh HC) : hh.number ≤ indexFuel s := by
  unfold indexFuel
  rw [h.hhead, h.idx.headStored]
  simp only
  omega

theorem IdxL.mono {U : Map Blk} {s s' : St} {hh : Blk} {HC : List Blk} (h : IdxL U s hh HC)
    (hext : StoreExt s.store s'.store) (hsub : StoreExt s'.store U) (hgen : s'.genesis = s.genesis)
    (hcanon : ∀ n, s'.canon n = s.canon n) (hlk : ∀ t, s'.lookup t = s.lookup t) (hhh : s'.hhead = s.hhead) :
    IdxL U s' hh HC where
  idx :=
    { sub := hsub
      headStored := hext _ _ h.idx.headStored
      path := by rw [hgen]; exact h.idx.path.mono hext
      canon := by intro n i; rw [hgen, hcanon]; exact h.idx.canon n i
      genNum := by rw [hgen]; exact h.idx.genNum }
  hhead := by rw [hhh]; exact h.hhead
  lookup := by intro t l; rw [hgen, hlk]; exact h.lookup t l
  genTxs := by rw [hgen]; exact h.genTxs

theorem insertHead_same {s : St} {x : Blk} (hc : s.canon x.number = some x.id) : insertHead s x = { s with head := x.id } := by
  unfold insertHead
  simp [hc]

theorem insertHead_moves {s : St} {x : Blk} (hnc : s.canon x.number ≠ some x.id) :
    insertHead s x =
      { s with canon := (insertIndex s x).1, lookup := (insertIndex s x).2, head := x.id, hhead := x.id, fhead := x.id } := by
  unfold insertHead
  simp [hnc]

theorem overwriteStale_mono {st st' : Map Blk} (he : StoreExt st st') : ∀ (f : Nat) (c : Map Nat) (hh hn : Nat)
    (c2 : Map Nat), overwriteStale st f c hh hn = (c2, true) → overwriteStale st' f c hh hn = (c2, true) := by
  intro f
  induction f with
  | zero => intro c hh hn c2 h; cases h
  | succ f ih =>
    intro c hh hn c2 h
    rcases overwriteStale_true h with ⟨hc, rfl⟩ | ⟨x, k, hc, hx, hxn, rfl, h'⟩
    · exact overwriteStale_stop _ _ hc
    · rw [overwriteStale_step _ _ hc (he _ _ hx) hxn]
      exact ih _ _ _ _ h'

/-- the number-index component of the `updateHeads` batch is what the loops of `HeaderChain.WriteHeader` compute -/
theorem insertIndex_fst {t : St} {x : Blk} {k : Nat} (hk : x.number = k + 1) {c2 : Map Nat}
    (hos : overwriteStale t.store (k + 1) (delCanonAbove t.canon (indexFuel t + 1) (k + 1 + 1)) x.parent k = (c2, true)) :
    (insertIndex t x).1 = upd c2 x.number (some x.id) := by
  unfold insertIndex
  simp only
  generalize dropReplaced t x = lkz
  rw [hk]
  simp only
  rw [repointBelow_fst t.store t.canon (k + 1) x.parent k _ _ c2 ?_ ?_]
  · intro n hn
    rw [dropAbove_fst _ _ _ _ _ _ (fun _ _ => rfl), delCanonAbove_below _ _ _ _ (by omega)]
  · rw [dropAbove_fst _ _ _ _ _ _ (fun _ _ => rfl)]
    exact hos

/-- over any header store `H` containing the blocks: `ChainMixedIdx` takes the store overlaid with downloaded headers -/
theorem insert_index {U H : Map Blk} (W : World U) {t : St} (hext : StoreExt t.store H) {hh : Blk} {HC : List Blk}
    (hI : IdxC U H t.genesis t.canon hh HC) (hF : hh.number ≤ indexFuel t)
    {x p : Blk} {lp : List Blk} (hxs : t.store x.id = some x) (hpar : parentOf t.store x = some p)
    (hlp : Path t.store p lp t.genesis) (hnc : t.canon x.number ≠ some x.id) :
    ∃ HC', IdxC U H t.genesis (insertHead t x).canon x HC' ∧ (insertHead t x).hhead = x.id := by
  obtain ⟨hps, hpn⟩ := parentOf_some hpar
  have hids : ∀ k y, t.store k = some y → y.id = k := fun k y hy => W.ids _ _ (hI.sub _ _ (hext _ _ hy))
  have hpid : p.id = x.parent := hids _ _ hps
  obtain ⟨k, hk⟩ : ∃ k, x.number = k + 1 := ⟨p.number, by omega⟩
  have hflag := hI.overwrite_ok hids hlp (by rw [hpid]; exact hps) (indexFuel t)
  rw [hpid, show p.number = k by omega] at hflag
  cases hos : overwriteStale t.store (k + 1) (delCanonAbove t.canon (indexFuel t + 1) (k + 1 + 1)) x.parent k with
  | mk c2 okb =>
    rw [hos] at hflag
    simp only at hflag
    subst hflag
    obtain ⟨l, R', -, hnew⟩ :=
      idxC_switch W hI (hext _ _ hxs) (parentOf_mono hext hpar) hF hk (overwriteStale_mono hext _ _ _ _ _ hos)
    refine ⟨(x :: l) ++ R', ?_, by rw [insertHead_moves hnc]⟩
    rw [insertHead_moves hnc]
    show IdxC U H t.genesis (insertIndex t x).1 x _
    rw [insertIndex_fst hk hos]
    exact hnew

/-- `lk` without the lookups that point into a block of `O` (the chain an `insert` displaces) -/
def dropInto (O : List Blk) (lk : Map Loc) (t : Nat) : Option Loc :=
  match lk t with
  | some l => if ∃ o ∈ O, o.id = l.blk ∧ t ∈ o.txs then none else some l
  | none => none

theorem dropInto_none {O : List Blk} {lk : Map Loc} {t : Nat} (h : lk t = none) : dropInto O lk t = none := by
  rw [dropInto, h]

theorem dropInto_some {O : List Blk} {lk : Map Loc} {t : Nat} {l : Loc} (h : lk t = some l) :
    dropInto O lk t = if ∃ o ∈ O, o.id = l.blk ∧ t ∈ o.txs then none else some l := by
  rw [dropInto, h]

theorem dropInto_congr {O : List Blk} {lk lk' : Map Loc} {t : Nat} (h : lk t = lk' t) :
    dropInto O lk t = dropInto O lk' t := by
  rw [dropInto, dropInto, h]

/-- the lookup component of the `updateHeads` batch; the parent `p` is always indexed on a chain fed by full imports -/
theorem insertIndex_snd {U : Map Blk} (W : World U) {s : St} {hh : Blk} {HC O R : List Blk}
    (hI : IdxC U s.store s.genesis s.canon hh HC) {x p : Blk} (hpar : parentOf s.store x = some p)
    (hsplit : HC = O ++ R) (hO : Path s.store hh O p) (hR : Path s.store p R s.genesis)
    (hF : hh.number ≤ indexFuel s) (t : Nat) :
    (insertIndex s x).2 t = dropInto O s.lookup t := by
  obtain ⟨hps, hpn⟩ := parentOf_some hpar
  have hpid : p.id = x.parent := hI.storeIds W _ _ hps
  have hOmem : ∀ o ∈ O, o ∈ HC ++ [s.genesis] := fun o ho => by rw [hsplit]; simp [ho]
  have hpc : s.canon p.number = some x.parent := by
    rw [← hpid]
    exact (hI.canon _ _).mpr ⟨p, by rw [hsplit, List.append_assoc]; exact List.mem_append_right _ hR.head_mem, rfl, rfl⟩
  have hsome : ∀ n, n < hh.number + 1 → (s.canon n).isSome = true := by
    intro n hn
    obtain ⟨z, hz, hzn⟩ := hI.canonBelow n (by omega)
    rw [(hI.canon n z.id).mpr ⟨z, hz, hzn, rfl⟩]; rfl
  have hnone : ∀ n, hh.number + 1 ≤ n → s.canon n = none := fun n hn => hI.canonAbove n (by omega)
  -- the walk below stops at once, so the batch is the "entries above" loop started at the height of `x` itself
  have hform : (insertIndex s x).2 = (dropAbove s.store s.canon (indexFuel s + 1 + 1) x.number s.canon s.lookup).2 := by
    unfold insertIndex dropReplaced
    simp only
    rw [show x.number = p.number + 1 by omega]
    simp only
    rw [repointBelow_stop _ _ _ _ _ _ _ hpc]
    cases hcx : s.canon (p.number + 1) with
    | none =>
      have : hh.number + 1 ≤ p.number + 1 := by
        apply Nat.le_of_not_lt
        intro hlt
        have := hsome _ hlt
        rw [hcx] at this; cases this
      rw [dropAbove_stop _ _ _ _ _ hcx, dropAbove_stop _ _ _ _ _ (hnone _ (by omega))]
    | some o =>
      rw [dropAbove_step _ _ _ _ _ hcx]
      exact dropAbove_snd_indep _ _ _ _ _ _ _
  obtain ⟨h1, h2⟩ := dropAbove_snd s.store s.canon (hh.number + 1) hnone t (indexFuel s + 1 + 1) x.number s.canon s.lookup
    (by omega) (fun n _ hn => hsome n hn)
  rw [hform]
  cases hl : s.lookup t with
  | none =>
    rw [dropInto_none hl]
    refine (h2 ?_).trans hl
    rintro ⟨_, _, _, _, _, _, _, _, l', hl', _⟩
    rw [hl] at hl'; cases hl'
  | some l =>
    -- the blocks indexed at or above the height of `x` are the displaced blocks
    have hiff : (∃ m o y, x.number ≤ m ∧ s.canon m = some o ∧ s.store o = some y ∧ y.number = m ∧ t ∈ y.txs ∧
        ∃ l', s.lookup t = some l' ∧ l'.blk = y.id) ↔ ∃ o ∈ O, o.id = l.blk ∧ t ∈ o.txs := by
      constructor
      · rintro ⟨m, o, y, hm, hc, hy, hyn, hty, l', hl', hlb⟩
        rw [hl] at hl'; cases hl'
        obtain ⟨z, hz, _, hzi⟩ := (hI.canon m o).mp hc
        have hzs := hI.chainStored W z hz
        rw [hzi, hy] at hzs
        cases hzs
        rw [hsplit, List.append_assoc] at hz
        rcases List.mem_append.mp hz with hz | hz
        · exact ⟨y, hz, hlb.symm, hty⟩
        · have := (hR.mem_le y hz).2; omega
      · rintro ⟨o, ho, hob, hto⟩
        have := (hO.mem_number o ho).1
        exact ⟨o.number, o.id, o, by omega, (hI.canon _ _).mpr ⟨o, hOmem o ho, rfl, rfl⟩, hI.chainStored W o (hOmem o ho),
          rfl, hto, l, hl, hob.symm⟩
    rw [dropInto_some hl]
    by_cases hdis : ∃ o ∈ O, o.id = l.blk ∧ t ∈ o.txs
    · rw [h1 (hiff.mpr hdis)]; exact (if_pos hdis).symm
    · rw [h2 fun hc => hdis (hiff.mp hc), hl]; exact (if_neg hdis).symm

theorem mem_of_txs {g y : Blk} {R : List Blk} (hgt : g.txs = []) (hy : y ∈ R ++ [g]) {t : Nat} (ht : t ∈ y.txs) : y ∈ R := by
  rcases List.mem_append.mp hy with hy | hy
  · exact hy
  · rw [List.mem_singleton.mp hy, hgt] at ht; cases ht

section lk
variable {U : Map Blk} (W : World U) {g hh x : Blk} {O N R : List Blk} {lk lk' : Map Loc}
include W

theorem LkOf.segment (hlk : LkOf lk ((O ++ R) ++ [g])) (hgt : g.txs = []) (hhU : U hh.id = some hh)
    (hOR : Path U hh (O ++ R) g) {t : Nat} {l : Loc} (hl : lk t = some l) (ht : t ∈ O.flatMap (·.txs)) :
    ∃ o ∈ O, o.id = l.blk ∧ t ∈ o.txs := by
  obtain ⟨y, hy, hyi, _, hyt⟩ := (hlk t l).mp hl
  have hty := mem_txs_of_getElem? hyt
  rw [List.append_assoc] at hy
  rcases List.mem_append.mp hy with hy | hy
  · exact ⟨y, hy, hyi, hty⟩
  · obtain ⟨o, ho, hto⟩ := List.mem_flatMap.mp ht
    exact absurd hty (W.disjoint hhU hOR ho (mem_of_txs hgt hy hty) hto)

theorem lkOf_switch (hlk : LkOf lk ((O ++ R) ++ [g])) (hgt : g.txs = [])
    (hhU : U hh.id = some hh) (hOR : Path U hh (O ++ R) g) (hxU : U x.id = some x) (hNR : Path U x (N ++ R) g)
    (hl1 : ∀ y ∈ N, ∀ j t, y.txs[j]? = some t → lk' t = some ⟨y.id, y.number, j⟩)
    (hl2 : ∀ t, t ∉ N.flatMap (·.txs) → t ∈ O.flatMap (·.txs) → lk' t = none)
    (hl3 : ∀ t, t ∉ N.flatMap (·.txs) → t ∉ O.flatMap (·.txs) → lk' t = lk t) :
    LkOf lk' ((N ++ R) ++ [g]) := by
  intro t l
  have hmem : ∀ (A : List Blk) (y : Blk), y ∈ (A ++ R) ++ [g] ↔ y ∈ A ∨ y ∈ R ++ [g] := by
    intro A y; rw [List.append_assoc, List.mem_append]
  constructor
  · intro h
    by_cases h1 : t ∈ N.flatMap (·.txs)
    · obtain ⟨y, hy, hty⟩ := List.mem_flatMap.mp h1
      obtain ⟨j, hj⟩ := List.mem_iff_getElem?.mp hty
      rw [hl1 y hy j t hj] at h
      cases h
      exact ⟨y, (hmem N y).mpr (.inl hy), rfl, rfl, hj⟩
    · by_cases h2 : t ∈ O.flatMap (·.txs)
      · rw [hl2 t h1 h2] at h; cases h
      · rw [hl3 t h1 h2] at h
        obtain ⟨y, hy, hyi, hyn, hyt⟩ := (hlk t l).mp h
        rcases (hmem O y).mp hy with hy | hy
        · exact absurd (List.mem_flatMap.mpr ⟨y, hy, mem_txs_of_getElem? hyt⟩) h2
        · exact ⟨y, (hmem N y).mpr (.inr hy), hyi, hyn, hyt⟩
  · rintro ⟨y, hy, hyi, hyn, hyt⟩
    rcases (hmem N y).mp hy with hy | hy
    · rw [hl1 y hy _ t hyt, hyi, hyn]
    · -- `y` on the common part: `t` is neither in the new nor in the old segment
      have hty := mem_txs_of_getElem? hyt
      have hyR := mem_of_txs hgt hy hty
      have h1 : t ∉ N.flatMap (·.txs) := by
        intro hm
        obtain ⟨z, hz, htz⟩ := List.mem_flatMap.mp hm
        exact W.disjoint hxU hNR hz hyR htz hty
      have h2 : t ∉ O.flatMap (·.txs) := by
        intro hm
        obtain ⟨z, hz, htz⟩ := List.mem_flatMap.mp hm
        exact W.disjoint hhU hOR hz hyR htz hty
      rw [hl3 t h1 h2]
      exact (hlk t l).mpr ⟨y, (hmem O y).mpr (.inr hy), hyi, hyn, hyt⟩

theorem lkOf_insert (hlk : LkOf lk ((O ++ R) ++ [g])) (hgt : g.txs = [])
    (hhU : U hh.id = some hh) (hOR : Path U hh (O ++ R) g) (hxU : U x.id = some x) (hxR : Path U x (x :: R) g)
    (hown : ∀ j t, x.txs[j]? = some t → lk' t = some ⟨x.id, x.number, j⟩)
    (hrest : ∀ t, t ∉ x.txs → lk' t = dropInto O lk t) :
    LkOf lk' ((x :: R) ++ [g]) := by
  refine lkOf_switch W (N := [x]) hlk hgt hhU hOR hxU hxR ?_ ?_ ?_
  · intro y hy j t hj
    rw [List.mem_singleton.mp hy] at hj ⊢
    exact hown j t hj
  · intro t htN htO
    rw [hrest t (by simpa using htN)]
    cases hl : lk t with
    | none => exact dropInto_none hl
    | some l =>
      rw [dropInto_some hl]
      exact if_pos (hlk.segment W hgt hhU hOR hl htO)
  · intro t htN htO
    rw [hrest t (by simpa using htN)]
    cases hl : lk t with
    | none => exact dropInto_none hl
    | some l =>
      rw [dropInto_some hl]
      exact if_neg fun ⟨o, ho, _, hto⟩ => htO (List.mem_flatMap.mpr ⟨o, ho, hto⟩)

end lk

theorem lkOf_rewrite {U : Map Blk} (W : World U) {hh g x : Blk} {HC : List Blk} {lk : Map Loc}
    (hlk : LkOf lk (HC ++ [g])) (hhU : U hh.id = some hh) (hp : Path U hh HC g) (hgt : g.txs = [])
    (hx : x ∈ HC ++ [g]) (t : Nat) : writeLookups lk x t = lk t := by
  by_cases htx : t ∈ x.txs
  · obtain ⟨j, hj⟩ := List.mem_iff_getElem?.mp htx
    have hxC : x ∈ HC := by
      rcases List.mem_append.mp hx with hx | hx
      · exact hx
      · simp at hx; subst hx; rw [hgt] at htx; simp at htx
    rw [writeLookups_mem _ _ _ _ (W.txs_nodup hhU hp hxC) hj]
    exact ((hlk t ⟨x.id, x.number, j⟩).mpr ⟨x, hx, rfl, rfl, hj⟩).symm
  · exact writeLookups_not_mem _ _ _ htx

theorem insert_moves {U : Map Blk} (W : World U) {s : St} {hh : Blk} {HC : List Blk}
    (hI : IdxC U s.store s.genesis s.canon hh HC) (hF : hh.number ≤ indexFuel s)
    {x p : Blk} (hxs : s.store x.id = some x) (hpar : parentOf s.store x = some p) (hp : p ∈ HC ++ [s.genesis])
    (hnc : s.canon x.number ≠ some x.id) :
    ∃ O R, HC = O ++ R ∧ Path s.store p R s.genesis ∧
      IdxC U s.store s.genesis (insertHead s x).canon x (x :: R) ∧
      (∀ t, (insertHead s x).lookup t = dropInto O s.lookup t) ∧
      (insertHead s x).hhead = x.id ∧ (insertHead s x).fhead = x.id := by
  obtain ⟨O, R, hsplit, hO, hR⟩ := hI.splitAt hp
  obtain ⟨HC', hnew, hhh⟩ := insert_index W (fun _ _ h => h) hI hF hxs hpar hR hnc
  -- the walk below stopped at once: the parent is indexed
  rw [(hnew.path.det (.cons hpar hR) rfl).1] at hnew
  refine ⟨O, R, hsplit, hR, hnew, fun t => ?_, hhh, by rw [insertHead_moves hnc]⟩
  rw [insertHead_moves hnc]
  exact insertIndex_snd W hI hpar hsplit hO hR hF t

/-- `insert(x)` and `WriteTxLookupEntries(x)`: `reorg` inserts first (`reorgStep`), `WriteBlockWithState` writes first
    (`afterCanon`) -/
def insertAndWrite (writeFirst : Bool) (x : Blk) (s : St) : St :=
  match writeFirst with
  | false => reorgStep x s
  | true => insertHead { s with lookup := writeLookups s.lookup x } x

theorem idxL_step {U : Map Blk} (W : World U) {s : St} {hh : Blk} {HC : List Blk} (h : IdxL U s hh HC) (wf : Bool)
    {x p : Blk} (hxs : s.store x.id = some x) (hpar : parentOf s.store x = some p) (hp : p ∈ HC ++ [s.genesis]) :
    (x ∈ HC ++ [s.genesis] → IdxL U (insertAndWrite wf x s) hh HC ∧ (insertAndWrite wf x s).fhead = s.fhead) ∧
    (x ∉ HC ++ [s.genesis] → ∀ R, Path s.store p R s.genesis →
      IdxL U (insertAndWrite wf x s) x (x :: R) ∧ (insertAndWrite wf x s).fhead = x.id) := by
  have hhU : U hh.id = some hh := h.idx.sub _ _ h.idx.headStored
  have hxU : U x.id = some x := h.idx.sub _ _ hxs
  constructor
  · intro hx
    have hc : s.canon x.number = some x.id := (h.idx.canon_iff_mem W hxs).mpr hx
    have hst : insertAndWrite wf x s = { s with head := x.id, lookup := writeLookups s.lookup x } := by
      cases wf
      · show reorgStep x s = _
        unfold reorgStep; rw [insertHead_same hc]
      · exact insertHead_same (s := { s with lookup := writeLookups s.lookup x }) hc
    rw [hst]
    refine ⟨⟨h.idx, h.hhead, fun t l => ?_, h.genTxs⟩, rfl⟩
    show writeLookups s.lookup x t = some l ↔ _
    rw [lkOf_rewrite W h.lookup hhU (h.idx.path.mono h.idx.sub) h.genTxs hx t]
    exact h.lookup t l
  · intro hx R' hR'
    have hnc : s.canon x.number ≠ some x.id := fun hc => hx ((h.idx.canon_iff_mem W hxs).mp hc)
    have hnd : x.txs.Nodup :=
      W.txs_nodup hxU (l := [x]) (.cons (parentOf_mono h.idx.sub hpar) (.nil p)) (List.mem_singleton.mpr rfl)
    have hL : ∀ {O R : List Blk} {lk' : Map Loc}, HC = O ++ R → Path s.store p R s.genesis →
        (∀ j t, x.txs[j]? = some t → lk' t = some ⟨x.id, x.number, j⟩) →
        (∀ t, t ∉ x.txs → lk' t = dropInto O s.lookup t) → LkOf lk' ((x :: R) ++ [s.genesis]) := by
      intro O R lk' hsplit hR
      exact lkOf_insert W (hh := hh) (by rw [← hsplit]; exact h.lookup) h.genTxs hhU
        (by rw [← hsplit]; exact h.idx.path.mono h.idx.sub) hxU ((Path.cons hpar hR).mono h.idx.sub)
    cases wf
    · obtain ⟨O, R, hsplit, hR, hnew, hlk, hhh, hfh⟩ := insert_moves W h.idx h.fuel hxs hpar hp hnc
      obtain rfl := (hR.det hR' rfl).1
      refine ⟨⟨hnew, hhh, hL hsplit hR (fun j t hj => writeLookups_mem _ _ _ _ hnd hj) ?_, h.genTxs⟩, hfh⟩
      intro t ht
      show writeLookups (insertHead s x).lookup x t = _
      rw [writeLookups_not_mem _ _ _ ht]
      exact hlk t
    · obtain ⟨O, R, hsplit, hR, hnew, hlk, hhh, hfh⟩ :=
        insert_moves W (s := { s with lookup := writeLookups s.lookup x }) h.idx h.fuel hxs hpar hp hnc
      obtain rfl := (hR.det hR' rfl).1
      refine ⟨⟨hnew, hhh, hL hsplit hR ?_ ?_, h.genTxs⟩, hfh⟩
      · intro j t hj
        refine (hlk t).trans ?_
        show dropInto O (writeLookups s.lookup x) t = _
        rw [dropInto_some (writeLookups_mem _ _ _ _ hnd hj)]
        refine if_neg ?_
        rintro ⟨o, ho, hoi, _⟩
        -- a displaced block with the hash of `x` would be `x`, which is not indexed
        have hom : o ∈ HC ++ [s.genesis] := by rw [hsplit]; simp [ho]
        have hos := h.idx.chainStored W o hom
        rw [hoi, hxs] at hos
        cases hos
        exact hx hom
      · intro t ht
        refine (hlk t).trans ?_
        exact dropInto_congr (writeLookups_not_mem _ _ _ ht)

theorem foldr_reorgStep_frame (s : St) (N : List Blk) : ∃ c lk hd hhd fh,
    N.foldr reorgStep s = { s with canon := c, lookup := lk, head := hd, hhead := hhd, fhead := fh } := by
  induction N with
  | nil => exact ⟨_, _, _, _, _, rfl⟩
  | cons x N ih =>
    obtain ⟨c, lk, hd, hhd, fh, h⟩ := ih
    rw [List.foldr_cons, h]
    exact ⟨_, _, _, _, _, rfl⟩

theorem idxL_fold {U : Map Blk} (W : World U) {s : St} {hh : Blk} {HC : List Blk} (h : IdxL U s hh HC) :
    ∀ (N : List Blk) (x c : Blk), s.store x.id = some x → Path s.store x N c → c ∈ HC ++ [s.genesis] →
      (x ∈ HC ++ [s.genesis] → IdxL U (N.foldr reorgStep s) hh HC ∧ (N.foldr reorgStep s).fhead = s.fhead) ∧
      (x ∉ HC ++ [s.genesis] → ∃ R, Path s.store c R s.genesis ∧
        IdxL U (N.foldr reorgStep s) x (N ++ R) ∧ (N.foldr reorgStep s).fhead = x.id) := by
  intro N
  induction N with
  | nil =>
    intro x c _ hp hc
    cases hp
    exact ⟨fun _ => ⟨h, rfl⟩, fun hx => absurd hc hx⟩
  | cons a N ih =>
    intro x c hxs hp hc
    obtain ⟨p, hxa, hpar, hrest⟩ := hp.cons_inv
    subst hxa
    obtain ⟨hps, hpn⟩ := parentOf_some hpar
    have hids := h.idx.storeIds W
    have hpid : p.id = x.parent := hids _ _ hps
    obtain ⟨ih1, ih2⟩ := ih p c (by rw [hpid]; exact hps) hrest hc
    obtain ⟨_, _, _, _, _, hfr⟩ := foldr_reorgStep_frame s N
    have hst : (N.foldr reorgStep s).store = s.store := by rw [hfr]
    have hgen : (N.foldr reorgStep s).genesis = s.genesis := by rw [hfr]
    have hxs' : (N.foldr reorgStep s).store x.id = some x := by rw [hst]; exact hxs
    have hpar' : parentOf (N.foldr reorgStep s).store x = some p := by rw [hst]; exact hpar
    refine ⟨?_, ?_⟩
    · -- `x` is indexed, hence so is its parent
      intro hx
      have hpm : p ∈ HC ++ [s.genesis] := h.idx.parent_mem hx hpar
      obtain ⟨hI', hf'⟩ := ih1 hpm
      have := (idxL_step W hI' false hxs' hpar' (by rw [hgen]; exact hpm)).1 (by rw [hgen]; exact hx)
      exact ⟨this.1, this.2.trans hf'⟩
    · intro hx
      by_cases hpm : p ∈ HC ++ [s.genesis]
      · -- the switch happens at `x`
        obtain ⟨hI', _⟩ := ih1 hpm
        obtain ⟨_, Rc, _, _, hRc⟩ := h.idx.splitAt hc
        exact ⟨Rc, hRc, (idxL_step W hI' false hxs' hpar' (by rw [hgen]; exact hpm)).2 (by rw [hgen]; exact hx)
          (N ++ Rc) (by rw [hst, hgen]; exact hrest.append hRc)⟩
      · -- the switch happened below: `p` is the header head by now
        obtain ⟨R, hR, hI', _⟩ := ih2 hpm
        have hxnot : x ∉ (N ++ R) ++ [(N.foldr reorgStep s).genesis] := by
          intro hxm
          have := hI'.idx.chainNumber x hxm
          omega
        exact ⟨R, hR, (idxL_step W hI' false hxs' hpar' hI'.idx.headMem).2 hxnot (N ++ R) hI'.idx.path⟩

/-- `O` is the old side of the fork, from a block `cb` of the indexed chain down to `c` (none if `b` is indexed already);
    the deletion of the lookups of `deleted \ added` after the loop finds nothing left to delete. -/
theorem idxL_reorgApply {U : Map Blk} (W : World U) {s : St} {hh : Blk} {HC : List Blk} (h : IdxL U s hh HC)
    {b cb c : Blk} {O N : List Blk} (hbs : s.store b.id = some b) (hN : Path s.store b N c)
    (hcbm : cb ∈ HC ++ [s.genesis]) (hO : Path s.store cb O c) (hOb : b ∈ HC ++ [s.genesis] → O = []) :
    (b ∈ HC ++ [s.genesis] → IdxL U (reorgApply s O N) hh HC ∧ (reorgApply s O N).fhead = s.fhead) ∧
    (b ∉ HC ++ [s.genesis] → ∃ R, IdxL U (reorgApply s O N) b (N ++ R) ∧ (reorgApply s O N).fhead = b.id) := by
  obtain ⟨hfA, hfB⟩ := idxL_fold W h N b c hbs hN (h.idx.path_from_mem hcbm (fun _ _ hk => hk) hO).2
  have key : ∀ {hh' : Blk} {HC' : List Blk}, IdxL U (N.foldr reorgStep s) hh' HC' →
      (∀ t, t ∈ O.flatMap (·.txs) → t ∉ N.flatMap (·.txs) → (N.foldr reorgStep s).lookup t = none) →
      IdxL U (reorgApply s O N) hh' HC' := by
    intro hh' HC' hI hdel
    refine hI.mono (fun _ _ hk => hk) hI.idx.sub rfl (fun _ => rfl) (fun t => ?_) rfl
    show delLookups _ _ t = _
    rw [delLookups_apply]
    split
    · rename_i hm
      rw [mem_txDifference] at hm
      exact (hdel t hm.1 hm.2).symm
    · rfl
  refine ⟨fun hbm => ?_, fun hbm => ?_⟩
  · obtain ⟨hIf, hff⟩ := hfA hbm
    exact ⟨key hIf (fun t ht => by rw [hOb hbm] at ht; cases ht), hff⟩
  · obtain ⟨R, hR, hIf, hff⟩ := hfB hbm
    refine ⟨R, key hIf (fun t htO htN => ?_), hff⟩
    -- a lookup that is left resolves into the new chain: not into `N`, and the rest is disjoint from the old side
    obtain ⟨y0, hy0, hty0⟩ := List.mem_flatMap.mp htO
    cases hl : (N.foldr reorgStep s).lookup t with
    | none => rfl
    | some l =>
      exfalso
      obtain ⟨y, hy, _, _, hyt⟩ := (hIf.lookup t l).mp hl
      have hty := mem_txs_of_getElem? hyt
      rcases List.mem_append.mp (mem_of_txs hIf.genTxs hy hty) with hy | hy
      · exact htN (List.mem_flatMap.mpr ⟨y, hy, hty⟩)
      · exact W.disjoint (h.idx.sub _ _ (h.idx.chainStored W cb hcbm)) ((hO.append hR).mono h.idx.sub) hy0 hy hty0 hty

/-- the core of the invariant, shared by `GInvC` and `InvC`: everything but where block head and fast head are -/
structure InvK (U : Map Blk) (s : St) (hh : Blk) (HC : List Blk) : Prop where
  il : IdxL U s hh HC
  canonSeen : ∀ x ∈ HC ++ [s.genesis], s.seen x.id = true
  seenClosed : ∀ k x, s.seen k = true → U k = some x → x.number ≠ 0 → s.seen x.parent = true
  stateSeen : ∀ k, s.hasState k = true → s.seen k = true
  diskState : ∀ k, s.onDisk k = true → s.hasState k = true
  seenRcpt : ∀ k, s.seen k = true → s.receipts k = true
  tdIntr : ∀ k t, s.td k = some t →
    ∃ x l, U k = some x ∧ Path U x l s.genesis ∧ t = s.genesis.diff + diffSum l
  storeTd : ∀ k x, s.store k = some x → (s.td k).isSome = true
  genState : s.onDisk s.genesis.id = true

/-- The block head may lag behind the header head (`SetHead` onto a block whose state is gone falls back to a block with
    state): index and lookups describe the chain of the HEADER head, block head and fast head lie on it.  With all three
    heads equal this is `InvC`. -/
structure GInvC (U : Map Blk) (s : St) (hh : Blk) (HC : List Blk) : Prop where
  k : InvK U s hh HC
  headOn : ∃ cb ∈ HC ++ [s.genesis], s.head = cb.id
  fheadOn : ∃ fb ∈ HC ++ [s.genesis], s.fhead = fb.id
  headState : s.hasState s.head = true

def GInv (U : Map Blk) (s : St) : Prop := ∃ hh HC, GInvC U s hh HC

theorem InvC.toG {U : Map Blk} (W : World U) {s : St} {hb : Blk} {C : List Blk} (h : InvC U s hb C) : GInvC U s hb C := by
  have hid := h.headId W
  have hmem : hb ∈ C ++ [s.genesis] := h.path.head_mem
  exact
    { k :=
        { il :=
            { idx := h.idx W
              hhead := by rw [h.hheadEq, hid]
              lookup := h.lookup
              genTxs := h.genTxs }
          canonSeen := h.canonSeen, seenClosed := h.seenClosed, stateSeen := h.stateSeen, diskState := h.diskState,
          seenRcpt := h.seenRcpt, tdIntr := h.tdIntr, storeTd := h.storeTd, genState := h.genState }
      headOn := ⟨hb, hmem, hid.symm⟩
      fheadOn := ⟨hb, hmem, by rw [h.fheadEq, hid]⟩
      headState := h.headState }

theorem GInvC.toC {U : Map Blk} {s : St} {hh : Blk} {HC : List Blk} (h : GInvC U s hh HC)
    (h1 : s.hhead = s.head) (h2 : s.fhead = s.head) : InvC U s hh HC :=
  { sub := h.k.il.idx.sub
    headStored := by rw [← h1, h.k.il.hhead]; exact h.k.il.idx.headStored
    path := h.k.il.idx.path
    canon := h.k.il.idx.canon
    lookup := h.k.il.lookup
    canonSeen := h.k.canonSeen, seenClosed := h.k.seenClosed, stateSeen := h.k.stateSeen, diskState := h.k.diskState
    seenRcpt := h.k.seenRcpt, tdIntr := h.k.tdIntr, storeTd := h.k.storeTd, hheadEq := h1, fheadEq := h2
    genNum := h.k.il.idx.genNum, genTxs := h.k.il.genTxs, genState := h.k.genState, headState := h.headState }

def HeadsFollow (s s' : St) (hh hh' : Blk) : Prop := s.head = hh.id → s.fhead = hh.id → s'.head = hh'.id ∧ s'.fhead = hh'.id

/-- an operation that moves neither head nor the header head -/
theorem HeadsFollow.same {s s' : St} {hh : Blk} (h1 : s'.head = s.head) (h2 : s'.fhead = s.fhead) : HeadsFollow s s' hh hh :=
  fun e1 e2 => ⟨h1.trans e1, h2.trans e2⟩

theorem InvC.step {U : Map Blk} (W : World U) {s s' : St} {hb : Blk} {C : List Blk} (h : InvC U s hb C) {hh' : Blk}
    {HC' : List Blk} (hG' : GInvC U s' hh' HC') (hheads : HeadsFollow s s' hb hh') : Inv U s' := by
  obtain ⟨h1, h2⟩ := hheads (h.headId W).symm (h.fheadEq.trans (h.headId W).symm)
  exact ⟨hh', HC', hG'.toC (hG'.k.il.hhead.trans h1.symm) (h2.trans h1.symm)⟩

theorem inv_toG {U : Map Blk} (W : World U) {s : St} (h : Inv U s) : GInv U s := by
  obtain ⟨hb, C, h⟩ := h
  exact ⟨hb, C, h.toG W⟩

theorem InvK.heavy_not_below {U : Map Blk} (W : World U) {s : St} {hh : Blk} {HC : List Blk} (h : InvK U s hh HC)
    {b p cb : Blk} {ptd lt : Nat} (hbs : s.store b.id = some b) (hpar : parentOf s.store b = some p)
    (hptd : s.td b.parent = some ptd) (hcbs : s.store cb.id = some cb) (hlt : s.td cb.id = some lt)
    (hge : lt ≤ ptd + b.diff) {l : List Blk} (hp : Path s.store cb l b) : l = [] := by
  have hsub := h.il.idx.sub
  cases l with
  | nil => rfl
  | cons a l =>
    exfalso
    obtain ⟨tb, htb⟩ := Option.isSome_iff_exists.mp (h.storeTd _ _ hbs)
    have hpid : p.id = b.parent := W.ids _ _ (hsub _ _ (parentOf_some hpar).1)
    have h1 := td_child_eq W h.tdIntr (hsub _ _ hbs) (parentOf_mono hsub hpar) htb (by rw [hpid]; exact hptd)
    have h2 := td_lt_of_path W h.tdIntr (hsub _ _ hcbs) (hsub _ _ hbs) (hp.mono hsub) (List.cons_ne_nil _ _) hlt htb
    omega

theorem GInvC.headStored {U : Map Blk} (W : World U) {s : St} {hh : Blk} {HC : List Blk} (h : GInvC U s hh HC) :
    ∃ cb ∈ HC ++ [s.genesis], s.head = cb.id ∧ s.store s.head = some cb := by
  obtain ⟨cb, hcb, hid⟩ := h.headOn
  exact ⟨cb, hcb, hid, by rw [hid]; exact h.k.il.idx.chainStored W cb hcb⟩

end Aqv.Chain
