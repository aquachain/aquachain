/-
  Aqv.Lemmas.StateRootSpec — the key-ordered lists built by `Aqv.Model.StateRoot` are strictly sorted and hold exactly the
  intended (secure key, leaf) pairs whenever the hash function is injective on the keys involved.
-/
import Aqv.Model.StateRoot
import Aqv.Lemmas.TrieBuild
namespace Aqv.State
open Aqv Aqv.Trie Aqv.Rlp

theorem kLt_trans {a b c : Bytes × Bytes} (h1 : kLt a b = true) (h2 : kLt b c = true) : kLt a c = true :=
  keyLt_trans _ _ _ h1 h2

theorem kLt_total {a b : Bytes × Bytes} (h : a.1 ≠ b.1) : kLt a b = true ∨ kLt b a = true :=
  keyLt_total _ _ (fun e => h (keybytesToHex_injective e))

theorem mem_insertKV (x y : Bytes × Bytes) : ∀ (l : List (Bytes × Bytes)), y ∈ insertKV x l ↔ y = x ∨ y ∈ l
  | [] => by simp [insertKV]
  | z :: zs => by
    simp only [insertKV]
    split
    · simp
    · simp only [List.mem_cons, mem_insertKV x y zs]
      exact or_left_comm

theorem mem_sortKVs (y : Bytes × Bytes) : ∀ (l : List (Bytes × Bytes)), y ∈ sortKVs l ↔ y ∈ l
  | [] => by simp [sortKVs]
  | x :: xs => by
    have ih := mem_sortKVs y xs
    simp only [sortKVs, List.foldr_cons] at ih ⊢
    rw [mem_insertKV, ih]; simp

theorem sorted_insertKV (x : Bytes × Bytes) : ∀ (l : List (Bytes × Bytes)),
    l.Pairwise (fun a b => kLt a b = true) → (∀ y ∈ l, x.1 ≠ y.1) → (insertKV x l).Pairwise (fun a b => kLt a b = true)
  | [], _, _ => by simp [insertKV]
  | z :: zs, hs, hne => by
    simp only [insertKV]
    obtain ⟨hz, hzs⟩ := List.pairwise_cons.mp hs
    by_cases hxz : kLt x z = true
    · rw [if_pos hxz]
      exact List.pairwise_cons.mpr ⟨fun y hy => (List.mem_cons.mp hy).elim (· ▸ hxz) fun h => kLt_trans hxz (hz y h), hs⟩
    · rw [if_neg hxz]
      have hzx := (kLt_total (hne z List.mem_cons_self)).resolve_left hxz
      refine List.pairwise_cons.mpr ⟨fun y hy => ?_, sorted_insertKV x zs hzs fun y hy => hne y (List.mem_cons_of_mem _ hy)⟩
      exact ((mem_insertKV x y zs).mp hy).elim (· ▸ hzx) (hz y)

theorem sorted_sortKVs : ∀ (l : List (Bytes × Bytes)), l.Pairwise (fun a b => a.1 ≠ b.1) →
    (sortKVs l).Pairwise (fun a b => kLt a b = true)
  | [], _ => by simp [sortKVs]
  | x :: xs, h => by
    obtain ⟨hx, hxs⟩ := List.pairwise_cons.mp h
    have ih := sorted_sortKVs xs hxs
    simp only [sortKVs, List.foldr_cons] at ih ⊢
    exact sorted_insertKV x _ ih (fun y hy => hx y ((mem_sortKVs y xs).mp hy))

def InjOnAddrs (H : Bytes → Bytes) (addrs : List Addr) : Prop :=
  ∀ a ∈ addrs, ∀ b ∈ addrs, H (addrBytes a) = H (addrBytes b) → a = b

def InjOnSlots (H : Bytes → Bytes) (slots : List Slot) : Prop :=
  ∀ a ∈ slots, ∀ b ∈ slots, H (slotBytes a) = H (slotBytes b) → a = b

theorem sorted_storageKVs (H : Bytes → Bytes) (slots : List Slot) (st : Slot → Word) (hnd : slots.Nodup)
    (hinj : InjOnSlots H slots) : (storageKVs H slots st).Pairwise (fun a b => kLt a b = true) := by
  refine sorted_sortKVs _ (List.pairwise_map.mpr (List.Pairwise.filter _ ?_))
  exact hnd.imp_of_mem fun ha hb hne e => hne (hinj _ ha _ hb e)

theorem mem_storageKVs (H : Bytes → Bytes) (slots : List Slot) (st : Slot → Word) (kb v : Bytes) :
    (kb, v) ∈ storageKVs H slots st ↔ ∃ k ∈ slots, st k ≠ 0 ∧ kb = H (slotBytes k) ∧ v = storageLeaf (st k) := by
  unfold storageKVs
  rw [mem_sortKVs]
  simp only [List.mem_map, List.mem_filter, bne_iff_ne, ne_eq, Prod.mk.injEq]
  constructor
  · rintro ⟨k, ⟨hk, hne⟩, h1, h2⟩; exact ⟨k, hk, hne, h1.symm, h2.symm⟩
  · rintro ⟨k, hk, hne, h1, h2⟩; exact ⟨k, ⟨hk, hne⟩, h1.symm, h2.symm⟩

theorem mem_storageKVs_iff {H : Bytes → Bytes} {slots : List Slot} {st : Slot → Word} (hsupp : ∀ k, st k ≠ 0 → k ∈ slots)
    (kb v : Bytes) : (kb, v) ∈ storageKVs H slots st ↔ ∃ k, st k ≠ 0 ∧ kb = H (slotBytes k) ∧ v = storageLeaf (st k) := by
  rw [mem_storageKVs]
  exact ⟨fun ⟨k, _, h⟩ => ⟨k, h⟩, fun ⟨k, h⟩ => ⟨k, hsupp k h.1, h⟩⟩

theorem sorted_stateKVs (H : Bytes → Bytes) (addrs : List Addr) (slots : List Slot) (c : Addr → Option Acct)
    (hnd : addrs.Nodup) (hinj : InjOnAddrs H addrs) : (stateKVs H addrs slots c).Pairwise (fun a b => kLt a b = true) := by
  refine sorted_sortKVs _ (List.pairwise_filterMap.mpr (hnd.imp_of_mem fun ha hb hne x hx y hy e => ?_))
  obtain ⟨_, -, rfl⟩ := Option.map_eq_some_iff.mp hx
  obtain ⟨_, -, rfl⟩ := Option.map_eq_some_iff.mp hy
  exact hne (hinj _ ha _ hb e)

theorem mem_stateKVs (H : Bytes → Bytes) (addrs : List Addr) (slots : List Slot) (c : Addr → Option Acct) (kb v : Bytes) :
    (kb, v) ∈ stateKVs H addrs slots c ↔ ∃ a ∈ addrs, ∃ acct, c a = some acct ∧ kb = H (addrBytes a) ∧ v = acctLeaf H slots acct := by
  unfold stateKVs
  rw [mem_sortKVs]
  simp only [List.mem_filterMap, Option.map_eq_some_iff, Prod.mk.injEq]
  constructor
  · rintro ⟨a, ha, acct, hc, h1, h2⟩; exact ⟨a, ha, acct, hc, h1.symm, h2.symm⟩
  · rintro ⟨a, ha, acct, hc, h1, h2⟩; exact ⟨a, ha, acct, hc, h1.symm, h2.symm⟩

theorem mem_stateKVs_iff {H : Bytes → Bytes} {addrs : List Addr} {slots : List Slot} {c : Addr → Option Acct}
    (hsupp : ∀ a acct, c a = some acct → a ∈ addrs) (kb v : Bytes) :
    (kb, v) ∈ stateKVs H addrs slots c ↔ ∃ a acct, c a = some acct ∧ kb = H (addrBytes a) ∧ v = acctLeaf H slots acct := by
  rw [mem_stateKVs]
  exact ⟨fun ⟨a, _, h⟩ => ⟨a, h⟩, fun ⟨a, acct, h⟩ => ⟨a, hsupp a acct h.1, acct, h⟩⟩

end Aqv.State
