/-
  Aqv.Lemmas.FeedStep — the transition function `step` of Aqv.Model.Feed as a relation `Step s a s'` with one
  constructor per outcome (an action whose code branches has one constructor per branch), so that a preservation proof
  is a `cases` on the step that names the outcomes it has something to say about, and a step is shown to be enabled by
  naming its outcome (`Step.of_step`, `Step.to_step`).
-/
import Aqv.Lemmas.FeedList
namespace Aqv.Feed

@[simp, grind =] theorem upd_apply {α : Type} (f : Nat → α) (a : Nat) (v : α) (x : Nat) :
    upd f a v x = if x = a then v else f x := rfl

@[simp, grind =] theorem upd2_apply {α : Type} (f : Nat → Nat → α) (a : Nat) (v : Nat → α) (x c : Nat) :
    upd f a v x c = if x = a then v c else f x c := by rw [upd_apply]; split <;> rfl

/-- `delete(find(ch))` is written `erase ch`; the outcomes `sendPanic` and `rmPanic` are the calls `delete(-1)`. -/
inductive Step (s : St) : Act → St → Prop
  | subscribe {c k : Nat} : s.subscribed c = false →
      Step s (.subscribe c k) { s with inbox := s.inbox ++ [c], cap := upd s.cap c k,
                                       subscribed := upd s.subscribed c true, tr := s.tr ++ [.subRet c] }
  | sendCall {g : Sid} : s.spc g = .idle →
      Step s (.sendCall g) { s with spc := upd s.spc g .start, atCall := upd s.atCall g s.subscribed,
                                    tr := s.tr ++ [.sendCall g] }
  | acquire {g : Sid} : s.spc g = .start → s.tokenFree = true →
      Step s (.acquire g) { s with tokenFree := false, holder := .sender g, spc := upd s.spc g .locked,
                                   nsent := upd s.nsent g 0, rank := upd s.rank g s.nextRank,
                                   nextRank := s.nextRank + 1 }
  | merge {g : Sid} : s.spc g = .locked →
      Step s (.merge g) { s with sendCases := s.sendCases ++ s.inbox, inbox := [],
                                 active := (s.sendCases ++ s.inbox).length, spc := upd s.spc g (.sweep 0) }
  | tryOk {g : Sid} {i : Nat} : s.spc g = .sweep i → i < s.active → canPlace s (s.sendCases.getD i 0) = true →
      Step s (.tryOk g) { s with buf := upd s.buf (s.sendCases.getD i 0) (s.buf (s.sendCases.getD i 0) ++ [g]),
                                 nsent := upd s.nsent g (s.nsent g + 1),
                                 sendCases := swapAt s.sendCases i (s.active - 1), active := s.active - 1,
                                 spc := upd s.spc g (.sweep i),
                                 placed := s.placed ++ [(s.sendCases.getD i 0, g)],
                                 tr := s.tr ++ [.place (s.sendCases.getD i 0) g] }
  | tryFail {g : Sid} {i : Nat} : s.spc g = .sweep i → i < s.active → canPlace s (s.sendCases.getD i 0) = false →
      Step s (.tryFail g) { s with spc := upd s.spc g (.sweep (i + 1)) }
  | sendRet {g : Sid} {i : Nat} : s.spc g = .sweep i → s.active = 0 →
      Step s (.sweepEnd g) { s with tokenFree := true, holder := .none, spc := upd s.spc g (.done (s.nsent g)),
                                    atRet := upd s.atRet g (fun c => s.rpc c != .idle),
                                    tr := s.tr ++ [.sendRet g (s.nsent g)] }
  | toSelect {g : Sid} {i : Nat} : s.spc g = .sweep i → s.active ≤ i → s.active ≠ 0 →
      Step s (.sweepEnd g) { s with spc := upd s.spc g .sel }
  | selPlace {g : Sid} {i : Nat} : s.spc g = .sel → i < s.active → canPlace s (s.sendCases.getD i 0) = true →
      Step s (.selPlace g i) { s with buf := upd s.buf (s.sendCases.getD i 0) (s.buf (s.sendCases.getD i 0) ++ [g]),
                                      nsent := upd s.nsent g (s.nsent g + 1),
                                      sendCases := swapAt s.sendCases i (s.active - 1), active := s.active - 1,
                                      spc := upd s.spc g (.sweep 0),
                                      placed := s.placed ++ [(s.sendCases.getD i 0, g)],
                                      tr := s.tr ++ [.place (s.sendCases.getD i 0) g] }
  | selRecv {g : Sid} {c : Chan} : s.spc g = .sel → s.rpc c = .sel →
      Step s (.selRecv g c) { s with spc := upd s.spc g (.removing c), rpc := upd s.rpc c .done,
                                     tr := s.tr ++ [.unsubRet c] }
  | doRemove {g : Sid} {c : Chan} : s.spc g = .removing c → c ∈ s.sendCases →
      Step s (.doRemove g) { s with sendCases := s.sendCases.erase c,
                                    active := if s.sendCases.idxOf c < s.active then s.active - 1 else s.active,
                                    spc := upd s.spc g (.sweep 0) }
  | sendPanic {g : Sid} {c : Chan} : s.spc g = .removing c → c ∉ s.sendCases →
      Step s (.doRemove g) { s with spc := upd s.spc g .panicked }
  | unsubCall {c : Chan} : s.subscribed c = true → s.rpc c = .idle →
      Step s (.unsubCall c) { s with rpc := upd s.rpc c .start, tr := s.tr ++ [.unsubCall c] }
  | rmInbox {c : Chan} : s.rpc c = .start → c ∈ s.inbox →
      Step s (.rmInbox c) { s with inbox := s.inbox.erase c, rpc := upd s.rpc c .done, tr := s.tr ++ [.unsubRet c] }
  | rmMiss {c : Chan} : s.rpc c = .start → c ∉ s.inbox →
      Step s (.rmInbox c) { s with rpc := upd s.rpc c .sel }
  | rmToken {c : Chan} : s.rpc c = .sel → s.tokenFree = true →
      Step s (.rmToken c) { s with tokenFree := false, holder := .remover c, rpc := upd s.rpc c .token }
  | rmDelete {c : Chan} : s.rpc c = .token → c ∈ s.sendCases →
      Step s (.rmDelete c) { s with sendCases := s.sendCases.erase c, rpc := upd s.rpc c .deleted }
  | rmPanic {c : Chan} : s.rpc c = .token → c ∉ s.sendCases →
      Step s (.rmDelete c) { s with rpc := upd s.rpc c .panicked }
  | rmRelease {c : Chan} : s.rpc c = .deleted →
      Step s (.rmRelease c) { s with tokenFree := true, holder := .none, rpc := upd s.rpc c .done,
                                     tr := s.tr ++ [.unsubRet c] }
  | recvBegin {c : Chan} : Step s (.recvBegin c) { s with waiting := upd s.waiting c (s.waiting c + 1) }
  | recvTake {c : Chan} {v : Sid} {rest : List Sid} : s.buf c = v :: rest → 0 < s.waiting c →
      Step s (.recvTake c) { s with buf := upd s.buf c rest, waiting := upd s.waiting c (s.waiting c - 1),
                                    rcvd := upd s.rcvd c (s.rcvd c ++ [v]), tr := s.tr ++ [.recv c v] }

macro "step_split" hs:ident : tactic =>
  `(tactic| (simp only [step, place] at $hs:ident; (repeat' split at $hs:ident) <;> (try cases $hs:ident)))

theorem Step.of_step {s s' : St} {a : Act} (h : step s a = some s') : Step s a s' := by
  cases a
  case doRemove g =>
    -- not by `step_split`, which would also split the `if` inside the new state
    simp only [step, eraseIdx_idxOf, List.idxOf_lt_length_iff] at h
    split at h
    next c hg =>
      by_cases hc : c ∈ s.sendCases <;> simp only [hc, if_true, if_false] at h <;> cases h
      · exact .doRemove hg hc
      · exact .sendPanic hg hc
    next => cases h
  all_goals step_split h
  all_goals try simp only [eraseIdx_idxOf, List.idxOf_lt_length_iff] at *
  all_goals constructor <;> first | assumption | simp_all

theorem Step.to_step {s s' : St} {a : Act} (st : Step s a s') : step s a = some s' := by
  cases st <;> simp_all [step, place, eraseIdx_idxOf, List.idxOf_lt_length_iff]

theorem Step.isSome {s s' : St} {a : Act} (st : Step s a s') : (step s a).isSome := by rw [st.to_step]; rfl

end Aqv.Feed
