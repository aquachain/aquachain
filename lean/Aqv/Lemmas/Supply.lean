/-
  Aqv.Lemmas.Supply — helper lemmas for the supply model (C05): how each primitive moves Σ balances.
-/
import Aqv.Model.Supply
import Aqv.Lemmas.Tx
namespace Aqv.Supply
open Aqv.Tx

theorem total_zeroAll_le (m : AMap) (l : List Addr) : total (zeroAll m l) ≤ total m := by
  induction l generalizing m with
  | nil => exact Nat.le_refl _
  | cons a as ih =>
    have := ih (update m a 0)
    have := total_update m a 0
    simp only [zeroAll]
    omega

theorem lookup_zeroAll (m : AMap) (l : List Addr) (x : Addr) : lookup (zeroAll m l) x = if x ∈ l then 0 else lookup m x := by
  induction l generalizing m with
  | nil => rfl
  | cons a as ih =>
    rw [zeroAll, ih, lookup_update]
    by_cases h : a = x
    · simp [h]
    · simp [h, Ne.symm h]

theorem total_transfer (s : SState) (a b : Addr) (v : Nat) : total (transfer s a b v).bal = total s.bal := by
  unfold transfer
  split
  · rfl
  · next h =>
    simp only []
    have h1 := total_update s.bal a (lookup s.bal a - v)
    have h2 := total_update (update s.bal a (lookup s.bal a - v)) b (lookup (update s.bal a (lookup s.bal a - v)) b + v)
    omega

theorem transfer_suicided (s : SState) (a b : Addr) (v : Nat) : (transfer s a b v).suicided = s.suicided := by
  unfold transfer; split <;> rfl

/-- SELFDESTRUCT conserves Σ unless the beneficiary is the contract itself: then the whole balance is destroyed. -/
theorem total_suicide (s : SState) (a b : Addr) :
    total (suicide s a b).bal = if a = b then total s.bal - lookup s.bal a else total s.bal := by
  unfold suicide
  simp only []
  have h1 := total_update s.bal b (lookup s.bal b + lookup s.bal a)
  have h2 := total_update (update s.bal b (lookup s.bal b + lookup s.bal a)) a 0
  rw [lookup_update] at h2
  by_cases h : a = b
  · subst h; rw [if_pos rfl] at h2 ⊢; omega
  · rw [if_neg h]; rw [if_neg (Ne.symm h)] at h2; omega

theorem total_suicide_le (s : SState) (a b : Addr) : total (suicide s a b).bal ≤ total s.bal := by
  rw [total_suicide]; split <;> omega

theorem total_finalise_le (s : SState) : total (finalise s).bal ≤ total s.bal := total_zeroAll_le _ _

theorem finalise_nil (s : SState) (h : s.suicided = []) : (finalise s).bal = s.bal := by
  unfold finalise; rw [h]; rfl

theorem total_finWorld_le (w : SWorld) : total (finWorld w).bal ≤ total w.bal := total_finalise_le _

theorem finWorld_bal (w : SWorld) (h : w.rest = []) : (finWorld w).bal = w.bal := finalise_nil (toS w) h

theorem total_payUncles (h : Nat) (us : List Uncle) (w : SWorld) : total (payUncles h us w).bal = total w.bal + uncleSum h us := by
  induction us generalizing w with
  | nil => rfl
  | cons u us ih =>
    obtain ⟨n, c⟩ := u
    show total (payUncles h us (addBal w c (uncleReward h n))).bal = total w.bal + (uncleReward h n + uncleSum h us)
    rw [ih, total_addBal, Nat.add_assoc]

end Aqv.Supply
