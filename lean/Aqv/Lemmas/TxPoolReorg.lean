/-
  Aqv.Lemmas.TxPoolReorg — the reorg clause.  A pooled transaction that is valid against the current head stays pooled
  through promotion and demotion as long as no limit cuts it off; the evictions never touch a local sender (`Kept`); `add`
  refuses a valid transaction whose slot is free only as underpriced.  The add loop of a re-injection and the stages of
  `reset` after it are walked once, for any pair of invariants that keep the limits from hitting the transaction
  (`addMany_keeps`, `reset_reinjects_of`).
-/
import Aqv.Lemmas.TxPoolAll
import Aqv.Lemmas.TxPoolReplace
namespace Aqv.TxPool

/-- what Forward and Filter let through -/
def ValidIn (s : Pool) (u : Tx) : Prop := s.cnonce u.sender ≤ u.nonce ∧ Payable (s.balance u.sender) s.maxGas u

theorem ValidIn.env {s s' : Pool} {u : Tx} (he : SameEnv s s') (h : ValidIn s u) : ValidIn s' u := by
  unfold ValidIn at h ⊢; rw [he.cnonce, he.balance, he.maxGas]; exact h

theorem promoteAcct_keeps {s : Pool} (a : Addr) {u : Tx} (hw : WeakAll s) (hp : s.pooled u) (hv : ValidIn s u)
    (hcap : u.sender = a → (paReady s a).2.length ≤ paCap s a) : (s.promoteAcct a).pooled u := by
  by_cases hs : u.sender = a
  · subst hs
    have hx := promote_exact u.sender (hw.weak u.sender)
    rw [pooled_iff, hx.pmem u, hx.qitems, List.take_of_length_le (hcap rfl)]
    rcases hp with h | h
    · exact Or.inl (Or.inr h)
    · -- valid, so neither too old nor unpayable; with the whole rest kept, nothing is cut off
      have := (pa_queue_split (hw.weak u.sender) (paReady s u.sender).2.length u).mpr ⟨h, fun hc => ?_, fun hc => ?_, by simp⟩
      · rw [List.take_length] at this
        exact this.elim (fun h => Or.inl (Or.inl h)) Or.inr
      · have := (mem_forward_fst.mp hc).2
        have := hv.1
        omega
      · have := (TxL.filter_spec (paQ1 s u.sender) (s.balance u.sender) s.maxGas).rem_unpay u hc
        rw [unpayable_false.mpr hv.2] at this; cases this
  · exact (pooled_of_touch (promoteAcct_touch s a) hs).mpr hp

theorem demoteAcct_keeps (g : Bool) {s : Pool} (a : Addr) {u : Tx} (hw : WeakAll s) (hp : s.pooled u) (hv : ValidIn s u) :
    (s.demoteAcct g a).pooled u := by
  by_cases hs : u.sender = a
  · subst hs
    have hwa := hw.weak u.sender
    have hx := demote_exact g u.sender hw
    have hfs := TxL.filter_spec (dP1 s u.sender) (s.balance u.sender) s.maxGas
    rw [pooled_iff, hx.pitems, hx.qmem u]
    rcases hp with h | h
    · have h1 : u ∈ (dP1 s u.sender).items := mem_forward_snd.mpr ⟨h, hv.1⟩
      rcases hfs.cover u h1 with h2 | h2 | h2
      · have h2' : u ∈ (dG s u.sender).2.2.items := h2
        rw [← List.take_append_drop (dKeep g s u.sender) (dG s u.sender).2.2.items] at h2'
        rcases List.mem_append.mp h2' with h3 | h3
        · exact Or.inl h3
        · exact Or.inr (Or.inl h3)
      · have := hfs.rem_unpay u h2
        rw [unpayable_false.mpr hv.2] at this; cases this
      · exact Or.inr (Or.inr (Or.inl h2))
    · exact Or.inr (Or.inr (Or.inr h))
  · exact (pooled_of_touch (demoteAcct_facts g a hw).touch hs).mpr hp

/-- what is carried through the tail of a reset for one transaction of a local sender -/
structure Kept (B : Pool) (L : List Addr) (u : Tx) (s : Pool) : Prop where
  weak   : WeakAll s
  locals : s.locals = L
  pooled : s.pooled u
  env    : SameEnv B s

theorem Kept.touch {B : Pool} {L : List Addr} {u : Tx} {s s' : Pool} {a : Addr} (h : Kept B L u s) (ht : Touch s a s')
    (hw : WeakAll s') (hl : u.sender ∈ L) (ha : a ∉ L) : Kept B L u s' :=
  ⟨hw, ht.locals.trans h.locals, (pooled_of_touch ht (fun e => ha (e ▸ hl))).mpr h.pooled, h.env.trans ht.env⟩

theorem removeTx_kept {B : Pool} {L : List Addr} {u : Tx} {s : Pool} (v : Tx) (h : Kept B L u s) (hl : u.sender ∈ L) (hv : v.sender ∉ L) :
    Kept B L u (s.removeTx v) :=
  h.touch (removeTx_spec s v h.weak).1 (removeTx_weak v h.weak) hl hv

/-- the evictions hit non-local accounts only, and promoteAcct does not cap the queue of a local one -/
theorem evClosed_kept {B : Pool} {L : List Addr} {u : Tx} (hl : u.sender ∈ L) (hv : ValidIn B u) : EvClosed (Kept B L u) :=
  { acct := fun s a hs =>
      have ht := promoteAcct_touch s a
      ⟨promoteAcct_weak a hs.weak, ht.locals.trans hs.locals,
        promoteAcct_keeps a hs.weak hs.pooled (hv.env hs.env) (fun e =>
          Nat.le_of_eq (paCap_local (by rw [hs.locals, ← e]; exact hl)).symm),
        hs.env.trans ht.env⟩
    cap := fun s a h ho =>
      h.touch (capOne_facts s a).touch (capOne_weak a h.weak) hl (by rw [← h.locals]; exact (offender_iff.mp ho).1)
    rem := fun s0 a h0 hnl s1 t h1 ht s h => removeTx_kept t h hl (by
      rw [(h1.weak.weak a).qowner t ht, ← h0.locals]
      exact isLocal_false.mp hnl) }

theorem demoteAcct_kept (g : Bool) {B : Pool} {L : List Addr} {u : Tx} {s : Pool} (a : Addr) (h : Kept B L u s)
    (hv : ValidIn B u) : Kept B L u (s.demoteAcct g a) :=
  have hf := demoteAcct_facts g a h.weak
  ⟨hf.weak, hf.touch.locals.trans h.locals, demoteAcct_keeps g a h.weak h.pooled (hv.env h.env), h.env.trans hf.touch.env⟩

theorem Kept.pnonce {B : Pool} {L : List Addr} {u : Tx} (s : Pool) (f : Addr → Nat) (h : Kept B L u s) :
    Kept B L u { s with pnonce := f } :=
  { weak := h.weak, locals := h.locals, pooled := h.pooled, env := h.env.trans ⟨rfl, rfl, rfl, rfl⟩ }

theorem afterDiscard_kept {B : Pool} {L : List Addr} {u : Tx} {s : Pool} (vs : List Tx) (h : Kept B L u s) (hl : u.sender ∈ L) :
    Kept B L u (s.afterDiscard vs) :=
  afterDiscard_pres (fun _ t ht hm => removeTx_kept t hm hl (h.locals ▸ ht)) vs h

theorem validate_congr {B m : Pool} (he : SameEnv B m) (hl : m.locals = B.locals) (hg : m.gasPrice = B.gasPrice)
    (t : Tx) (loc : Bool) (sh : Shape) : m.validateTx t loc sh = B.validateTx t loc sh := by
  unfold Pool.validateTx
  rw [he.maxGas, he.cnonce, he.balance, he.cfg, isLocal_congr hl, hg]

/-- the slots (sender, nonce) of `l` are free in the pool: dropped transactions lie below the old chain nonce, the pool above -/
def Fresh (m : Pool) (l : List Tx) : Prop := ∀ x ∈ l, ∀ p, m.pooled p → p.sender = x.sender → p.nonce ≠ x.nonce

def SlotNe (x y : Tx) : Prop := x.sender = y.sender → x.nonce ≠ y.nonce

/-- the invariant of the add loop of a re-injection from the view-switched pool `B`: `WA`, and the validation of a transaction
    still reads what it read in `B` -/
structure LoopInv (B : Pool) (m : Pool) : Prop where
  wa       : WA m
  locals   : m.locals = B.locals
  env      : SameEnv B m
  gasPrice : m.gasPrice = B.gasPrice

theorem LoopInv.touch {B m m' : Pool} {a : Addr} (h : LoopInv B m) (ht : Touch m a m') (hwa : WA m') : LoopInv B m' :=
  ⟨hwa, ht.locals.trans h.locals, h.env.trans ht.env, ht.gasPrice.trans h.gasPrice⟩

theorem LoopInv.kept {B m : Pool} {u : Tx} (h : LoopInv B m) (hp : m.pooled u) : Kept B B.locals u m :=
  ⟨h.wa.1, h.locals, hp, h.env⟩

theorem closed_loopInv (B : Pool) : Closed (LoopInv B) :=
  { rem := fun m t h => h.touch (removeTx_spec m t h.wa.1).1 (addClosed_wa.rem m t h.wa)
    cap := fun m a h => h.touch (capOne_facts m a).touch (addClosed_wa.cap m a h.wa)
    acct := fun m a h => h.touch (promoteAcct_touch m a) (addClosed_wa.acct m a h.wa) }

theorem add_loopInv {B m : Pool} (x : Tx) (sh : Shape) (vs : List Tx) (h : LoopInv B m) :
    LoopInv B (m.add x false sh vs).2.2 := by
  have hwa := add_pres addClosed_wa m x false sh vs h.wa
  rcases add_cases m x false sh vs with e | ⟨e, _⟩ <;> rw [e] at hwa ⊢
  · exact h
  · have hd := (closed_loopInv B).afterDiscard vs h
    exact hd.touch (addCore_touch x hd.wa.1) hwa

/-- C15 `reinject_refused_only_when_full_and_underpriced`: the code's `ErrUnderpriced` / discard path is the only refusal -/
theorem add_refusal_only_underpriced {m : Pool} (t : Tx) (loc : Bool) (vs : List Tx) (hwa : WA m)
    (hval : m.validateTx t loc .wellformed = .ok)
    (hfree : ∀ p, m.pooled p → p.sender = t.sender → p.nonce ≠ t.nonce) :
    ((m.add t loc .wellformed vs).1 = .ok ∧ (m.add t loc .wellformed vs).2.2.pooled t) ∨
    ((m.add t loc .wellformed vs).1 = .underpriced ∧ m.cfg.globalSlots + m.cfg.globalQueue ≤ m.all.length ∧
      m.underpriced t = true) := by
  have hnotin : t ∉ m.all := fun hc => hfree t ((hwa.2 t).mp hc) rfl rfl
  obtain ⟨d1, d2⟩ := (closed_nonew m).afterDiscard vs ⟨hwa.1, fun _ h => h⟩
  -- the slot is still free after the discards, so the insertion core accepts
  have hcore : ((m.afterDiscard vs).addCore t loc).1 = .ok ∧ ((m.afterDiscard vs).addCore t loc).2.2.pooled t := by
    cases addCore_spec t loc d1 with
    | inserted hok hp _ => exact ⟨hok, (hp t).mpr (Or.inl rfl)⟩
    | refused _ _ o ho hs hn _ => exact absurd hn (hfree o (d2 o ho) hs)
  rw [add_eq_addCore, if_neg (fun hc => hnotin hc.2), if_neg (fun hc => hc hval)]
  by_cases hfu : (decide (m.cfg.globalSlots + m.cfg.globalQueue ≤ m.all.length) && m.underpriced t) = true
  · rw [if_pos hfu]
    simp only [Bool.and_eq_true, decide_eq_true_eq] at hfu
    exact Or.inr ⟨rfl, hfu.1, hfu.2⟩
  · rw [if_neg hfu]
    exact Or.inl hcore

theorem add_keeps {m : Pool} {u : Tx} (x : Tx) (sh : Shape) (vs : List Tx) (hw : WeakAll m) (hp : m.pooled u)
    (hd : (m.afterDiscard vs).pooled u) (hslot : SlotNe x u) : (m.add x false sh vs).2.2.pooled u := by
  rcases add_cases m x false sh vs with e | ⟨e, _⟩ <;> rw [e]
  · exact hp
  · cases addCore_spec x false (closed_weak.afterDiscard vs hw) with
    | inserted _ h1 _ => exact (h1 u).mpr (Or.inr ⟨hd, fun c => hslot c.1.symm c.2.symm⟩)
    | refused _ e2 => rw [e2]; exact hd

/-- The add loop of a re-injection, for any invariant `J` of the loop: a member `u` of the list that validates against the
    view-switched pool `B` is pooled after the loop, provided `J` rules out the two ways the code drops a valid transaction
    there: the refusal of an underpriced transaction by a full pool (`hfull`) and the discards (`hdisc`). -/
theorem addMany_keeps {J : Pool → Prop} {B : Pool} {u : Tx} {l0 : List Tx} (hJ : ∀ m, J m → LoopInv B m)
    (hadd : ∀ m x vs, J m → x ∈ l0 → J (m.add x false .wellformed vs).2.2)
    (hfull : ∀ m, J m → m.cfg.globalSlots + m.cfg.globalQueue ≤ m.all.length → m.underpriced u = true → False)
    (hdisc : ∀ m vs, J m → m.pooled u → (m.afterDiscard vs).pooled u)
    (hval : B.validateTx u false .wellformed = .ok) :
    ∀ (l : List Tx) (vs : List (List Tx)) (m : Pool), J m → (∀ x ∈ l, x ∈ l0) → Fresh m l → l.Pairwise SlotNe →
      (u ∈ l ∨ (m.pooled u ∧ ∀ x ∈ l, SlotNe x u)) →
      J (m.addMany false l vs).2.2 ∧ (m.addMany false l vs).2.2.pooled u := by
  intro l
  induction l with
  | nil =>
    intro vs m h _ _ _ hu
    rcases hu with hu | hu
    · cases hu
    · exact ⟨h, hu.1⟩
  | cons x rest ih =>
    intro vs m h hS hfresh hpw hu
    have hi := hJ m h
    have hpw' := List.pairwise_cons.mp hpw
    have hfresh' : Fresh (m.add x false .wellformed (vs.headD [])).2.2 rest := by
      intro y hy p hp hs
      rcases add_sub x false .wellformed (vs.headD []) hi.wa.1 p hp with e | hp'
      · subst e; exact hpw'.1 y hy hs
      · exact hfresh y (List.mem_cons_of_mem _ hy) p hp' hs
    have hstep' : (m.addMany false (x :: rest) vs).2.2 =
        ((m.add x false .wellformed (vs.headD [])).2.2.addMany false rest vs.tail).2.2 := rfl
    rw [hstep']
    apply ih vs.tail _ (hadd m x _ h (hS x List.mem_cons_self)) (fun y hy => hS y (List.mem_cons_of_mem _ hy)) hfresh' hpw'.2
    rcases hu with hu | ⟨hp, hne⟩
    · rcases List.mem_cons.mp hu with e | hu'
      · subst e
        -- `u` itself is added: its slot is free, so the only refusal is the full pool's
        refine Or.inr ⟨?_, fun y hy hs hn => hpw'.1 y hy hs.symm hn.symm⟩
        rcases add_refusal_only_underpriced u false (vs.headD []) hi.wa
          (by rw [validate_congr hi.env hi.locals hi.gasPrice]; exact hval) (hfresh u List.mem_cons_self) with h1 | ⟨_, hf, hu⟩
        · exact h1.2
        · exact (hfull m h hf hu).elim
      · exact Or.inl hu'
    · exact Or.inr ⟨add_keeps x _ _ hi.wa.1 hp (hdisc m _ h hp) (hne x List.mem_cons_self),
        fun y hy => hne y (List.mem_cons_of_mem _ hy)⟩

/-- The reorg clause for any pair of invariants: `J` of the add loop as in `addMany_keeps`, `K` of the stages after it
    (promotion, demotion, nonce update).  `B` is the view-switched pool. -/
theorem reset_reinjects_of {J K : Pool → Prop} {g : Bool} {s B : Pool} {v : View} {oldNum newNum : Nat} {disc inc : List Tx}
    {o : ResetOracle} {t : Tx}
    (hB : B = s.atView v)
    (hdepth : (if oldNum ≤ newNum then newNum - oldNum else oldNum - newNum) ≤ 64) (ht : t ∈ txDifference disc inc)
    (hval : B.validateTx t false .wellformed = .ok) (hfresh : Fresh B (txDifference disc inc))
    (hdistinct : (txDifference disc inc).Pairwise SlotNe) (hJ : ∀ m, J m → LoopInv B m) (h0 : J B)
    (hadd : ∀ m x vs, J m → x ∈ txDifference disc inc → J (m.add x false .wellformed vs).2.2)
    (hfull : ∀ m, J m → m.cfg.globalSlots + m.cfg.globalQueue ≤ m.all.length → m.underpriced t = true → False)
    (hdisc : ∀ m vs, J m → m.pooled t → (m.afterDiscard vs).pooled t) (hK : ∀ m, J m → m.pooled t → K m)
    (hpe : ∀ m acc sl qo, K m → K (m.promoteExecutables acc sl qo)) (hde : ∀ m a, K m → K (m.demoteAcct g a))
    (hn : ∀ m f, K m → K { m with pnonce := f }) : K (s.reset g v oldNum newNum true disc inc o) := by
  subst hB
  obtain ⟨hinv, hp⟩ := addMany_keeps hJ hadd hfull hdisc hval _ o.victims _ h0 (fun _ h => h) hfresh hdistinct (Or.inl ht)
  refine reset_of_mid g hde hn (hpe · none _ _) ?_
  rw [resetMid_eq, reinjection_reorg disc inc hdepth, if_neg (by rw [List.isEmpty_iff]; exact List.ne_nil_of_mem ht)]
  rw [addTxs_snd]
  split
  · exact hK _ hinv hp
  · exact hpe _ _ _ _ (hK _ hinv hp)

/-- C15 `reorg_reinjects_local` -/
theorem reset_reinjects_local (g : Bool) (s : Pool) (v : View) (oldNum newNum : Nat) (disc inc : List Tx) (o : ResetOracle)
    (hwa : WA s)
    (hdepth : (if oldNum ≤ newNum then newNum - oldNum else oldNum - newNum) ≤ 64)
    (t : Tx) (ht : t ∈ txDifference disc inc) (hl : t.sender ∈ s.locals)
    (hval : (s.atView v).validateTx t false .wellformed = .ok)
    (hfresh : Fresh s (txDifference disc inc)) (hdistinct : (txDifference disc inc).Pairwise SlotNe) :
    (s.reset g v oldNum newNum true disc inc o).pooled t := by
  have hvalid := validate_ok hval
  refine (reset_reinjects_of (J := LoopInv _) (K := Kept _ _ t) rfl hdepth ht hval hfresh hdistinct
    (hJ := fun _ hm => hm)
    (h0 := ⟨hwa, rfl, SameEnv.refl _, rfl⟩)
    (hadd := fun m x vs hm _ => add_loopInv x _ vs hm)
    (hfull := fun m hm _ hu => ?_)
    (hdisc := fun m vs hm hp => (afterDiscard_kept vs (hm.kept hp) hl).pooled)
    (hK := fun _ => LoopInv.kept)
    (hpe := promoteExecutables_ev (evClosed_kept hl hvalid))
    (hde := fun m a hm => demoteAcct_kept g a hm hvalid)
    (hn := Kept.pnonce)).pooled
  -- `hfull`: a local sender is never underpriced
  have : m.isLocal t.sender = true := isLocal_iff.mpr (hm.locals ▸ hl)
  unfold Pool.underpriced at hu
  rw [this] at hu
  cases hu

end Aqv.TxPool
