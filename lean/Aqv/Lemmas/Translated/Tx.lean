/-
  Aqv.Lemmas.Translated.Tx — ties the mini-translated gas-pool / gas-counter methods of package core to the transaction model
  of C06 (`Aqv.Tx.addGas`, `Aqv.Tx.subGas`, stated on `Nat`): the translated `UInt64` code refines the model.
-/
import Aqv.Gen.Translated
import Aqv.Model.Tx
namespace Aqv.Lemmas.Translated
open Aqv.Gen

/-- `(err, cell')` of a pointer-receiver method as `Option Nat` (an error leaves no new value). -/
def cellRes (r : Option String × UInt64) : Option Nat :=
  match r.1 with
  | some _ => none
  | none => some r.2.toNat

/-- the shape SubGas and useGas share; the UInt64 subtraction does not wrap behind the guard. -/
theorem cellRes_guarded_sub (x amount : UInt64) (e : String) :
    cellRes (if decide (x < amount) = true then (some e, x) else (none, x - amount))
      = if x.toNat < amount.toNat then none else some (x.toNat - amount.toNat) := by
  by_cases h : x < amount
  · have h' : x.toNat < amount.toNat := by simpa [UInt64.lt_iff_toNat_lt] using h
    simp [h, h', cellRes]
  · have h' : ¬ x.toNat < amount.toNat := by simpa [UInt64.lt_iff_toNat_lt] using h
    have : amount ≤ x := by simpa [UInt64.le_iff_toNat_le] using (Nat.le_of_not_lt h')
    simp [h, h', cellRes, UInt64.toNat_sub_of_le _ _ this]

/-- core.(*GasPool).SubGas: error = ErrGasLimitReached (model `none`), otherwise the pool decreases by `amount`. -/
theorem GasPool_SubGas_translated_eq (gp amount : UInt64) :
    cellRes (Translated.GasPool_SubGas (gp := gp) amount) = Aqv.Tx.subGas gp.toNat amount.toNat :=
  cellRes_guarded_sub gp amount _

theorem GasPool_SubGas_translated_err (gp amount : UInt64) (h : gp < amount) :
    Translated.GasPool_SubGas gp amount = (some "core.ErrGasLimitReached", gp) := by
  simp [Translated.GasPool_SubGas, h]

/-- core.(*GasPool).AddGas: `none` = panic("gas pool pushed above uint64"), otherwise the pool grows by `amount`. -/
theorem GasPool_AddGas_translated_eq (gp amount : UInt64) :
    (Translated.GasPool_AddGas gp amount).map (fun r => r.2.toNat) = Aqv.Tx.addGas gp.toNat amount.toNat := by
  have hg := gp.toNat_lt
  have ha := amount.toNat_lt
  have hsub : (18446744073709551615 - amount).toNat = 18446744073709551615 - amount.toNat := by
    rw [UInt64.toNat_sub_of_le _ _ (by rw [UInt64.le_iff_toNat_le]; simp; omega)]; simp
  have hiff : (gp > 18446744073709551615 - amount) ↔ (gp.toNat > Aqv.Tx.uint64Max - amount.toNat) := by
    rw [gt_iff_lt, UInt64.lt_iff_toNat_lt, hsub]; rfl
  have hmax : Aqv.Tx.uint64Max = 18446744073709551615 := rfl
  unfold Translated.GasPool_AddGas Aqv.Tx.addGas
  by_cases h : gp > 18446744073709551615 - amount
  · rw [if_pos (hiff.mp h)]; simp [h]
  · rw [if_neg (fun h' => h (hiff.mpr h'))]
    have h' : ¬ gp.toNat > Aqv.Tx.uint64Max - amount.toNat := fun h' => h (hiff.mpr h')
    rw [hmax] at h'
    simp only [h, decide_false, Bool.false_eq_true, ↓reduceIte, Option.map_some, UInt64.toNat_add]
    rw [Nat.mod_eq_of_lt (by omega)]

theorem GasPool_Gas_translated_eq (gp : UInt64) : Translated.GasPool_Gas gp = gp := rfl

/-- core.(*StateTransition).useGas: `vm.ErrOutOfGas` iff the counter is below `amount` (the model's `m.gas < ig` test for the
    intrinsic gas), otherwise the counter decreases. -/
theorem StateTransition_useGas_translated_eq (gas amount : UInt64) :
    cellRes (Translated.StateTransition_useGas (st_gas := gas) amount)
      = if gas.toNat < amount.toNat then none else some (gas.toNat - amount.toNat) :=
  cellRes_guarded_sub gas amount _

/-- core.(*StateTransition).gasUsed = initialGas − gas (uint64; no wrap while gas ≤ initialGas, which TransitionDb maintains). -/
theorem StateTransition_gasUsed_translated_eq (gas initialGas : UInt64) (h : gas ≤ initialGas) :
    (Translated.StateTransition_gasUsed (st_gas := gas) (st_initialGas := initialGas)).toNat = initialGas.toNat - gas.toNat := by
  simp only [Translated.StateTransition_gasUsed]
  exact UInt64.toNat_sub_of_le _ _ h
end Aqv.Lemmas.Translated
