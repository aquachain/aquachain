/- Ties the mini-translated fork predicates of package params (isForked and every block-number switch built on it, IsHF, GetHF,
  GetBlockVersion) to the models used by C13 / C14 (`Aqv.Consensus.Config.isHF /
  getHF`, `Aqv.Pow.getBlockVersion`) and C08 (`Aqv.Evm.isForked`). `*big.Int` heights are `Option Int` in the generated code
  (nil = none, a nil dereference = panic = result `none`); the map `c.HF` is read as a function `Int64 → Option Int`. -/
import Aqv.Lemmas.Translated.Basic
import Aqv.Model.Pow
import Aqv.Model.EvmSelect
namespace Aqv.Lemmas.Translated
open Aqv.Gen

theorem isForked_translated_eq (s : Option Nat) (head : Nat) :
    Translated.isForked (s.map Nat.cast) (some (head : Int)) = some (Aqv.Evm.isForked s head) := by
  cases s with
  | none => simp [Translated.isForked, Translated.isForked.b1, Aqv.Evm.isForked]
  | some h =>
    simp only [Translated.isForked, Aqv.Evm.isForked, Option.map_some, Option.isNone_some,
      Bool.false_eq_true, ↓reduceIte, tCmp_le_zero]
    simp

/-- the fork map of the consensus model as the Go map `c.HF` -/
def hfMapOf (c : Aqv.Consensus.Config) : Int64 → Option Int :=
  fun k => if k.toInt < 0 then none else (c.getHF k.toInt.toNat).map Nat.cast

theorem hfMapOf_ofNat (c : Aqv.Consensus.Config) (hf : Nat) (h : hf < 2 ^ 63) :
    hfMapOf c (Int64.ofNat hf) = (c.getHF hf).map Nat.cast := by
  simp only [hfMapOf, Int64.toInt_ofNat_of_lt h]
  rw [if_neg (by omega)]; simp

theorem ChainConfig_IsHF_translated_eq (c : Aqv.Consensus.Config) (hf : Nat) (h : hf < 2 ^ 63) (num : Nat) :
    Translated.ChainConfig_IsHF (c_HF := hfMapOf c) (Int64.ofNat hf) (some (num : Int)) = some (c.isHF hf num) := by
  simp only [Translated.ChainConfig_IsHF, hfMapOf_ofNat c hf h, Aqv.Consensus.Config.isHF]
  cases hg : c.getHF hf with
  | none => simp
  | some s =>
    have := isForked_translated_eq (some s) num
    simp only [Option.map_some] at this
    simp only [Option.map_some, Option.isNone_some, Bool.false_eq_true, ↓reduceIte, this, Aqv.Evm.isForked]

theorem ChainConfig_GetHF_translated_eq (c : Aqv.Consensus.Config) (hf : Nat) (h : hf < 2 ^ 63) :
    Translated.ChainConfig_GetHF (c_HF := hfMapOf c) (Int64.ofNat hf) = some ((c.getHF hf).map Nat.cast) := by
  simp only [Translated.ChainConfig_GetHF, hfMapOf_ofNat c hf h]
  cases c.getHF hf <;> simp

theorem ChainConfig_GetBlockVersion_translated_eq (c : Aqv.Consensus.Config) (height : Nat) :
    Translated.ChainConfig_GetBlockVersion (c_HF := hfMapOf c) (some (height : Int))
      = some (UInt8.ofNat (Aqv.Pow.getBlockVersion c height)) := by
  have h9 := ChainConfig_IsHF_translated_eq c 9 (by decide) height
  have h8 := ChainConfig_IsHF_translated_eq c 8 (by decide) height
  have h5 := ChainConfig_IsHF_translated_eq c 5 (by decide) height
  have e9 : Int64.ofNat 9 = 9 := rfl
  have e8 : Int64.ofNat 8 = 8 := rfl
  have e5 : Int64.ofNat 5 = 5 := rfl
  rw [e9] at h9; rw [e8] at h8; rw [e5] at h5
  simp only [Translated.ChainConfig_GetBlockVersion, Aqv.Pow.getBlockVersion, h9, h8, h5, Option.isNone_some,
    Bool.false_eq_true, ↓reduceIte]
  cases c.isHF 9 height <;> cases c.isHF 8 height <;> cases c.isHF 5 height <;> rfl

theorem ChainConfig_IsHomestead_translated_eq (blk : Option Nat) (num : Nat) :
    Translated.ChainConfig_IsHomestead (c_HomesteadBlock := blk.map Nat.cast) (some (num : Int)) = some (Aqv.Evm.isForked blk num) := by
  simp only [Translated.ChainConfig_IsHomestead, isForked_translated_eq]

theorem ChainConfig_IsByzantium_translated_eq (blk : Option Nat) (num : Nat) :
    Translated.ChainConfig_IsByzantium (c_ByzantiumBlock := blk.map Nat.cast) (some (num : Int)) = some (Aqv.Evm.isForked blk num) := by
  simp only [Translated.ChainConfig_IsByzantium, isForked_translated_eq]

theorem ChainConfig_IsConstantinople_translated_eq (blk : Option Nat) (num : Nat) :
    Translated.ChainConfig_IsConstantinople (c_ConstantinopleBlock := blk.map Nat.cast) (some (num : Int)) = some (Aqv.Evm.isForked blk num) := by
  simp only [Translated.ChainConfig_IsConstantinople, isForked_translated_eq]

/-- the named arguments say which field of the chain config each switch reads: the statement stops elaborating if the code
    reads another block number -/
theorem ChainConfig_eipSwitches_translated_eq (blk : Option Nat) (num : Nat) :
    Translated.ChainConfig_IsEIP150 (c_EIP150Block := blk.map Nat.cast) (some (num : Int)) = some (Aqv.Evm.isForked blk num) ∧
    Translated.ChainConfig_IsEIP155 (c_EIP155Block := blk.map Nat.cast) (some (num : Int)) = some (Aqv.Evm.isForked blk num) ∧
    Translated.ChainConfig_IsEIP158 (c_EIP158Block := blk.map Nat.cast) (some (num : Int)) = some (Aqv.Evm.isForked blk num) ∧
    Translated.ChainConfig_IsDAOFork (c_DAOForkBlock := blk.map Nat.cast) (some (num : Int)) = some (Aqv.Evm.isForked blk num) := by
  refine ⟨?_, ?_, ?_, ?_⟩
  · simp only [Translated.ChainConfig_IsEIP150, isForked_translated_eq]
  · simp only [Translated.ChainConfig_IsEIP155, isForked_translated_eq]
  · simp only [Translated.ChainConfig_IsEIP158, isForked_translated_eq]
  · simp only [Translated.ChainConfig_IsDAOFork, isForked_translated_eq]
end Aqv.Lemmas.Translated
