/- Ties the mini-translated difficulty rules of consensus/aquahash/difficulty.go (calcDifficultyStarting, calcDifficultyHF1:
  math/big code that updates `x`, `y` in place, translated as cells holding an `Int`) to the consensus model of C13.
  The package-level variables the Go code reads are explicit named parameters; the tie holds at big1 = 1, big10 = 10,
  bigMinus99 = −99 and the regenerated `DiffParams` (values dumped from the compiled params package). -/
import Aqv.Lemmas.Translated.Basic
import Aqv.Model.Consensus
namespace Aqv.Lemmas.Translated
open Aqv.Gen Aqv.Consensus

theorem chainId_eq_iff (c : UInt64) (m : Nat) (hm : m < 2 ^ 64) :
    (c = Translated.Big.uint64 (m : Int)) ↔ c.toNat = m := by
  rw [tUint64_eq, Aqv.Big.uint64_natCast, ← UInt64.toNat_inj, UInt64.toNat_ofNat']
  have : m % 2 ^ 64 % 2 ^ 64 = m := by omega
  rw [this]

theorem bigMax_eq (x y : Int) : Translated.BigMax x y = bigMax x y := by
  rw [BigMax_translated_eq]; unfold bigMax; omega

/-- no panic on a header with non-nil Time / Difficulty and a non-zero divisor -/
theorem calcDifficultyStarting_translated_eq (P : DiffParams) (hdiv : P.div ≠ 0) (hm : P.mainnetChainId < 2 ^ 64)
    (time : UInt64) (parent : Header) (chainId : UInt64) :
    Translated.calcDifficultyStarting (g_aquahash_big1 := 1) (g_aquahash_big10 := 10) (g_aquahash_bigMinus99 := -99)
        (g_params_DifficultyBoundDivisor := P.div) (g_params_MinimumDifficultyGenesis := P.minGenesis)
        (g_params_MainnetChainConfig_ChainId := some (P.mainnetChainId : Int)) time
        (parent_Difficulty := some parent.difficulty) (parent_Time := some (parent.time : Int)) chainId
      = some (calcDifficultyStarting P time.toNat parent chainId.toNat) := by
  have hc := chainId_eq_iff chainId P.mainnetChainId hm
  unfold Translated.calcDifficultyStarting Aqv.Consensus.calcDifficultyStarting homesteadCore
  simp only [tCmp_lt_zero, Translated.calcDifficultyStarting.b2, Translated.calcDifficultyStarting.b4, hdiv, bigMax_eq, hc,
    show ((10 : Int) = 0) = False from by simp, ↓reduceIte, Int.ofNat_eq_natCast]
  by_cases h1 : (1 : Int) - ((time.toNat : Int) - (parent.time : Int)) / 10 < -99 <;>
    by_cases h2 : chainId.toNat = P.mainnetChainId <;> simp [h1, h2]

/-- the translation is that of `calcDifficultyStarting` word for word, with `MinimumDifficultyHF1` in the place of
    `MinimumDifficultyGenesis`, and so is the model -/
theorem calcDifficultyHF1_translated_eq (P : DiffParams) (hdiv : P.div ≠ 0) (hm : P.mainnetChainId < 2 ^ 64)
    (time : UInt64) (parent : Header) (chainId : UInt64) :
    Translated.calcDifficultyHF1 (g_aquahash_big1 := 1) (g_aquahash_big10 := 10) (g_aquahash_bigMinus99 := -99)
        (g_params_DifficultyBoundDivisor := P.div) (g_params_MinimumDifficultyHF1 := P.minHF1)
        (g_params_MainnetChainConfig_ChainId := some (P.mainnetChainId : Int)) time
        (parent_Difficulty := some parent.difficulty) (parent_Time := some (parent.time : Int)) chainId
      = some (calcDifficultyHF1 P time.toNat parent chainId.toNat) :=
  calcDifficultyStarting_translated_eq { P with minGenesis := P.minHF1 } hdiv hm time parent chainId
end Aqv.Lemmas.Translated
