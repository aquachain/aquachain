/- The prelude of the generated module `Aqv.Gen.Translated` (the math/big operations the mini-translator models) and
  `Int64`/`UInt64`, shared by the per-area files. -/
import Aqv.Gen.Translated
import Aqv.Lemmas.Big
namespace Aqv.Lemmas.Translated
open Aqv.Gen

/-- a big integer whose bit length fits Go's `int` (every value that exists in memory does: 2^63 bits = 2^60 bytes). -/
def Fits (x : Int) : Prop := Aqv.Big.bitLen x < 2 ^ 63

instance (x : Int) : Decidable (Fits x) := by unfold Fits; infer_instance

theorem tBitLen_eq (x : Int) : Translated.Big.bitLen x = Int64.ofNat (Aqv.Big.bitLen x) := by
  simp [Translated.Big.bitLen, Aqv.Big.bitLen, Aqv.Big.natBitLen]

theorem tUint64_eq (x : Int) : Translated.Big.uint64 x = UInt64.ofNat (Aqv.Big.uint64 x) := by
  apply UInt64.toNat_inj.mp
  simp [Translated.Big.uint64, Aqv.Big.uint64]

/-- Go's conversion `uint64(x)` of an `int` that is not negative -/
theorem uint64_ofInt_toNat (x : Int) (h0 : 0 ≤ x) (h1 : x < 2 ^ 64) : (UInt64.ofInt x).toNat = x.toNat := by
  unfold UInt64.ofInt
  rw [UInt64.toNat_ofNat', Int.emod_eq_of_lt h0 h1]
  omega

theorem int64_ofNat_lt (a b : Nat) (ha : a < 2 ^ 63) (hb : b < 2 ^ 63) : Int64.ofNat a < Int64.ofNat b ↔ a < b := by
  rw [Int64.lt_iff_toInt_lt, Int64.toInt_ofNat_of_lt ha, Int64.toInt_ofNat_of_lt hb]
  omega

theorem int64_ofNat_le (a b : Nat) (ha : a < 2 ^ 63) (hb : b < 2 ^ 63) : Int64.ofNat a ≤ Int64.ofNat b ↔ a ≤ b := by
  rw [Int64.le_iff_toInt_le, Int64.toInt_ofNat_of_lt ha, Int64.toInt_ofNat_of_lt hb]
  omega

theorem tBitLen_gt (x : Int) (n : Nat) (hn : n < 2 ^ 63) (hx : Fits x) :
    (Translated.Big.bitLen x > Int64.ofNat n) ↔ Aqv.Big.bitLen x > n := by
  rw [tBitLen_eq]; exact int64_ofNat_lt _ _ hn hx

theorem tBitLen_le (x : Int) (n : Nat) (hn : n < 2 ^ 63) (hx : Fits x) :
    (Translated.Big.bitLen x ≤ Int64.ofNat n) ↔ Aqv.Big.bitLen x ≤ n := by
  rw [tBitLen_eq]; exact int64_ofNat_le _ _ hx hn

theorem tCmp_lt_zero (x y : Int) : Translated.Big.cmp x y < 0 ↔ x < y := by
  unfold Translated.Big.cmp; split
  · simp [*]
  · split
    · subst_vars; simp
    · simp [*]

theorem tCmp_gt_zero (x y : Int) : Translated.Big.cmp x y > 0 ↔ x > y := by
  unfold Translated.Big.cmp; split
  · rename_i h
    have : ¬ ((-1 : Int64) > 0) := by decide
    simp only [this, false_iff]; omega
  · split
    · subst_vars; simp
    · rename_i h1 h2
      have : ((1 : Int64) > 0) := by decide
      simp only [this, true_iff]; omega

theorem tCmp_le_zero (x y : Int) : Translated.Big.cmp x y ≤ 0 ↔ x ≤ y := by
  have := tCmp_gt_zero x y
  rw [Int64.le_iff_toInt_le]; rw [gt_iff_lt, Int64.lt_iff_toInt_lt] at this
  have h0 : Int64.toInt 0 = 0 := by decide
  omega

theorem tSign_eq_zero (x : Int) : Translated.Big.sign x = 0 ↔ x = 0 := by
  unfold Translated.Big.sign; split
  · have : ¬ ((-1 : Int64) = 0) := by decide
    simp only [this, false_iff]; omega
  · split
    · simp [*]
    · have : ¬ ((1 : Int64) = 0) := by decide
      simp only [this, false_iff]; assumption

theorem BigMax_translated_eq (x y : Int) : Translated.BigMax x y = max x y := by
  simp only [Translated.BigMax, tCmp_lt_zero]
  by_cases h : x < y <;> simp [h] <;> omega

theorem BigMin_translated_eq (x y : Int) : Translated.BigMin x y = min x y := by
  simp only [Translated.BigMin, tCmp_gt_zero]
  by_cases h : x > y <;> simp [h] <;> omega

theorem fits_of_lt (n k : Nat) (hk : k < 2 ^ 63) (h : n < 2 ^ k) : Fits (n : Int) := by
  have := Aqv.Big.bitLen_natCast_gt n k
  unfold Fits; omega

end Aqv.Lemmas.Translated
