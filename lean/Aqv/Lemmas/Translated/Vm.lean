/- Ties the mini-translated core/vm and common/math functions (`Aqv.Gen.Translated`, regenerated from the go/ssa form of the
  tree under test) to the hand-written models of C07 / C08: `Aqv.Evm.*` (Model/EvmOps, UInt64 with wrap-around) and
  `Aqv.Big.safeAdd/safeMul/s256`; the refinements of the `Nat` model of C07 are in Translated/VmNat.
  If the Go source of one of these functions changes its meaning, its `…_translated_eq` stops proving. -/
import Aqv.Lemmas.Translated.Basic
import Aqv.Model.EvmOps
namespace Aqv.Lemmas.Translated
open Aqv.Gen

theorem toWordSize_translated_eq : Translated.toWordSize = Aqv.Evm.toWordSize := by
  funext size
  simp only [Translated.toWordSize, Aqv.Evm.toWordSize, Aqv.Big.maxU64]
  by_cases h : size > 18446744073709551584
  · simp [h]
  · simp [h]

theorem SafeAdd_translated_eq : Translated.SafeAdd = Aqv.Big.safeAdd := by
  funext x y; simp [Translated.SafeAdd, Aqv.Big.safeAdd, Aqv.Big.maxU64]

theorem SafeMul_translated_eq (x y : UInt64) : Translated.SafeMul x y = some (Aqv.Big.safeMul x y) := by
  simp only [Translated.SafeMul, Translated.SafeMul.b1, Aqv.Big.safeMul, Aqv.Big.maxU64]
  by_cases hx : x = 0 <;> by_cases hy : y = 0 <;> simp [hx, hy]

/-- SafeSub has no separate model function -/
theorem SafeSub_translated_eq (x y : UInt64) : Translated.SafeSub x y = (x - y, decide (x < y)) := by
  simp [Translated.SafeSub]

/-- a translated `(gas, err, lastGasCost')` as the model's `Option (gas × Mem)`: any error is `none`, since the interpreter
    turns every gas error into ErrOutOfGas -/
def memRes (len : UInt64) (r : UInt64 × Option String × UInt64) : Option (UInt64 × Aqv.Evm.Mem) :=
  match r.2.1 with
  | some _ => none
  | none => some (r.1, ⟨len, r.2.2⟩)

/-- `uint64(mem.Len())` for a store of length `slen` (Go `int`) -/
def memLen (slen : Int64) : UInt64 := UInt64.ofInt slen.toInt

theorem memoryGasCost_translated_eq (slen : Int64) (lgc n : UInt64) :
    memRes (memLen slen) (Translated.memoryGasCost (mem_store_len := slen) (mem_lastGasCost := lgc) n) = Aqv.Evm.memoryGasCost ⟨memLen slen, lgc⟩ n := by
  simp only [Translated.memoryGasCost, Translated.Memory_Len, toWordSize_translated_eq, Aqv.Evm.memoryGasCost, memLen,
    Aqv.Evm.memoryGas, Aqv.Evm.quadCoeffDiv]
  by_cases h0 : n = 0
  · simp [h0, memRes]
  · by_cases h1 : n > 1099511627744
    · simp [h0, h1, memRes]
    · by_cases h2 : Aqv.Evm.toWordSize n * 32 > UInt64.ofInt slen.toInt
      · simp [h0, h1, h2, memRes]
      · simp [h0, h1, h2, memRes]

theorem memoryGasCost_translated_err (slen : Int64) (lgc n : UInt64) (e : String)
    (h : (Translated.memoryGasCost slen lgc n).2.1 = some e) :
    e = "vm.errGasUintOverflow" ∧ (Translated.memoryGasCost slen lgc n).2.2 = lgc := by
  simp only [Translated.memoryGasCost] at h ⊢
  repeat' split at h
  all_goals simp_all

/-- the shared shape of gasMLoad / gasMStore / gasMStore8 and gasCreate; `add` is kept abstract so that nothing unfolds into
    64-bit literals -/
theorem gasMemPlus_shape (len : UInt64) (add : UInt64 → UInt64 × Bool) (err : String) (ef : Option String → Option String)
    (hef : ∀ x, x.isSome → (ef x).isSome) (r : UInt64 × Option String × UInt64) :
    (memRes len (if r.2.1.isSome then ((0 : UInt64), ef r.2.1, r.2.2)
                  else if (add r.1).2 then ((0 : UInt64), some err, r.2.2)
                  else ((add r.1).1, none, r.2.2))).map Prod.fst
      = (memRes len r).bind (fun m => Aqv.Evm.chk (add m.1)) := by
  obtain ⟨g, e, l⟩ := r
  cases e with
  | some e =>
    have := hef (some e) rfl
    cases h : ef (some e) with
    | none => simp [h] at this
    | some e' => simp [memRes]
  | none =>
    generalize hsa : add g = sa
    obtain ⟨s1, s2⟩ := sa
    cases s2 <;> simp [memRes, hsa, Aqv.Evm.chk]

theorem gasMLoad_translated_eq (slen : Int64) (lgc n : UInt64) :
    (memRes (memLen slen) (Translated.gasMLoad slen lgc n)).map Prod.fst = Aqv.Evm.gasMemVeryLow ⟨memLen slen, lgc⟩ n := by
  unfold Translated.gasMLoad Aqv.Evm.gasMemVeryLow
  rw [← memoryGasCost_translated_eq, ← SafeAdd_translated_eq]
  exact gasMemPlus_shape _ (fun g => Translated.SafeAdd g 3) _ (fun _ => some "vm.errGasUintOverflow") (fun _ _ => rfl) _

/-- gasMStore and gasMStore8 are the same code as gasMLoad -/
theorem gasMStore_translated_eq (slen : Int64) (lgc n : UInt64) :
    (memRes (memLen slen) (Translated.gasMStore slen lgc n)).map Prod.fst = Aqv.Evm.gasMemVeryLow ⟨memLen slen, lgc⟩ n :=
  gasMLoad_translated_eq slen lgc n

theorem gasMStore8_translated_eq (slen : Int64) (lgc n : UInt64) :
    (memRes (memLen slen) (Translated.gasMStore8 slen lgc n)).map Prod.fst = Aqv.Evm.gasMemVeryLow ⟨memLen slen, lgc⟩ n :=
  gasMLoad_translated_eq slen lgc n

theorem gasCreate_translated_eq (slen : Int64) (lgc n : UInt64) :
    (memRes (memLen slen) (Translated.gasCreate slen lgc n)).map Prod.fst = Aqv.Evm.gasCreate ⟨memLen slen, lgc⟩ n := by
  unfold Translated.gasCreate Aqv.Evm.gasCreate
  rw [← memoryGasCost_translated_eq, ← SafeAdd_translated_eq]
  exact gasMemPlus_shape _ (fun g => Translated.SafeAdd g 32000) _ (fun x => x) (fun _ h => h) _

theorem gasReturn_translated_eq (slen : Int64) (lgc n : UInt64) :
    (memRes (memLen slen) (Translated.gasReturn slen lgc n)).map Prod.fst = Aqv.Evm.gasReturn ⟨memLen slen, lgc⟩ n := by
  unfold Translated.gasReturn Aqv.Evm.gasReturn
  rw [← memoryGasCost_translated_eq]

theorem gasRevert_translated_eq (slen : Int64) (lgc n : UInt64) :
    (memRes (memLen slen) (Translated.gasRevert slen lgc n)).map Prod.fst = Aqv.Evm.gasReturn ⟨memLen slen, lgc⟩ n :=
  gasReturn_translated_eq slen lgc n

def errRes {α : Type} (r : α × Option String) : Option α :=
  match r.2 with
  | some _ => none
  | none => some r.1

theorem tBitLen_gt64 (x : Int) (hx : Fits x) : (Translated.Big.bitLen x > (64 : Int64)) ↔ Aqv.Big.bitLen x > 64 :=
  tBitLen_gt x 64 (by decide) hx

/-- `gasTable.CreateBySuicide` is the only field of the gas table callGas reads -/
theorem callGas_translated_eq (cbs av base : UInt64) (cc : Int) (hcc : Fits cc) :
    errRes (Translated.callGas (gasTable_CreateBySuicide := cbs) av base cc) = Aqv.Evm.callGas cbs av base cc := by
  have hb := tBitLen_gt64 cc hcc
  simp only [Translated.callGas, Translated.callGas.b2, Translated.callGas.b3, Aqv.Evm.callGas, tUint64_eq]
  by_cases h1 : cbs > 0 <;> by_cases h2 : Aqv.Big.bitLen cc > 64
  all_goals simp only [h1, h2, hb, decide_true, decide_false, ↓reduceIte, Bool.false_eq_true, true_or, false_or, errRes]
  · by_cases h3 : av - base - (av - base) / 64 < UInt64.ofNat (Aqv.Big.uint64 cc) <;> simp [h3]

theorem bigUint64_translated_eq (v : Int) (hv : Fits v) : Translated.bigUint64 v = Aqv.Evm.bigUint64 v := by
  have hb := tBitLen_gt64 v hv
  simp only [Translated.bigUint64, Aqv.Evm.bigUint64, tUint64_eq, hb]

/-- for a zero length the Go code returns the package-level variable `common.Big0`: the tie holds at its initial value
    `big.NewInt(0)` -/
theorem calcMemSize_translated_eq (off l : Int) : Translated.calcMemSize 0 off l = Aqv.Evm.calcMemSize off l := by
  simp only [Translated.calcMemSize, Aqv.Evm.calcMemSize, tSign_eq_zero]
  by_cases h : l = 0 <;> simp [h]

/-- `(ok, c.Gas')`; the interpreter models inline UseGas as `if gas < cost then out-of-gas else gas - cost` -/
theorem Contract_UseGas_translated_eq (gas cost : UInt64) :
    Translated.Contract_UseGas (c_Gas := gas) cost = if gas < cost then (false, gas) else (true, gas - cost) := by
  simp only [Translated.Contract_UseGas]
  by_cases h : gas < cost <;> simp [h]

/-- the package-level variables tt255 / tt256 at their initial values -/
theorem S256_translated_eq (x : Int) : Translated.S256 Aqv.Big.tt255 Aqv.Big.tt256 x = Aqv.Big.s256 x := by
  simp only [Translated.S256, Aqv.Big.s256, tCmp_lt_zero]
  by_cases h : x < Aqv.Big.tt255 <;> simp [h]
end Aqv.Lemmas.Translated
