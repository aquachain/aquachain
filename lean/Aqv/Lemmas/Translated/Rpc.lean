/-
  Aqv.Lemmas.Translated.Rpc — ties the mini-translated rpc.isProtectedMethodName to the model of C18
  (`Aqv.Model.Rpc.isProtected` over `Aqv.Gen.Rpc.params`, whose `protectedNames` are extracted independently from the syntax
  of package rpc by go/extract/cmd/rpcsign).
-/
import Aqv.Gen.Translated
import Aqv.Gen.Rpc
namespace Aqv.Lemmas.Translated
open Aqv.Gen

/-- compares the two sets, so neither the order of the disjuncts in the Go source nor that of the extracted list matters. -/
theorem isProtectedMethodName_translated_mem (name : String) :
    Translated.isProtectedMethodName name = true ↔ name ∈ Aqv.Gen.Rpc.protectedNames := by
  unfold Translated.isProtectedMethodName      -- the join blocks `isProtectedMethodName.bN` are @[simp]
  simp only [Aqv.Gen.Rpc.protectedNames]
  repeat' split
  all_goals simp_all

theorem isProtectedMethodName_translated_eq :
    Translated.isProtectedMethodName = Aqv.Model.Rpc.isProtected Aqv.Gen.Rpc.params := by
  funext name
  rw [Bool.eq_iff_iff, isProtectedMethodName_translated_mem]
  simp [Aqv.Model.Rpc.isProtected, Aqv.Gen.Rpc.params]

/-- the Go method names that must stay protected: each reaches a keystore signing entry point (`Aqv.Gen.Rpc.signers`).
    Hand-written, NOT regenerated. -/
def protectedNamesRef : List String := ["SendTransaction", "Sign", "SignAndSendTransaction", "SignTransaction"]

/-- one direction only: protecting MORE names is not a violation. -/
theorem isProtectedMethodName_translated_ref :
    ∀ n ∈ protectedNamesRef, Translated.isProtectedMethodName n = true := by
  intro n hn
  simp only [protectedNamesRef, List.mem_cons, List.not_mem_nil, or_false] at hn
  unfold Translated.isProtectedMethodName
  rcases hn with h | h | h | h <;> subst h <;> simp
end Aqv.Lemmas.Translated
