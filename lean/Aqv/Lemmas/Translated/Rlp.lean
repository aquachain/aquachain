/-
  Ties the mini-translated rlp.headsize to the RLP model of C11 (`Aqv.Rlp.header`, the model of puthead).  `rlp.intsize` is
  a loop, outside the translator's grammar; it appears as the function parameter `intsize`, characterised by the hypothesis
  `IntsizeSpec`, which is what the differential harness of C11 checks on the real function.
-/
import Aqv.Gen.Translated
import Aqv.Model.Rlp
import Aqv.Lemmas.Bytes
namespace Aqv.Lemmas.Translated
open Aqv Aqv.Gen

def IntsizeSpec (intsize : UInt64 → Int64) : Prop :=
  ∀ i : UInt64, i ≠ 0 → intsize i = Int64.ofNat (beBytes i.toNat).length

/-- `intsize 0 = 1` as in Go. -/
def intsizeRef (i : UInt64) : Int64 := if i = 0 then 1 else Int64.ofNat (beBytes i.toNat).length

theorem intsizeRef_spec : IntsizeSpec intsizeRef := by
  intro i hi; simp [intsizeRef, hi]

theorem headsize_translated_eq (intsize : UInt64 → Int64) (hint : IntsizeSpec intsize) (base : Nat) (size : UInt64) :
    (Translated.headsize intsize size).toInt = ((Aqv.Rlp.header base size.toNat).length : Int) := by
  simp only [Translated.headsize, Aqv.Rlp.header]
  by_cases h : size < 56
  · have h' : size.toNat < 56 := by simpa [UInt64.lt_iff_toNat_lt] using h
    simp [h, h']
  · have h' : ¬ size.toNat < 56 := by simpa [UInt64.lt_iff_toNat_lt] using h
    have hne : size ≠ 0 := by intro h0; subst h0; exact h (by decide)
    have hlen : (beBytes size.toNat).length ≤ 8 := beBytes_length_le _ 8 (by have := size.toNat_lt; omega)
    simp only [h, h', decide_false, Bool.false_eq_true, ↓reduceIte, hint size hne, List.length_cons]
    rw [Int64.toInt_add, Int64.toInt_ofNat_of_lt (by omega)]
    have h1 : Int64.toInt 1 = 1 := by decide
    rw [h1, Int.bmod_eq_of_le] <;> omega
end Aqv.Lemmas.Translated
