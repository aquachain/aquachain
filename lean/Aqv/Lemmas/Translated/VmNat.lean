/- The mini-translated core/vm functions (UInt64 with Go's wrap-around) refine the `Nat` model of the interpreter used by C07
  (`Aqv.Vm.*`, Model/Vm) under the no-overflow guards that model carries: the generated definition is the UInt64 model of C08
  (Translated/Vm), which is read on `Nat` in Lemmas/EvmGas. -/
import Aqv.Lemmas.Translated.Vm
import Aqv.Lemmas.EvmGas
import Aqv.Lemmas.VmGas
namespace Aqv.Lemmas.Translated
open Aqv.Gen

theorem toWordSize_translated_nat (size : UInt64) :
    (Translated.toWordSize size).toNat = Aqv.Vm.toWordSize size.toNat := by
  have hs := size.toNat_lt
  rw [toWordSize_translated_eq, Aqv.Evm.toWordSize_spec]
  unfold Aqv.Vm.toWordSize Aqv.Vm.two64
  split <;> omega

def memResNat (len : Nat) (r : UInt64 × Option String × UInt64) : Option (Nat × Aqv.Vm.Mem) :=
  match r.2.1 with
  | some _ => none
  | none => some (r.1.toNat, ⟨len, r.2.2.toNat⟩)

theorem memResNat_eq_map (len : Nat) (l : UInt64) (r : UInt64 × Option String × UInt64) :
    memResNat len r = (memRes l r).map fun p => (p.1.toNat, ⟨len, p.2.lastGasCost.toNat⟩) := by
  obtain ⟨g, e, lgc⟩ := r
  cases e <;> rfl

/-- `hn`: `words * words` does not wrap up to 0x1fffffffe0 bytes (the bound upstream go-ethereum uses); above it the Go code
    computes the square modulo 2^64 (finding evm-memgas-square-wraps-uint64). -/
theorem memoryGasCost_translated_nat (slen : Int64) (hs : 0 ≤ slen.toInt) (lgc n : UInt64) (hn : n.toNat ≤ 0x1fffffffe0) :
    memResNat slen.toInt.toNat (Translated.memoryGasCost slen lgc n)
      = Aqv.Vm.memoryGasCost ⟨slen.toInt.toNat, lgc.toNat⟩ n.toNat := by
  obtain ⟨total, htot, hg⟩ := Aqv.Evm.memoryGasCost_small ⟨memLen slen, lgc⟩ n hn
  have hlen : (memLen slen).toNat = slen.toInt.toNat :=
    uint64_ofInt_toNat _ hs (by have := Int64.toInt_lt slen; omega)
  have hlgc := lgc.toNat_lt
  rw [memResNat_eq_map _ (memLen slen), memoryGasCost_translated_eq, hg, Aqv.Vm.memoryGasCost_eq _ (by omega),
    Option.map_some]
  unfold Aqv.EvmSpec.cmem Aqv.EvmSpec.words at *
  unfold Aqv.Vm.memFee Aqv.Gen.VmFlags.memoryGas Aqv.Gen.VmFlags.quadCoeffDiv Aqv.Vm.two64
  simp only [hlen]
  generalize (n.toNat + 31) / 32 = w at *
  generalize w * w = sq at *
  congr 1
  split <;> rename_i hc
  · rw [if_pos (by omega)]
    simp only [UInt64.toNat_sub, htot]
    congr 2 <;> omega
  · rw [if_neg (by omega)]
    rfl

/-- … and the guard is needed: at 2^37 bytes (2^32 words) `words*words` is 0 modulo 2^64, so the Go code charges 3·2^32 where
    the `Nat` model charges 3·2^32 + 2^55. -/
theorem memoryGasCost_nat_model_diverges_witness :
    memResNat 0 (Translated.memoryGasCost 0 0 0x2000000000) = some (12884901888, ⟨0, 12884901888⟩) ∧
    Aqv.Vm.memoryGasCost ⟨0, 0⟩ 0x2000000000 = some (36028809903865856, ⟨0, 36028809903865856⟩) := by
  decide
end Aqv.Lemmas.Translated
