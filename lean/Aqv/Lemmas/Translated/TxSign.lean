/-
  Aqv.Lemmas.Translated.TxSign — ties the mini-translated V arithmetic of core/types (isProtectedV, deriveChainId) and
  crypto.ValidateSignatureValues to the signing model of C12 (`Aqv.TxSign.*`, stated on `Nat`): on the non-negative values
  the model ranges over, the translated `*big.Int` code computes the model function.
  The package-level variables read by ValidateSignatureValues (common.Big1, crypto.secp256k1_N, crypto.secp256k1_halfN) are
  explicit parameters of the generated definition; the tie holds at the model's constants (1, secpN, secpHalfN).
-/
import Aqv.Lemmas.Translated.Basic
import Aqv.Model.TxSign
namespace Aqv.Lemmas.Translated
open Aqv.Gen

theorem tBitLen_le_nat (v k : Nat) (hk : k < 2 ^ 63) (hv : Fits (v : Int)) :
    (Translated.Big.bitLen (v : Int) ≤ Int64.ofNat k) ↔ v < 2 ^ k := by
  rw [tBitLen_le _ k hk hv]
  have := Aqv.Big.bitLen_natCast_gt v k; omega

theorem tUint64_eq_lit {v : Nat} (hv : v < 2 ^ 64) (k : Nat) (hk : k < 2 ^ 64 := by decide) :
    UInt64.ofNat (v % 2 ^ 64) = OfNat.ofNat k ↔ v = k := by
  show _ = UInt64.ofNat k ↔ _
  rw [← UInt64.toNat_inj]; simp; omega

theorem isProtectedV_translated_eq (v : Nat) (hv : Fits (v : Int)) :
    Translated.isProtectedV (v : Int) = Aqv.TxSign.isProtectedV v := by
  have hb := tBitLen_le_nat v 8 (by decide) hv
  have h8 : (8 : Int64) = Int64.ofNat 8 := rfl
  simp only [Translated.isProtectedV, Translated.isProtectedV.b4, Aqv.TxSign.isProtectedV, tUint64_eq, Aqv.Big.uint64_natCast, h8, hb]
  by_cases h : v < 2 ^ 8
  · have h' : v < 2 ^ 64 := Nat.lt_trans h (by decide)
    simp only [h, tUint64_eq_lit h' 27, tUint64_eq_lit h' 28, decide_true, ↓reduceIte]
    by_cases a : v = 27 <;> by_cases b : v = 28 <;> simp [a, b]
  · have h' : ¬ v < 256 := h
    simp [h]

/-- the uint64 fast path wraps for v < 35, exactly as the model says. -/
theorem deriveChainId_translated_eq (v : Nat) (hv : Fits (v : Int)) :
    Translated.deriveChainId (v : Int) = (Aqv.TxSign.deriveChainId v : Int) := by
  have hb := tBitLen_le_nat v 64 (by decide) hv
  have h64 : (64 : Int64) = Int64.ofNat 64 := rfl
  simp only [Translated.deriveChainId, Translated.deriveChainId.b3, Aqv.TxSign.deriveChainId, tUint64_eq, Aqv.Big.uint64_natCast, h64, hb]
  by_cases h : v < 2 ^ 64
  · simp only [h, tUint64_eq_lit h 27, tUint64_eq_lit h 28, decide_true, ↓reduceIte]
    by_cases a : v = 27
    · simp [a]
    · by_cases b : v = 28
      · simp [b]
      · simp only [a, b, decide_false, Bool.false_eq_true, ↓reduceIte, or_self]
        rw [UInt64.toNat_div, UInt64.toNat_sub]
        simp only [UInt64.toNat_ofNat']
        simp
        omega
  · simp only [h, decide_false, Bool.false_eq_true, ↓reduceIte]
    omega

/-- crypto.ValidateSignatureValues over abstract constants: the block structure of the Go function computes the model's
    nested conditional. -/
theorem ValidateSignatureValues_translated_abs (one N H : Nat) (v : UInt8) (r s : Nat) (homestead : Bool) :
    Translated.ValidateSignatureValues (g_common_Big1 := (one : Int)) (g_crypto_secp256k1_N := (N : Int)) (g_crypto_secp256k1_halfN := (H : Int)) v (r : Int) (s : Int) homestead
      = (if v.toNat != 0 && v.toNat != 1 then false
         else if decide (r < one) || decide (s < one) then false
         else if homestead && decide (s > H) then false
         else decide (r < N) && decide (s < N)) := by
  have e0 : (v = 0) ↔ v.toNat = 0 := by rw [← UInt8.toNat_inj]; rfl
  have e1 : (v = 1) ↔ v.toNat = 1 := by rw [← UInt8.toNat_inj]; rfl
  simp only [Translated.ValidateSignatureValues, Translated.ValidateSignatureValues.b2, Translated.ValidateSignatureValues.b4,
    Translated.ValidateSignatureValues.b8, Translated.ValidateSignatureValues.b11,
    tCmp_lt_zero, tCmp_gt_zero, e0, e1, Int.ofNat_lt, gt_iff_lt]
  by_cases h0 : v.toNat = 0
  · by_cases hr : r < one <;> by_cases hs : s < one <;> cases homestead <;> by_cases hh : H < s <;> by_cases hrn : r < N <;>
      simp [h0, hr, hs, hh, hrn]
  · by_cases h1 : v.toNat = 1
    · by_cases hr : r < one <;> by_cases hs : s < one <;> cases homestead <;> by_cases hh : H < s <;> by_cases hrn : r < N <;>
        simp [h1, hr, hs, hh, hrn]
    · simp [h0, h1]

theorem ValidateSignatureValues_translated_eq (v : UInt8) (r s : Nat) (homestead : Bool) :
    Translated.ValidateSignatureValues ((1 : Nat) : Int) (Aqv.TxSign.secpN : Nat) (Aqv.TxSign.secpHalfN : Nat) v (r : Int) (s : Int) homestead
      = Aqv.TxSign.validateSignatureValues v.toNat r s homestead := by
  rw [ValidateSignatureValues_translated_abs]; rfl
end Aqv.Lemmas.Translated
