/- Ties the mini-translated `RequiredGas` methods of the precompiled contracts (core/vm/contracts.go; a slice parameter is visible
  to the translator only through `len`, parameter `input_len : Int64`) and the gas-table reads gasBalance / gasExtCodeSize /
  gasSLoad to the models of C07 (`Aqv.Vm.Pre.requiredGas`; `gasFn` rows of Model/Vm). bigModExp.RequiredGas (slice indexing,
  math/big Exp/Mul) is outside the translator's grammar. -/
import Aqv.Lemmas.Translated.Basic
import Aqv.Model.VmPrecompile
namespace Aqv.Lemmas.Translated
open Aqv Aqv.Gen Aqv.Gen.VmFlags

/-- `uint64(len(input) + 31) / 32 * perWord + base`, the shape of sha256hash / ripemd160hash / dataCopy -/
theorem perWordGas_toNat (L : Nat) (h : L < 2 ^ 48) (c b : UInt64) (hc : c.toNat * 2 ^ 44 + b.toNat < 2 ^ 64) :
    (UInt64.ofInt (Int64.ofNat L + 31).toInt / 32 * c + b).toNat = (L + 31) / 32 * c.toNat + b.toNat := by
  have e31 : Int64.toInt 31 = 31 := by decide
  have hL : (Int64.ofNat L).toInt = L := Int64.toInt_ofNat_of_lt (by omega)
  have : (Int64.ofNat L + 31).toInt = L + 31 := by
    rw [Int64.toInt_add, hL, e31, Int.bmod_eq_of_le] <;> omega
  have h31 : (UInt64.ofInt (Int64.ofNat L + 31).toInt).toNat = L + 31 := by
    rw [this, uint64_ofInt_toNat _ (by omega) (by omega)]; omega
  have hw : (L + 31) / 32 < 2 ^ 44 := by omega
  have hm : (L + 31) / 32 * c.toNat ≤ 2 ^ 44 * c.toNat := Nat.mul_le_mul_right _ (Nat.le_of_lt hw)
  rw [UInt64.toNat_add, UInt64.toNat_mul, UInt64.toNat_div, h31]
  simp; omega

/-- `uint64(len(input) / 192)` -/
theorem lenDiv192 (L : Nat) (h : L < 2 ^ 48) : (UInt64.ofInt (Int64.ofNat L / 192).toInt).toNat = L / 192 := by
  have e : Int64.toInt 192 = 192 := by decide
  have hL : (Int64.ofNat L).toInt = L := Int64.toInt_ofNat_of_lt (by omega)
  have : (Int64.ofNat L / 192).toInt = (L / 192 : Nat) := by
    rw [Int64.toInt_div, hL, e]
    have : Int.tdiv (L : Int) 192 = ((L / 192 : Nat) : Int) := by
      rw [Int.tdiv_eq_ediv_of_nonneg (by omega)]; omega
    rw [this, Int.bmod_eq_of_le] <;> omega
  rw [this, uint64_ofInt_toNat _ (by omega) (by omega)]
  omega

/-- below 2^48 bytes no `int`/`uint64` computation wraps -/
theorem requiredGas_translated_eq (input : Bytes) (h : input.length < 2 ^ 48) :
    (Translated.ecrecover_RequiredGas (input_len := Int64.ofNat input.length)).toNat = Vm.Pre.requiredGas 1 input ∧
    (Translated.sha256hash_RequiredGas (input_len := Int64.ofNat input.length)).toNat = Vm.Pre.requiredGas 2 input ∧
    (Translated.ripemd160hash_RequiredGas (input_len := Int64.ofNat input.length)).toNat = Vm.Pre.requiredGas 3 input ∧
    (Translated.dataCopy_RequiredGas (input_len := Int64.ofNat input.length)).toNat = Vm.Pre.requiredGas 4 input ∧
    (Translated.fakebn256Add_RequiredGas (input_len := Int64.ofNat input.length)).toNat = Vm.Pre.requiredGas 6 input ∧
    (Translated.fakebn256ScalarMul_RequiredGas (input_len := Int64.ofNat input.length)).toNat = Vm.Pre.requiredGas 7 input ∧
    (Translated.fakebn256Pairing_RequiredGas (input_len := Int64.ofNat input.length)).toNat = Vm.Pre.requiredGas 8 input := by
  have h192 := lenDiv192 input.length h
  refine ⟨rfl, perWordGas_toNat _ h 12 60 (by decide), perWordGas_toNat _ h 120 600 (by decide),
    perWordGas_toNat _ h 3 15 (by decide), rfl, rfl, ?_⟩
  simp only [Translated.fakebn256Pairing_RequiredGas, Vm.Pre.requiredGas, bn256PairingBaseGas, bn256PairingPerPointGas,
    UInt64.toNat_add, UInt64.toNat_mul, h192]
  simp; omega

/-- named arguments: the theorem fails to elaborate if the code starts reading a different field -/
theorem gasTableReads_translated_eq (x ms : UInt64) :
    Translated.gasBalance (gt_Balance := x) ms = (x, none) ∧
    Translated.gasExtCodeSize (gt_ExtcodeSize := x) ms = (x, none) ∧
    Translated.gasSLoad (gt_SLoad := x) ms = (x, none) := ⟨rfl, rfl, rfl⟩
end Aqv.Lemmas.Translated
