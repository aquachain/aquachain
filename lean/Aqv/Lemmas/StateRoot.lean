/-
  Aqv.Lemmas.StateRoot — after Finalise the account trie holds exactly the content the getters report (root commits to
  content); under the cache invariant Commit does to the object cache and the trie what Finalise does, so the same holds
  after Commit; Copy and reopen read back, and Finalise respects `Sim` when the dirty sets agree on the accounts it would
  delete.
-/
import Aqv.Lemmas.StateInv
import Aqv.Lemmas.StateReach
namespace Aqv.State

theorem look_finalise_fields (d : Bool) (s : SDB) :
    (finalise d s).dirty = s.dirty ∧ (finalise d s).journal = [] ∧ (finalise d s).revs = [] ∧ (finalise d s).refund = 0 ∧
    (finalise d s).logs = s.logs ∧ (finalise d s).logSize = s.logSize ∧ (finalise d s).preimages = s.preimages ∧
    (finalise d s).thash = s.thash ∧ (finalise d s).nextId = s.nextId := ⟨rfl, rfl, rfl, rfl, rfl, rfl, rfl, rfl, rfl⟩

theorem view_finalise (d : Bool) (s : SDB) :
    view (finalise d s) = { view s with accts := viewAt (finalise d s), refund := 0 } := by
  obtain ⟨-, -, -, hrefund, hlogs, -, hpre, -, -⟩ := look_finalise_fields d s
  simp only [view, hrefund, hlogs, hpre]

theorem view_copy (s : SDB) : view (copy s) = { view s with accts := viewAt (copy s) } := rfl

theorem binv_finalise {d : Bool} {s : SDB} (hb : BInv s) (ht : TombD d s) : BInv (finalise d s) := by
  refine .of_journal_nil rfl (fun _ _ ho hd => (tomb_finalise hb.coh ht ho hd).1) (fun a (ha : a ∈ s.dirty) => ?_)
    fun a o ho hod (hnd : a ∉ s.dirty) => ?_
  · obtain ⟨o, ho⟩ := hb.dobj a ha
    exact ⟨finObj d o, by rw [finalise_objs, if_pos ha, ho]; rfl⟩
  · rw [finalise_objs, if_neg hnd] at ho
    rw [finalise_trie, if_neg hnd]
    exact hb.ca a o ho hod hnd

theorem toAcct_flush (o : Obj) : o.flush.toAcct = o.toAcct := rfl
@[simp] theorem view_flush (o : Obj) : o.flush.view = o.view := rfl

theorem look_finalise {d : Bool} {s : SDB} (hb : BInv s) (a : Addr) :
    look (finalise d s) a =
      match look s a with
      | none => none
      | some o => if a ∈ s.dirty then (if delCond d o then none else some o.flush) else some o := by
  by_cases ha : a ∈ s.dirty
  · obtain ⟨q, hq⟩ := hb.dobj a ha
    have hf : (finalise d s).objs a = some (finObj d q) := by rw [finalise_objs, if_pos ha, hq]; rfl
    rw [look_of_some hf, look_of_some hq]
    by_cases hdc : delCond d q = true <;> cases hqd : q.deleted <;> simp [ha, finObj, hdc, hqd, Obj.flush]
  · rw [look_congr (s := s) (by rw [finalise_objs, if_neg ha]) (by rw [finalise_trie, if_neg ha])]
    cases look s a <;> simp [ha]

/-- root commits to content (Finalise). -/
theorem trie_finalise_eq_content {d : Bool} {s : SDB} (hb : BInv s) (ht : TombD d s) :
    (finalise d s).trie = contentOf (finalise d s) := by
  funext a
  rw [contentOf, look_finalise hb a, finalise_trie]
  by_cases ha : a ∈ s.dirty
  · obtain ⟨q, hq⟩ := hb.dobj a ha
    cases hqd : q.deleted with
    | true => simp [look_of_some hq, ha, hq, hqd, finLeaf, ht a q hq hqd]
    | false => by_cases hdc : delCond d q = true <;> simp [look_of_some hq, ha, hq, hqd, finLeaf, hdc, toAcct_flush]
  · cases hl : look s a with
    | none => simpa [ha] using look_none_trie hb.coh hl
    | some o => simpa [ha] using (look_clean hb hl ha).2.2

/-- Commit walks all of `stateObjects`, Finalise only the dirty set; a clean cached object is not self-destructed (`BInv.ca`)
    and a clean tombstone is absent from the trie already (`Coherent`), so the walk acts on the dirty objects only; each of
    them is cached (`BInv.dobj`), and on them the two deletion tests agree. -/
theorem commit_eq_finalise {d : Bool} {s : SDB} (hb : BInv s) :
    (commit d s).objs = (finalise d s).objs ∧ (commit d s).trie = (finalise d s).trie := by
  refine ⟨funext fun a => ?_, funext fun a => ?_⟩ <;> rw [finalise_eq] <;> simp only [commit_objs, commit_trie]
  all_goals
    by_cases ha : a ∈ s.dirty
    · obtain ⟨q, hq⟩ := hb.dobj a ha
      have hc : cdel d s a q = delCond d q := by simp [cdel, delCond, ha]
      by_cases hdc : delCond d q = true <;> simp [hq, ha, hc, hdc, finObj, finLeaf]
    · cases ho : s.objs a with
      | none => simp [ha]
      | some q =>
        have hc : cdel d s a q = q.suicided := by simp [cdel, ha]
        cases hqd : q.deleted with
        | false => simp [ha, hc, (hb.ca a q ho hqd ha).2.1]
        | true =>
          -- a clean tombstone: marking it deleted again changes nothing, and its leaf is gone already
          have hq : ({ q with deleted := true } : Obj) = q := by cases q; cases hqd; rfl
          simp [ha, hc, hq, hb.coh a q ho hqd]

theorem look_commit {d : Bool} {s : SDB} (hb : BInv s) (a : Addr) : look (commit d s) a = look (finalise d s) a :=
  look_congr (congrFun (commit_eq_finalise hb).1 a) (congrFun (commit_eq_finalise hb).2 a)

/-- root commits to content (Commit). -/
theorem trie_commit_eq_content {d : Bool} {s : SDB} (hb : BInv s) (ht : TombD d s) :
    (commit d s).trie = contentOf (commit d s) := by
  rw [(commit_eq_finalise hb).2, trie_finalise_eq_content hb ht]
  exact funext fun a => congrArg _ (look_commit hb a).symm

theorem look_finalise_not_suicided {d : Bool} {s : SDB} (hb : BInv s) {a : Addr} {o : Obj}
    (h : look (finalise d s) a = some o) : o.suicided = false := by
  rw [look_finalise hb a] at h
  cases hl : look s a with
  | none => rw [hl] at h; cases h
  | some p =>
    rw [hl] at h
    by_cases ha : a ∈ s.dirty
    · simp only [ha, if_true] at h
      split at h
      · cases h
      · cases h
        have hdc : delCond d p ≠ true := ‹_›
        show p.suicided = false
        cases hs : p.suicided with
        | false => rfl
        | true => exact absurd (by simp [delCond, hs]) hdc
    · simp only [ha, if_false] at h
      cases h; exact (look_clean hb hl ha).2.1

theorem view_fromAcct_toAcct (o : Obj) (h : o.suicided = false) : (fromAcct o.toAcct).view = o.view := by
  simp only [Obj.view, fromAcct, Obj.toAcct, blank, getState, h]

theorem reopen_viewAt {d : Bool} {s : SDB} (hb : BInv s) (ht : TombD d s) (a : Addr) :
    viewAt (fresh (commit d s).trie) a = viewAt (commit d s) a := by
  have hl : look (fresh (commit d s).trie) a = ((commit d s).trie a).map fromAcct := rfl
  rw [viewAt, hl, trie_commit_eq_content hb ht, contentOf, viewAt]
  cases hlk : look (commit d s) a with
  | none => rfl
  | some o => exact congrArg some (view_fromAcct_toAcct o (look_finalise_not_suicided hb (look_commit hb a ▸ hlk)))

theorem copy_objs_some {s : SDB} {a : Addr} {o : Obj} (h : (copy s).objs a = some o) :
    a ∈ s.dirty ∧ ∃ q, s.objs a = some q ∧ o = q.deepCopy := by
  simp only [copy] at h
  split at h
  · cases hq : s.objs a with
    | none => rw [hq] at h; cases h
    | some q => rw [hq] at h; cases h; exact ⟨‹_›, q, rfl, rfl⟩
  · cases h

theorem look_copy {s : SDB} (hb : BInv s) (a : Addr) : OOEq (look (copy s) a) (look s a) := by
  by_cases ha : a ∈ s.dirty
  · obtain ⟨q, hq⟩ := hb.dobj a ha
    have hc : (copy s).objs a = some q.deepCopy := by simp [copy, ha, hq]
    rw [look_of_some hc, look_of_some hq]
    cases hqd : q.deleted <;> simp [Obj.deepCopy, hqd, OOEq]
    exact ObjEq.of_view rfl
  · have hc : (copy s).objs a = none := by simp [copy, ha]
    rw [look_of_none hc, show (copy s).trie a = s.trie a from rfl]
    cases hlk : look s a with
    | none => rw [look_none_trie hb.coh hlk]; trivial
    | some o =>
      obtain ⟨-, h2, h3⟩ := look_clean hb hlk ha
      rw [h3]; exact ObjEq.of_view (view_fromAcct_toAcct o h2)

theorem binv_copy {s : SDB} (hb : BInv s) : BInv (copy s) := by
  refine .of_journal_nil rfl (fun a o ho hod => ?_) (fun a ha => ?_) fun a o ho _ hnd => ?_
  · obtain ⟨-, q, hq, rfl⟩ := copy_objs_some ho
    exact hb.coh a q hq hod
  · obtain ⟨q, hq⟩ := hb.dobj a ha
    exact ⟨q.deepCopy, by simp [copy, show a ∈ s.dirty from ha, hq]⟩
  · exact (hnd (copy_objs_some ho).1).elim

theorem OOEq.map_toAcct {x y : Option Obj} (h : OOEq x y) : x.map Obj.toAcct = y.map Obj.toAcct := by
  have e : ∀ z : Option Obj, z.map Obj.toAcct = (z.map Obj.view).map fun v => ⟨v.nonce, v.balance, v.code, v.storage⟩ :=
    fun z => by cases z <;> rfl
  rw [e, e, ooeq_iff.mp h]

theorem ObjEq.delCond {o p : Obj} (h : ObjEq o p) (d : Bool) : delCond d o = delCond d p := by
  show (o.view.suicided || (d && o.empty)) = _
  rw [h.view, h.empty]; rfl

theorem finalise_respects_sim {d : Bool} {r s : SDB} (hbr : BInv r) (hbs : BInv s) (htr : TombD d r) (hts : TombD d s)
    (hsim : Sim r s)
    (H : ∀ a o, look s a = some o → delCond d o = true → (a ∈ r.dirty ↔ a ∈ s.dirty)) :
    (∀ a, OOEq (look (finalise d r) a) (look (finalise d s) a)) ∧ (finalise d r).trie = (finalise d s).trie := by
  have hobjs : ∀ a, OOEq (look (finalise d r) a) (look (finalise d s) a) := by
    intro a
    rw [look_finalise hbr a, look_finalise hbs a]
    rcases hsim.look_cases a with ⟨h1, h2⟩ | ⟨o, p, h1, h2, hop⟩
    · rw [h1, h2]; trivial
    · rw [h1, h2, ooeq_iff]
      have hv := objEq_iff.mp hop
      by_cases hc : delCond d p = true
      · have hiff := H a p h2 hc
        by_cases ha : a ∈ s.dirty <;> simp [hop.delCond d, hc, hiff, ha, hv]
      · by_cases ha : a ∈ s.dirty <;> by_cases har : a ∈ r.dirty <;> simp [hop.delCond d, hc, ha, har, hv]
  refine ⟨hobjs, ?_⟩
  rw [trie_finalise_eq_content hbr htr, trie_finalise_eq_content hbs hts]
  exact funext fun a => (hobjs a).map_toAcct

end Aqv.State
