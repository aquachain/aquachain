/-
  Aqv.Lemmas.FeedInvF — where a placement of Send g's value into channel c sits in the history: after Subscribe(c)
  returned, after Send g was called, not after Send g returned and not after Unsubscribe(c) returned.  This is a property
  of the history alone; a step keeps it because a placement is appended only for a channel of `sendCases` by a Send in
  its delivery loop, which by InvA and InvE says which of these events the history holds already.
-/
import Aqv.Lemmas.FeedInvA
import Aqv.Lemmas.FeedInvE
namespace Aqv.Feed

structure InvF (tr : List Ev) : Prop where
  p_sub : ∀ c g, Ev.place c g ∈ tr → Before tr (.subRet c) (.place c g)
  p_call : ∀ c g, Ev.place c g ∈ tr → Before tr (.sendCall g) (.place c g)
  p_ret : ∀ c g n, ¬ Before tr (.sendRet g n) (.place c g)
  p_late : ∀ c g, ¬ Before tr (.unsubRet c) (.place c g)

theorem InvF.snoc_place {tr : List Ev} (h : InvF tr) {c : Chan} {g : Sid} (hsub : Ev.subRet c ∈ tr)
    (hcall : Ev.sendCall g ∈ tr) (hret : ∀ n, Ev.sendRet g n ∉ tr) (hlate : Ev.unsubRet c ∉ tr) :
    InvF (tr ++ [.place c g]) := by
  obtain ⟨h1, h2, h3, h4⟩ := h
  constructor <;> simp only [before_snoc, mem_snoc, Ev.place.injEq] <;> grind

theorem InvF.snoc_other {tr : List Ev} (h : InvF tr) {e : Ev} (he : ∀ c g, e ≠ .place c g) : InvF (tr ++ [e]) := by
  obtain ⟨h1, h2, h3, h4⟩ := h
  constructor <;> simp only [before_snoc, mem_snoc] <;> grind

theorem invF_step {s s' : St} {a : Act} (ha : InvA s) (he : InvE s) (h : InvF s.tr) (st : Step s a s') : InvF s'.tr := by
  have placing : ∀ {g p i}, s.spc g = p → p.merged = true → (∀ c, p ≠ .removing c) → i < s.active →
      InvF (s.tr ++ [.place (s.sendCases.getD i 0) g]) := by
    intro g p i hg hm hr hi
    have hc := ha.getD_mem hg hm hi
    exact h.snoc_place ((he.t_sub _).mpr (ha.sub_mem _ (.inr hc)))
      ((he.t_scall g).mpr (by intro e; simp [← hg, e, SPc.merged] at hm))
      (fun n hn => by simp [← hg, (he.t_sret g n).mp hn, SPc.merged] at hm)
      (fun hn => ha.not_done_of_mem (merged_held _ (hg ▸ hm)) hc (hg ▸ hr _) ((he.t_uret _).mp hn))
  cases st with
  | tryOk hg hi | selPlace hg hi => exact placing hg rfl (by simp) hi
  | _ => first | exact h | exact h.snoc_other (by simp)

theorem invF_reach {s : St} (h : Reach s) : InvF s.tr := by
  induction h with
  | init => constructor <;> simp [init, Before]
  | step a hr hs ih => exact invF_step (invA_reach hr) (invE_reach hr) ih (.of_step hs)

end Aqv.Feed
