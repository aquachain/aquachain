/-
  Aqv.Lemmas.TxList — the nonce-sorted list model of txSortedMap / txList (core/tx_list.go): a sorted list is determined by
  its members (`Sorted.ext`); one characterisation each of Add, Filter, Remove.  Also what every C15 module uses:
  `foldl_pres`, and the two spellings of "not local".
-/
import Aqv.Model.TxPool
namespace Aqv.TxPool

theorem foldl_pres_mem {σ α : Type} (I : σ → Prop) (f : σ → α → σ) (l : List α) (s : σ)
    (hf : ∀ s, ∀ x ∈ l, I s → I (f s x)) (h : I s) : I (l.foldl f s) :=
  List.foldlRecOn l f h fun s hs x hx => hf s x hx hs

theorem foldl_pres {σ α : Type} (I : σ → Prop) (f : σ → α → σ) (hf : ∀ s x, I s → I (f s x))
    (l : List α) (s : σ) (h : I s) : I (l.foldl f s) :=
  foldl_pres_mem I f l s (fun s x _ => hf s x) h

def Sorted (l : List Tx) : Prop := l.Pairwise (fun a b => a.nonce < b.nonce)

theorem Sorted.nil : Sorted [] := List.Pairwise.nil

theorem sorted_cons {x : Tx} {l : List Tx} : Sorted (x :: l) ↔ (∀ y ∈ l, x.nonce < y.nonce) ∧ Sorted l :=
  List.pairwise_cons

theorem sorted_append {l1 l2 : List Tx} :
    Sorted (l1 ++ l2) ↔ Sorted l1 ∧ Sorted l2 ∧ ∀ a ∈ l1, ∀ b ∈ l2, a.nonce < b.nonce := List.pairwise_append

theorem Sorted.sublist {l l' : List Tx} (h : Sorted l) (hs : l'.Sublist l) : Sorted l' := List.Pairwise.sublist hs h

theorem Sorted.filter {l : List Tx} (p : Tx → Bool) (h : Sorted l) : Sorted (l.filter p) := h.sublist List.filter_sublist

theorem Sorted.take {l : List Tx} (k : Nat) (h : Sorted l) : Sorted (l.take k) := h.sublist (List.take_sublist k l)

theorem Sorted.drop {l : List Tx} (k : Nat) (h : Sorted l) : Sorted (l.drop k) := h.sublist (List.drop_sublist k l)

theorem Sorted.nonce_inj {l : List Tx} (h : Sorted l) {t u : Tx} (ht : t ∈ l) (hu : u ∈ l) (e : t.nonce = u.nonce) : t = u := by
  induction l with
  | nil => cases ht
  | cons x xs ih =>
    rw [sorted_cons] at h
    rcases List.mem_cons.mp ht with rfl | ht' <;> rcases List.mem_cons.mp hu with rfl | hu'
    · rfl
    · have := h.1 _ hu'; omega
    · have := h.1 _ ht'; omega
    · exact ih h.2 ht' hu'

theorem Sorted.nodup {l : List Tx} (h : Sorted l) : l.Nodup :=
  List.nodup_iff_pairwise_ne.mpr (List.Pairwise.imp (fun hlt e => by subst e; omega) h)

theorem Sorted.ext {l l' : List Tx} (h : Sorted l) (h' : Sorted l') (hm : ∀ t, t ∈ l ↔ t ∈ l') : l = l' :=
  List.Perm.eq_of_pairwise (le := fun a b : Tx => a.nonce < b.nonce) (fun _ _ _ _ h1 h2 => absurd h1 (Nat.lt_asymm h2)) h h'
    ((List.perm_ext_iff_of_nodup h.nodup h'.nodup).mpr hm)

theorem Sorted.take_lt_drop {l : List Tx} (h : Sorted l) (k : Nat) : ∀ a ∈ l.take k, ∀ b ∈ l.drop k, a.nonce < b.nonce :=
  (sorted_append.mp (show Sorted (l.take k ++ l.drop k) by rw [List.take_append_drop]; exact h)).2.2

theorem Sorted.filter_lt_append {l : List Tx} (h : Sorted l) (n : Nat) :
    l.filter (fun t => decide (t.nonce < n)) ++ l.filter (fun t => !decide (t.nonce < n)) = l := by
  refine Sorted.ext (sorted_append.mpr ⟨h.filter _, h.filter _, fun a ha b hb => ?_⟩) h fun u => ?_
  · have h1 : a.nonce < n := by simpa using (List.mem_filter.mp ha).2
    have h2 : ¬ b.nonce < n := by simpa using (List.mem_filter.mp hb).2
    omega
  · rw [List.mem_append, List.mem_filter, List.mem_filter, ← and_or_left]
    exact and_iff_left_of_imp fun _ => by by_cases hlt : u.nonce < n <;> simp [hlt]

theorem getN_eq_find? (l : List Tx) (n : Nat) : getN l n = l.find? (fun x => decide (x.nonce = n)) := by
  induction l with
  | nil => rfl
  | cons x xs ih => by_cases h : x.nonce = n <;> simp [getN, h, ih]

theorem getN_some {l : List Tx} {n : Nat} {t : Tx} (h : getN l n = some t) : t ∈ l ∧ t.nonce = n := by
  rw [getN_eq_find?] at h
  exact ⟨List.mem_of_find?_eq_some h, by simpa using List.find?_some h⟩

theorem getN_none {l : List Tx} {n : Nat} : getN l n = none ↔ ∀ t ∈ l, t.nonce ≠ n := by
  rw [getN_eq_find?, List.find?_eq_none]; simp

theorem getN_of_mem {l : List Tx} (hs : Sorted l) {t : Tx} (ht : t ∈ l) : getN l t.nonce = some t := by
  cases h : getN l t.nonce with
  | none => exact absurd rfl (getN_none.mp h t ht)
  | some u => have := getN_some h; rw [hs.nonce_inj this.1 ht this.2]

theorem mem_put_sub {t u : Tx} {l : List Tx} (h : u ∈ put t l) : u = t ∨ u ∈ l := by
  induction l with
  | nil => simpa [put] using h
  | cons x xs ih =>
    simp only [put] at h
    split at h
    · exact List.mem_cons.mp h
    · split at h
      · exact (List.mem_cons.mp h).imp_right (List.mem_cons_of_mem _)
      · rcases List.mem_cons.mp h with rfl | h'
        · exact Or.inr List.mem_cons_self
        · exact (ih h').imp_right (List.mem_cons_of_mem _)

theorem mem_put_self (t : Tx) (l : List Tx) : t ∈ put t l := by
  induction l with
  | nil => exact List.mem_cons_self
  | cons x xs ih =>
    rw [put]; split
    · exact List.mem_cons_self
    · split
      · exact List.mem_cons_self
      · exact List.mem_cons_of_mem _ ih

theorem mem_put {t u : Tx} {l : List Tx} (hs : Sorted l) : u ∈ put t l ↔ u = t ∨ (u ∈ l ∧ u.nonce ≠ t.nonce) := by
  induction l with
  | nil => simp [put]
  | cons x xs ih =>
    obtain ⟨hx, hxs⟩ := sorted_cons.mp hs
    have hx' := hx u
    simp only [put]
    split
    · simp only [List.mem_cons]; grind
    · split
      · simp only [List.mem_cons]; grind
      · simp only [List.mem_cons, ih hxs]; grind

theorem mem_put_free {t u : Tx} {l : List Tx} (hs : Sorted l) (hfree : ∀ p ∈ l, p.nonce ≠ t.nonce) :
    u ∈ put t l ↔ u = t ∨ u ∈ l := by
  rw [mem_put hs]; exact or_congr_right (and_iff_left_of_imp (hfree u))

theorem put_sorted {t : Tx} {l : List Tx} (hs : Sorted l) : Sorted (put t l) := by
  induction l with
  | nil => simp [put, Sorted]
  | cons x xs ih =>
    obtain ⟨hx, hxs⟩ := sorted_cons.mp hs
    simp only [put]
    split
    · refine sorted_cons.mpr ⟨fun y hy => ?_, hs⟩
      rcases List.mem_cons.mp hy with rfl | hy'
      · assumption
      · have := hx y hy'; omega
    · split
      · exact sorted_cons.mpr ⟨fun y hy => by have := hx y hy; omega, hxs⟩
      · refine sorted_cons.mpr ⟨fun y hy => ?_, ih hxs⟩
        rcases mem_put_sub hy with rfl | hy'
        · omega
        · exact hx y hy'

theorem IsRun.bounds {c : Nat} {l : List Tx} (h : IsRun c l) : ∀ t ∈ l, c ≤ t.nonce ∧ t.nonce < c + l.length := by
  induction l generalizing c with
  | nil => simp
  | cons x xs ih =>
    obtain ⟨hx, hr⟩ := h
    intro t ht
    rcases List.mem_cons.mp ht with rfl | ht'
    · simp only [List.length_cons]; omega
    · have := ih hr t ht'; simp only [List.length_cons]; omega

theorem IsRun.sorted {c : Nat} {l : List Tx} (h : IsRun c l) : Sorted l ∧ ∀ t ∈ l, c ≤ t.nonce ∧ t.nonce < c + l.length := by
  refine ⟨?_, h.bounds⟩
  induction l generalizing c with
  | nil => exact Sorted.nil
  | cons x xs ih => exact sorted_cons.mpr ⟨fun y hy => by have := (h.2.bounds y hy).1; have := h.1; omega, ih h.2⟩

theorem IsRun.take {c : Nat} {l : List Tx} (k : Nat) (h : IsRun c l) : IsRun c (l.take k) := by
  induction l generalizing c k with
  | nil => simp [IsRun]
  | cons x xs ih =>
    cases k with
    | zero => simp [IsRun]
    | succ k => simp only [List.take_succ_cons, IsRun]; exact ⟨h.1, ih k h.2⟩

theorem IsRun.drop {c : Nat} {l : List Tx} (k : Nat) (h : IsRun c l) : IsRun (c + k) (l.drop k) := by
  induction l generalizing c k with
  | nil => simp [IsRun]
  | cons x xs ih =>
    cases k with
    | zero => simpa using h
    | succ k =>
      simp only [List.drop_succ_cons]
      have := ih k h.2
      rwa [show c + 1 + k = c + (k + 1) by omega] at this

theorem IsRun.append {c : Nat} {l1 l2 : List Tx} (h1 : IsRun c l1) (h2 : IsRun (c + l1.length) l2) : IsRun c (l1 ++ l2) := by
  induction l1 generalizing c with
  | nil => simpa using h2
  | cons x xs ih =>
    refine ⟨h1.1, ih h1.2 ?_⟩
    simp only [List.length_cons] at h2
    rwa [show c + 1 + xs.length = c + (xs.length + 1) by omega]

theorem IsRun.getN_isSome {c : Nat} {l : List Tx} (h : IsRun c l) {n : Nat} (h1 : c ≤ n) (h2 : n < c + l.length) :
    (getN l n).isSome := by
  induction l generalizing c with
  | nil => simp at h2; omega
  | cons x xs ih =>
    simp only [getN]; split
    · rfl
    · rename_i hne
      have hx := h.1
      apply ih h.2 (by omega) (by simp only [List.length_cons] at h2; omega)

theorem mem_forward_fst {th : Nat} {l : List Tx} {t : Tx} : t ∈ (forward th l).1 ↔ t ∈ l ∧ t.nonce < th := by
  simp [forward]

theorem mem_forward_snd {th : Nat} {l : List Tx} {t : Tx} : t ∈ (forward th l).2 ↔ t ∈ l ∧ th ≤ t.nonce := by
  simp [forward, Nat.not_lt]

theorem IsRun.forward_eq {c : Nat} {l : List Tx} (h : IsRun c l) (n : Nat) :
    l.filter (fun t => decide (t.nonce < n)) = l.take (n - c) ∧ l.filter (fun t => !decide (t.nonce < n)) = l.drop (n - c) := by
  induction l generalizing c with
  | nil => simp
  | cons x xs ih =>
    rw [List.filter_cons, List.filter_cons, (ih h.2).1, (ih h.2).2, h.1]
    by_cases hlt : c < n
    · rw [show n - c = (n - (c + 1)) + 1 by omega]; simp [hlt]
    · rw [show n - (c + 1) = 0 by omega, show n - c = 0 by omega]; simp [hlt]

theorem IsRun.filter_lt {c : Nat} {l : List Tx} (n : Nat) (h : IsRun c l) :
    IsRun c (l.filter (fun t => decide (t.nonce < n))) := by
  rw [(h.forward_eq n).1]; exact h.take _

theorem IsRun.length_filter_lt {c : Nat} {l : List Tx} (n : Nat) (h : IsRun c l) (h1 : c ≤ n) (h2 : n ≤ c + l.length) :
    c + (l.filter (fun t => decide (t.nonce < n))).length = n := by
  rw [(h.forward_eq n).1, List.length_take]; omega

theorem IsRun.filter_ge {c : Nat} {l : List Tx} (n : Nat) (h : IsRun c l) :
    IsRun (max c n) (l.filter (fun t => !decide (t.nonce < n))) := by
  rw [(h.forward_eq n).2, show max c n = c + (n - c) by omega]; exact h.drop _

/-- the next nonce of a run goes to its end -/
theorem IsRun.put_next {c : Nat} {l : List Tx} (h : IsRun c l) {t : Tx} (ht : t.nonce = c + l.length) :
    put t l = l ++ [t] ∧ IsRun c (l ++ [t]) := by
  have hfree : ∀ p ∈ l, p.nonce ≠ t.nonce := fun p hp => by
    have := (h.bounds p hp).2
    omega
  have hrun : IsRun c (l ++ [t]) := h.append ⟨ht, trivial⟩
  -- both sides are sorted and have the same members
  refine ⟨(put_sorted h.sorted.1).ext hrun.sorted.1 fun u => ?_, hrun⟩
  rw [mem_put_free h.sorted.1 hfree, List.mem_append, List.mem_singleton, or_comm]

theorem IsRun.put_replace {c : Nat} {l : List Tx} (h : IsRun c l) {t : Tx} (ht : (getN l t.nonce).isSome) :
    IsRun c (put t l) ∧ (put t l).length = l.length := by
  induction l generalizing c with
  | nil => simp [getN] at ht
  | cons x xs ih =>
    have hx := h.1
    simp only [getN] at ht
    simp only [put]
    split at ht
    · rename_i he
      rw [if_neg (by omega), if_pos he.symm]
      exact ⟨⟨by omega, h.2⟩, rfl⟩
    · rename_i hne
      have hgt : x.nonce < t.nonce := by
        cases hg : getN xs t.nonce with
        | none => rw [hg] at ht; cases ht
        | some u =>
          have := getN_some hg
          have := (h.2.bounds u this.1).1
          omega
      rw [if_neg (by omega), if_neg (by omega)]
      have := ih h.2 ht
      exact ⟨⟨hx, this.1⟩, by simp [this.2]⟩

theorem IsRun.nonce_getLast {c : Nat} {l : List Tx} (h : IsRun c l) {t : Tx} (ht : l.getLast? = some t) :
    t.nonce + 1 = c + l.length := by
  induction l generalizing c with
  | nil => simp at ht
  | cons x xs ih =>
    cases xs with
    | nil => simp at ht; subst ht; have := h.1; simp; omega
    | cons y ys =>
      rw [List.getLast?_cons_cons] at ht
      have := ih h.2 ht
      simp only [List.length_cons] at this ⊢; omega

theorem runFrom_append (c : Nat) (l : List Tx) : (runFrom c l).1 ++ (runFrom c l).2 = l := by
  induction l generalizing c with
  | nil => simp [runFrom]
  | cons x xs ih =>
    simp only [runFrom]; split
    · simp [ih]
    · simp

theorem runFrom_isRun (c : Nat) (l : List Tx) : IsRun c (runFrom c l).1 := by
  induction l generalizing c with
  | nil => simp [runFrom, IsRun]
  | cons x xs ih =>
    simp only [runFrom]; split
    · rename_i h; exact ⟨h, ih (c + 1)⟩
    · trivial

theorem runFrom_maximal (c : Nat) (l : List Tx) : ∀ y ∈ (runFrom c l).2.head?, y.nonce ≠ c + (runFrom c l).1.length := by
  induction l generalizing c with
  | nil => simp [runFrom]
  | cons x xs ih =>
    simp only [runFrom]; split
    · intro y hy
      have := ih (c + 1) y hy
      simp only [List.length_cons]; omega
    · rename_i h; intro y hy; simp at hy; subst hy; simpa using h

theorem take_runFrom (c : Nat) (l : List Tx) : l.take (runFrom c l).1.length = (runFrom c l).1 := by
  have h := runFrom_append c l
  have := List.take_left' (l₁ := (runFrom c l).1) (l₂ := (runFrom c l).2) rfl
  rwa [h] at this

theorem drop_runFrom (c : Nat) (l : List Tx) : l.drop (runFrom c l).1.length = (runFrom c l).2 := by
  have h := runFrom_append c l
  have := List.drop_left' (l₁ := (runFrom c l).1) (l₂ := (runFrom c l).2) rfl
  rwa [h] at this

theorem mem_runFrom_head {c : Nat} {l : List Tx} (hs : Sorted l) (hge : ∀ t ∈ l, c ≤ t.nonce) {e : Tx} (he : e ∈ l)
    (hen : e.nonce = c) : e ∈ (runFrom c l).1 := by
  cases l with
  | nil => cases he
  | cons x xs =>
    have hx := hge x List.mem_cons_self
    rcases List.mem_cons.mp he with rfl | he'
    · simp [runFrom, hen]
    · have := (sorted_cons.mp hs).1 e he'; omega

theorem runFrom_of_isRun {c : Nat} {l : List Tx} (h : IsRun c l) : runFrom c l = (l, []) := by
  induction l generalizing c with
  | nil => simp [runFrom]
  | cons x xs ih => simp only [runFrom]; rw [if_pos h.1, ih h.2]

theorem runFrom_prefix_of_isRun {c : Nat} {l r : List Tx} (h : IsRun c l) :
    (runFrom c (l ++ r)).1 = l ++ (runFrom (c + l.length) r).1 := by
  induction l generalizing c with
  | nil => simp
  | cons x xs ih =>
    simp only [List.cons_append, runFrom]; rw [if_pos h.1]
    simp only [List.length_cons]
    rw [ih h.2, show c + 1 + xs.length = c + (xs.length + 1) by omega]

theorem ready_append (start : Nat) (l : List Tx) : (ready start l).1 ++ (ready start l).2 = l := by
  unfold ready
  cases l with
  | nil => simp
  | cons x xs => simp only; split
                 · simp
                 · exact runFrom_append _ _

theorem ready_sub (start : Nat) (l : List Tx) : (∀ t ∈ (ready start l).1, t ∈ l) ∧ (∀ t ∈ (ready start l).2, t ∈ l) := by
  have := ready_append start l
  constructor <;> intro t ht <;> rw [← this] <;> simp [ht]

theorem runFrom_rest_above {c : Nat} {l : List Tx} (hs : Sorted l) (hge : ∀ t ∈ l, c ≤ t.nonce) :
    ∀ t ∈ (runFrom c l).2, c + (runFrom c l).1.length < t.nonce := by
  induction l generalizing c with
  | nil => simp [runFrom]
  | cons x xs ih =>
    obtain ⟨hx, hxs⟩ := sorted_cons.mp hs
    have hcx := hge x List.mem_cons_self
    simp only [runFrom]
    split
    · intro t ht
      have := ih hxs (fun u hu => by have := hx u hu; omega) t ht
      simp only [List.length_cons]; omega
    · intro t ht
      simp only [List.length_nil]
      rcases List.mem_cons.mp ht with rfl | ht'
      · omega
      · have := hx t ht'; omega

theorem ready_run_above {start : Nat} {l : List Tx} (hs : Sorted l) (hge : ∀ t ∈ l, start ≤ t.nonce) :
    IsRun start (ready start l).1 ∧ ∀ t ∈ (ready start l).2, start + (ready start l).1.length < t.nonce := by
  unfold ready
  cases l with
  | nil => simp [IsRun]
  | cons x xs =>
    simp only
    split
    · rename_i hlt
      refine ⟨trivial, fun t ht => ?_⟩
      rcases List.mem_cons.mp ht with rfl | ht'
      · exact hlt
      · have := (sorted_cons.mp hs).1 _ ht'; simp only [List.length_nil]; omega
    · have hx : x.nonce = start := by have := hge x List.mem_cons_self; omega
      rw [hx]
      exact ⟨runFrom_isRun _ _, runFrom_rest_above hs hge⟩

def CapsOK (l : TxL) : Prop := ∀ t ∈ l.items, t.cost ≤ l.costcap ∧ t.gas ≤ l.gascap

theorem CapsOK.empty (b : Bool) : CapsOK (TxL.empty b) := by intro t ht; cases ht

theorem CapsOK.mono {l l' : TxL} (h : CapsOK l) (hsub : ∀ t ∈ l'.items, t ∈ l.items) (hc : l'.costcap = l.costcap)
    (hg : l'.gascap = l.gascap) : CapsOK l' := fun t ht => by rw [hc, hg]; exact h t (hsub t ht)

theorem CapsOK.sub {l : TxL} (h : CapsOK l) {items : List Tx} (hsub : ∀ t ∈ items, t ∈ l.items) :
    CapsOK { l with items := items } := h.mono hsub rfl rfl

theorem CapsOK.putTx {l : TxL} (h : CapsOK l) (t : Tx) : CapsOK (l.putTx t) := by
  intro u hu
  simp only [TxL.putTx] at hu ⊢
  rcases mem_put_sub hu with rfl | hu'
  · exact ⟨Nat.le_max_right _ _, Nat.le_max_right _ _⟩
  · have := h u hu'; exact ⟨Nat.le_trans this.1 (Nat.le_max_left _ _), Nat.le_trans this.2 (Nat.le_max_left _ _)⟩

theorem TxL.add_eq (l : TxL) (t : Tx) (bump : Nat) :
    (∃ o, getN l.items t.nonce = some o ∧ bumpOK o t bump = false ∧ l.add t bump = (false, none, l)) ∨
    ((∀ o, getN l.items t.nonce = some o → bumpOK o t bump = true) ∧
      l.add t bump = (true, getN l.items t.nonce, l.putTx t)) := by
  unfold TxL.add
  cases hg : getN l.items t.nonce with
  | none => exact Or.inr ⟨nofun, rfl⟩
  | some o =>
    cases hb : bumpOK o t bump with
    | false => exact Or.inl ⟨o, rfl, hb, by simp [hb]⟩
    | true => exact Or.inr ⟨fun o' ho' => by cases ho'; exact hb, by simp [hb]⟩

theorem TxL.add_free {l : TxL} {t : Tx} {b : Nat} (h : ∀ p ∈ l.items, p.nonce ≠ t.nonce) :
    l.add t b = (true, none, l.putTx t) := by
  unfold TxL.add; rw [getN_none.mpr h]

theorem TxL.add_inserted {l : TxL} {t : Tx} {b : Nat} (h : (l.add t b).1 = true) :
    (l.add t b).2 = (getN l.items t.nonce, l.putTx t) := by
  rcases l.add_eq t b with ⟨_, _, _, e⟩ | ⟨_, e⟩ <;> rw [e] at h ⊢
  cases h

theorem TxL.mem_add {l : TxL} {t : Tx} {b : Nat} (hs : Sorted l.items) (h : (l.add t b).1 = true) (u : Tx) :
    u ∈ (l.add t b).2.2.items ↔ u = t ∨ (u ∈ l.items ∧ u.nonce ≠ t.nonce) := by
  rw [TxL.add_inserted h]; exact mem_put hs

theorem TxL.add_sorted {l : TxL} {t : Tx} {b : Nat} (hs : Sorted l.items) (h : (l.add t b).1 = true) :
    Sorted (l.add t b).2.2.items := by
  rw [TxL.add_inserted h]; exact put_sorted hs

theorem TxL.add_bump {l : TxL} {t o : Tx} {b : Nat} (h : (l.add t b).1 = true) (ho : getN l.items t.nonce = some o) :
    bumpOK o t b = true := by
  rcases l.add_eq t b with ⟨_, _, _, e⟩ | ⟨hb, _⟩
  · rw [e] at h; cases h
  · exact hb o ho

theorem TxL.add_refused {l : TxL} {t : Tx} {b : Nat} (h : (l.add t b).1 = false) :
    (l.add t b).2.2 = l ∧ ∃ o, getN l.items t.nonce = some o ∧ bumpOK o t b = false := by
  rcases l.add_eq t b with ⟨o, hg, hb, e⟩ | ⟨_, e⟩ <;> rw [e] at h ⊢
  · exact ⟨rfl, o, hg, hb⟩
  · cases h

theorem TxL.add_caps (l : TxL) (t : Tx) (bump : Nat) (h : CapsOK l) : CapsOK (l.add t bump).2.2 := by
  rcases l.add_eq t bump with ⟨_, _, _, e⟩ | ⟨_, e⟩ <;> rw [e]
  · exact h
  · exact h.putTx t

theorem TxL.add_items_sub (l : TxL) (t : Tx) (bump : Nat) : ∀ u ∈ (l.add t bump).2.2.items, u = t ∨ u ∈ l.items := by
  rcases l.add_eq t bump with ⟨_, _, _, e⟩ | ⟨_, e⟩ <;> rw [e]
  · exact fun u hu => Or.inr hu
  · exact fun u hu => mem_put_sub hu

theorem TxL.add_strict (l : TxL) (t : Tx) (bump : Nat) : (l.add t bump).2.2.strict = l.strict := by
  rcases l.add_eq t bump with ⟨_, _, _, e⟩ | ⟨_, e⟩ <;> rw [e] <;> rfl

theorem lowest_mem {l : List Tx} (h : l ≠ []) : ∃ t ∈ l, t.nonce = lowest l := by
  induction l with
  | nil => exact absurd rfl h
  | cons x xs ih =>
    cases xs with
    | nil => exact ⟨x, List.mem_cons_self, rfl⟩
    | cons y ys =>
      simp only [lowest]
      obtain ⟨t, ht, he⟩ := ih (by simp)
      by_cases hc : x.nonce ≤ lowest (y :: ys)
      · exact ⟨x, List.mem_cons_self, by omega⟩
      · exact ⟨t, List.mem_cons_of_mem _ ht, by omega⟩

theorem lowest_le {l : List Tx} {t : Tx} (ht : t ∈ l) : lowest l ≤ t.nonce := by
  induction l with
  | nil => cases ht
  | cons x xs ih =>
    cases xs with
    | nil => simp at ht; subst ht; simp [lowest]
    | cons y ys =>
      simp only [lowest]
      rcases List.mem_cons.mp ht with rfl | ht'
      · omega
      · have := ih ht'; omega

theorem unpayable_false {c g : Nat} {t : Tx} : unpayable c g t = false ↔ t.cost ≤ c ∧ t.gas ≤ g := by
  simp [unpayable, Nat.not_lt]

theorem strict_filter_eq {items : List Tx} (hs : Sorted items) (c g : Nat)
    (hne : items.filter (unpayable c g) ≠ []) :
    ((items.filter (fun t => !unpayable c g t)).filter (fun t => !decide (lowest (items.filter (unpayable c g)) < t.nonce)))
      = items.filter (fun t => decide (t.nonce < lowest (items.filter (unpayable c g)))) := by
  rw [List.filter_filter]
  apply List.filter_congr
  intro t ht
  obtain ⟨b, hb, hbl⟩ := lowest_mem hne
  have hb' := List.mem_filter.mp hb
  by_cases hbad : unpayable c g t = true
  · have h1 : lowest (items.filter (unpayable c g)) ≤ t.nonce := lowest_le (List.mem_filter.mpr ⟨ht, hbad⟩)
    have h2 : ¬ t.nonce < lowest (items.filter (unpayable c g)) := by omega
    simp [hbad, h2]
  · simp only [Bool.not_eq_true] at hbad
    have hne' : t.nonce ≠ lowest (items.filter (unpayable c g)) := by
      intro e
      have := hs.nonce_inj ht hb'.1 (by omega)
      subst this; rw [hb'.2] at hbad; cases hbad
    by_cases h2 : t.nonce < lowest (items.filter (unpayable c g))
    · have h3 : ¬ lowest (items.filter (unpayable c g)) < t.nonce := by omega
      simp [hbad, h2, h3]
    · have h3 : lowest (items.filter (unpayable c g)) < t.nonce := by omega
      simp [hbad, h2, h3]

structure FilterSpec (l : TxL) (c g : Nat) (r : List Tx × List Tx × TxL) : Prop where
  kept_sub   : ∀ t ∈ r.2.2.items, t ∈ l.items
  kept_pay   : CapsOK l → ∀ t ∈ r.2.2.items, t.cost ≤ c ∧ t.gas ≤ g
  sorted     : Sorted l.items → Sorted r.2.2.items
  strict     : r.2.2.strict = l.strict
  caps       : CapsOK l → CapsOK r.2.2
  rem_sub    : ∀ t ∈ r.1, t ∈ l.items
  inv_sub    : ∀ t ∈ r.2.1, t ∈ l.items
  inv_above  : Sorted l.items → ∀ t ∈ r.2.1, ∀ u ∈ r.2.2.items, u.nonce < t.nonce
  inv_disj   : Sorted l.items → ∀ t ∈ r.2.1, t ∉ r.2.2.items
  inv_sorted : Sorted l.items → Sorted r.2.1
  nonstrict  : l.strict = false → r.2.1 = []
  run        : l.strict = true → ∀ c0, IsRun c0 l.items → IsRun c0 r.2.2.items
  cover      : ∀ t ∈ l.items, t ∈ r.2.2.items ∨ t ∈ r.1 ∨ t ∈ r.2.1
  rem_unpay  : ∀ t ∈ r.1, unpayable c g t = true
  inv_low    : ∀ t ∈ r.2.1, ∃ u ∈ r.1, u.nonce < t.nonce

theorem TxL.filter_spec (l : TxL) (c g : Nat) : FilterSpec l c g (l.filter c g) := by
  unfold TxL.filter
  split
  · rename_i hcap
    exact { kept_sub := fun _ h => h
            kept_pay := fun hc t ht => by have := hc t ht; omega
            sorted := id, strict := rfl, caps := id
            rem_sub := nofun, inv_sub := nofun, inv_above := fun _ => nofun, inv_disj := fun _ => nofun
            inv_sorted := fun _ => Sorted.nil, nonstrict := fun _ => rfl, run := fun _ _ h => h
            cover := fun t ht => Or.inl ht
            rem_unpay := nofun, inv_low := nofun }
  · by_cases hstrict : (l.strict && !(l.items.filter (unpayable c g)).isEmpty) = true
    · simp only [hstrict, if_true]
      simp only [Bool.and_eq_true, Bool.not_eq_true', List.isEmpty_eq_false_iff] at hstrict
      obtain ⟨hst, hne⟩ := hstrict
      generalize hlow : lowest (l.items.filter (unpayable c g)) = low
      have hkept : ∀ t ∈ (l.items.filter (fun t => !unpayable c g t)).filter (fun t => !decide (low < t.nonce)),
          t ∈ l.items ∧ unpayable c g t = false ∧ t.nonce ≤ low := fun t ht => by
        have h1 := List.mem_filter.mp ht
        have h2 := List.mem_filter.mp h1.1
        exact ⟨h2.1, by simpa using h2.2, by simpa [Nat.not_lt] using h1.2⟩
      have hinv : ∀ t ∈ (l.items.filter (fun t => !unpayable c g t)).filter (fun t => decide (low < t.nonce)),
          t ∈ l.items ∧ low < t.nonce := fun t ht => by
        have := List.mem_filter.mp ht
        exact ⟨(List.mem_filter.mp this.1).1, by simpa using this.2⟩
      exact {
        kept_sub := fun t ht => (hkept t ht).1
        kept_pay := fun _ t ht => unpayable_false.mp (hkept t ht).2.1
        sorted := fun hs => (hs.filter _).filter _
        strict := rfl
        caps := fun _ t ht => unpayable_false.mp (hkept t ht).2.1
        rem_sub := fun t ht => (List.mem_filter.mp ht).1
        inv_sub := fun t ht => (hinv t ht).1
        inv_above := fun _ t ht u hu => Nat.lt_of_le_of_lt (hkept u hu).2.2 (hinv t ht).2
        inv_disj := fun _ t ht hu => Nat.lt_irrefl _ (Nat.lt_of_le_of_lt (hkept t hu).2.2 (hinv t ht).2)
        inv_sorted := fun hs => (hs.filter _).filter _
        nonstrict := fun h => by rw [hst] at h; cases h
        run := fun _ c0 hr => by
          show IsRun c0 ((l.items.filter (fun t => !unpayable c g t)).filter _)
          rw [← hlow, strict_filter_eq hr.sorted.1 c g hne]
          exact hr.filter_lt _
        cover := fun t ht => by
          by_cases hbad : unpayable c g t = true
          · exact Or.inr (Or.inl (List.mem_filter.mpr ⟨ht, hbad⟩))
          · have hk : t ∈ l.items.filter (fun t => !unpayable c g t) := List.mem_filter.mpr ⟨ht, by simpa using hbad⟩
            by_cases hl : low < t.nonce
            · exact Or.inr (Or.inr (List.mem_filter.mpr ⟨hk, by simpa using hl⟩))
            · exact Or.inl (List.mem_filter.mpr ⟨hk, by simpa using hl⟩)
        rem_unpay := fun t ht => (List.mem_filter.mp ht).2
        inv_low := fun t ht => by
          obtain ⟨b, hb, hbl⟩ := lowest_mem hne
          exact ⟨b, hb, by have := (hinv t ht).2; omega⟩ }
    · simp only [hstrict, Bool.false_eq_true, if_false]
      have hkept : ∀ t ∈ l.items.filter (fun t => !unpayable c g t), t ∈ l.items ∧ unpayable c g t = false :=
        fun t ht => by simpa [List.mem_filter] using ht
      exact {
        kept_sub := fun t ht => (hkept t ht).1
        kept_pay := fun _ t ht => unpayable_false.mp (hkept t ht).2
        sorted := fun hs => hs.filter _
        strict := rfl
        caps := fun _ t ht => unpayable_false.mp (hkept t ht).2
        rem_sub := fun t ht => (List.mem_filter.mp ht).1
        inv_sub := nofun, inv_above := fun _ => nofun, inv_disj := fun _ => nofun
        inv_sorted := fun _ => Sorted.nil
        nonstrict := fun _ => rfl
        run := fun hst c0 hr => by
          have hnone : l.items.filter (unpayable c g) = [] := by
            simpa [hst] using hstrict
          show IsRun c0 (l.items.filter (fun t => !unpayable c g t))
          rw [List.filter_eq_self.mpr fun t ht => by simpa using List.filter_eq_nil_iff.mp hnone t ht]
          exact hr
        cover := fun t ht => by
          by_cases hbad : unpayable c g t = true
          · exact Or.inr (Or.inl (List.mem_filter.mpr ⟨ht, hbad⟩))
          · exact Or.inl (List.mem_filter.mpr ⟨ht, by simpa using hbad⟩)
        rem_unpay := fun t ht => (List.mem_filter.mp ht).2
        inv_low := nofun }

structure RemoveSpec (l : TxL) (t : Tx) (r : Bool × List Tx × TxL) : Prop where
  notfound : r.1 = false → r.2.2 = l ∧ r.2.1 = [] ∧ getN l.items t.nonce = none
  found    : r.1 = true → (getN l.items t.nonce).isSome
  kept_sub : ∀ u ∈ r.2.2.items, u ∈ l.items ∧ u.nonce ≠ t.nonce
  strict   : r.2.2.strict = l.strict
  caps_eq  : r.2.2.costcap = l.costcap ∧ r.2.2.gascap = l.gascap
  inv_sub  : ∀ u ∈ r.2.1, u ∈ l.items ∧ t.nonce < u.nonce
  inv_sorted : Sorted l.items → Sorted r.2.1
  sorted   : Sorted l.items → Sorted r.2.2.items
  kept_strict : l.strict = true → r.1 = true → r.2.2.items = l.items.filter (fun u => decide (u.nonce < t.nonce))
  kept_loose  : l.strict = false → r.2.1 = [] ∧ (r.1 = true → r.2.2.items = l.items.filter (fun u => !decide (u.nonce = t.nonce)))
  inv_all  : l.strict = true → r.1 = true → ∀ u ∈ l.items, t.nonce < u.nonce → u ∈ r.2.1
  kept_all : l.strict = false → ∀ u ∈ l.items, u.nonce ≠ t.nonce → u ∈ r.2.2.items
  loose_items : l.strict = false → r.2.2.items = l.items.filter (fun u => !decide (u.nonce = t.nonce))

theorem RemoveSpec.caps {l : TxL} {t : Tx} {r : Bool × List Tx × TxL} (h : RemoveSpec l t r) (hc : CapsOK l) : CapsOK r.2.2 :=
  hc.mono (fun u hu => (h.kept_sub u hu).1) h.caps_eq.1 h.caps_eq.2

theorem TxL.remove_spec (l : TxL) (t : Tx) : RemoveSpec l t (l.remove t) := by
  unfold TxL.remove
  cases hg : getN l.items t.nonce with
  | none =>
    have hne := getN_none.mp hg
    exact { notfound := fun _ => ⟨rfl, rfl, hg⟩, found := nofun
            kept_sub := fun u hu => ⟨hu, hne u hu⟩
            strict := rfl, caps_eq := ⟨rfl, rfl⟩, inv_sub := nofun, inv_sorted := fun _ => Sorted.nil
            sorted := id
            kept_strict := fun _ => nofun, kept_loose := fun _ => ⟨rfl, nofun⟩
            inv_all := fun _ => nofun, kept_all := fun _ u hu _ => hu
            loose_items := fun _ => (List.filter_eq_self.mpr fun u hu => by simpa using hne u hu).symm }
  | some o =>
    have hrest : ∀ u ∈ l.items.filter (fun u => !decide (u.nonce = t.nonce)), u ∈ l.items ∧ u.nonce ≠ t.nonce :=
      fun u hu => by simpa [List.mem_filter] using hu
    simp only
    split
    · rename_i hst
      have hf : (l.items.filter (fun u => !decide (u.nonce = t.nonce))).filter (fun u => !decide (t.nonce < u.nonce))
          = l.items.filter (fun u => decide (u.nonce < t.nonce)) := by
        rw [List.filter_filter]; apply List.filter_congr; intro u _
        by_cases h1 : u.nonce = t.nonce <;> by_cases h2 : t.nonce < u.nonce <;> simp [h1, h2] <;> omega
      exact { notfound := nofun, found := fun _ => by rw [hg]; rfl
              kept_sub := fun u hu => hrest u (List.mem_filter.mp hu).1
              strict := rfl, caps_eq := ⟨rfl, rfl⟩
              inv_sub := fun u hu => ⟨(hrest u (List.mem_filter.mp hu).1).1, by simpa using (List.mem_filter.mp hu).2⟩
              inv_sorted := fun hs => (hs.filter _).filter _
              sorted := fun hs => (hs.filter _).filter _
              kept_strict := fun _ _ => hf
              kept_loose := fun h => by rw [hst] at h; cases h
              inv_all := fun _ _ u hu hlt =>
                List.mem_filter.mpr ⟨List.mem_filter.mpr ⟨hu, by simp; omega⟩, by simpa using hlt⟩
              kept_all := fun h => by rw [hst] at h; cases h
              loose_items := fun h => by rw [hst] at h; cases h }
    · rename_i hst
      exact { notfound := nofun, found := fun _ => by rw [hg]; rfl
              kept_sub := hrest
              strict := rfl, caps_eq := ⟨rfl, rfl⟩, inv_sub := nofun, inv_sorted := fun _ => Sorted.nil
              sorted := fun hs => hs.filter _
              kept_strict := fun h => absurd h hst
              kept_loose := fun _ => ⟨rfl, fun _ => rfl⟩
              inv_all := fun h => absurd h hst
              kept_all := fun _ u hu hne => List.mem_filter.mpr ⟨hu, by simpa using hne⟩
              loose_items := fun _ => rfl }

theorem isLocal_iff {s : Pool} {a : Addr} : s.isLocal a = true ↔ a ∈ s.locals := decide_eq_true_iff

theorem isLocal_false {s : Pool} {a : Addr} : s.isLocal a = false ↔ a ∉ s.locals := decide_eq_false_iff_not

theorem isLocal_congr {s s' : Pool} (h : s'.locals = s.locals) (a : Addr) : s'.isLocal a = s.isLocal a := by
  unfold Pool.isLocal; rw [h]

theorem offender_iff {s : Pool} {a : Addr} :
    s.offender a = true ↔ a ∉ s.locals ∧ s.cfg.accountSlots < (s.pending a).items.length := by
  rw [Pool.offender, Bool.and_eq_true, Bool.not_eq_true', isLocal_false, decide_eq_true_iff]

end Aqv.TxPool
