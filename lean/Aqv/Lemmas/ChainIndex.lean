/-
  Aqv.Lemmas.ChainIndex — the number index read against a chain of headers (`IdxC`: the index is exactly the ancestry of
  the header head, nothing above), how such an index changes when the chain is switched at a fork block (`index_switch`),
  and what the three index loops of `HeaderChain.WriteHeader` (the same as in `BlockChain.insert`, fix 3f14ce8) do to it:
  the index afterwards is exactly the ancestry of the inserted header (`idxC_switch`), whatever branch it described before.
-/
import Aqv.Lemmas.ChainInv
namespace Aqv.Chain

/-- `hh` is the header head, `HC` its ancestry down to (excluding) the genesis `g`, `H` the header store -/
structure IdxC (U H : Map Blk) (g : Blk) (canon : Map Nat) (hh : Blk) (HC : List Blk) : Prop where
  sub : StoreExt H U
  headStored : H hh.id = some hh
  path : Path H hh HC g
  canon : ∀ n i, canon n = some i ↔ ∃ x ∈ HC ++ [g], x.number = n ∧ x.id = i
  genNum : g.number = 0

namespace IdxC
variable {U H : Map Blk} {g : Blk} {canon : Map Nat} {hh : Blk} {HC : List Blk}

theorem storeIds (W : World U) (h : IdxC U H g canon hh HC) : ∀ k x, H k = some x → x.id = k :=
  fun _ _ hx => W.ids _ _ (h.sub _ _ hx)

theorem chainStored (W : World U) (h : IdxC U H g canon hh HC) : ∀ x ∈ HC ++ [g], H x.id = some x :=
  h.path.chainStored (h.storeIds W) h.headStored

theorem genStored (W : World U) (h : IdxC U H g canon hh HC) : H g.id = some g := h.chainStored W _ (by simp)

theorem chainNumber (h : IdxC U H g canon hh HC) : ∀ x ∈ HC ++ [g], x.number ≤ hh.number :=
  fun x hx => (h.path.mem_le x hx).2

theorem headMem (h : IdxC U H g canon hh HC) : hh ∈ HC ++ [g] := h.path.head_mem

theorem canonHead (h : IdxC U H g canon hh HC) : canon hh.number = some hh.id :=
  (h.canon _ _).mpr ⟨hh, h.headMem, rfl, rfl⟩

theorem canonAbove (h : IdxC U H g canon hh HC) (n : Nat) (hn : hh.number < n) : canon n = none := by
  cases hc : canon n with
  | none => rfl
  | some i =>
    obtain ⟨x, hx, hxn, _⟩ := (h.canon n i).mp hc
    have := h.chainNumber x hx
    omega

theorem canonBelow (h : IdxC U H g canon hh HC) (n : Nat) (hn : n ≤ hh.number) : ∃ x ∈ HC ++ [g], x.number = n :=
  h.path.cover' n (by rw [h.genNum]; omega) hn

theorem chainNumInj (h : IdxC U H g canon hh HC) : ∀ x ∈ HC ++ [g], ∀ y ∈ HC ++ [g], x.number = y.number → x = y :=
  h.path.num_inj'

theorem canon_iff_mem (W : World U) (h : IdxC U H g canon hh HC) {x : Blk} (hx : H x.id = some x) :
    canon x.number = some x.id ↔ x ∈ HC ++ [g] := by
  constructor
  · intro hc
    obtain ⟨y, hy, _, hyi⟩ := (h.canon _ _).mp hc
    have := h.chainStored W y hy
    rw [hyi, hx] at this
    cases this
    exact hy
  · intro hm; exact (h.canon _ _).mpr ⟨x, hm, rfl, rfl⟩

theorem splitAt (h : IdxC U H g canon hh HC) {c : Blk} (hc : c ∈ HC ++ [g]) :
    ∃ O R, HC = O ++ R ∧ Path H hh O c ∧ Path H c R g := h.path.splitAt hc

theorem path_from_mem (h : IdxC U H g canon hh HC) {x : Blk} (hx : x ∈ HC ++ [g]) {store' : Map Blk}
    (hext : StoreExt H store') {l : List Blk} {o : Blk} (hp : Path store' x l o) : Path H x l o ∧ o ∈ HC ++ [g] := by
  obtain ⟨Ox, Rx, hsplit, _, hRx⟩ := h.splitAt hx
  obtain ⟨ho, hp'⟩ := hRx.prefix_of_ext hext (by rw [h.genNum]; omega) hp
  exact ⟨hp', by rw [hsplit, List.append_assoc]; exact List.mem_append_right _ ho⟩

theorem parent_mem (h : IdxC U H g canon hh HC) {x p : Blk} (hx : x ∈ HC ++ [g]) (hpar : parentOf H x = some p) :
    p ∈ HC ++ [g] :=
  (h.path_from_mem hx (fun _ _ hk => hk) (.cons hpar (.nil p))).2

end IdxC

theorem InvC.idx {U : Map Blk} (W : World U) {s : St} {hb : Blk} {C : List Blk} (h : InvC U s hb C) :
    IdxC U s.store s.genesis s.canon hb C :=
  { sub := h.sub, headStored := by rw [h.headId W]; exact h.headStored, path := h.path, canon := h.canon,
    genNum := h.genNum }

theorem index_switch {H : Map Blk} {canon canon' : Map Nat} {O N R : List Blk} {g c x : Blk}
    (hold : ∀ n i, canon n = some i ↔ ∃ y ∈ (O ++ R) ++ [g], y.number = n ∧ y.id = i)
    (hO : ∀ y ∈ O, c.number < y.number) (hR : Path H c R g) (hN : Path H x N c)
    (h1 : ∀ y ∈ N, canon' y.number = some y.id) (h2 : ∀ n, n ≤ c.number → canon' n = canon n)
    (h3 : ∀ n, x.number < n → canon' n = none) :
    ∀ n i, canon' n = some i ↔ ∃ y ∈ (N ++ R) ++ [g], y.number = n ∧ y.id = i := by
  intro n i
  have hmem : ∀ (A : List Blk) (y : Blk), y ∈ (A ++ R) ++ [g] ↔ y ∈ A ∨ y ∈ R ++ [g] := by
    intro A y; rw [List.append_assoc, List.mem_append]
  constructor
  · intro hc
    by_cases hn1 : x.number < n
    · rw [h3 n hn1] at hc; cases hc
    · by_cases hn2 : c.number < n
      · obtain ⟨y, hy, hyn⟩ := hN.cover n hn2 (by omega)
        rw [← hyn, h1 y hy] at hc
        cases hc
        exact ⟨y, (hmem N y).mpr (.inl hy), hyn, rfl⟩
      · rw [h2 n (by omega)] at hc
        obtain ⟨y, hy, hyn, hyi⟩ := (hold n i).mp hc
        rcases (hmem O y).mp hy with hy | hy
        · have := hO y hy; omega
        · exact ⟨y, (hmem N y).mpr (.inr hy), hyn, hyi⟩
  · rintro ⟨y, hy, hyn, hyi⟩
    rcases (hmem N y).mp hy with hy | hy
    · rw [← hyn, ← hyi]; exact h1 y hy
    · have := (hR.mem_le y hy).2
      rw [h2 n (by omega)]
      exact (hold n i).mpr ⟨y, (hmem O y).mpr (.inr hy), hyn, hyi⟩

/-- a successful run walked a stored path down to a header already indexed and wrote exactly the entries of the path -/
theorem overwriteStale_path {store : Map Blk} (hids : ∀ k x, store k = some x → x.id = k) :
    ∀ (f : Nat) (canon : Map Nat) (hh hn : Nat) (c2 : Map Nat),
      (∀ n i, canon n = some i → ∃ y, store i = some y ∧ y.number = n) →
      overwriteStale store f canon hh hn = (c2, true) →
      ∃ x l c, store hh = some x ∧ x.number = hn ∧ Path store x l c ∧ canon c.number = some c.id ∧
        (∀ y ∈ l, c2 y.number = some y.id) ∧ (∀ n, (∀ y ∈ l, y.number ≠ n) → c2 n = canon n) := by
  intro f
  induction f with
  | zero => intro canon hh hn c2 _ h; cases h
  | succ f ih =>
    intro canon hh hn c2 hcs h
    rcases overwriteStale_true h with ⟨hc, rfl⟩ | ⟨x, k, hc, hx, hxn, rfl, h'⟩
    · obtain ⟨y, hy, hyn⟩ := hcs _ _ hc
      have hyid := hids _ _ hy
      exact ⟨y, [], y, hy, hyn, .nil _, by rw [hyn, hyid]; exact hc, by simp, fun _ _ => rfl⟩
    · have hxid := hids _ _ hx
      have hcs' : ∀ n i, upd canon (k + 1) (some hh) n = some i → ∃ y, store i = some y ∧ y.number = n := by
        intro n i hni
        by_cases hnk : n = k + 1
        · subst hnk; simp at hni; subst hni; exact ⟨x, hx, hxn⟩
        · rw [upd_other _ _ _ _ hnk] at hni; exact hcs n i hni
      obtain ⟨p, l, c, hp, hpn, hpath, hcc, hw, hu⟩ := ih _ _ _ _ hcs' h'
      have hpar : parentOf store x = some p := parentOf_of hp (by omega)
      have hlnum := hpath.mem_number
      have hcnum : c.number ≤ k := by have := hpath.number; omega
      refine ⟨x, x :: l, c, hx, hxn, .cons hpar hpath, ?_, ?_, ?_⟩
      · rw [upd_other _ _ _ _ (by omega)] at hcc; exact hcc
      · intro y hy
        rcases List.mem_cons.mp hy with rfl | hy'
        · rw [hu _ (fun z hz => by have := (hlnum z hz).2; omega), hxn, hxid]; simp
        · exact hw y hy'
      · intro n hn'
        have hnx : n ≠ k + 1 := by have := hn' x (by simp); omega
        rw [hu n (fun z hz => hn' z (List.mem_cons_of_mem _ hz)), upd_other _ _ _ _ hnx]

theorem overwriteStale_closed {store : Map Blk} (hids : ∀ k x, store k = some x → x.id = k) {g : Blk} (hg0 : g.number = 0) :
    ∀ (l : List Blk) (x : Blk) (canon : Map Nat) (f : Nat), Path store x l g → store x.id = some x →
      canon 0 = some g.id → x.number < f → (overwriteStale store f canon x.id x.number).2 = true := by
  intro l
  induction l with
  | nil =>
    intro x canon f hp hx hc0 hf
    cases hp
    obtain ⟨f, rfl⟩ : ∃ f', f = f' + 1 := ⟨f - 1, by omega⟩
    rw [overwriteStale_stop _ _ (by rw [hg0]; exact hc0)]
  | cons a l ih =>
    intro x canon f hp hx hc0 hf
    obtain ⟨p, hxa, hpar, hrest⟩ := hp.cons_inv
    subst hxa
    obtain ⟨hps, hpn⟩ := parentOf_some hpar
    have hpid := hids _ _ hps
    obtain ⟨f, rfl⟩ : ∃ f', f = f' + 1 := ⟨f - 1, by omega⟩
    by_cases hc : canon x.number = some x.id
    · rw [overwriteStale_stop _ _ hc]
    · rw [← hpn] at hc ⊢
      rw [overwriteStale_step _ _ hc hx hpn.symm, ← hpid]
      exact ih p _ f hrest (by rw [hpid]; exact hps) (by rw [upd_other _ _ _ _ (by omega)]; exact hc0) (by omega)

/-- behind the deletion loop the overwrite loop, run along a stored path down to genesis, does not hit a missing header:
    the genesis entry lies below every deletion and is right -/
theorem IdxC.overwrite_ok {U H : Map Blk} {g : Blk} {canon : Map Nat} {hh : Blk} {HC : List Blk}
    (hI : IdxC U H g canon hh HC) {store : Map Blk} (hids : ∀ k x, store k = some x → x.id = k) {p : Blk} {lp : List Blk}
    (hlp : Path store p lp g) (hps : store p.id = some p) (F : Nat) :
    (overwriteStale store (p.number + 1) (delCanonAbove canon (F + 1) (p.number + 1 + 1)) p.id p.number).2 = true := by
  have hc0 : delCanonAbove canon (F + 1) (p.number + 1 + 1) 0 = some g.id := by
    rw [delCanonAbove_below _ _ _ _ (by omega)]
    exact (hI.canon 0 _).mpr ⟨g, by simp, hI.genNum, rfl⟩
  exact overwriteStale_closed hids hI.genNum lp p _ _ hlp hps hc0 (by omega)

/-- the three index loops: delete above, overwrite stale below, write the own entry -/
theorem idxC_switch {U H : Map Blk} (W : World U) {g : Blk} {canon : Map Nat} {hh : Blk} {HC : List Blk}
    (hI : IdxC U H g canon hh HC) {x p : Blk} (hx : H x.id = some x) (hpar : parentOf H x = some p)
    {F k : Nat} (hF : hh.number ≤ F) (hnum : x.number = k + 1) {c2 : Map Nat}
    (hos : overwriteStale H (k + 1) (delCanonAbove canon (F + 1) (k + 1 + 1)) x.parent k = (c2, true)) :
    ∃ l R, (∃ O, HC = O ++ R) ∧ IdxC U H g (upd c2 x.number (some x.id)) x ((x :: l) ++ R) := by
  obtain ⟨hps, hpn⟩ := parentOf_some hpar
  have hids := hI.storeIds W
  have hc1low : ∀ n, n ≤ k + 1 → delCanonAbove canon (F + 1) (k + 1 + 1) n = canon n :=
    fun n hn => delCanonAbove_below _ _ _ _ (by omega)
  have hc1high : ∀ n, k + 1 < n → delCanonAbove canon (F + 1) (k + 1 + 1) n = none := by
    intro n hn
    -- `max`: the inserted header may lie above the old head
    apply delCanonAbove_clears (F + 1) _ (k + 1 + 1) (max hh.number (k + 1) + 1) (by omega)
    · intro m hm1 hm2
      obtain ⟨y, hy, hyn⟩ := hI.canonBelow m (by omega)
      rw [(hI.canon m y.id).mpr ⟨y, hy, hyn, rfl⟩]; rfl
    · intro m hm; exact hI.canonAbove m (by omega)
    · omega
  have hcs : ∀ n i, delCanonAbove canon (F + 1) (k + 1 + 1) n = some i → ∃ y, H i = some y ∧ y.number = n := by
    intro n i hni
    by_cases hn : n ≤ k + 1
    · rw [hc1low n hn] at hni
      obtain ⟨y, hy, hyn, hyi⟩ := (hI.canon n i).mp hni
      exact ⟨y, by rw [← hyi]; exact hI.chainStored W y hy, hyn⟩
    · rw [hc1high n (by omega)] at hni; cases hni
  obtain ⟨p', l, c, hp', hp'n, hpath, hcc, hw, hu⟩ := overwriteStale_path hids _ _ _ _ _ hcs hos
  have hpp : p' = p := by rw [hps] at hp'; cases hp'; rfl
  subst hpp
  have hlnum := hpath.mem_number
  have hcnum : c.number ≤ k := by have := hpath.number; omega
  -- the walk stopped at a block of the old chain
  rw [hc1low _ (by omega)] at hcc
  have hcs' : H c.id = some c :=
    hpath.chainStored hids (by rw [hids _ _ hps]; exact hps) c (by simp)
  have hcm : c ∈ HC ++ [g] := (hI.canon_iff_mem W hcs').mp hcc
  obtain ⟨O, R, hsplit, hO, hR⟩ := hI.splitAt hcm
  refine ⟨l, R, ⟨O, hsplit⟩,
    { sub := hI.sub, headStored := hx, path := (Path.cons hpar hpath).append hR, canon := ?_, genNum := hI.genNum }⟩
  refine index_switch (by rw [← hsplit]; exact hI.canon) (fun y hy => (hO.mem_number y hy).1) hR (.cons hpar hpath)
    ?_ ?_ ?_
  · intro y hy
    rcases List.mem_cons.mp hy with rfl | hy
    · simp
    · have := (hlnum y hy).2
      rw [upd_other _ _ _ _ (by omega)]; exact hw y hy
  · intro n hn
    rw [upd_other _ _ _ _ (by omega), hu n (fun y hy => by have := (hlnum y hy).1; omega), hc1low n (by omega)]
  · intro n hn
    rw [upd_other _ _ _ _ (by omega), hu n (fun y hy => by have := (hlnum y hy).2; omega), hc1high n (by omega)]

end Aqv.Chain
