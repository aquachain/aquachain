/-
  Aqv.Lemmas.MuxInvA — state invariants of the TypeMux model (Aqv.Model.Mux, code as written = `step false`, restated
  as the relation `Step`), each preserved field by field by `cases` on the step.
  `Mem`: arrays are never written after they have been published (every slice header in `subm` and every Post snapshot
  points below `nextArr`, and writes go to `nextArr`), so the snapshot a Post iterates is immutable.  `Lists`: the
  receiver lists hold exactly the registered, not yet deleted subscriptions, once each.  `Seen`: the history records what
  the program counters remember.  `Proto`: where `closed` comes from.  `Clock`: orders `created` and `event.Time`.
-/
import Aqv.Model.Mux
import Aqv.Lemmas.FeedList
namespace Aqv.Mux
open Aqv.Feed (sub2_snoc sub2_mem mem_snoc eraseIdx_idxOf nodup_snoc)

@[simp, grind =] theorem upd_apply {α : Type} (f : Nat → α) (a : Nat) (v : α) (x : Nat) :
    upd f a v x = if x = a then v else f x := rfl

def PPc.idx : PPc → Option Nat
  | .deliv i | .inDeliver i => some i
  | _ => none

macro "mstep_split" hs:ident : tactic =>
  `(tactic| (simp only [step, sliceOf] at $hs:ident; (repeat' split at $hs:ident) <;> (try cases $hs:ident)))

/-- `step false`, the code as written, as a relation with one constructor per branch (`posdelete(subs, find(subs, s))`
    is written `erase c`, as in `Feed.Step`). -/
inductive Step (s : St) : Act → St → Prop
  | tick : Step s .tick { s with clock := s.clock + 1 }
  | subNew {c : Sub} {t : Ty} : s.spc c = .idle →
      Step s (.subNew c t) { s with spc := upd s.spc c .made, sty := upd s.sty c t,
                                    created := upd s.created c s.clock }
  | subRegStopped {c : Sub} : s.spc c = .made → s.stopping = false → s.stopped = true →
      Step s (.subReg c) { s with spc := upd s.spc c .registered, closed := upd s.closed c true,
                                  postNil := upd s.postNil c true, tr := s.tr ++ [.subRet c (s.sty c)] }
  | subReg {c : Sub} : s.spc c = .made → s.stopping = false → s.stopped = false →
      Step s (.subReg c) { s with spc := upd s.spc c .registered,
                                  heap := upd s.heap s.nextArr (sliceOf s (s.subm (s.sty c)) ++ [c]),
                                  subm := upd s.subm (s.sty c) (s.nextArr, (s.subm (s.sty c)).2 + 1),
                                  nextArr := s.nextArr + 1, live := s.live ++ [c],
                                  tr := s.tr ++ [.subRet c (s.sty c)] }
  | postCall {p : Pid} {t : Ty} : s.ppc p = .idle →
      Step s (.postCall p t) { s with ppc := upd s.ppc p .called, pty := upd s.pty p t,
                                      evtime := upd s.evtime p s.clock, tr := s.tr ++ [.postCall p t] }
  | postSnapStopped {p : Pid} : s.ppc p = .called → s.stopping = false → s.stopped = true →
      Step s (.postSnap p) { s with ppc := upd s.ppc p (.done false), tr := s.tr ++ [.postRet p false] }
  | postSnap {p : Pid} : s.ppc p = .called → s.stopping = false → s.stopped = false →
      Step s (.postSnap p) { s with ppc := upd s.ppc p (.deliv 0), snap := upd s.snap p (s.subm (s.pty p)),
                                    snapL := upd s.snapL p (sliceOf s (s.subm (s.pty p))) }
  | postNextStale {p : Pid} {i : Nat} : s.ppc p = .deliv i → i < (s.snap p).2 →
      s.evtime p < s.created ((s.heap (s.snap p).1).getD i 0) →
      Step s (.postNext p) { s with ppc := upd s.ppc p (.deliv (i + 1)),
                                    cur := upd s.cur p ((s.heap (s.snap p).1).getD i 0) }
  | postNextEnter {p : Pid} {i : Nat} : s.ppc p = .deliv i → i < (s.snap p).2 →
      ¬ s.evtime p < s.created ((s.heap (s.snap p).1).getD i 0) →
      Step s (.postNext p) { s with ppc := upd s.ppc p (.inDeliver i),
                                    cur := upd s.cur p ((s.heap (s.snap p).1).getD i 0),
                                    inflight := upd s.inflight ((s.heap (s.snap p).1).getD i 0)
                                      (s.inflight ((s.heap (s.snap p).1).getD i 0) + 1) }
  | postNextEnd {p : Pid} {i : Nat} : s.ppc p = .deliv i → ¬ i < (s.snap p).2 →
      Step s (.postNext p) { s with ppc := upd s.ppc p (.done true), tr := s.tr ++ [.postRet p true] }
  | deliverSend {p : Pid} {i : Nat} : s.ppc p = .inDeliver i → s.postNil (s.cur p) = false →
      Step s (.deliverSend p) { s with ppc := upd s.ppc p (.deliv (i + 1)),
                                       inflight := upd s.inflight (s.cur p) (s.inflight (s.cur p) - 1),
                                       tr := s.tr ++ [.deliver (s.cur p) p] }
  | deliverSkip {p : Pid} {i : Nat} : s.ppc p = .inDeliver i → s.closed (s.cur p) = true →
      Step s (.deliverSkip p) { s with ppc := upd s.ppc p (.deliv (i + 1)),
                                       inflight := upd s.inflight (s.cur p) (s.inflight (s.cur p) - 1) }
  | unsubCall {c : Sub} : s.spc c = .registered → s.upc c = .idle →
      Step s (.unsubCall c) { s with upc := upd s.upc c .called, tr := s.tr ++ [.unsubCall c] }
  | unsubDelLast {c : Sub} : s.upc c = .called → s.stopping = false → c ∈ sliceOf s (s.subm (s.sty c)) →
      (sliceOf s (s.subm (s.sty c))).length = 1 →
      Step s (.unsubDel c) { s with upc := upd s.upc c .deleted, subm := upd s.subm (s.sty c) (0, 0),
                                    live := s.live.erase c }
  | unsubDel {c : Sub} : s.upc c = .called → s.stopping = false → c ∈ sliceOf s (s.subm (s.sty c)) →
      (sliceOf s (s.subm (s.sty c))).length ≠ 1 →
      Step s (.unsubDel c) { s with upc := upd s.upc c .deleted,
                                    heap := upd s.heap s.nextArr ((sliceOf s (s.subm (s.sty c))).erase c),
                                    subm := upd s.subm (s.sty c) (s.nextArr, (s.subm (s.sty c)).2 - 1),
                                    nextArr := s.nextArr + 1, live := s.live.erase c }
  | unsubDelAbsent {c : Sub} : s.upc c = .called → s.stopping = false → c ∉ sliceOf s (s.subm (s.sty c)) →
      Step s (.unsubDel c) { s with upc := upd s.upc c .deleted }
  | cwBeginClosed {c : Sub} : s.upc c = .deleted → s.closeMu c = false → s.closed c = true →
      Step s (.cwBegin c) { s with upc := upd s.upc c .done, tr := s.tr ++ [.unsubRet c] }
  | cwBegin {c : Sub} : s.upc c = .deleted → s.closeMu c = false → s.closed c = false →
      Step s (.cwBegin c) { s with upc := upd s.upc c .closing, closed := upd s.closed c true,
                                   closeMu := upd s.closeMu c true }
  | cwEnd {c : Sub} : s.upc c = .closing → s.inflight c = 0 →
      Step s (.cwEnd c) { s with upc := upd s.upc c .done, postNil := upd s.postNil c true,
                                 closeMu := upd s.closeMu c false, tr := s.tr ++ [.unsubRet c] }
  | stopCall : s.stop = .idle → Step s .stopCall { s with stop := .called, tr := s.tr ++ [.stopCall] }
  | stopBegin : s.stop = .called → s.stopping = false →
      Step s .stopBegin { s with stopping := true, stop := .running s.live }
  | stopCwBeginClosed {c : Sub} {todo : List Sub} : s.stop = .running todo → c ∈ todo → s.closeMu c = false →
      s.closed c = true → Step s (.stopCwBegin c) { s with stop := .running (todo.erase c) }
  | stopCwBegin {c : Sub} {todo : List Sub} : s.stop = .running todo → c ∈ todo → s.closeMu c = false →
      s.closed c = false →
      Step s (.stopCwBegin c) { s with stop := .closingSub c (todo.erase c), closed := upd s.closed c true,
                                       closeMu := upd s.closeMu c true }
  | stopCwEnd {c : Sub} {todo : List Sub} : s.stop = .closingSub c todo → s.inflight c = 0 →
      Step s .stopCwEnd { s with stop := .running todo, postNil := upd s.postNil c true,
                                 closeMu := upd s.closeMu c false }
  | stopEnd : s.stop = .running [] →
      Step s .stopEnd { s with stop := .done, subm := fun _ => (0, 0), live := [], stopped := true, stopping := false,
                               tr := s.tr ++ [.stopRet] }

theorem Step.of_step {s s' : St} {a : Act} (hs : step false s a = some s') : Step s a s' := by
  cases a <;> simp only [step, eraseIdx_idxOf, Bool.false_eq_true, if_false] at hs <;> (repeat' split at hs) <;> cases hs
  next => exact .tick
  next h => exact .subNew h
  next h h' => exact .subRegStopped h.1 h.2 h'
  next h h' => exact .subReg h.1 h.2 (Bool.not_eq_true _ ▸ h')
  next h => exact .postCall h
  next h h' => exact .postSnapStopped h.1 h.2 h'
  next h h' => exact .postSnap h.1 h.2 (Bool.not_eq_true _ ▸ h')
  next h h' h'' => exact .postNextStale h h' h''
  next h h' h'' => exact .postNextEnter h h' h''
  next h h' => exact .postNextEnd h h'
  next h h' => exact .deliverSend h h'
  next h h' => exact .deliverSkip h h'
  next h => exact .unsubCall h.1 h.2
  next h h' h'' => exact .unsubDelLast h.1 h.2 (List.idxOf_lt_length_iff.mp h') h''
  next h h' h'' => exact .unsubDel h.1 h.2 (List.idxOf_lt_length_iff.mp h') h''
  next h h' => exact .unsubDelAbsent h.1 h.2 (fun hc => h' (List.idxOf_lt_length_iff.mpr hc))
  next h h' => exact .cwBeginClosed h.1 h.2 h'
  next h h' => exact .cwBegin h.1 h.2 (Bool.not_eq_true _ ▸ h')
  next h => exact .cwEnd h.1 h.2
  next h => exact .stopCall h
  next h => exact .stopBegin h.1 h.2
  next h h' h'' => exact .stopCwBeginClosed h h'.1 h'.2 h''
  next h h' h'' => exact .stopCwBegin h h'.1 h'.2 (Bool.not_eq_true _ ▸ h'')
  next h h' => exact .stopCwEnd h h'
  next h h' => exact .stopEnd (h' ▸ h)

@[grind =] theorem before_snoc {tr : List Ev} {a b e : Ev} : Before (tr ++ [e]) a b ↔ Before tr a b ∨ a ∈ tr ∧ b = e :=
  sub2_snoc tr a b e

variable {s s' : St} {a : Act}

structure Mem (s : St) : Prop where
  base : s.heap 0 = [] ∧ 1 ≤ s.nextArr
  hdr : ∀ t, (s.subm t).1 < s.nextArr ∧ (s.subm t).2 = (s.heap (s.subm t).1).length
  snapImm : ∀ p, (s.snap p).1 < s.nextArr ∧ s.heap (s.snap p).1 = s.snapL p ∧ (s.snap p).2 = (s.snapL p).length

theorem Mem.slice (h : Mem s) (t : Ty) : sliceOf s (s.subm t) = s.heap (s.subm t).1 := by
  rw [sliceOf, (h.hdr t).2]
  exact List.take_length

theorem Mem.step (h : Mem s) (st : Step s a s') : Mem s' where
  base := by
    have := h.base
    cases st with
    | subReg | unsubDel => grind
    | _ => exact h.base
  hdr := by
    have := h.base
    cases st with
    | subReg | unsubDelLast | stopEnd =>
      intro t
      have := h.hdr t
      simp only [upd_apply, h.slice]
      grind
    | @unsubDel c _ _ hc =>
      intro t
      have := h.hdr t
      have := h.hdr (s.sty c)
      have := List.length_erase_of_mem hc
      simp only [upd_apply, h.slice] at *
      grind
    | _ => exact h.hdr
  snapImm := by
    cases st with
    | subReg | unsubDel =>
      intro p
      have := h.snapImm p
      grind
    | @postSnap p =>
      intro q
      have := h.snapImm q
      have := h.hdr (s.pty p)
      simp only [upd_apply, h.slice]
      grind
    | _ => exact h.snapImm

structure Lists (s : St) : Prop where
  nodup : ∀ t, (s.heap (s.subm t).1).Nodup
  typed : ∀ t c, c ∈ s.heap (s.subm t).1 → s.sty c = t ∧ s.spc c = .registered
  listed : ∀ c, s.spc c = .registered → (s.upc c = .idle ∨ s.upc c = .called) → s.stopped = false →
    c ∈ s.heap (s.subm (s.sty c)).1
  snap_nodup : ∀ p, (s.snapL p).Nodup
  snap_reg : ∀ p c, c ∈ s.snapL p → s.spc c = .registered

theorem Lists.step (hm : Mem s) (h : Lists s) (st : Step s a s') : Lists s' where
  nodup := by
    have := hm.base
    cases st with
    | @subReg c =>
      -- the new receiver is not yet listed: listed receivers are registered
      intro t
      have := hm.hdr t
      have := h.nodup t
      have := h.typed (s.sty c) c
      have := nodup_snoc (s.heap (s.subm (s.sty c)).1) c
      simp only [upd_apply, hm.slice]
      grind
    | @unsubDel c =>
      intro t
      have := hm.hdr t
      have := h.nodup t
      have := (h.nodup (s.sty c)).erase c
      simp only [upd_apply, hm.slice]
      grind
    | unsubDelLast | stopEnd =>
      intro t
      have := h.nodup t
      grind
    | _ => exact h.nodup
  typed := by
    have := hm.base
    cases st with
    | subNew | subRegStopped | unsubDelLast | stopEnd =>
      intro t x hx
      have := h.typed t x
      grind
    | subReg =>
      intro t x
      have := hm.hdr t
      have := h.typed t x
      simp only [upd_apply, hm.slice]
      grind
    | @unsubDel c =>
      intro t x
      have := hm.hdr t
      have := h.typed t x
      have := (h.nodup (s.sty c)).mem_erase_iff (a := x) (b := c)
      simp only [upd_apply, hm.slice]
      grind
    | _ => exact h.typed
  listed := by
    cases st with
    | subNew | subRegStopped | unsubCall | unsubDelAbsent | cwBeginClosed | cwBegin | cwEnd | stopEnd =>
      intro x _ _ _
      have := h.listed x
      grind
    | subReg =>
      intro x
      have := h.listed x
      have := hm.hdr (s.sty x)
      simp only [upd_apply, hm.slice]
      grind
    | @unsubDel c =>
      intro x
      have := h.listed x
      have := hm.hdr (s.sty x)
      have := (h.nodup (s.sty c)).mem_erase_iff (a := x) (b := c)
      simp only [upd_apply, hm.slice]
      grind
    | @unsubDelLast c _ _ hc h1 =>
      -- `c` is the only element of its list, so no other live receiver has its type
      intro x
      have := h.listed x
      rw [hm.slice] at hc h1
      have : ∀ y ∈ s.heap (s.subm (s.sty c)).1, y = c := by
        match s.heap (s.subm (s.sty c)).1, h1, hc with
        | [z], _, hc => simp_all
      grind
    | _ => exact h.listed
  snap_nodup := by
    cases st with
    | @postSnap p =>
      intro q
      have := h.snap_nodup q
      have := h.nodup (s.pty p)
      simp only [upd_apply, hm.slice]
      grind
    | _ => exact h.snap_nodup
  snap_reg := by
    cases st with
    | subNew | subRegStopped | subReg =>
      intro q x hx
      have := h.snap_reg q x hx
      grind
    | @postSnap p =>
      intro q x
      have := h.snap_reg q x
      have := h.typed (s.pty p) x
      simp only [upd_apply, hm.slice]
      grind
    | _ => exact h.snap_reg

/-- what the program counters remember of an event; a delivery leaves no mark in the state -/
def Seen (s : St) : Ev → Prop
  | .subRet c t => s.spc c = .registered ∧ s.sty c = t
  | .unsubCall c => s.upc c ≠ .idle
  | .unsubRet c => s.upc c = .done
  | .postCall p t => s.ppc p ≠ .idle ∧ s.pty p = t
  | .postRet p ok => s.ppc p = .done ok
  | .stopCall => s.stop ≠ .idle
  | .stopRet => s.stop = .done
  | .deliver c p => Ev.deliver c p ∈ s.tr

/-- An event of a kind is appended only by the step that makes its `Seen` true, and `Seen` of it reads the program counter of
    one call, which only the steps of that call move; every other step appends another kind of event or none. -/
theorem seen_step (h : ∀ e, e ∈ s.tr ↔ Seen s e) (st : Step s a s') : ∀ e, e ∈ s'.tr ↔ Seen s' e := by
  intro e
  have := h e
  cases e with
  | subRet c t =>
    cases st with
    | subNew | subRegStopped | subReg =>
      simp only [Seen, mem_snoc] at this ⊢
      grind
    | _ => first | exact this | exact (mem_snoc.trans (or_iff_left (by nofun))).trans this
  | unsubCall c | unsubRet c =>
    cases st with
    | unsubCall | unsubDelLast | unsubDel | unsubDelAbsent | cwBeginClosed | cwBegin | cwEnd =>
      simp only [Seen, mem_snoc] at this ⊢
      grind
    | _ => first | exact this | exact (mem_snoc.trans (or_iff_left (by nofun))).trans this
  | postCall p t | postRet p ok =>
    cases st with
    | postCall | postSnapStopped | postSnap | postNextStale | postNextEnter | postNextEnd | deliverSend | deliverSkip =>
      simp only [Seen, mem_snoc] at this ⊢
      grind
    | _ => first | exact this | exact (mem_snoc.trans (or_iff_left (by nofun))).trans this
  | stopCall | stopRet =>
    cases st with
    | stopCall | stopBegin | stopCwBeginClosed | stopCwBegin | stopCwEnd | stopEnd =>
      simp only [Seen, mem_snoc] at this ⊢
      grind
    | _ => first | exact this | exact (mem_snoc.trans (or_iff_left (by nofun))).trans this
  | deliver c p => exact Iff.rfl

structure Proto (s : St) : Prop where
  stopped_iff : s.stopped = true ↔ s.stop = .done
  closed_by : ∀ c, s.closed c = true → s.upc c ≠ .idle ∨ s.stop ≠ .idle
  nil_when_free : ∀ c, s.closed c = true → s.closeMu c = false → s.postNil c = true
  done_nil : ∀ c, s.upc c = .done → s.postNil c = true

theorem Proto.step (h : Proto s) (st : Step s a s') : Proto s' where
  stopped_iff := by
    have := h.stopped_iff
    cases st with
    | stopCall | stopBegin | stopCwBeginClosed | stopCwBegin | stopCwEnd | stopEnd => simp_all
    | _ => exact h.stopped_iff
  closed_by := by
    have := h.stopped_iff
    cases st with
    | subRegStopped | unsubCall | unsubDelLast | unsubDel | unsubDelAbsent | cwBeginClosed | cwBegin | cwEnd |
        stopCall | stopBegin | stopCwBeginClosed | stopCwBegin | stopCwEnd | stopEnd =>
      intro x _
      have := h.closed_by x
      grind
    | _ => exact h.closed_by
  nil_when_free := by
    cases st with
    | subRegStopped | cwBegin | cwEnd | stopCwBegin | stopCwEnd =>
      intro x _ _
      have := h.nil_when_free x
      grind
    | _ => exact h.nil_when_free
  done_nil := by
    cases st with
    | @subRegStopped c | @unsubCall c | @unsubDelLast c | @unsubDel c | @unsubDelAbsent c | @cwBeginClosed c
    | @cwBegin c | @cwEnd c | @stopCwEnd c =>
      -- `cwBeginClosed` returns with `closed` set and `closeMu` free: `postNil` by `nil_when_free`
      intro x _
      have := h.done_nil x
      have := h.nil_when_free c
      grind
    | _ => exact h.done_nil

structure Clock (s : St) : Prop where
  created_le : ∀ c, s.spc c ≠ .idle → s.created c ≤ s.clock
  sub_le_post : ∀ c t p t', Before s.tr (.subRet c t) (.postCall p t') → s.created c ≤ s.evtime p

theorem Clock.step (hh : ∀ e, e ∈ s.tr ↔ Seen s e) (h : Clock s) (st : Step s a s') : Clock s' where
  created_le := by
    cases st with
    | tick => exact fun c hc => Nat.le_succ_of_le (h.created_le c hc)
    | subNew | subRegStopped | subReg =>
      intro x _
      have := h.created_le x
      grind
    | _ => exact h.created_le
  sub_le_post := by
    cases st with
    | subNew =>
      -- no `subRet` of a subscription that is still idle
      intro x t q t' hb
      have := h.sub_le_post x t q t' hb
      have := (hh _).mp (sub2_mem hb).1
      grind [Seen]
    | @postCall p =>
      intro x t q t' hb
      rcases before_snoc.mp hb with hb | ⟨hx, he⟩
      · -- an earlier `postCall` is not of `p`, which was idle
        have := h.sub_le_post x t q t' hb
        have := (hh _).mp (sub2_mem hb).2
        grind [Seen]
      · -- a subscription that has returned was created before now
        have := h.created_le x
        have := (hh _).mp hx
        grind [Seen]
    | subRegStopped | subReg | postSnapStopped | postNextEnd | deliverSend | unsubCall | cwBeginClosed | cwEnd |
        stopCall | stopEnd =>
      intro x t q t' hb
      have := h.sub_le_post x t q t'
      grind
    | _ => exact h.sub_le_post

structure InvA (s : St) : Prop extends Mem s, Lists s, Proto s, Clock s where
  seen : ∀ e, e ∈ s.tr ↔ Seen s e

theorem invA_init : InvA init where
  toMem := by constructor <;> simp [init]
  toLists := by constructor <;> simp [init]
  toProto := by constructor <;> simp [init]
  toClock := by constructor <;> simp [init, Before]
  seen := fun e => by cases e <;> simp [Seen, init]

theorem invA_step (h : InvA s) (st : Step s a s') : InvA s' where
  toMem := h.toMem.step st
  toLists := h.toLists.step h.toMem st
  toProto := h.toProto.step st
  toClock := h.toClock.step h.seen st
  seen := seen_step h.seen st

theorem invA_reach {s : St} (h : Reach s) : InvA s := by
  induction h with
  | init => exact invA_init
  | step a _ hs ih => exact invA_step ih (.of_step hs)
end Aqv.Mux
