/- C08: the UInt64 gas arithmetic of core/vm (gas_table.go, gas.go, common.go; common/math SafeAdd/SafeMul) against the Yellow
  Paper formulas on Nat. The gas functions are chains of overflow-checked steps, followed one step at a time (`Computes`). -/
import Aqv.Lemmas.Big
import Aqv.Model.EvmOps
import Aqv.Model.EvmSpec
namespace Aqv.Evm
open Aqv Aqv.Big

theorem maxU64_toNat : maxU64.toNat = 2 ^ 64 - 1 := by decide

theorem toWordSize_spec (s : UInt64) : (toWordSize s).toNat = (s.toNat + 31) / 32 := by
  unfold toWordSize
  have hs := s.toNat_lt
  split <;> rename_i h <;>
    simp only [gt_iff_lt, UInt64.lt_iff_toNat_lt, UInt64.toNat_sub, UInt64.toNat_add, UInt64.toNat_div, maxU64_toNat,
      UInt64.toNat_ofNat, Nat.reducePow, Nat.reduceMod, Nat.reduceSub, Nat.reduceAdd] at h ⊢ <;>
    omega

/-- `o` is a chain of overflow-checked uint64 steps that computes `s` (Model.EvmOps writes each gas function as an
    `Option.bind` chain over `chk`); `Computes.bind` follows such a chain one checked step at a time. -/
def Computes (o : Option UInt64) (s B : Nat) : Prop :=
  (∀ g, o = some g → g.toNat = s) ∧ (o = none → s ≥ B)

theorem Computes.of_some {g : UInt64} {s B : Nat} (h : g.toNat = s) : Computes (some g) s B :=
  ⟨fun _ hg => by cases hg; exact h, fun hn => (nomatch hn)⟩

theorem Computes.bind {o : Option UInt64} {f : UInt64 → Option UInt64} {s t B' B : Nat} (ho : Computes o s B')
    (hov : s ≥ B' → t ≥ B) (hf : ∀ g, g.toNat = s → Computes (f g) t B) : Computes (o.bind f) t B := by
  cases o with
  | none => exact ⟨fun _ hg => (nomatch hg), fun _ => hov (ho.2 rfl)⟩
  | some g => exact hf g (ho.1 g rfl)

theorem Computes.mono {o : Option UInt64} {s B B' : Nat} (h : Computes o s B) (hB : B' ≤ B) : Computes o s B' :=
  ⟨h.1, fun hn => Nat.le_trans hB (h.2 hn)⟩

theorem Computes.exists_of_lt {o : Option UInt64} {s B : Nat} (h : Computes o s B) (hs : s < B) :
    ∃ g, o = some g ∧ g.toNat = s := by
  cases o with
  | none => exact absurd (h.2 rfl) (Nat.not_le.2 hs)
  | some g => exact ⟨g, rfl, h.1 g rfl⟩

theorem computes_chk (r : UInt64 × Bool) {s B : Nat} (hov : r.2 = true → s ≥ B) (hok : r.2 = false → r.1.toNat = s) :
    Computes (chk r) s B := by
  unfold chk
  cases h : r.2
  · exact ⟨fun g hg => by cases hg; exact hok h, fun hn => (nomatch hn)⟩
  · exact ⟨fun _ hg => (nomatch hg), fun _ => hov h⟩

theorem safeAdd_spec (x y : UInt64) :
    (safeAdd x y).1.toNat = (x.toNat + y.toNat) % 2 ^ 64 ∧ (safeAdd x y).2 = decide (x.toNat + y.toNat ≥ 2 ^ 64) := by
  unfold safeAdd
  refine ⟨UInt64.toNat_add .., ?_⟩
  rw [decide_eq_decide, gt_iff_lt, UInt64.lt_iff_toNat_lt, UInt64.toNat_sub, maxU64_toNat]
  have := x.toNat_lt; have := y.toNat_lt
  omega

theorem u64_eq_zero_iff (x : UInt64) : x = 0 ↔ x.toNat = 0 := by
  rw [← UInt64.toNat_inj]; rfl

theorem safeMul_spec (x y : UInt64) :
    (safeMul x y).1.toNat = x.toNat * y.toNat % 2 ^ 64 ∧ (safeMul x y).2 = decide (x.toNat * y.toNat ≥ 2 ^ 64) := by
  unfold safeMul
  split
  · rename_i h
    simp only [Bool.or_eq_true, decide_eq_true_eq, u64_eq_zero_iff] at h
    rcases h with h | h <;> simp [h]
  · rename_i h
    simp only [Bool.or_eq_true, decide_eq_true_eq, u64_eq_zero_iff, not_or] at h
    refine ⟨UInt64.toNat_mul .., ?_⟩
    rw [decide_eq_decide, gt_iff_lt, UInt64.lt_iff_toNat_lt, UInt64.toNat_div, maxU64_toNat,
      Nat.div_lt_iff_lt_mul (by omega), Nat.mul_comm]
    omega

theorem bigUint64_natCast (n : Nat) : bigUint64 (n : Int) = (UInt64.ofNat (n % 2 ^ 64), decide (n ≥ 2 ^ 64)) := by
  unfold bigUint64
  rw [uint64_natCast, decide_eq_decide.2 (bitLen_natCast_gt n 64)]

theorem computes_wrap (r : UInt64 × Bool) {n s B : Nat} (hv : r.1.toNat = n % 2 ^ 64) (hf : r.2 = decide (n ≥ 2 ^ 64))
    (hs : n = s) (hB : B ≤ 2 ^ 64) : Computes (chk r) s B := by
  refine computes_chk _ (fun h => ?_) (fun h => ?_)
  · -- flag set: n ≥ 2^64 ≥ B
    rw [hf, decide_eq_true_eq] at h
    omega
  · -- flag clear: n < 2^64, so n % 2^64 = n
    rw [hf, decide_eq_false_iff_not] at h
    omega

theorem computes_safeAdd (x y : UInt64) {s B : Nat} (hs : x.toNat + y.toNat = s) (hB : B ≤ 2 ^ 64) :
    Computes (chk (safeAdd x y)) s B :=
  computes_wrap _ (safeAdd_spec x y).1 (safeAdd_spec x y).2 hs hB

theorem computes_safeMul (x y : UInt64) {s B : Nat} (hs : x.toNat * y.toNat = s) (hB : B ≤ 2 ^ 64) :
    Computes (chk (safeMul x y)) s B :=
  computes_wrap _ (safeMul_spec x y).1 (safeMul_spec x y).2 hs hB

theorem computes_bigUint64 (n : Nat) : Computes (chk (bigUint64 (n : Int))) n (2 ^ 64) := by
  rw [bigUint64_natCast]
  exact computes_wrap _ (by show (UInt64.ofNat _).toNat = _; rw [UInt64.toNat_ofNat', Nat.mod_mod]) rfl rfl (Nat.le_refl _)

def MemOk (mem : Mem) (cur : Nat) : Prop :=
  mem.len.toNat = 32 * cur ∧ mem.lastGasCost.toNat = EvmSpec.cmem cur

theorem cmem_mono {a b : Nat} (h : a ≤ b) : EvmSpec.cmem a ≤ EvmSpec.cmem b := by
  unfold EvmSpec.cmem
  have h1 : a * a ≤ b * b := Nat.mul_le_mul h h
  have h2 : a * a / 512 ≤ b * b / 512 := Nat.div_le_div_right h1
  omega

/-- below 2^32 words C_mem stays below 2^56, small beside the 2^60 that bounds the gas of a machine (`Inv.gasSmall`) … -/
theorem cmem_lt_of_small {w : Nat} (h : w ≤ 0xffffffff) : EvmSpec.cmem w < 2 ^ 56 := by
  unfold EvmSpec.cmem
  have := Nat.mul_le_mul h h
  generalize w * w = sq at this
  omega

/-- … and from 2^35 words on it is at least 2^61, which no such machine can pay -/
theorem cmem_ge_of_big {w : Nat} (h : 0x800000000 ≤ w) : EvmSpec.cmem w ≥ 2 ^ 61 := by
  unfold EvmSpec.cmem
  have := Nat.mul_le_mul h h
  generalize w * w = sq at this
  omega

/-- 0x1fffffffe0 bytes = 2^32 − 1 words; Go subtracts `lastGasCost` unchecked -/
theorem memoryGasCost_small (mem : Mem) (n : UInt64) (hn : n.toNat ≤ 0x1fffffffe0) :
    ∃ total : UInt64, total.toNat = EvmSpec.cmem (EvmSpec.words n.toNat) ∧
      memoryGasCost mem n = some (if mem.len.toNat < 32 * EvmSpec.words n.toNat
        then (total - mem.lastGasCost, { mem with lastGasCost := total }) else (0, mem)) := by
  unfold memoryGasCost EvmSpec.words
  by_cases h0 : n = 0
  · subst h0
    exact ⟨0, rfl, by rw [if_pos rfl]; exact congrArg some (if_neg (Nat.not_lt_zero _)).symm⟩
  · have hbig : ¬ n > 0xffffffffe0 := by
      rw [gt_iff_lt, UInt64.lt_iff_toNat_lt]
      simp only [UInt64.toNat_ofNat, Nat.reducePow, Nat.reduceMod]
      omega
    rw [if_neg h0, if_neg hbig]
    simp only []
    have hw := toWordSize_spec n
    generalize toWordSize n = w at hw ⊢
    rw [← hw]
    have hwle : w.toNat ≤ 0xffffffff := by omega
    have h32 : (w * 32).toNat = 32 * w.toNat := by
      rw [UInt64.toNat_mul]; simp only [UInt64.toNat_ofNat, Nat.reducePow, Nat.reduceMod]; omega
    refine ⟨w * memoryGas + w * w / quadCoeffDiv, ?_, ?_⟩
    · -- no step of 3·w + w·w/512 wraps while w < 2^32
      have hsq : w.toNat * w.toNat ≤ 0xffffffff * 0xffffffff := Nat.mul_le_mul hwle hwle
      unfold EvmSpec.cmem memoryGas quadCoeffDiv
      rw [UInt64.toNat_add, UInt64.toNat_div, UInt64.toNat_mul, UInt64.toNat_mul]
      simp only [UInt64.toNat_ofNat, Nat.reducePow, Nat.reduceMod]
      generalize w.toNat * w.toNat = sq at hsq ⊢
      omega
    · simp only [gt_iff_lt, UInt64.lt_iff_toNat_lt, h32]
      split <;> rfl

theorem memoryGasCost_spec_partial (mem : Mem) (cur : Nat) (n : UInt64) (hok : MemOk mem cur)
    (hn : n.toNat ≤ 0x1fffffffe0) :
    ∃ fee mem', memoryGasCost mem n = some (fee, mem') ∧
      fee.toNat = EvmSpec.cmem (max cur (EvmSpec.words n.toNat)) - EvmSpec.cmem cur ∧
      mem'.len = mem.len ∧ mem'.lastGasCost.toNat = EvmSpec.cmem (max cur (EvmSpec.words n.toNat)) := by
  obtain ⟨hlen, hlast⟩ := hok
  obtain ⟨total, htot, hg⟩ := memoryGasCost_small mem n hn
  have hwle : EvmSpec.words n.toNat ≤ 0xffffffff := by unfold EvmSpec.words; omega
  generalize EvmSpec.words n.toNat = w at *
  rw [hg, hlen]
  split
  · rw [Nat.max_eq_right (by omega)]
    refine ⟨_, _, rfl, ?_, rfl, htot⟩
    have := cmem_mono (a := cur) (b := w) (by omega)
    have := cmem_lt_of_small hwle
    rw [UInt64.toNat_sub, htot, hlast]
    omega
  · rw [Nat.max_eq_left (by omega), Nat.sub_self]
    exact ⟨0, mem, rfl, rfl, rfl, hlast⟩

theorem memgas_wrap_witness :
    memoryGasCost ⟨0, 0⟩ 0x2000000000 = some (12884901888, ⟨0, 12884901888⟩) ∧
    EvmSpec.cmem (EvmSpec.words 0x2000000000) - EvmSpec.cmem 0 = 12884901888 + 2 ^ 55 := by
  constructor
  · decide
  · decide

theorem memoryGasCost_overflow (mem : Mem) (n : UInt64) (hn : n.toNat > 0xffffffffe0) :
    memoryGasCost mem n = none ∧ EvmSpec.cmem (EvmSpec.words n.toNat) ≥ 2 ^ 61 := by
  constructor
  · unfold memoryGasCost
    have h0 : n ≠ 0 := by
      intro h; rw [h] at hn; simp at hn
    have hbig : n > 0xffffffffe0 := by
      rw [gt_iff_lt, UInt64.lt_iff_toNat_lt]
      simp only [UInt64.toNat_ofNat, Nat.reducePow, Nat.reduceMod]
      omega
    rw [if_neg h0, if_pos hbig]
  · exact cmem_ge_of_big (by unfold EvmSpec.words; omega)

/-- the memory-size prologue of Interpreter.Run -/
theorem memorySizeOf_spec (n : Nat) : Computes (memorySizeOf (n : Int)) (32 * EvmSpec.words n) (2 ^ 64) := by
  unfold memorySizeOf EvmSpec.words
  refine (computes_bigUint64 n).bind (by omega) fun g hg => ?_
  exact computes_safeMul _ 32 (by rw [toWordSize_spec, hg]; show _ * 32 = _; omega) (Nat.le_refl _)

theorem byteLen_eq (e : Nat) : (natBitLen e + 7) / 8 = EvmSpec.byteLen e := by
  unfold natBitLen EvmSpec.byteLen
  split <;> omega

/-- `heb` holds for both gas tables. -/
theorem gasExp_spec (eb : UInt64) (e : Nat) (he : e < 2 ^ 256) (heb : 32 * eb.toNat + 10 < 2 ^ 64) :
    ∃ g, gasExp eb (e : Int) = some g ∧ g.toNat = EvmSpec.gasExp eb.toNat e := by
  unfold gasExp EvmSpec.gasExp bitLen
  rw [Int.natAbs_natCast, byteLen_eq]
  have hbl : EvmSpec.byteLen e ≤ 32 := by
    have := mt (natBitLen_gt_iff e 256).1 (by omega)
    rw [← byteLen_eq]; omega
  generalize EvmSpec.byteLen e = bl at hbl ⊢
  have hmul : eb.toNat * bl ≤ eb.toNat * 32 := Nat.mul_le_mul_left _ hbl
  have hprod : (UInt64.ofNat bl * eb).toNat = eb.toNat * bl := by
    rw [UInt64.toNat_mul, UInt64.toNat_ofNat', Nat.mod_eq_of_lt (a := bl) (by omega), Nat.mul_comm]
    exact Nat.mod_eq_of_lt (by omega)
  refine (computes_safeAdd _ gasSlowStep (B := 2 ^ 64) ?_ (Nat.le_refl _)).exists_of_lt (by omega)
  rw [hprod]; show _ + 10 = _; omega

/-- the shared body of gasSha3 and gasCopy after the memory fee -/
theorem computes_perWord (fee base k : UInt64) (hk : 2 ≤ k.toNat) (size : Nat) :
    Computes ((chk (safeAdd fee base)).bind fun gas => (chk (bigUint64 (size : Int))).bind fun words =>
        (chk (safeMul (toWordSize words) k)).bind fun words => chk (safeAdd gas words))
      (fee.toNat + (base.toNat + k.toNat * EvmSpec.words size)) (2 ^ 60) := by
  unfold EvmSpec.words
  refine (computes_safeAdd fee base rfl (Nat.le_refl _)).bind (by omega) fun g1 h1 => ?_
  refine (computes_bigUint64 size).bind (fun h => ?_) fun g2 h2 => ?_
  · have := Nat.mul_le_mul hk (show 2 ^ 59 ≤ (size + 31) / 32 by omega)
    omega
  have hw := toWordSize_spec g2
  rw [h2] at hw
  refine (computes_safeMul _ k (by rw [hw, Nat.mul_comm]) (Nat.le_refl _)).bind (by omega) fun g3 h3 => ?_
  exact computes_safeAdd g1 g3 (by omega) (by decide)

theorem gasSha3_spec (mem : Mem) (m : UInt64) (fee : UInt64) (mem' : Mem) (size : Nat)
    (hm : memoryGasCost mem m = some (fee, mem')) :
    Computes (gasSha3 mem m (size : Int)) (fee.toNat + EvmSpec.gasSha3 size) (2 ^ 60) := by
  unfold gasSha3
  rw [hm, Option.bind_some]
  exact computes_perWord fee 30 6 (by decide) size

theorem gasCopy_spec (base : UInt64) (mem : Mem) (m : UInt64) (fee : UInt64) (mem' : Mem) (size : Nat)
    (hm : memoryGasCost mem m = some (fee, mem')) :
    Computes (gasCopy base mem m (size : Int)) (fee.toNat + EvmSpec.gasCopy base.toNat size) (2 ^ 60) := by
  unfold gasCopy
  rw [hm, Option.bind_some]
  exact computes_perWord fee base 3 (by decide) size

/-- gasMLoad / gasMStore / gasMStore8 -/
theorem gasMemVeryLow_spec (mem : Mem) (m : UInt64) (fee : UInt64) (mem' : Mem)
    (hm : memoryGasCost mem m = some (fee, mem')) : Computes (gasMemVeryLow mem m) (fee.toNat + 3) (2 ^ 64) := by
  unfold gasMemVeryLow
  rw [hm, Option.bind_some]
  exact computes_safeAdd fee gasFastestStep rfl (Nat.le_refl _)

theorem gasCreate_spec (mem : Mem) (m : UInt64) (fee : UInt64) (mem' : Mem)
    (hm : memoryGasCost mem m = some (fee, mem')) : Computes (gasCreate mem m) (fee.toNat + 32000) (2 ^ 64) := by
  unfold gasCreate
  rw [hm, Option.bind_some]
  exact computes_safeAdd fee 32000 rfl (Nat.le_refl _)

theorem gasReturn_spec (mem : Mem) (m : UInt64) (fee : UInt64) (mem' : Mem)
    (hm : memoryGasCost mem m = some (fee, mem')) : gasReturn mem m = some fee := by
  unfold gasReturn; rw [hm]; rfl

theorem gasLog_spec (n : UInt64) (hn : n.toNat ≤ 4) (mem : Mem) (m : UInt64) (fee : UInt64) (mem' : Mem) (size : Nat)
    (hm : memoryGasCost mem m = some (fee, mem')) :
    Computes (gasLog n mem m (size : Int)) (fee.toNat + EvmSpec.gasLog n.toNat size) (2 ^ 60) := by
  unfold gasLog EvmSpec.gasLog
  have cn : (n * 375).toNat = 375 * n.toNat := by
    rw [UInt64.toNat_mul]; show n.toNat * 375 % _ = _; omega
  refine (computes_bigUint64 size).bind (by omega) fun g0 h0 => ?_
  rw [hm, Option.bind_some]
  refine (computes_safeAdd fee 375 (s := fee.toNat + 375) rfl (Nat.le_refl _)).bind (by omega) fun g1 h1 => ?_
  refine (computes_safeAdd g1 (n * 375) (congrArg _ cn) (Nat.le_refl _)).bind (by omega) fun g2 h2 => ?_
  refine (computes_safeMul g0 8 (s := g0.toNat * 8) rfl (Nat.le_refl _)).bind (by omega) fun g3 h3 => ?_
  exact computes_safeAdd g2 g3 (by omega) (by decide)

theorem ofNat_uint64_toNat (n : Nat) (h : n < 2 ^ 64) : (UInt64.ofNat (uint64 (n : Int))).toNat = n := by
  rw [uint64_of_lt n h, UInt64.toNat_ofNat']; omega

/-- CreateBySuicide = 0: no built-in gas table -/
theorem callGas_pre150 (avail base : UInt64) (cost : Nat) :
    (cost < 2 ^ 64 → ∃ g, callGas 0 avail base (cost : Int) = some g ∧ g.toNat = cost) ∧
    (cost ≥ 2 ^ 64 → callGas 0 avail base (cost : Int) = none) := by
  unfold callGas
  have h0 : ¬ ((0 : UInt64) > 0) := by decide
  simp only [h0, if_false]
  simp only [bitLen_natCast_gt]
  constructor
  · intro hlt
    rw [if_neg (by omega)]
    exact ⟨_, rfl, ofNat_uint64_toNat cost hlt⟩
  · intro hge
    rw [if_pos hge]
end Aqv.Evm
