/-
  Aqv.Lemmas.TrieGc — the reference-counting invariant of the node store: `parents n` = outstanding root pins of `n`
  + present parents with a registered edge to `n` (+ pending dereferences during a cascade); hence nothing reachable from
  a root with an outstanding pin is ever evicted.
-/
import Aqv.Model.TrieGc
namespace Aqv.Gc

variable {α : Type} [DecidableEq α]

theorem dedup_nodup : ∀ (l : List α), (dedup l).Nodup
  | [] => List.nodup_nil
  | x :: xs => by
    simp only [dedup]
    split
    · exact dedup_nodup xs
    · next h => exact List.nodup_cons.2 ⟨h, dedup_nodup xs⟩

theorem mem_dedup : ∀ {l : List α} {a : α}, a ∈ dedup l ↔ a ∈ l
  | [], a => by simp [dedup]
  | x :: xs, a => by
    simp only [dedup]
    split
    · next h =>
      rw [mem_dedup (l := xs), List.mem_cons]
      constructor
      · exact Or.inr
      · rintro (rfl | h')
        · exact mem_dedup.1 h
        · exact h'
    · simp [mem_dedup (l := xs)]

/-- number of present parents with a registered edge to `n`. -/
def inE (s : Store α) (n : α) : Nat := (s.nodes.filter fun p => s.edge p n).length

/-- the invariant, with a stack `W` of dereferences still to be performed. -/
structure GInv (K : α → List α) (s : Store α) (W : List α) : Prop where
  nodup : s.nodes.Nodup
  count : ∀ n ∈ s.nodes, s.parents n = s.pins n + (inE s n : Int) + (W.count n : Int)
  pins_nonneg : ∀ n, 0 ≤ s.pins n
  absent_pins : ∀ n, n ∉ s.nodes → s.pins n = 0
  closed : ∀ p ∈ s.nodes, ∀ c, s.edge p c = true → c ∈ s.nodes
  kids_eq : ∀ n ∈ s.nodes, s.kids n = dedup (K n)
  edge_kids : ∀ p ∈ s.nodes, ∀ c, s.edge p c = true → c ∈ s.kids p

theorem filter_erase_length {l : List α} (hl : l.Nodup) {c : α} (hc : c ∈ l) (f : α → Bool) :
    ((l.erase c).filter f).length + (if f c then 1 else 0) = (l.filter f).length := by
  induction l with
  | nil => cases hc
  | cons x l ih =>
    have hx := (List.nodup_cons.1 hl).1
    have hl' := (List.nodup_cons.1 hl).2
    by_cases hxc : x = c
    · subst hxc
      simp only [List.erase_cons_head, List.filter_cons]
      split <;> simp
    · have hc' : c ∈ l := by
        cases hc with
        | head => exact absurd rfl hxc
        | tail _ h => exact h
      have := ih hl' hc'
      rw [List.erase_cons_tail (by simpa using hxc)]
      simp only [List.filter_cons]
      by_cases hfx : f x = true
      · simp only [hfx, if_true, List.length_cons]; omega
      · simp only [hfx]; exact this

omit [DecidableEq α] in
theorem filter_length_congr {l : List α} {f g : α → Bool} (h : ∀ x ∈ l, f x = g x) :
    (l.filter f).length = (l.filter g).length := by
  rw [List.filter_congr h]

theorem filter_length_flip {l : List α} (hl : l.Nodup) {p : α} (hp : p ∈ l) {f g : α → Bool}
    (hf : f p = false) (hg : g p = true) (h : ∀ x, x ≠ p → f x = g x) :
    (l.filter g).length = (l.filter f).length + 1 := by
  have h1 := filter_erase_length hl hp f
  have h2 := filter_erase_length hl hp g
  have h3 : ((l.erase p).filter f).length = ((l.erase p).filter g).length := by
    apply filter_length_congr
    intro x hx
    exact h x ((hl.mem_erase_iff.1 hx).1)
  simp only [hf, hg] at h1 h2
  simp at h1 h2
  omega

/-- a step that leaves the cached nodes and their edges alone and moves weight between `parents`, `pins` and the pending
    dereferences. -/
theorem GInv.reweigh {K : α → List α} {s : Store α} {W : List α} (hi : GInv K s W) (P Q : α → Int) (W' : List α)
    (hc : ∀ n ∈ s.nodes, P n - s.parents n = Q n - s.pins n + ((W'.count n : Int) - W.count n))
    (hq : ∀ n, 0 ≤ Q n) (ha : ∀ n, n ∉ s.nodes → Q n = 0) : GInv K { s with parents := P, pins := Q } W' where
  nodup := hi.nodup
  count n hn := by
    have := hi.count n hn
    have := hc n hn
    simp only [inE] at *
    omega
  pins_nonneg := hq
  absent_pins := ha
  closed := hi.closed
  kids_eq := hi.kids_eq
  edge_kids := hi.edge_kids

theorem derefLoop_inv (K : α → List α) : ∀ (f : Nat) (W : List α) (s s' : Store α),
    GInv K s W → derefLoop f W s = some s' → GInv K s' [] := by
  intro f
  induction f with
  | zero =>
    intro W s s' hi h
    cases W with
    | nil => simp [derefLoop] at h; subst h; exact hi
    | cons c w => simp [derefLoop] at h
  | succ f ih =>
    intro W s s' hi h
    cases W with
    | nil => simp [derefLoop] at h; subst h; exact hi
    | cons c w =>
      simp only [derefLoop] at h
      by_cases hc : c ∈ s.nodes
      · simp only [hc, not_true_eq_false, if_false] at h
        have hcount := hi.count c hc
        simp only [List.count_cons_self] at hcount
        by_cases hz : s.parents c - 1 = 0
        · simp only [hz, if_true] at h
          apply ih _ _ _ _ h
          -- the count of `c` has reached zero: no pin, no registered parent, no pending dereference of `c` is left
          obtain ⟨hE0, hp0, hw0⟩ : inE s c = 0 ∧ s.pins c = 0 ∧ w.count c = 0 := by
            have := hi.pins_nonneg c
            omega
          have hnoedge : ∀ p ∈ s.nodes, s.edge p c = false := fun p hp =>
            Bool.eq_false_iff.2 (List.filter_eq_nil_iff.1 (List.length_eq_zero_iff.1 hE0) p hp)
          refine ⟨hi.nodup.erase c, ?_, hi.pins_nonneg, ?_, ?_, ?_, ?_⟩
          · intro n hn
            obtain ⟨hnc, hn'⟩ := hi.nodup.mem_erase_iff.1 hn
            have hcn := hi.count n hn'
            have hE := filter_erase_length hi.nodup hc (fun p => s.edge p n)
            -- the children of `c` now pending are exactly those it had registered a reference to
            have hk : ((s.kids c).filter (s.edge c)).count n = if s.edge c n then 1 else 0 := by
              have hnd : ((s.kids c).filter (s.edge c)).Nodup := by
                rw [hi.kids_eq c hc]; exact (dedup_nodup _).filter _
              rw [hnd.count]
              by_cases he : s.edge c n = true
              · simp [List.mem_filter, hi.edge_kids c hc n he, he]
              · simp [List.mem_filter, he]
            rw [List.count_cons_of_ne (Ne.symm hnc)] at hcn
            simp only [inE, List.count_append, hk, if_neg hnc] at hcn ⊢
            omega
          · intro n hn
            by_cases hnc : n = c
            · subst hnc; exact hp0
            · apply hi.absent_pins
              intro hn'
              exact hn (hi.nodup.mem_erase_iff.2 ⟨hnc, hn'⟩)
          · intro p hp d hd
            obtain ⟨hpc, hp'⟩ := hi.nodup.mem_erase_iff.1 hp
            have hd' := hi.closed p hp' d hd
            apply hi.nodup.mem_erase_iff.2
            refine ⟨?_, hd'⟩
            intro e; subst e
            rw [hnoedge p hp'] at hd; cases hd
          · intro n hn
            exact hi.kids_eq n (hi.nodup.mem_erase_iff.1 hn).2
          · intro p hp d hd
            exact hi.edge_kids p (hi.nodup.mem_erase_iff.1 hp).2 d hd
        · simp only [hz, if_false] at h
          refine ih _ _ _ (hi.reweigh _ _ w (fun n _ => ?_) hi.pins_nonneg hi.absent_pins) h
          by_cases hnc : n = c
          · subst hnc; simp; omega
          · simp [hnc, Ne.symm hnc]
      · simp only [hc, not_false_eq_true, if_true] at h
        refine ih _ _ _ (hi.reweigh _ _ w (fun n hn => ?_) hi.pins_nonneg hi.absent_pins) h
        have hne : ¬ c = n := by intro e; subst e; exact hc hn
        simp [hne]

theorem ginv_empty (K : α → List α) : GInv K (Store.empty : Store α) [] where
  nodup := List.nodup_nil
  count := fun n h => by cases h
  pins_nonneg := fun _ => Int.le_refl _
  absent_pins := fun _ _ => rfl
  closed := fun p h => by cases h
  kids_eq := fun n h => by cases h
  edge_kids := fun p h => by cases h

theorem insertNode_inv (K : α → List α) {s : Store α} (hi : GInv K s []) (h : α) :
    GInv K (insertNode s h (K h)) [] ∧ h ∈ (insertNode s h (K h)).nodes := by
  unfold insertNode
  by_cases hh : h ∈ s.nodes
  · rw [if_pos hh]; exact ⟨hi, hh⟩
  · rw [if_neg hh]
    refine ⟨⟨List.nodup_cons.2 ⟨hh, hi.nodup⟩, ?_, hi.pins_nonneg, ?_, ?_, ?_, ?_⟩, List.mem_cons_self ..⟩
    · intro n hn
      simp only [inE, List.count_nil, Int.natCast_zero, Int.add_zero]
      have hfil : ∀ m, (List.filter (fun p => if p = h then false else s.edge p m) (h :: s.nodes)).length =
          (List.filter (fun p => s.edge p m) s.nodes).length := by
        intro m
        simp only [List.filter_cons, if_true, Bool.false_eq_true, if_false]
        apply filter_length_congr
        intro x hx
        have : x ≠ h := fun e => hh (e ▸ hx)
        simp [this]
      rw [hfil]
      by_cases hnh : n = h
      · subst hnh
        simp only [if_true]
        have h0 : (List.filter (fun p => s.edge p n) s.nodes).length = 0 := by
          rw [List.length_eq_zero_iff, List.filter_eq_nil_iff]
          intro p hp he
          exact hh (hi.closed p hp n he)
        rw [h0, hi.absent_pins n hh]; rfl
      · simp only [hnh, if_false]
        have hn' : n ∈ s.nodes := by
          cases hn with
          | head => exact absurd rfl hnh
          | tail _ h' => exact h'
        have := hi.count n hn'
        simpa [inE] using this
    · intro n hn
      apply hi.absent_pins
      intro h'; exact hn (List.mem_cons_of_mem _ h')
    · intro p hp c hc
      by_cases hph : p = h
      · subst hph; simp at hc
      · simp only [hph, if_false] at hc
        have hp' : p ∈ s.nodes := by
          cases hp with
          | head => exact absurd rfl hph
          | tail _ h' => exact h'
        exact List.mem_cons_of_mem _ (hi.closed p hp' c hc)
    · intro n hn
      by_cases hnh : n = h
      · subst hnh; simp
      · simp only [hnh, if_false]
        cases hn with
        | head => exact absurd rfl hnh
        | tail _ h' => exact hi.kids_eq n h'
    · intro p hp c hc
      by_cases hph : p = h
      · subst hph; simp at hc
      · simp only [hph, if_false] at hc ⊢
        cases hp with
        | head => exact absurd rfl hph
        | tail _ h' => exact hi.edge_kids p h' c hc

theorem referenceNode_inv (K : α → List α) {s : Store α} (hi : GInv K s []) {c p : α} (hp : p ∈ s.nodes)
    (hck : c ∈ s.kids p) : GInv K (referenceNode s c p) [] ∧ (referenceNode s c p).nodes = s.nodes ∧
      (referenceNode s c p).kids = s.kids := by
  unfold referenceNode
  by_cases hc : c ∈ s.nodes
  · by_cases he : s.edge p c = true
    · rw [if_neg (fun h => h hc), if_pos he]; exact ⟨hi, rfl, rfl⟩
    · rw [if_neg (fun h => h hc), if_neg he]
      refine ⟨⟨hi.nodup, ?_, hi.pins_nonneg, hi.absent_pins, ?_, hi.kids_eq, ?_⟩, rfl, rfl⟩
      · intro n hn
        have hcn := hi.count n hn
        simp only [inE, List.count_nil, Int.natCast_zero, Int.add_zero] at hcn ⊢
        by_cases hnc : n = c
        · subst hnc
          simp only [if_true]
          have := filter_length_flip hi.nodup hp (f := fun p' => s.edge p' n)
            (g := fun p' => if p' = p ∧ n = n then true else s.edge p' n) (by simpa using he) (by simp)
            (by intro x hx; simp [hx])
          simp only [and_true] at this ⊢
          rw [this]; simp; omega
        · simp only [hnc, if_false]
          have : (List.filter (fun p' => if p' = p ∧ n = c then true else s.edge p' n) s.nodes).length =
              (List.filter (fun p' => s.edge p' n) s.nodes).length := by
            apply filter_length_congr; intro x _; simp [hnc]
          simp only [hnc, and_false] at this ⊢
          rw [this]; exact hcn
      · intro p' hp' c' hc'
        by_cases h : p' = p ∧ c' = c
        · rw [h.2]; exact hc
        · simp only [h, if_false] at hc'
          exact hi.closed p' hp' c' hc'
      · intro p' hp' c' hc'
        by_cases h : p' = p ∧ c' = c
        · rw [h.1, h.2]; exact hck
        · simp only [h, if_false] at hc'
          exact hi.edge_kids p' hp' c' hc'
  · rw [if_pos hc]; exact ⟨hi, rfl, rfl⟩

theorem storeNode_inv (K : α → List α) {s : Store α} (hi : GInv K s []) (h : α) :
    GInv K (storeNode s h (K h)) [] := by
  unfold storeNode
  obtain ⟨h0, hmem⟩ := insertNode_inv K hi h
  have hk : (insertNode s h (K h)).kids h = dedup (K h) := h0.kids_eq h hmem
  have : ∀ (l : List α) (s₀ : Store α), GInv K s₀ [] → h ∈ s₀.nodes → (∀ c ∈ l, c ∈ s₀.kids h) →
      GInv K (l.foldl (fun s c => referenceNode s c h) s₀) [] := by
    intro l
    induction l with
    | nil => intro s₀ h₀ _ _; exact h₀
    | cons c l ih =>
      intro s₀ h₀ hm hl
      obtain ⟨h1, e1, e2⟩ := referenceNode_inv K h₀ hm (hl c (List.mem_cons_self ..))
      apply ih _ h1 (by rw [e1]; exact hm)
      intro c' hc'
      rw [e2]; exact hl c' (List.mem_cons_of_mem _ hc')
  exact this _ _ h0 hmem (fun c hc => by rw [hk]; exact hc)

theorem pin_inv (K : α → List α) {s : Store α} (hi : GInv K s []) (r : α) : GInv K (pin s r) [] := by
  unfold pin
  by_cases hr : r ∈ s.nodes
  · simp only [hr, not_true_eq_false, if_false]
    refine hi.reweigh _ _ [] (fun n _ => ?_) (fun n => ?_) fun n hn => ?_
    · by_cases hnr : n = r
      · subst hnr; simp; omega
      · simp [hnr]
    · have := hi.pins_nonneg n
      by_cases hnr : n = r
      · subst hnr; simp; omega
      · simp [hnr]; exact this
    · have hnr : n ≠ r := fun e => hn (e ▸ hr)
      simp [hnr]; exact hi.absent_pins n hn
  · simp only [hr, not_false_eq_true, if_true]; exact hi

theorem unpin_inv (K : α → List α) {s s' : Store α} (hi : GInv K s []) {r : α} (hp : 1 ≤ s.pins r) {fuel : Nat}
    (h : unpin fuel s r = some s') : GInv K s' [] := by
  unfold unpin at h
  apply derefLoop_inv K fuel [r] _ s' _ h
  have hr : r ∈ s.nodes := by
    apply Classical.byContradiction
    intro hn
    have := hi.absent_pins r hn
    omega
  refine hi.reweigh _ _ [r] (fun n _ => ?_) (fun n => ?_) fun n hn => ?_
  · by_cases hnr : n = r
    · subst hnr; simp; omega
    · simp [hnr, Ne.symm hnr]
  · have := hi.pins_nonneg n
    by_cases hnr : n = r
    · subst hnr; simp; omega
    · simp [hnr]; exact this
  · have hnr : n ≠ r := fun e => hn (e ▸ hr)
    simp [hnr]; exact hi.absent_pins n hn

/-- an operation is legal: a node is always stored with the child list its content determines, and only an outstanding
    pin is released. -/
def Legal (K : α → List α) (s : Store α) : GcOp α → Prop
  | .store h ks => ks = K h
  | .pin _ => True
  | .unpin r => 1 ≤ s.pins r

def LegalRun (K : α → List α) (fuel : Nat) : List (GcOp α) → Store α → Prop
  | [], _ => True
  | op :: ops, s => Legal K s op ∧ ∀ s', gcStep fuel s op = some s' → LegalRun K fuel ops s'

theorem gcRun_inv (K : α → List α) (fuel : Nat) : ∀ (ops : List (GcOp α)) (s s' : Store α), GInv K s [] →
    LegalRun K fuel ops s → gcRun fuel ops s = some s' → GInv K s' [] := by
  intro ops
  induction ops with
  | nil => intro s s' hi _ h; simp [gcRun] at h; subst h; exact hi
  | cons op ops ih =>
    intro s s' hi hl h
    simp only [gcRun] at h
    cases hs : gcStep fuel s op with
    | none => rw [hs] at h; cases h
    | some s₁ =>
      rw [hs] at h
      have hl' := hl.2 s₁ hs
      apply ih s₁ s' _ hl' h
      cases op with
      | store hh ks =>
        have hk : ks = K hh := hl.1
        subst hk
        simp only [gcStep, Option.some.injEq] at hs
        subst hs; exact storeNode_inv K hi hh
      | pin r =>
        simp only [gcStep, Option.some.injEq] at hs
        subst hs; exact pin_inv K hi r
      | unpin r => exact unpin_inv K hi hl.1 hs

inductive Desc (s : Store α) : α → α → Prop
  | refl (r : α) : Desc s r r
  | step {r m d : α} : Desc s r m → s.edge m d = true → Desc s r d

theorem ginv_keeps {K : α → List α} {s : Store α} (hi : GInv K s []) {r : α} (hp : 1 ≤ s.pins r) :
    ∀ d, Desc s r d → d ∈ s.nodes := by
  intro d hd
  induction hd with
  | refl =>
    apply Classical.byContradiction
    intro hn
    have := hi.absent_pins r hn
    omega
  | step _ he ih => exact hi.closed _ ih _ he


end Aqv.Gc
