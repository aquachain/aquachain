/-
  Aqv.Lemmas.TxPriced — the price heap (`txPricedList`) refines the eviction oracle: the heap operations with their monitor
  bit, and the three queries Underpriced / Discard / Cap.
-/
import Aqv.Lemmas.TxHeap
import Aqv.Lemmas.TxList
namespace Aqv.TxPool

theorem sameMembers_of_perm {a b : List Tx} (h : a.Perm b) : sameMembers a b = true := by
  unfold sameMembers
  simp only [Bool.and_eq_true, List.all_eq_true, decide_eq_true_eq, beq_iff_eq]
  exact ⟨⟨h.length_eq, fun x hx => h.mem_iff.mp hx⟩, fun x hx => h.mem_iff.mpr hx⟩

theorem pushC_eq (t : Tx) (l : List Tx) : pushC t l = (hPush t l, true) := by
  simp only [pushC, sameMembers_of_perm ((hPush_perm t l).trans (List.perm_append_comm (l₁ := [t])))]

theorem initC_eq (l : List Tx) : initC l = (hInit l, true) := by
  simp only [initC, sameMembers_of_perm (hInit_perm l)]

theorem popOK_of_perm {l : List Tx} {x : Tx} {rest : List Tx} (hp : l.Perm (x :: rest)) (hmin : ∀ y ∈ l, x.price ≤ y.price) :
    popOK l x rest = true := by
  unfold popOK
  simp only [Bool.and_eq_true, decide_eq_true_eq, List.all_eq_true, beq_iff_eq, Bool.or_eq_true]
  exact ⟨⟨⟨⟨hp.mem_iff.mpr List.mem_cons_self, hmin⟩, hp.length_eq.symm⟩,
    fun y hy => hp.mem_iff.mpr (List.mem_cons_of_mem _ hy)⟩, fun y hy => List.mem_cons.mp (hp.mem_iff.mp hy)⟩

theorem popC_spec {l : List Tx} {x : Tx} {rest : List Tx} {ok : Bool} (hh : IsHeap l) (h : popC l = some (x, rest, ok)) :
    l.Perm (x :: rest) ∧ (∀ y ∈ l, x.price ≤ y.price) ∧ IsHeap rest ∧ ok = true := by
  unfold popC at h
  split at h
  · rename_i hp
    cases h
    obtain ⟨hperm, hmin, hrest⟩ := heap_pop_spec l _ _ hh hp
    exact ⟨hperm, hmin, hrest, popOK_of_perm hperm hmin⟩
  · cases h

theorem popC_length {l : List Tx} {x : Tx} {rest : List Tx} {ok : Bool} (hh : IsHeap l) (h : popC l = some (x, rest, ok)) :
    rest.length + 1 = l.length := (popC_spec hh h).1.length_eq.symm

theorem popC_none {l : List Tx} (h : popC l = none) : l = [] := by
  unfold popC at h
  split at h
  · cases h
  · exact hPop_none ‹_›

/-- for `b = true` also: the driver's assertion has not fired; the `b = false` instance is the plain heap order, showing that
    nothing proved below depends on the monitor bit -/
def PricedOK (b : Bool) (P : Priced) : Prop := IsHeap P.items ∧ (b = true → P.exact = true)

variable {b : Bool}

theorem pricedOK_false {P : Priced} (h : IsHeap P.items) : PricedOK false P := ⟨h, fun e => Bool.noConfusion e⟩

theorem pricedOK_pop {P : Priced} {x : Tx} {rest : List Tx} {ok : Bool} (hok : PricedOK b P)
    (hp : popC P.items = some (x, rest, ok)) (st : Int) :
    PricedOK b { items := rest, stales := st, exact := P.exact && ok } := by
  obtain ⟨_, _, h2, h3⟩ := popC_spec hok.1 hp
  exact ⟨h2, fun hb => by simp [hok.2 hb, h3]⟩

theorem Priced.put_eq (P : Priced) (t : Tx) : P.put t = { P with items := hPush t P.items } := by
  unfold Priced.put
  simp only [pushC_eq, Bool.and_true]

theorem Priced.removed_eq (P : Priced) (A : List Tx) :
    P.removed A = if P.stales + 1 ≤ ((P.items.length / 4 : Nat) : Int) then { P with stales := P.stales + 1 }
      else { items := hInit A, stales := 0, exact := P.exact } := by
  unfold Priced.removed
  simp only [initC_eq, Bool.and_true]

theorem put_mem (P : Priced) (t : Tx) (x : Tx) : x ∈ (P.put t).items ↔ x = t ∨ x ∈ P.items := by
  rw [Priced.put_eq]
  exact (hPush_perm t P.items).mem_iff.trans List.mem_cons

theorem put_ok (P : Priced) (t : Tx) (h : PricedOK b P) : PricedOK b (P.put t) := by
  rw [Priced.put_eq]
  exact ⟨hPush_heap t P.items h.1, h.2⟩

theorem removed_ok (P : Priced) (A : List Tx) (h : PricedOK b P) : PricedOK b (P.removed A) := by
  rw [Priced.removed_eq]
  split
  · exact h
  · exact ⟨heap_init_establishes A, h.2⟩

theorem removed_mem (P : Priced) {A : List Tx} {x : Tx} (hx : x ∈ A) (h : x ∈ P.items) : x ∈ (P.removed A).items := by
  rw [Priced.removed_eq]
  split
  · exact h
  · exact (hInit_perm A).mem_iff.mpr hx

theorem putAll_ok (ts : List Tx) (P : Priced) (h : PricedOK b P) : PricedOK b (ts.foldl (fun P x => P.put x) P) :=
  foldl_pres (PricedOK b) _ (fun P t h => put_ok P t h) ts P h

theorem putAll_mem (P : Priced) (ts : List Tx) (x : Tx) : x ∈ (ts.foldl (fun P x => P.put x) P).items ↔ x ∈ ts ∨ x ∈ P.items := by
  induction ts generalizing P with
  | nil => simp
  | cons t rest ih => rw [List.foldl_cons, ih, put_mem, List.mem_cons, or_left_comm, or_assoc]

/-- the invariant of the pop loops; `D` / `S` are what the dropped / saved satisfy (in Underpriced nothing is dropped or saved) -/
structure PopInv (b : Bool) (all : List Tx) (D S : Tx → Prop) (P : Priced) (drop save : List Tx) : Prop where
  cover : ∀ u ∈ all, u ∈ drop ∨ u ∈ save ∨ u ∈ P.items
  cheap : ∀ v ∈ drop, ∀ u ∈ P.items, v.price ≤ u.price
  drops : ∀ v ∈ drop, v ∈ all ∧ D v
  saves : ∀ v ∈ save, v ∈ all ∧ S v
  ok    : PricedOK b P

namespace PopInv
variable {all : List Tx} {D S : Tx → Prop} {P : Priced} {drop save : List Tx} {x : Tx} {rest : List Tx} {ok : Bool}

theorem init {P : Priced} (hcov : ∀ x ∈ all, x ∈ P.items) (hok : PricedOK b P) : PopInv b all D S P [] [] :=
  { cover := fun u hu => Or.inr (Or.inr (hcov u hu)), cheap := by simp, drops := by simp, saves := by simp, ok := hok }

theorem pop (h : PopInv b all D S P drop save) (hp : popC P.items = some (x, rest, ok)) (st : Int) {dx sx : List Tx}
    (hx : x ∈ all → x ∈ dx ∨ x ∈ sx) (hdx : ∀ v ∈ dx, v = x ∧ x ∈ all ∧ D x)
    (hsx : ∀ v ∈ sx, v = x ∧ x ∈ all ∧ S x) :
    PopInv b all D S { items := rest, stales := st, exact := P.exact && ok } (drop ++ dx) (save ++ sx) := by
  obtain ⟨hperm, hmin, -, -⟩ := popC_spec h.ok.1 hp
  have hsub : ∀ u ∈ rest, u ∈ P.items := fun u hu => hperm.mem_iff.mpr (List.mem_cons_of_mem _ hu)
  refine ⟨fun u hu => ?_, fun v hv u hu => ?_, fun v hv => ?_, fun v hv => ?_, pricedOK_pop h.ok hp st⟩
  · rcases h.cover u hu with hd | hs | hi
    · exact Or.inl (List.mem_append_left _ hd)
    · exact Or.inr (Or.inl (List.mem_append_left _ hs))
    · rcases List.mem_cons.mp (hperm.mem_iff.mp hi) with rfl | hr
      · exact (hx hu).elim (fun e => Or.inl (List.mem_append_right _ e)) (fun e => Or.inr (Or.inl (List.mem_append_right _ e)))
      · exact Or.inr (Or.inr hr)
  · rcases List.mem_append.mp hv with hd | hd
    · exact h.cheap v hd u (hsub u hu)
    · rw [(hdx v hd).1]; exact hmin u (hsub u hu)
  · rcases List.mem_append.mp hv with hd | hd
    · exact h.drops v hd
    · rw [(hdx v hd).1]; exact (hdx v hd).2
  · rcases List.mem_append.mp hv with hs | hs
    · exact h.saves v hs
    · rw [(hsx v hs).1]; exact (hsx v hs).2

theorem popStale (h : PopInv b all D S P drop save) (hp : popC P.items = some (x, rest, ok)) (st : Int) (hx : x ∉ all) :
    PopInv b all D S { items := rest, stales := st, exact := P.exact && ok } drop save := by
  simpa using h.pop hp st (dx := []) (sx := []) (fun h => absurd h hx) (by simp) (by simp)

theorem popDrop (h : PopInv b all D S P drop save) (hp : popC P.items = some (x, rest, ok)) (st : Int) (hx : x ∈ all) (hd : D x) :
    PopInv b all D S { items := rest, stales := st, exact := P.exact && ok } (drop ++ [x]) save := by
  simpa using h.pop hp st (dx := [x]) (sx := []) (fun _ => Or.inl (by simp)) (by simp [hx, hd]) (by simp)

theorem popSave (h : PopInv b all D S P drop save) (hp : popC P.items = some (x, rest, ok)) (st : Int) (hx : x ∈ all) (hs : S x) :
    PopInv b all D S { items := rest, stales := st, exact := P.exact && ok } drop (save ++ [x]) := by
  simpa using h.pop hp st (dx := []) (sx := [x]) (fun _ => Or.inr (by simp)) (by simp) (by simp [hx, hs])

/-- Discard and Cap end by pushing the saved transactions back -/
theorem putBack (h : PopInv b all D S P drop save) :
    (∀ u ∈ all, u ∉ drop → u ∈ (save.foldl (fun P x => P.put x) P).items) ∧ PricedOK b (save.foldl (fun P x => P.put x) P) :=
  ⟨fun u hu hnd => (putAll_mem P save u).mpr ((h.cover u hu).resolve_left hnd), putAll_ok _ _ h.ok⟩

end PopInv

theorem dropStaleHeads_spec {all : List Tx} {D S : Tx → Prop} {drop save : List Tx} : ∀ (fuel : Nat) (P : Priced),
    P.items.length < fuel → PopInv b all D S P drop save →
    PopInv b all D S (Priced.dropStaleHeads fuel P all) drop save ∧
    (∀ x rest ok, popC (Priced.dropStaleHeads fuel P all).items = some (x, rest, ok) → x ∈ all) := by
  intro fuel
  induction fuel with
  | zero => intro P h; omega
  | succ f ih =>
    intro P hlen hinv
    unfold Priced.dropStaleHeads
    cases hp : popC P.items with
    | none => exact ⟨hinv, fun x rest ok h => by rw [hp] at h; cases h⟩
    | some pr =>
      obtain ⟨y, rest, ok⟩ := pr
      simp only
      split
      · exact ⟨hinv, fun x r o h => by rw [hp] at h; cases h; assumption⟩
      · exact ih _ (by have := popC_length hinv.ok.1 hp; simp only; omega) (hinv.popStale hp _ ‹_›)

theorem minPrice_spec : ∀ (l : List Tx), match minPrice l with
    | none => l = []
    | some m => (∃ y ∈ l, y.price = m) ∧ ∀ y ∈ l, m ≤ y.price := by
  intro l
  induction l with
  | nil => rfl
  | cons x xs ih =>
    unfold minPrice
    cases hm : minPrice xs with
    | none =>
      rw [hm] at ih
      subst ih
      exact ⟨⟨x, List.mem_cons_self, rfl⟩, fun y hy => by rw [List.mem_singleton.mp hy]; exact Nat.le_refl _⟩
    | some m =>
      rw [hm] at ih
      obtain ⟨⟨y, hy, hye⟩, hmin⟩ := ih
      refine ⟨?_, fun z hz => ?_⟩
      · by_cases hc : x.price ≤ m
        · exact ⟨x, List.mem_cons_self, (Nat.min_eq_left hc).symm⟩
        · exact ⟨y, List.mem_cons_of_mem _ hy, by rw [hye]; exact (Nat.min_eq_right (by omega)).symm⟩
      · rcases List.mem_cons.mp hz with rfl | hz'
        · exact Nat.min_le_left _ _
        · exact Nat.le_trans (Nat.min_le_right _ _) (hmin z hz')

/-- C15 `priced_underpriced_refines` -/
theorem underpriced_refines (s : Pool) (P : Priced) (t : Tx) (hcov : ∀ x ∈ s.all, x ∈ P.items) (hok : PricedOK b P) :
    (P.underpriced s.all s.locals t).1 = s.underpriced t ∧ (∀ x ∈ s.all, x ∈ (P.underpriced s.all s.locals t).2.items) ∧
    PricedOK b (P.underpriced s.all s.locals t).2 := by
  unfold Priced.underpriced Pool.underpriced Pool.isLocal
  by_cases hl : t.sender ∈ s.locals
  · simp only [hl, if_true, decide_true]; exact ⟨trivial, hcov, hok⟩
  · simp only [hl, if_false, decide_false, Bool.false_eq_true]
    obtain ⟨hinv, d3⟩ := dropStaleHeads_spec (P.items.length + 1) P (Nat.lt_succ_self _)
      (PopInv.init (D := fun _ => True) (S := fun _ => True) hcov hok)
    have hcov' : ∀ x ∈ s.all, x ∈ (Priced.dropStaleHeads (P.items.length + 1) P s.all).items := fun x hx => by
      simpa using hinv.cover x hx
    have d4 := hinv.ok
    have hm := minPrice_spec s.all
    cases hp : popC (Priced.dropStaleHeads (P.items.length + 1) P s.all).items with
    | none =>
      have hall : s.all = [] := List.eq_nil_iff_forall_not_mem.mpr fun y hy => by
        have := hcov' y hy; rw [popC_none hp] at this; cases this
      refine ⟨?_, hcov', d4⟩
      rw [hall]; rfl
    | some pr =>
      -- the root is pooled and a minimum of the heap, which covers the table: its price is the cheapest pooled price
      obtain ⟨x, rest, ok⟩ := pr
      refine ⟨?_, hcov', d4⟩
      have hxall := d3 x rest ok hp
      have hmin := (popC_spec d4.1 hp).2.1
      cases hmp : minPrice s.all with
      | none => rw [hmp] at hm; rw [hm] at hxall; cases hxall
      | some m =>
        rw [hmp] at hm
        obtain ⟨⟨y, hy, hye⟩, hle⟩ := hm
        have : x.price = m := Nat.le_antisymm (hye ▸ hmin y (hcov' y hy)) (hle x hxall)
        simp only [this]

theorem discardLoop_spec {all : List Tx} {locals : List Addr} : ∀ (fuel : Nat) (P : Priced) (count : Nat) (drop save : List Tx),
    P.items.length < fuel → PopInv b all (·.sender ∉ locals) (·.sender ∈ locals) P drop save →
    let r := Priced.discardLoop fuel P all locals count drop save
    PopInv b all (·.sender ∉ locals) (·.sender ∈ locals) r.2.2 r.1 r.2.1 ∧ r.1.length ≤ drop.length + count := by
  intro fuel
  induction fuel with
  | zero => intro P count drop save h; omega
  | succ f ih =>
    intro P count drop save hlen hinv
    simp only
    unfold Priced.discardLoop
    split
    · exact ⟨hinv, Nat.le_add_right _ _⟩
    · cases hp : popC P.items with
      | none => exact ⟨hinv, Nat.le_add_right _ _⟩
      | some pr =>
        obtain ⟨x, rest, ok⟩ := pr
        have hl : rest.length < f := by have := popC_length hinv.ok.1 hp; omega
        simp only
        split
        · exact ih _ count drop save hl (hinv.popStale hp _ ‹_›)
        · rename_i hx
          split
          · exact ih _ count drop (save ++ [x]) hl (hinv.popSave hp _ (Classical.not_not.mp hx) ‹_›)
          · have := ih _ (count - 1) (drop ++ [x]) save hl (hinv.popDrop hp P.stales (Classical.not_not.mp hx) ‹_›)
            refine ⟨this.1, Nat.le_trans this.2 ?_⟩
            simp only [List.length_append, List.length_cons, List.length_nil]
            omega

/-- what `Discard(count)` hands to `add`: victims the oracle may name -/
structure DiscardSpec (b : Bool) (s : Pool) (count : Nat) (d : List Tx × Priced) : Prop where
  victims  : ∀ v ∈ d.1, v ∈ s.all ∧ v.sender ∉ s.locals
  atMost   : d.1.length ≤ count
  sane     : s.sanitizeVictims count d.1 = d.1
  cheapest : ∀ v ∈ d.1, ∀ u ∈ s.all, u.sender ∉ s.locals → u ∉ d.1 → v.price ≤ u.price
  covers   : ∀ u ∈ s.all, u ∉ d.1 → u ∈ d.2.items
  ok       : PricedOK b d.2

/-- C15 `priced_discard_refines_oracle` -/
theorem discard_refines (s : Pool) (P : Priced) (count : Nat) (hcov : ∀ x ∈ s.all, x ∈ P.items) (hok : PricedOK b P) :
    DiscardSpec b s count (P.discard s.all s.locals count) := by
  unfold Priced.discard
  simp only
  obtain ⟨hinv, hlen⟩ := discardLoop_spec (P.items.length + 1) P count [] [] (Nat.lt_succ_self _) (PopInv.init hcov hok)
  generalize Priced.discardLoop (P.items.length + 1) P s.all s.locals count [] [] = r at hinv hlen
  simp only [List.length_nil, Nat.zero_add] at hlen
  refine ⟨hinv.drops, hlen, ?_, fun v hv u hu hnl hnd => ?_, hinv.putBack.1, hinv.putBack.2⟩
  · unfold Pool.sanitizeVictims
    rw [List.filter_eq_self.mpr, List.take_of_length_le hlen]
    intro v hv
    simp [isLocal_false.mpr (hinv.drops v hv).2, (hinv.drops v hv).1]
  · rcases hinv.cover u hu with h | h | h
    · exact absurd h hnd
    · exact absurd (hinv.saves u h).2 hnl
    · exact hinv.cheap v hv u h

theorem capLoop_spec {all : List Tx} {locals : List Addr} {th : Nat} : ∀ (fuel : Nat) (P : Priced) (drop save : List Tx),
    P.items.length < fuel →
    PopInv b all (fun v => v.sender ∉ locals ∧ v.price < th) (fun v => v.sender ∈ locals ∨ th ≤ v.price) P drop save →
    let r := Priced.capLoop fuel P all locals th drop save
    PopInv b all (fun v => v.sender ∉ locals ∧ v.price < th) (fun v => v.sender ∈ locals ∨ th ≤ v.price) r.2.2 r.1 r.2.1 ∧
    ∀ u ∈ r.2.2.items, th ≤ u.price := by
  intro fuel
  induction fuel with
  | zero => intro P drop save h; omega
  | succ f ih =>
    intro P drop save hlen hinv
    simp only
    unfold Priced.capLoop
    cases hp : popC P.items with
    | none => exact ⟨hinv, fun u hu => by rw [popC_none hp] at hu; cases hu⟩
    | some pr =>
      obtain ⟨x, rest, ok⟩ := pr
      have hl : rest.length < f := by have := popC_length hinv.ok.1 hp; omega
      simp only
      split
      · exact ih _ drop save hl (hinv.popStale hp _ ‹_›)
      · rename_i hx
        have hx := Classical.not_not.mp hx
        split
        · -- the root is at the threshold: so is everything below it
          rename_i hth
          obtain ⟨hperm, hmin, -, -⟩ := popC_spec hinv.ok.1 hp
          exact ⟨hinv.popSave hp _ hx (Or.inr hth),
            fun u hu => Nat.le_trans hth (hmin u (hperm.mem_iff.mpr (List.mem_cons_of_mem _ hu)))⟩
        · rename_i hth
          split
          · exact ih _ drop (save ++ [x]) hl (hinv.popSave hp _ hx (Or.inl ‹_›))
          · exact ih _ (drop ++ [x]) save hl (hinv.popDrop hp P.stales hx ⟨‹_›, Nat.lt_of_not_le hth⟩)

/-- C15 `priced_cap_refines` -/
theorem cap_refines (s : Pool) (P : Priced) (th : Nat) (hcov : ∀ x ∈ s.all, x ∈ P.items) (hok : PricedOK b P) :
    let d := P.cap s.all s.locals th
    (∀ v, v ∈ d.1 ↔ v ∈ s.all ∧ v.price < th ∧ v.sender ∉ s.locals) ∧ (∀ u ∈ s.all, u ∉ d.1 → u ∈ d.2.items) ∧
    PricedOK b d.2 := by
  simp only
  unfold Priced.cap
  simp only
  obtain ⟨hinv, hge⟩ := capLoop_spec (P.items.length + 1) P [] [] (Nat.lt_succ_self _) (PopInv.init hcov hok)
  generalize Priced.capLoop (P.items.length + 1) P s.all s.locals th [] [] = r at hinv hge
  refine ⟨fun v => ⟨fun hv => ?_, fun ⟨hv, hlt, hnl⟩ => ?_⟩, hinv.putBack⟩
  · have := hinv.drops v hv; exact ⟨this.1, this.2.2, this.2.1⟩
  · -- a cheap non-local pooled transaction is neither saved nor left in the heap
    rcases hinv.cover v hv with h | h | h
    · exact h
    · exact ((hinv.saves v h).2.elim (fun h' => absurd h' hnl) (fun h' => absurd hlt (Nat.not_lt.mpr h')))
    · exact absurd hlt (Nat.not_lt.mpr (hge v h))

end Aqv.TxPool
