/-
  Aqv.Lemmas.StateStep — what a journalled mutator can do, listed once: `JStep s t` is one journal entry pushed together
  with the write it records, `JSteps` a sequence of them, and every mutator is such a sequence (`jsteps_applyMut`). Each
  step unwinds (`JStep.ext`), hence every mutator is an `Ext` step: the entries it appends undo it up to `Sim`. This is the
  `journal_complete` half of C09.
-/
import Aqv.Lemmas.State
namespace Aqv.State

/-- a deleted cached object (tombstone left by Finalise/Commit) is absent from the account trie. -/
def Coherent (s : SDB) : Prop := ∀ a o, s.objs a = some o → o.deleted = true → s.trie a = none

theorem look_none_trie {s : SDB} (hc : Coherent s) {a : Addr} (h : look s a = none) : s.trie a = none := by
  unfold look at h
  split at h
  · split at h
    · exact hc a _ ‹_› ‹_›
    · cases h
  · simpa using h

theorem createObject_none {u : SDB} {a : Addr} (hl : look u a = none) :
    createObject u a =
      (setObj (push u (.createObject a)) a (some { blank with armed := false }) (markDirty u a).dirty, { blank with armed := false }, none) := by
  simp only [createObject, hl]; rw [markDirty_eq]; rfl

theorem createObject_some {u : SDB} {a : Addr} {p : Obj} (hl : look u a = some p) :
    createObject u a =
      (setObj (push u (.resetObject a p)) a (some { blank with armed := false }) (markDirty u a).dirty, { blank with armed := false }, some p) := by
  simp only [createObject, hl]; rw [markDirty_eq]; rfl

theorem createAccount_none {u : SDB} {a : Addr} (hl : look u a = none) : createAccount u a = (createObject u a).1 := by
  simp only [createAccount, createObject_none hl]

theorem createAccount_some {u : SDB} {a : Addr} {p : Obj} (hl : look u a = some p) :
    createAccount u a =
      setObj (push u (.resetObject a p)) a (some { blank with armed := false, balance := p.balance }) (markDirty u a).dirty := by
  simp only [createAccount, createObject_some hl, putObj_eq_setObj, setObj_setObj]; rfl

theorem ext_create {u : SDB} {a : Addr} (n : Obj) (d : List Addr) (hc : Coherent u) (hl : look u a = none) (hn : n.deleted = false) :
    Ext u (setObj (push u (.createObject a)) a (some n) d) := by
  refine Ext.setObj hn trivial ?_
  rw [undo_createObject, setObj_setObj]
  refine sim_setObj_self _ ?_
  rw [hl, look_setObj_none, look_none_trie hc hl]; trivial

theorem ext_reset {u : SDB} {a : Addr} {p : Obj} (n : Obj) (d : List Addr) (hl : look u a = some p) (hn : n.deleted = false) :
    Ext u (setObj (push u (.resetObject a p)) a (some n) d) := by
  refine Ext.setObj hn (look_not_deleted hl) ?_
  rw [undo_resetObject, setObj_setObj]
  exact sim_setObj_live hl (ObjEq.of_view rfl) (look_not_deleted hl) _

theorem ext_createObject_some (u : SDB) (a : Addr) (p : Obj) (hl : look u a = some p) :
    Ext u (createObject u a).1 ∧ look (createObject u a).1 a = some { blank with armed := false } := by
  rw [createObject_some hl]
  exact ⟨ext_reset _ _ hl rfl, look_setObj_live _ _ _ rfl⟩

def Entry.isObjEntry : Entry → Bool
  | .createObject _ => true
  | .resetObject _ _ => true
  | _ => false

theorem entryOK_of_aux {e : Entry} (h : e.isObjEntry = false) : EntryOK e := by
  cases e with
  | resetObject => cases h
  | _ => trivial

/-- the field writes of state_object.go that journal the value they overwrite: SetBalance, SetNonce, SetCode, SetState,
    markSuicided together with the balance reset of `Suicide`, and touch. -/
inductive FieldWrite
  | balance (v : Int)
  | nonce (n : Nat)
  | code (c : Bytes)
  | storage (k : Slot) (v : Word)
  | suicide
  | touch

def FieldWrite.set (o : Obj) : FieldWrite → Obj
  | .balance v => { o with balance := v }
  | .nonce n => { o with nonce := n }
  | .code c => { o with code := c }
  | .storage k v => { o with dirtySt := upd o.dirtySt k (some v) }
  | .suicide => { o with suicided := true, balance := 0 }
  | .touch => { o with touched := true }

/-- the journal entry appended before `w.set o` is stored at `a`. -/
def FieldWrite.entry (a : Addr) (o : Obj) : FieldWrite → Entry
  | .balance _ => .balance a o.balance
  | .nonce _ => .nonce a o.nonce
  | .code _ => .code a o.code
  | .storage k _ => .storage a k (getState o k)
  | .suicide => .suicide a o.suicided o.balance
  | .touch => .touch a o.touched (!o.armed)

theorem FieldWrite.set_flags (o : Obj) (w : FieldWrite) : (w.set o).deleted = o.deleted ∧ (w.set o).armed = o.armed := by
  cases w <;> exact ⟨rfl, rfl⟩

theorem FieldWrite.entry_aux (a : Addr) (o : Obj) (w : FieldWrite) : (w.entry a o).isObjEntry = false := by
  cases w <;> rfl

/-- one journal entry together with the write it records: the semantic counterpart of the journal inventory of the Go
    source (Props.C09.journalled_mutators_as_modelled). The eleven entry kinds are `create`, `reset`, the six field writes
    and the three uses of `aux` (refund, log, preimage). Every object-level step is `setObj (push s e) a (some n) d`. -/
inductive JStep (s : SDB) : SDB → Prop
  | create {a : Addr} (n : Obj) (hl : look s a = none) (hn : n.deleted = false) :
      JStep s (setObj (push s (.createObject a)) a (some n) (markDirty s a).dirty)
  | reset {a : Addr} {p : Obj} (n : Obj) (hl : look s a = some p) (hn : n.deleted = false) :
      JStep s (setObj (push s (.resetObject a p)) a (some n) (markDirty s a).dirty)
  | write {a : Addr} {o : Obj} (w : FieldWrite) (hl : look s a = some o) :
      JStep s (writeObj (push s (w.entry a o)) a (w.set o))
  | aux {e : Entry} {t : SDB} (he : e.isObjEntry = false) (hj : t.journal = e :: s.journal) (hobjs : t.objs = s.objs)
      (hdirty : t.dirty = s.dirty) (htrie : t.trie = s.trie) (hrevs : t.revs = s.revs) (hid : t.nextId = s.nextId)
      (hundo : undo e { t with journal := s.journal } = s) : JStep s t

inductive JSteps : SDB → SDB → Prop
  | refl (s : SDB) : JSteps s s
  | tail {s t u : SDB} : JSteps s t → JStep t u → JSteps s u

theorem JStep.single {s t : SDB} (h : JStep s t) : JSteps s t := .tail (.refl s) h

theorem jsteps_getOrNew (s : SDB) (a : Addr) :
    JSteps s (getOrNew s a).1 ∧ look (getOrNew s a).1 a = some (getOrNew s a).2 := by
  unfold getOrNew
  cases hl : look s a with
  | some o => exact ⟨.refl s, hl⟩
  | none =>
    simp only [createObject_none hl]
    exact ⟨(JStep.create _ hl rfl).single, look_setObj_live _ _ _ rfl⟩

theorem jsteps_applyMut (m : Mut) (s : SDB) : JSteps s (applyMut m s) := by
  cases m with
  | createAccount a =>
    cases hl : look s a with
    | none => rw [applyMut, createAccount_none hl, createObject_none hl]; exact (JStep.create _ hl rfl).single
    | some p => rw [applyMut, createAccount_some hl]; exact (JStep.reset _ hl rfl).single
  | addBalance a v =>
    obtain ⟨h1, h2⟩ := jsteps_getOrNew s a
    simp only [applyMut, addBalance]
    split
    · split
      · exact h1.tail (.write .touch h2)
      · exact h1
    · exact h1.tail (.write (.balance _) h2)
  | subBalance a v =>
    obtain ⟨h1, h2⟩ := jsteps_getOrNew s a
    simp only [applyMut, subBalance]
    split
    · exact h1
    · exact h1.tail (.write (.balance _) h2)
  | setBalance a v => exact (jsteps_getOrNew s a).1.tail (.write (.balance v) (jsteps_getOrNew s a).2)
  | setNonce a n => exact (jsteps_getOrNew s a).1.tail (.write (.nonce n) (jsteps_getOrNew s a).2)
  | setCode a c => exact (jsteps_getOrNew s a).1.tail (.write (.code c) (jsteps_getOrNew s a).2)
  | setState a k v => exact (jsteps_getOrNew s a).1.tail (.write (.storage k v) (jsteps_getOrNew s a).2)
  | suicide a =>
    simp only [applyMut, suicide]
    cases hl : look s a with
    | none => exact .refl s
    | some o => exact (JStep.write .suicide hl).single
  | addRefund g => exact (JStep.aux (t := addRefund s g) (e := .refund s.refund) rfl rfl rfl rfl rfl rfl rfl rfl).single
  | addLog t =>
    exact (JStep.aux (t := addLog s t) (e := .addLog s.thash) rfl rfl rfl rfl rfl rfl rfl
      (by simp [undo, addLog, push, popLog])).single
  | addPreimage h p =>
    simp only [applyMut, addPreimage]
    cases hp : s.preimages h with
    | some _ => exact .refl s
    | none =>
      refine (JStep.aux (t := { push s (.addPreimage h) with preimages := upd s.preimages h (some p) }) (e := .addPreimage h)
        rfl rfl rfl rfl rfl rfl rfl ?_).single
      simp only [undo, push, upd_upd]; rw [← hp, upd_self]

theorem JStep.revs_nextId {s t : SDB} (h : JStep s t) : t.revs = s.revs ∧ t.nextId = s.nextId := by
  cases h with
  | aux _ _ _ _ _ hrevs hid _ => exact ⟨hrevs, hid⟩
  | write => rw [writeObj_eq_setObj]; exact ⟨rfl, rfl⟩
  | _ => exact ⟨rfl, rfl⟩

theorem JSteps.revs_nextId {s t : SDB} (h : JSteps s t) : t.revs = s.revs ∧ t.nextId = s.nextId := by
  induction h with
  | refl => exact ⟨rfl, rfl⟩
  | tail _ h2 ih => exact ⟨h2.revs_nextId.1.trans ih.1, h2.revs_nextId.2.trans ih.2⟩

theorem getOrNew_revs (s : SDB) (a : Addr) : (getOrNew s a).1.revs = s.revs := (jsteps_getOrNew s a).1.revs_nextId.1
theorem getOrNew_nextId (s : SDB) (a : Addr) : (getOrNew s a).1.nextId = s.nextId := (jsteps_getOrNew s a).1.revs_nextId.2
theorem applyMut_revs (m : Mut) (s : SDB) : (applyMut m s).revs = s.revs := (jsteps_applyMut m s).revs_nextId.1
theorem applyMut_nextId (m : Mut) (s : SDB) : (applyMut m s).nextId = s.nextId := (jsteps_applyMut m s).revs_nextId.2

theorem ext_touch (u : SDB) (a : Addr) (o : Obj) (hl : look u a = some o) : Ext u (touch u a o) := by
  have hod := look_not_deleted hl
  rw [touch, writeObj_eq_setObj]
  refine Ext.setObj hod trivial ?_
  rw [undo_touch]
  split
  · simp only [look_setObj_live, hod, setObj_setObj]
    refine sim_setObj_live hl ?_ ?_ _
    · exact ObjEq.of_view rfl
    · rfl
  · refine sim_setObj_live hl ?_ ?_ _
    · exact ObjEq.of_view rfl
    · exact hod

/-- `undo (w.entry a o)` writes back what `w.set o` overwrote. -/
theorem ext_field {u : SDB} {a : Addr} {o : Obj} (w : FieldWrite) (hl : look u a = some o) :
    Ext u (writeObj (push u (w.entry a o)) a (w.set o)) := by
  have hod := look_not_deleted hl
  cases w with
  | balance v => exact ext_write hl hod (undo_balance a _) (ObjEq.of_view rfl) (fun _ => rfl) trivial
  | nonce n => exact ext_write hl hod (undo_nonce a _) (ObjEq.of_view rfl) (fun _ => rfl) trivial
  | code c => exact ext_write hl hod (undo_code a _) (ObjEq.of_view rfl) (fun _ => rfl) trivial
  | suicide => exact ext_write hl hod (undo_suicide a _ _) (ObjEq.of_view rfl) (fun _ => rfl) trivial
  | storage k v =>
    -- the entry holds `GetState(k)`, the value the getters saw, not the raw dirty-storage entry
    refine ext_write hl hod (undo_storage a k _) ⟨rfl, rfl, rfl, rfl, fun k' => ?_⟩ (fun _ => rfl) trivial
    by_cases hk : k' = k <;> simp [FieldWrite.set, getState, upd, hk]
  | touch => exact ext_touch u a o hl

theorem Ext.coherent {t t' : SDB} (h : Ext t t') (hc : Coherent t) : Coherent t' := by
  intro a o ho hd
  obtain ⟨hq, hqd⟩ := h.tomb a o ⟨ho, hd⟩
  rw [h.trie]; exact hc a o hq hqd

theorem JStep.ext {s t : SDB} (h : JStep s t) (hc : Coherent s) : Ext s t := by
  cases h with
  | create n hl hn => exact ext_create n _ hc hl hn
  | reset n hl hn => exact ext_reset n _ hl hn
  | write w hl => exact ext_field w hl
  | aux he hj hobjs hdirty htrie hrevs hid hundo =>
    exact Ext.single hj hrevs hid htrie (fun _ _ h => ⟨hobjs ▸ h.1, h.2⟩) (entryOK_of_aux he) (by rw [hundo]; exact Sim.rfl' s)

theorem JSteps.ext {s t : SDB} (h : JSteps s t) (hc : Coherent s) : Ext s t := by
  induction h with
  | refl => exact Ext.rfl' _
  | tail _ h2 ih => exact ih.trans (h2.ext (ih.coherent hc))

/-- `journal_complete` (core): every mutator extends the journal by entries that undo it. -/
theorem ext_applyMut (m : Mut) (u : SDB) (hc : Coherent u) : Ext u (applyMut m u) := (jsteps_applyMut m u).ext hc

end Aqv.State
