/-
  Aqv.Lemmas.ChainLag — the invariant `GInv` (`ChainK`: the block head may lag behind the header head) is kept by EVERY
  operation of a chain fed by full imports: `InsertChain` (`ChainImport`), `Stop` + reopen, and `SetHead(n)` for any `n`,
  also onto a block whose state is gone.  With fix 3f14ce8 in `insert` the imports that follow such a rewind keep index and
  lookups consistent, so no premise on rewinds is needed.
-/
import Aqv.Lemmas.ChainHist
namespace Aqv.Chain

variable {U : Map Blk}

theorem ginv_reopen (W : World U) {s : St} (h : GInv U s) : GInv U (reopen s) := by
  obtain ⟨hh, HC, hG⟩ := h
  exact ⟨hh, HC, ginvC_reopen W hG⟩

theorem ginv_setHead (W : World U) {s : St} (h : GInv U s) (n : Nat) : GInv U (setHead s n).st := by
  obtain ⟨hh, HC, hG⟩ := h
  obtain ⟨hh', HC', hG', -⟩ := ginvC_setHead W hG n
  exact ⟨hh', HC', hG'⟩

def OpOkG (U : Map Blk) : Op → Prop
  | .insert chain _ => ∀ b ∈ chain, U b.id = some b
  | .setHead _ => True
  | .reopen => True

/-- as `Admissible`, with rewinds landing anywhere -/
def AdmissibleG (U : Map Blk) (s : St) : List Op → Prop
  | [] => True
  | op :: ops => OpOkG U op ∧ (step s op).err ≠ some .reorgFail ∧ AdmissibleG U (step s op).st ops

instance (U : Map Blk) : (op : Op) → Decidable (OpOkG U op)
  | .insert chain _ => inferInstanceAs (Decidable (∀ b ∈ chain, U b.id = some b))
  | .setHead _ => isTrue trivial
  | .reopen => isTrue trivial

instance decAdmissibleG (U : Map Blk) : ∀ (ops : List Op) (s : St), Decidable (AdmissibleG U s ops)
  | [], _ => isTrue trivial
  | op :: ops, s =>
    have := decAdmissibleG U ops (step s op).st
    inferInstanceAs (Decidable (OpOkG U op ∧ (step s op).err ≠ some .reorgFail ∧ AdmissibleG U (step s op).st ops))

theorem ginv_step (W : World U) {s : St} (h : GInv U s) (op : Op) (hop : OpOkG U op)
    (hok : (step s op).err ≠ some .reorgFail) : GInv U (step s op).st := by
  cases op with
  | insert chain coins => exact ginv_importChain W h chain hop coins hok
  | setHead n => exact ginv_setHead W h n
  | reopen => exact ginv_reopen W h

theorem ginv_run (W : World U) : ∀ (ops : List Op) {s : St}, GInv U s → AdmissibleG U s ops → GInv U (run s ops) := by
  intro ops
  induction ops with
  | nil => intro s h _; exact h
  | cons op ops ih =>
    intro s h hadm
    exact ih (ginv_step W h op hadm.1 hadm.2.1) hadm.2.2

theorem admissibleG_of_admissible : ∀ (ops : List Op) (s : St), Admissible U s ops → AdmissibleG U s ops := by
  intro ops
  induction ops with
  | nil => intro s _; trivial
  | cons op ops ih =>
    intro s h
    refine ⟨?_, h.2.1, ih _ h.2.2⟩
    cases op with
    | insert chain coins => exact h.1
    | setHead n => trivial
    | reopen => trivial

end Aqv.Chain
