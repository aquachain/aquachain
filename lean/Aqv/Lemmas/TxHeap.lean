/-
  Aqv.Lemmas.TxHeap — container/heap on the heap array, as mirrored in Aqv.Model.TxPriced (`hUp hDown hPush hPop hInit`):
  every operation permutes the array, `up` and `down` restore the heap order from the standard "heap except at one node"
  preconditions.  Order: `priceHeap.Less` of this code base compares the gas price only (no nonce tie-break).
-/
import Aqv.Model.TxPriced
import Aqv.Lemmas.Basic
namespace Aqv.TxPool

def hkey (l : List Tx) (i : Nat) : Nat := (l.getD i txDefault).price

def HeapOn (l : List Tx) (n : Nat) : Prop := ∀ k, 0 < k → k < n → hkey l ((k - 1) / 2) ≤ hkey l k

def IsHeap (l : List Tx) : Prop := HeapOn l l.length

theorem hLess_iff (l : List Tx) (i j : Nat) : hLess l i j = true ↔ hkey l i < hkey l j := by
  unfold hLess hkey; simp

theorem hLess_false (l : List Tx) (i j : Nat) : hLess l i j = false ↔ hkey l j ≤ hkey l i := by
  unfold hLess hkey; simp

theorem hkey_append_left (l : List Tx) (t : Tx) (k : Nat) (h : k < l.length) : hkey (l ++ [t]) k = hkey l k := by
  unfold hkey
  rw [List.getD_eq_getElem?_getD, List.getD_eq_getElem?_getD, List.getElem?_append_left h]

theorem hkey_take (l : List Tx) {n m : Nat} (h : m < n) : hkey (l.take n) m = hkey l m := by
  unfold hkey
  rw [List.getD_eq_getElem?_getD, List.getD_eq_getElem?_getD, List.getElem?_take_of_lt h]

theorem HeapOn.take {l : List Tx} {n : Nat} (h : HeapOn l n) : IsHeap (l.take n) := by
  intro k hk0 hkn
  rw [List.length_take] at hkn
  rw [hkey_take l (by omega), hkey_take l (by omega)]
  exact h k hk0 (by omega)

@[simp] theorem hSwap_length (l : List Tx) (i j : Nat) : (hSwap l i j).length = l.length := by
  unfold hSwap; simp

theorem hSwap_getD (l : List Tx) (i j k : Nat) (hi : i < l.length) (hj : j < l.length) :
    (hSwap l i j).getD k txDefault =
      if k = j then l.getD i txDefault else if k = i then l.getD j txDefault else l.getD k txDefault := by
  unfold hSwap
  simp only [List.getD_eq_getElem?_getD, List.getElem?_set, List.length_set]
  by_cases h1 : k = j
  · subst h1; simp [hj]
  · by_cases h2 : k = i
    · subst h2; simp [h1, hi, Ne.symm h1]
    · simp [h1, h2, Ne.symm h1, Ne.symm h2]

theorem hkey_swap (l : List Tx) {i j : Nat} (hi : i < l.length) (hj : j < l.length) (k : Nat) :
    hkey (hSwap l i j) k = if k = j then hkey l i else if k = i then hkey l j else hkey l k := by
  unfold hkey
  rw [hSwap_getD l i j k hi hj]
  split
  · rfl
  · split <;> rfl

theorem hSwap_perm (l : List Tx) (i j : Nat) (hi : i < l.length) (hj : j < l.length) : (hSwap l i j).Perm l := by
  unfold hSwap
  rw [getD_of_lt _ hi, getD_of_lt _ hj]
  exact List.set_set_perm hi hj

theorem hUp_length : ∀ (f : Nat) (l : List Tx) (j : Nat), (hUp f l j).length = l.length := by
  intro f
  induction f with
  | zero => intro l j; rfl
  | succ f ih =>
    intro l j
    unfold hUp
    simp only
    split
    · rfl
    · rw [ih, hSwap_length]

theorem hUp_perm : ∀ (f : Nat) (l : List Tx) (j : Nat), j < l.length → (hUp f l j).Perm l := by
  intro f
  induction f with
  | zero => intro l j _; exact List.Perm.refl _
  | succ f ih =>
    intro l j hj
    unfold hUp
    simp only
    split
    · exact List.Perm.refl _
    · have hi : (j - 1) / 2 < l.length := by omega
      exact (ih _ _ (by rw [hSwap_length]; exact hi)).trans (hSwap_perm l _ _ hi hj)

/-- premises: heap order except between `j` and its parent, and `j`'s children respect `j`'s parent -/
theorem heap_up_preserves : ∀ (f : Nat) (l : List Tx) (j : Nat), j ≤ f → j < l.length →
    (∀ k, 0 < k → k < l.length → k ≠ j → hkey l ((k - 1) / 2) ≤ hkey l k) →
    (∀ k, 0 < k → k < l.length → (k - 1) / 2 = j → 0 < j → hkey l ((j - 1) / 2) ≤ hkey l k) →
    IsHeap (hUp f l j) := by
  intro f
  induction f with
  | zero =>
    intro l j hf hj h1 h2 k hk0 hkn
    exact h1 k hk0 hkn (by omega)
  | succ f ih =>
    intro l j hf hj h1 h2
    unfold hUp
    simp only
    split
    · rename_i hc
      simp only [Bool.or_eq_true, beq_iff_eq, Bool.not_eq_true', hLess_false] at hc
      intro k hk0 hkn
      by_cases hkj : k = j
      · rw [hkj]
        exact hc.resolve_left (by omega)
      · exact h1 k hk0 hkn hkj
    · rename_i hc
      simp only [Bool.or_eq_true, beq_iff_eq, Bool.not_eq_true', not_or, Bool.not_eq_false, hLess_iff] at hc
      obtain ⟨hpj, hlt⟩ := hc
      have hi : (j - 1) / 2 < l.length := by omega
      have hj0 : 0 < j := by omega
      -- `j` and its parent are swapped, the parent is the new exception: in both premises the cases are which of `k`
      -- and its parent are `j` or `j`'s parent
      apply ih (hSwap l ((j - 1) / 2) j) ((j - 1) / 2) (by omega) (by rw [hSwap_length]; exact hi)
      · intro k hk0 hkn hki
        rw [hSwap_length] at hkn
        rw [hkey_swap l hi hj ((k - 1) / 2), hkey_swap l hi hj k]
        by_cases e1 : k = j
        · -- the swapped edge itself
          rw [e1, if_neg hpj, if_pos rfl, if_pos rfl]
          exact Nat.le_of_lt hlt
        · by_cases e2 : (k - 1) / 2 = j
          · -- a child of `j`, now below `j`'s old parent
            rw [if_pos e2, if_neg e1, if_neg hki]
            exact h2 k hk0 hkn e2 hj0
          · by_cases e3 : (k - 1) / 2 = (j - 1) / 2
            · -- the sibling of `j`, now below `j`'s old entry
              rw [if_neg e2, if_pos e3, if_neg e1, if_neg hki]
              have := h1 k hk0 hkn e1
              rw [e3] at this
              exact Nat.le_trans (Nat.le_of_lt hlt) this
            · rw [if_neg e2, if_neg e3, if_neg e1, if_neg hki]
              exact h1 k hk0 hkn e1
      · intro k hk0 hkn hpar hi0
        rw [hSwap_length] at hkn
        have hpi := h1 ((j - 1) / 2) hi0 hi hpj
        rw [hkey_swap l hi hj (((j - 1) / 2 - 1) / 2), if_neg (by omega), if_neg (by omega), hkey_swap l hi hj k]
        by_cases e1 : k = j
        · rw [if_pos e1]
          exact hpi
        · rw [if_neg e1, if_neg (by omega)]
          have := h1 k hk0 hkn e1
          rw [hpar] at this
          exact Nat.le_trans hpi this

def hChild (l : List Tx) (i n : Nat) : Nat :=
  if 2 * i + 1 + 1 < n && hLess l (2 * i + 1 + 1) (2 * i + 1) then 2 * i + 1 + 1 else 2 * i + 1

theorem hChild_spec (l : List Tx) (i n : Nat) :
    (hChild l i n = 2 * i + 1 ∧ (2 * i + 2 < n → hkey l (2 * i + 1) ≤ hkey l (2 * i + 2))) ∨
    (hChild l i n = 2 * i + 2 ∧ 2 * i + 2 < n ∧ hkey l (2 * i + 2) < hkey l (2 * i + 1)) := by
  unfold hChild
  split
  · rename_i hc
    simp only [Bool.and_eq_true, decide_eq_true_eq, hLess_iff] at hc
    exact Or.inr ⟨rfl, hc⟩
  · rename_i hc
    simp only [Bool.and_eq_true, decide_eq_true_eq, not_and, Bool.not_eq_true, hLess_false] at hc
    exact Or.inl ⟨rfl, hc⟩

theorem hDown_succ (f : Nat) (l : List Tx) (i n : Nat) :
    hDown (f + 1) l i n =
      if n ≤ 2 * i + 1 then l
      else if !hLess l (hChild l i n) i then l else hDown f (hSwap l i (hChild l i n)) (hChild l i n) n := rfl

theorem hDown_length : ∀ (f : Nat) (l : List Tx) (i n : Nat), (hDown f l i n).length = l.length := by
  intro f
  induction f with
  | zero => intro l i n; rfl
  | succ f ih =>
    intro l i n
    rw [hDown_succ]
    split
    · rfl
    · split
      · rfl
      · rw [ih, hSwap_length]

theorem hDown_frame : ∀ (f : Nat) (l : List Tx) (i n : Nat), n ≤ l.length →
    (hDown f l i n).Perm l ∧ ∀ k, n ≤ k → (hDown f l i n).getD k txDefault = l.getD k txDefault := by
  intro f
  induction f with
  | zero => intro l i n _; exact ⟨List.Perm.refl _, fun _ _ => rfl⟩
  | succ f ih =>
    intro l i n hn
    rw [hDown_succ]
    split
    · exact ⟨List.Perm.refl _, fun _ _ => rfl⟩
    · split
      · exact ⟨List.Perm.refl _, fun _ _ => rfl⟩
      · have hc := hChild_spec l i n
        have hj : hChild l i n < l.length := by omega
        have hi : i < l.length := by omega
        obtain ⟨hp, hg⟩ := ih (hSwap l i (hChild l i n)) (hChild l i n) n (by rw [hSwap_length]; exact hn)
        refine ⟨hp.trans (hSwap_perm l _ _ hi hj), fun k hk => ?_⟩
        rw [hg k hk, hSwap_getD l _ _ k hi hj, if_neg (by omega), if_neg (by omega)]

theorem hDown_perm (f : Nat) (l : List Tx) (i n : Nat) (hn : n ≤ l.length) : (hDown f l i n).Perm l :=
  (hDown_frame f l i n hn).1

/-- premises, on the nodes whose parent index is at least `lo`: heap order except between `i` and its children, and `i`'s
    children respect `i`'s parent -/
theorem heap_down_preserves : ∀ (f : Nat) (l : List Tx) (i n lo : Nat), n ≤ f + i → n ≤ l.length → lo ≤ i →
    (∀ k, 0 < k → k < n → lo ≤ (k - 1) / 2 → (k - 1) / 2 ≠ i → hkey l ((k - 1) / 2) ≤ hkey l k) →
    (∀ k, 0 < k → k < n → (k - 1) / 2 = i → 0 < i → lo ≤ (i - 1) / 2 → hkey l ((i - 1) / 2) ≤ hkey l k) →
    ∀ k, 0 < k → k < n → lo ≤ (k - 1) / 2 → hkey (hDown f l i n) ((k - 1) / 2) ≤ hkey (hDown f l i n) k := by
  intro f
  induction f with
  | zero =>
    intro l i n lo hf hn hlo h1 h2 k hk0 hkn hkl
    exact h1 k hk0 hkn hkl (by omega)
  | succ f ih =>
    intro l i n lo hf hn hlo h1 h2
    rw [hDown_succ]
    split
    · intro k hk0 hkn hkl
      exact h1 k hk0 hkn hkl (by omega)
    · have hc := hChild_spec l i n
      generalize hChild l i n = j at hc ⊢
      have hj : j < l.length := by omega
      have hi : i < l.length := by omega
      split
      · -- `i` is no dearer than its cheaper child `j`, and `j` no dearer than its sibling: the edges below `i` are in
        -- order as well
        rename_i hl
        simp only [Bool.not_eq_true', hLess_false] at hl
        intro k hk0 hkn hkl
        by_cases e : (k - 1) / 2 = i
        · rw [e]
          by_cases ek : k = j
          · rw [ek]
            exact hl
          · rcases hc with ⟨c1, c2⟩ | ⟨c1, -, c3⟩
            · rw [show k = 2 * i + 2 by omega]
              rw [c1] at hl
              exact Nat.le_trans hl (c2 (by omega))
            · rw [show k = 2 * i + 1 by omega]
              rw [c1] at hl
              exact Nat.le_trans hl (Nat.le_of_lt c3)
        · exact h1 k hk0 hkn hkl e
      · -- `i` and its cheaper child `j` are swapped, `j` is the new exception: in both premises the cases are which of
        -- `k` and its parent are `i`, `j` or the sibling of `j`
        rename_i hl
        simp only [Bool.not_eq_true', Bool.not_eq_false, hLess_iff] at hl
        have hjn : j < n := by omega
        have hpj : (j - 1) / 2 = i := by omega
        have hij : i ≠ j := by omega
        apply ih (hSwap l i j) j n lo (by omega) (by rw [hSwap_length]; exact hn) (by omega)
        · intro k hk0 hkn hkl hkj
          rw [hkey_swap l hi hj ((k - 1) / 2), hkey_swap l hi hj k, if_neg hkj]
          by_cases e1 : k = j
          · -- the swapped edge itself
            rw [e1, hpj, if_pos rfl, if_pos rfl]
            exact Nat.le_of_lt hl
          · by_cases e2 : k = i
            · -- the edge above `i`, which now holds `j`'s old entry
              have hi0 : 0 < i := by omega
              rw [e2, if_neg (by omega), if_neg hij, if_pos rfl]
              exact h2 j (by omega) hjn hpj hi0 (by rw [e2] at hkl; exact hkl)
            · rw [if_neg e1, if_neg e2]
              by_cases e3 : (k - 1) / 2 = i
              · -- the sibling of `j`, now below `j`'s old entry
                rw [if_pos e3]
                rcases hc with ⟨c1, c2⟩ | ⟨c1, -, c3⟩
                · rw [show k = 2 * i + 2 by omega, c1]
                  exact c2 (by omega)
                · rw [show k = 2 * i + 1 by omega, c1]
                  exact Nat.le_of_lt c3
              · rw [if_neg e3]
                exact h1 k hk0 hkn hkl e3
        · intro k hk0 hkn hpar hj0 hlo'
          rw [hpj, hkey_swap l hi hj i, if_neg hij, if_pos rfl, hkey_swap l hi hj k, if_neg (by omega), if_neg (by omega)]
          have := h1 k hk0 hkn (by omega) (by omega)
          rw [hpar] at this
          exact this

theorem hInitLoop_perm : ∀ (k : Nat) (l : List Tx), (hInitLoop k l).Perm l := by
  intro k
  induction k with
  | zero => intro l; exact List.Perm.refl _
  | succ k ih => intro l; unfold hInitLoop; exact (ih _).trans (hDown_perm _ _ _ _ (Nat.le_refl _))

theorem hInitLoop_heap : ∀ (k : Nat) (l : List Tx),
    (∀ m, 0 < m → m < l.length → k ≤ (m - 1) / 2 → hkey l ((m - 1) / 2) ≤ hkey l m) → IsHeap (hInitLoop k l) := by
  intro k
  induction k with
  | zero => intro l h m hm0 hmn; exact h m hm0 hmn (Nat.zero_le _)
  | succ k ih =>
    intro l h
    unfold hInitLoop
    apply ih
    rw [(hDown_perm _ _ _ _ (Nat.le_refl _)).length_eq]
    exact heap_down_preserves (l.length + 1) l k l.length k (by omega) (Nat.le_refl _) (Nat.le_refl _)
      (fun m hm0 hmn hlo hne => h m hm0 hmn (by omega))
      (fun m hm0 hmn hpar hk0 hlo => by omega)

theorem hInit_perm (l : List Tx) : (hInit l).Perm l := hInitLoop_perm _ _

theorem hInit_length (l : List Tx) : (hInit l).length = l.length := (hInit_perm l).length_eq

theorem heap_init_establishes (l : List Tx) : IsHeap (hInit l) :=
  hInitLoop_heap _ _ (fun m hm0 hmn hlo => by omega)

theorem hPush_perm (t : Tx) (l : List Tx) : (hPush t l).Perm (t :: l) :=
  (hUp_perm _ _ _ (by simp)).trans List.perm_append_comm

theorem hPush_heap (t : Tx) (l : List Tx) (h : IsHeap l) : IsHeap (hPush t l) := by
  refine heap_up_preserves _ _ _ (Nat.le_succ _) (by simp) (fun k hk0 hkn hne => ?_) (fun k hk0 hkn hpar => ?_) <;>
    simp only [List.length_append, List.length_cons, List.length_nil] at hkn
  · rw [hkey_append_left l t k (by omega), hkey_append_left l t _ (by omega)]
    exact h k hk0 (by omega)
  · omega

theorem heap_root_min (l : List Tx) (h : IsHeap l) : ∀ k, k < l.length → hkey l 0 ≤ hkey l k := by
  intro k
  induction k using Nat.strongRecOn with
  | _ k ih =>
    intro hk
    by_cases h0 : k = 0
    · rw [h0]; exact Nat.le_refl _
    · exact Nat.le_trans (ih ((k - 1) / 2) (by omega) (by omega)) (h k (by omega) hk)

theorem hPop_none {l : List Tx} (h : hPop l = none) : l = [] := by
  unfold hPop at h
  split at h
  · exact List.isEmpty_iff.mp ‹_›
  · cases h

theorem hPop_nil : hPop [] = none := rfl

theorem heap_pop_spec (l : List Tx) (x : Tx) (rest : List Tx) (h : IsHeap l) (hp : hPop l = some (x, rest)) :
    l.Perm (x :: rest) ∧ (∀ y ∈ l, x.price ≤ y.price) ∧ IsHeap rest := by
  unfold hPop at hp
  split at hp
  · cases hp
  · rename_i hne
    have h0 : 0 < l.length := List.length_pos_iff.mpr (fun e => hne (by rw [e]; rfl))
    have hn : l.length - 1 < l.length := by omega
    simp only [Option.some.injEq, Prod.mk.injEq] at hp
    obtain ⟨hx, hr⟩ := hp
    obtain ⟨hperm, hframe⟩ := hDown_frame (l.length + 1) (hSwap l 0 (l.length - 1)) 0 (l.length - 1) (by rw [hSwap_length]; omega)
    have hpost := heap_down_preserves (l.length + 1) (hSwap l 0 (l.length - 1)) 0 (l.length - 1) 0 (by omega)
      (by rw [hSwap_length]; omega) (Nat.le_refl _)
      (fun k hk0 hkn _ hne => by
        simp only [hkey_swap l h0 hn, if_neg hne, if_neg (show k ≠ 0 by omega), if_neg (show k ≠ l.length - 1 by omega),
          if_neg (show (k - 1) / 2 ≠ l.length - 1 by omega)]
        exact h k hk0 (by omega))
      (fun k _ _ _ hi0 => by omega)
    generalize hDown (l.length + 1) (hSwap l 0 (l.length - 1)) 0 (l.length - 1) = l2 at hx hr hperm hframe hpost
    have hlen2 : l2.length = l.length := by rw [hperm.length_eq, hSwap_length]
    have hxroot : x = l.getD 0 txDefault := by
      rw [← hx, hframe _ (Nat.le_refl _), hSwap_getD l 0 _ _ h0 hn, if_pos rfl]
    have hsplit : l2 = rest ++ [x] := by
      rw [← hr, ← hx, getD_of_lt _ (by omega), List.take_append_getElem (by omega), List.take_of_length_le (by omega)]
    refine ⟨?_, fun y hy => ?_, hr ▸ HeapOn.take (fun k hk0 hkn => hpost k hk0 hkn (Nat.zero_le _))⟩
    · exact ((hsplit ▸ hperm).trans (hSwap_perm l _ _ h0 hn)).symm.trans List.perm_append_comm
    · obtain ⟨k, hk, rfl⟩ := List.getElem_of_mem hy
      have := heap_root_min l h k hk
      rwa [hxroot, ← getD_of_lt txDefault hk]

/-- Push, Pop and Init on a heap; the first three clauses are those of C15 `heap_push_pop_spec`, whose fourth is `isHeap_iff` -/
theorem heap_push_pop_spec :
    (∀ t l, IsHeap l → IsHeap (hPush t l) ∧ (hPush t l).Perm (t :: l)) ∧
    (∀ l x rest, IsHeap l → hPop l = some (x, rest) → l.Perm (x :: rest) ∧ (∀ y ∈ l, x.price ≤ y.price) ∧ IsHeap rest) ∧
    (∀ l, hPop l = none ↔ l = []) ∧
    (∀ l, IsHeap (hInit l) ∧ (hInit l).Perm l) :=
  ⟨fun t l h => ⟨hPush_heap t l h, hPush_perm t l⟩, fun l x rest h hp => heap_pop_spec l x rest h hp,
   fun l => ⟨hPop_none, fun h => by rw [h]; rfl⟩, fun l => ⟨heap_init_establishes l, hInit_perm l⟩⟩

theorem isHeap_iff (l : List Tx) : isHeap l = true ↔ IsHeap l := by
  unfold isHeap IsHeap HeapOn
  simp only [List.all_eq_true, List.mem_range, Bool.or_eq_true, beq_iff_eq, Bool.not_eq_true', hLess_false]
  exact ⟨fun h k hk0 hkn => (h k hkn).resolve_left (by omega), fun h k hkn =>
    (Nat.eq_zero_or_pos k).imp_right fun hk0 => h k hk0 hkn⟩

theorem isHeap_nil : IsHeap [] := fun k _ hk => by simp at hk

end Aqv.TxPool
