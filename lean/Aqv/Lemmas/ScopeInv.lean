/-
  Aqv.Lemmas.ScopeInv — invariants of the SubscriptionScope model (Aqv.Model.Scope), preserved by every step:
  `sc.mu` is held exactly by the running Close; a tracked subscription is either already unsubscribed or still a key of
  `sc.subs`; while Close runs, every key is unsubscribed or still to be visited; once a Close has returned the scope is
  closed, nobody holds `sc.mu` and `sc.subs` is empty; plus the history facts behind the property theorems.
-/
import Aqv.Model.Scope
import Aqv.Lemmas.FeedList
namespace Aqv.Scope
open Aqv.Feed (sub2_snoc mem_snoc)

@[simp, grind =] theorem upd_apply {α : Type} (f : Nat → α) (a : Nat) (v : α) (x : Nat) :
    upd f a v x = if x = a then v else f x := rfl

def CPc.isRunning : CPc → Bool
  | .running _ => true
  | _ => false

structure Inv (s : St) : Prop where
  mu : s.muFree = true ↔ s.closer = none
  run : ∀ k, (s.cpc k).isRunning = true ↔ s.closer = some k
  open_ : s.closed = false → s.closer = none ∧ ∀ k, s.cpc k ≠ .done
  done_ : ∀ k, s.cpc k = .done → s.closed = true ∧ s.closer = none
  keep : ∀ i, s.tracked i = true → s.unsubbed i = true ∨ i ∈ s.subs
  todo : ∀ k td, s.cpc k = .running td → ∀ i ∈ s.subs, s.unsubbed i = true ∨ i ∈ td
  empty : s.closed = true → s.closer = none → s.subs = []
  wrap : ∀ i, (s.wpc i = .wait ∨ s.wpc i = .done) → s.unsubbed i = true
  t_track : ∀ i, Ev.trackOk i ∈ s.tr ↔ s.tracked i = true
  t_unsub : ∀ i, Ev.unsub i ∈ s.tr ↔ s.unsubbed i = true
  t_ret : ∀ k, Ev.closeRet k ∈ s.tr ↔ s.cpc k = .done
  all_before : ∀ i k, Ev.closeRet k ∈ s.tr → Ev.trackOk i ∈ s.tr → Before s.tr (.unsub i) (.closeRet k)
  no_track_after : ∀ i k, ¬ Before s.tr (.closeRet k) (.trackOk i)
  count_zero : ∀ k n, Before s.tr (.closeRet k) (.count n) → n = 0

theorem inv_init : Inv init := by
  constructor <;> simp [init, CPc.isRunning, Before]

macro "sstep_split" hs:ident : tactic =>
  `(tactic| (simp only [step, Bool.false_eq_true, if_false] at $hs:ident; (repeat' split at $hs:ident) <;> (try cases $hs:ident)))

/-- `step false`, the code as written, as a relation with one constructor per branch. -/
inductive Step (s : St) : Act → St → Prop
  | trackClosed {i : Sub} : s.muFree = true → s.offered i = false → s.closed = true →
      Step s (.track i) { s with offered := upd s.offered i true, tr := s.tr ++ [.trackNil i] }
  | track {i : Sub} : s.muFree = true → s.offered i = false → s.closed = false →
      Step s (.track i) { s with offered := upd s.offered i true, tracked := upd s.tracked i true,
                                 subs := s.subs ++ [i], tr := s.tr ++ [.trackOk i] }
  | closeCall {k : Cid} : s.cpc k = .idle →
      Step s (.closeCall k) { s with cpc := upd s.cpc k .called, tr := s.tr ++ [.closeCall k] }
  | closeEnterClosed {k : Cid} : s.cpc k = .called → s.muFree = true → s.closed = true →
      Step s (.closeEnter k) { s with cpc := upd s.cpc k .done, tr := s.tr ++ [.closeRet k] }
  | closeEnter {k : Cid} : s.cpc k = .called → s.muFree = true → s.closed = false →
      Step s (.closeEnter k) { s with muFree := false, closed := true, closer := some k,
                                      cpc := upd s.cpc k (.running s.subs) }
  | closeStep {k : Cid} {i : Sub} {todo : List Sub} : s.cpc k = .running todo → i ∈ todo →
      Step s (.closeStep k i) { s with cpc := upd s.cpc k (.running (todo.erase i)),
                                       unsubbed := upd s.unsubbed i true, tr := s.tr ++ [.unsub i] }
  | closeExit {k : Cid} : s.cpc k = .running [] →
      Step s (.closeExit k) { s with subs := [], muFree := true, closer := none, cpc := upd s.cpc k .done,
                                     tr := s.tr ++ [.closeRet k] }
  | wrapCall {i : Sub} : s.tracked i = true → s.wpc i = .idle →
      Step s (.wrapCall i) { s with wpc := upd s.wpc i .inner, tr := s.tr ++ [.wrapCall i] }
  | wrapInner {i : Sub} : s.wpc i = .inner →
      Step s (.wrapInner i) { s with wpc := upd s.wpc i .wait, unsubbed := upd s.unsubbed i true,
                                     tr := s.tr ++ [.unsub i] }
  | wrapDelete {i : Sub} : s.wpc i = .wait → s.muFree = true →
      Step s (.wrapDelete i) { s with subs := s.subs.erase i, wpc := upd s.wpc i .done, tr := s.tr ++ [.wrapRet i] }
  | count : s.muFree = true → Step s .count { s with tr := s.tr ++ [.count s.subs.length] }

theorem Step.of_step {s s' : St} {a : Act} (hs : step false s a = some s') : Step s a s' := by
  cases a <;> sstep_split hs
  next h h' => exact .trackClosed h.1 h.2 h'
  next h h' => exact .track h.1 h.2 (Bool.not_eq_true _ ▸ h')
  next h => exact .closeCall h
  next h h' => exact .closeEnterClosed h.1 h.2 h'
  next h h' => exact .closeEnter h.1 h.2 (Bool.not_eq_true _ ▸ h')
  next h h' => exact .closeStep h h'
  next h h' => exact .closeExit (h' ▸ h)
  next h => exact .wrapCall h.1 h.2
  next h => exact .wrapInner h
  next h => exact .wrapDelete h.1 h.2
  next h => exact .count h

@[grind =] theorem before_snoc {tr : List Ev} {a b e : Ev} : Before (tr ++ [e]) a b ↔ Before tr a b ∨ a ∈ tr ∧ b = e :=
  sub2_snoc tr a b e

theorem inv_step (s s' : St) (a : Act) (h : Inv s) (hs : step false s a = some s') : Inv s' := by
  have hmu := h.mu
  have hrun := h.run
  have hopen := h.open_
  have st := Step.of_step hs
  constructor
  case mu =>
    cases st with
    | closeEnter | closeExit => simp
    | _ => exact hmu
  case run =>
    cases st with
    | @closeCall k | @closeEnterClosed k | @closeStep k =>
      -- the pc of `k` moves between two places that are both running or both not, and the closer stays
      intro k'
      have := hrun k
      have := hrun k'
      grind [CPc.isRunning]
    | @closeEnter k | @closeExit k =>
      -- `k` starts (stops) running and becomes (ceases to be) the closer; with `sc.mu` free nobody else was running
      intro k'
      have := hrun k
      have := hrun k'
      grind [CPc.isRunning]
    | _ => exact hrun
  case open_ =>
    cases st with
    | @closeCall k | @closeEnterClosed k | @closeEnter k | @closeStep k | @closeExit k =>
      -- a Close returns (`done`) only on a closed scope, and `closeEnter` closes it
      have := hrun k
      grind [CPc.isRunning]
    | _ => exact hopen
  case done_ =>
    cases st with
    | @closeCall k | @closeEnterClosed k | @closeEnter k | @closeStep k | @closeExit k =>
      -- the two steps into `done` find the scope closed with no closer, or are the closer's own exit; the closer
      -- itself is running, not `done`
      intro k' _
      have := hrun k
      have := h.done_ k'
      grind [CPc.isRunning]
    | _ => exact h.done_
  case keep =>
    cases st with
    | track | closeStep | wrapInner =>
      -- a key is added with its `tracked` flag, or an `unsubbed` flag is set
      intro j _
      have := h.keep j
      grind
    | @closeExit k hk =>
      -- every key has been visited
      intro j hj
      have := h.keep j hj
      have := h.todo k [] hk j
      grind
    | @wrapDelete i hi =>
      -- the key that goes is unsubscribed: its wrapper is past the inner Unsubscribe
      intro j hj
      have := h.keep j hj
      have := h.wrap i (.inl hi)
      have := @List.mem_erase_of_ne _ _ _ j i s.subs
      grind
    | _ => exact h.keep
  case todo =>
    cases st with
    | track | closeEnterClosed | closeEnter =>
      -- the step needs `sc.mu` free: then no Close is running (`closeEnter` starts the only one, with all keys to visit)
      intro k td hk j hj
      have := hrun k
      have := h.todo k td
      grind [CPc.isRunning]
    | closeCall | closeExit | wrapInner =>
      -- the Close that moves is not running afterwards (`closeExit` also empties `sc.subs`); `wrapInner` only sets a flag
      intro k td hk j hj
      have := hrun k
      have := h.todo k td
      grind [CPc.isRunning]
    | @closeStep k i t0 =>
      -- the visited key is unsubscribed now, the other keys stay in the rest of the list
      intro k' td hk j hj
      have := h.todo k' td
      have := h.todo k t0
      have := @List.mem_erase_of_ne _ _ _ j i t0
      grind
    | wrapDelete => exact fun k td hk j hj => h.todo k td hk j (List.mem_of_mem_erase hj)
    | _ => exact h.todo
  case empty =>
    cases st with
    | track | closeEnter | closeExit => simp_all
    | wrapDelete =>
      intro hc hn
      simp [h.empty hc hn]
    | _ => exact h.empty
  case wrap =>
    cases st with
    | @closeStep _ i | @wrapCall i | @wrapInner i | @wrapDelete i =>
      -- `unsubbed` is only ever set, and the wrapper's way to `wait` is through the step that sets it
      intro j _
      have := h.wrap j
      have := h.wrap i
      grind
    | _ => exact h.wrap
  -- an event is recorded by the step that sets its flag; every other step appends another kind of event or none
  case t_track =>
    cases st with
    | track =>
      intro j
      have := h.t_track j
      grind
    | closeEnter => exact h.t_track
    | _ => simpa only [mem_snoc, reduceCtorEq, or_false] using h.t_track
  case t_unsub =>
    cases st with
    | closeStep | wrapInner =>
      intro j
      have := h.t_unsub j
      grind
    | closeEnter => exact h.t_unsub
    | _ => simpa only [mem_snoc, reduceCtorEq, or_false] using h.t_unsub
  case t_ret =>
    cases st with
    | closeCall | closeEnterClosed | closeEnter | closeStep | closeExit =>
      intro j
      have := h.t_ret j
      grind
    | _ => simpa only [mem_snoc, reduceCtorEq, or_false] using h.t_ret
  case all_before =>
    cases st with
    | closeEnter => exact h.all_before
    | track _ _ hc =>
      -- the scope is open, so no Close has returned
      intro j k hr ht
      have := (hopen hc).2 k
      have := h.t_ret k
      grind
    | closeEnterClosed _ hf hc =>
      -- the scope is closed and `sc.mu` is free: `sc.subs` is empty, so every tracked subscription is unsubscribed
      intro j k hr ht
      have := h.empty hc (hmu.mp hf)
      have := h.keep j
      have := h.t_track j
      have := h.t_unsub j
      have := h.all_before j k
      grind
    | @closeExit k0 hk =>
      -- nothing is left to visit, so every key, hence every tracked subscription, is unsubscribed
      intro j k hr ht
      have := h.todo k0 [] hk j
      have := h.keep j
      have := h.t_track j
      have := h.t_unsub j
      have := h.all_before j k
      grind
    | _ =>
      -- neither a `closeRet` nor a `trackOk` is appended, and what was before stays before
      intro j k hr ht
      have := h.all_before j k
      grind
  case no_track_after =>
    cases st with
    | closeEnter => exact h.no_track_after
    | track _ _ hc =>
      intro j k
      have := h.no_track_after j k
      have := (hopen hc).2 k
      have := h.t_ret k
      grind
    | _ =>
      intro j k hb
      exact h.no_track_after j k ((before_snoc.mp hb).resolve_right (fun h => by cases h.2))
  case count_zero =>
    cases st with
    | closeEnter => exact h.count_zero
    | count =>
      -- after a Close has returned the scope is closed with no closer, hence empty
      intro k n hb
      have := h.count_zero k n
      have := h.done_ k
      have := h.t_ret k
      have := h.empty
      grind
    | _ =>
      intro k n hb
      exact h.count_zero k n ((before_snoc.mp hb).resolve_right (fun h => by cases h.2))

theorem inv_reach {s : St} (h : Reach s) : Inv s := by
  induction h with
  | init => exact inv_init
  | step a _ hs ih => exact inv_step _ _ a ih hs

end Aqv.Scope
