/-
  Aqv.Lemmas.TxPoolOps — what every operation does to an invariant kept by the primitive moves (`Closed`, `AddClosed`):
  evictions and promoteExecutables, add / addTx / addTxs, the nonce update and reset; the instances for the three tiers.
  All of it for every resolution of the eviction oracle.
-/
import Aqv.Lemmas.TxPoolAcct
namespace Aqv.TxPool

structure Closed (I : Pool → Prop) : Prop where
  rem  : ∀ s t, I s → I (s.removeTx t)
  cap  : ∀ s a, I s → I (s.capOne a)
  acct : ∀ s a, I s → I (s.promoteAcct a)

theorem closed_weak : Closed WeakAll := ⟨fun _ t h => removeTx_weak t h, fun _ a h => capOne_weak a h, fun _ a h => promoteAcct_weak a h⟩

theorem closed_nonew (s0 : Pool) : Closed (fun s => WeakAll s ∧ NoNew s0 s) :=
  { rem := fun _ t h => ⟨removeTx_weak t h.1, fun u hu => h.2 u (removeTx_nonew t h.1 u hu)⟩
    cap := fun s a h => ⟨capOne_weak a h.1, fun u hu => h.2 u (capOne_nonew s a u hu)⟩
    acct := fun _ a h => ⟨promoteAcct_weak a h.1, fun u hu => h.2 u (promoteAcct_nonew a h.1 u hu)⟩ }

theorem closed_phase : Closed Phase :=
  ⟨fun _ t h => ⟨removeTx_weak t h.1, removeTx_lite t h.1 h.2⟩,
   fun _ a h => ⟨capOne_weak a h.1, capOne_lite a h.2⟩,
   fun _ a h => ⟨promoteAcct_weak a h.1, promoteAcct_lite a h.1 h.2⟩⟩

theorem closed_good : Closed Good := ⟨fun _ t h => removeTx_good t h, fun _ a h => capOne_good a h, fun _ a h => promoteAcct_good a h⟩

variable {I : Pool → Prop}

/-- what the evictions and promoteExecutables need of an invariant: they hit only the last pending transaction of an
    offender and the queued transactions of accounts that were not local when the queue limit was applied.  In `rem`,
    `s0` is the state in which the limit found `a` not local, `s1` the later state from whose queue the victims are read,
    `s` the state a victim is removed from. -/
structure EvClosed (I : Pool → Prop) : Prop where
  acct : ∀ s a, I s → I (s.promoteAcct a)
  cap  : ∀ s a, I s → s.offender a = true → I (s.capOne a)
  rem  : ∀ s0 a, I s0 → s0.isLocal a = false → ∀ s1 t, I s1 → t ∈ (s1.queue a).items → ∀ s, I s → I (s.removeTx t)

theorem Closed.ev (hc : Closed I) : EvClosed I :=
  ⟨hc.acct, fun s a h _ => hc.cap s a h, fun _ _ _ _ _ t _ _ s h => hc.rem s t h⟩

theorem slotFinish_succ (n : Nat) (s : Pool) :
    (Pool.slotFinish (n + 1) s = s ∧
      (s.pendingCount ≤ s.cfg.globalSlots ∨ ∀ a ∈ s.accts, s.offender a = false)) ∨
    ∃ a ∈ s.accts, s.offender a = true ∧ ¬ s.pendingCount ≤ s.cfg.globalSlots ∧
      Pool.slotFinish (n + 1) s = Pool.slotFinish n (s.capOne a) := by
  have e : Pool.slotFinish (n + 1) s = if s.pendingCount ≤ s.cfg.globalSlots then s else
      match s.accts.find? (fun a => s.offender a) with
      | none => s
      | some a => Pool.slotFinish n (s.capOne a) := rfl
  rw [e]
  by_cases hle : s.pendingCount ≤ s.cfg.globalSlots
  · rw [if_pos hle]; exact Or.inl ⟨rfl, Or.inl hle⟩
  · rw [if_neg hle]
    cases hfind : s.accts.find? (fun a => s.offender a) with
    | none => exact Or.inl ⟨rfl, Or.inr fun a ha => by simpa using List.find?_eq_none.mp hfind a ha⟩
    | some a => exact Or.inr ⟨a, List.mem_of_find?_eq_some hfind, List.find?_some hfind, hle, rfl⟩

theorem slotFinish_pres (hc : EvClosed I) : ∀ (fuel : Nat) (s : Pool), I s → I (Pool.slotFinish fuel s)
  | 0, _, h => h
  | n + 1, s, h => by
    rcases slotFinish_succ n s with ⟨e, _⟩ | ⟨a, _, ho, _, e⟩ <;> rw [e]
    · exact h
    · exact slotFinish_pres hc n _ (hc.cap _ a h ho)

theorem slotEvict_id {m : Pool} (sched : List Addr) (h : m.pendingCount ≤ m.cfg.globalSlots) : m.slotEvict sched = m :=
  if_pos h

theorem slotEvict_over {m : Pool} (sched : List Addr) (h : ¬ m.pendingCount ≤ m.cfg.globalSlots) :
    m.slotEvict sched =
      Pool.slotFinish (sched.foldl (fun s a => if s.offender a then s.capOne a else s) m).pendingCount
        (sched.foldl (fun s a => if s.offender a then s.capOne a else s) m) :=
  if_neg h

theorem slotEvict_pres (hc : EvClosed I) (s : Pool) (sched : List Addr) (h : I s) : I (s.slotEvict sched) := by
  by_cases hle : s.pendingCount ≤ s.cfg.globalSlots
  · rw [slotEvict_id sched hle]; exact h
  · rw [slotEvict_over sched hle]
    apply slotFinish_pres hc
    apply foldl_pres I _ _ sched s h
    intro s a hs
    split
    · rename_i ho; exact hc.cap _ _ hs ho
    · exact hs

theorem dropQueued_pres {ts : List Tx} (hrem : ∀ s t, t ∈ ts → I s → I (s.removeTx t)) (s : Pool) (a : Addr) (h : I s) :
    I (s.dropQueued a ts) :=
  foldl_pres_mem I _ ts s hrem h

theorem queueDrop_nil (d : Nat) (s : Pool) : Pool.queueDrop d [] s = s := by unfold Pool.queueDrop; rfl

theorem queueDrop_zero (as : List Addr) (s : Pool) : Pool.queueDrop 0 as s = s := by
  cases as <;> unfold Pool.queueDrop <;> rfl

theorem queueDrop_all {d : Nat} {a : Addr} (rest : List Addr) {s : Pool} (h : (s.queue a).items.length ≤ d + 1) :
    Pool.queueDrop (d + 1) (a :: rest) s =
      Pool.queueDrop (d + 1 - (s.queue a).items.length) rest (s.dropQueued a (s.queue a).items) := by
  exact (if_pos h : (if (s.queue a).items.length ≤ d + 1 then _ else _) = _)

theorem queueDrop_part {d : Nat} {a : Addr} (rest : List Addr) {s : Pool} (h : ¬ (s.queue a).items.length ≤ d + 1) :
    Pool.queueDrop (d + 1) (a :: rest) s =
      s.dropQueued a ((s.queue a).items.drop ((s.queue a).items.length - (d + 1))).reverse := by
  exact (if_neg h : (if (s.queue a).items.length ≤ d + 1 then _ else _) = _)

theorem queueDrop_pres : ∀ (as : List Addr),
    (∀ a ∈ as, ∀ s1 t, I s1 → t ∈ (s1.queue a).items → ∀ s, I s → I (s.removeTx t)) →
    ∀ (drop : Nat) (s : Pool), I s → I (Pool.queueDrop drop as s) := by
  intro as
  induction as with
  | nil => intro _ drop s h; rw [queueDrop_nil]; exact h
  | cons a rest ih =>
    intro hq drop s h
    cases drop with
    | zero => rw [queueDrop_zero]; exact h
    | succ d =>
      have ha := hq a List.mem_cons_self s
      by_cases hfull : (s.queue a).items.length ≤ d + 1
      · rw [queueDrop_all rest hfull]
        exact ih (fun b hb => hq b (List.mem_cons_of_mem _ hb)) _ _ (dropQueued_pres (fun m t ht => ha t h ht m) _ _ h)
      · rw [queueDrop_part rest hfull]
        exact dropQueued_pres (fun m t ht => ha t h (List.mem_of_mem_drop (List.mem_reverse.mp ht)) m) _ _ h

theorem queueEvict_id {m : Pool} (order : List Addr) (h : m.queuedCount ≤ m.cfg.globalQueue) : m.queueEvict order = m :=
  if_pos h

theorem queueEvict_over {m : Pool} (order : List Addr) (h : ¬ m.queuedCount ≤ m.cfg.globalQueue) :
    m.queueEvict order = Pool.queueDrop (m.queuedCount - m.cfg.globalQueue)
      (order.filter (fun a => !m.isLocal a) ++ m.accts.filter (fun a => !m.isLocal a)) m :=
  if_neg h

theorem queueEvict_pres (hc : EvClosed I) (s : Pool) (order : List Addr) (h : I s) : I (s.queueEvict order) := by
  by_cases hle : s.queuedCount ≤ s.cfg.globalQueue
  · rw [queueEvict_id order hle]; exact h
  · rw [queueEvict_over order hle]
    refine queueDrop_pres _ (fun a ha => hc.rem s a h ?_) _ _ h
    rcases List.mem_append.mp ha with h1 | h1 <;> simpa using (List.mem_filter.mp h1).2

theorem promoteExecutables_eq (s : Pool) (accounts : Option (List Addr)) (slots qorder : List Addr) :
    s.promoteExecutables accounts slots qorder =
      (((accounts.getD s.accts).foldl (fun s a => s.promoteAcct a) s).slotEvict slots).queueEvict qorder := by
  cases accounts <;> rfl

theorem promoteExecutables_ev (hc : EvClosed I) (s : Pool) (accounts : Option (List Addr)) (slots qorder : List Addr)
    (h : I s) : I (s.promoteExecutables accounts slots qorder) := by
  rw [promoteExecutables_eq]
  exact queueEvict_pres hc _ _ (slotEvict_pres hc _ _ (foldl_pres I _ hc.acct _ s h))

theorem promoteExecutables_pres (hc : Closed I) (s : Pool) (accounts : Option (List Addr)) (slots qorder : List Addr)
    (h : I s) : I (s.promoteExecutables accounts slots qorder) := promoteExecutables_ev hc.ev s accounts slots qorder h

theorem ite_eq_elim {α : Type} {c : Prop} [Decidable c] {a b x : α} (h : (if c then a else b) = x) (ha : a ≠ x) :
    ¬c ∧ b = x := by
  split at h
  · exact absurd h ha
  · exact ⟨‹_›, h⟩

theorem validate_ok {s : Pool} {t : Tx} {loc : Bool} {sh : Shape} (h : s.validateTx t loc sh = .ok) :
    s.cnonce t.sender ≤ t.nonce ∧ t.cost ≤ s.balance t.sender ∧ t.gas ≤ s.maxGas := by
  unfold Pool.validateTx at h
  obtain ⟨_, h⟩ := ite_eq_elim h nofun
  obtain ⟨_, h⟩ := ite_eq_elim h nofun
  obtain ⟨hgas, h⟩ := ite_eq_elim h nofun
  obtain ⟨_, h⟩ := ite_eq_elim h nofun
  obtain ⟨_, h⟩ := ite_eq_elim h nofun
  obtain ⟨hnonce, h⟩ := ite_eq_elim h nofun
  obtain ⟨hfunds, _⟩ := ite_eq_elim h nofun
  omega

theorem enqueueAll_env (s : Pool) (us : List Tx) : SameEnv s (enqueueAll s us) :=
  foldl_pres (SameEnv s) _ (fun m x h => h.trans (enqueueTx_facts m x).env) us s (SameEnv.refl s)

theorem removeTx_env (s : Pool) (t : Tx) : SameEnv s (s.removeTx t) := by
  rw [removeTx_eq]
  split
  · exact SameEnv.refl s
  · split
    · rw [lowerN_eq]
      refine SameEnv.trans (SameEnv.trans ?_ (enqueueAll_env _ _)) (Touch.setN _ _ _).env
      exact ⟨rfl, rfl, rfl, rfl⟩
    · exact ⟨rfl, rfl, rfl, rfl⟩

/-- the state `add` hands to its insertion core: a full pool first drops the victims -/
def Pool.afterDiscard (s : Pool) (victims : List Tx) : Pool :=
  let cap := s.cfg.globalSlots + s.cfg.globalQueue
  if decide (cap ≤ s.all.length) then (s.sanitizeVictims (s.all.length + 1 - cap) victims).foldl (fun s v => s.removeTx v) s else s

theorem sanitize_nonlocal {s : Pool} {n : Nat} {vs : List Tx} : ∀ v ∈ s.sanitizeVictims n vs, v.sender ∉ s.locals := by
  intro v hv
  unfold Pool.sanitizeVictims at hv
  have h2 := (List.mem_filter.mp (List.mem_of_mem_take hv)).2
  rw [Bool.and_eq_true, Bool.not_eq_true', isLocal_false] at h2
  exact h2.2

theorem afterDiscard_pres {s : Pool} (hrem : ∀ m t, t.sender ∉ s.locals → I m → I (m.removeTx t)) (vs : List Tx) (h : I s) :
    I (s.afterDiscard vs) := by
  unfold Pool.afterDiscard
  simp only
  split
  · exact foldl_pres_mem I _ _ s (fun m t ht => hrem m t (sanitize_nonlocal t ht)) h
  · exact h

theorem Closed.afterDiscard (hc : Closed I) {s : Pool} (vs : List Tx) (h : I s) : I (s.afterDiscard vs) :=
  afterDiscard_pres (fun m v _ => hc.rem m v) vs h

theorem afterDiscard_id {m : Pool} (vs : List Tx) (h : m.all.length < m.cfg.globalSlots + m.cfg.globalQueue) :
    m.afterDiscard vs = m := by
  unfold Pool.afterDiscard
  simp only
  rw [if_neg]
  simp only [decide_eq_true_eq, Nat.not_le]; exact h

structure AddClosed (I : Pool → Prop) : Prop extends Closed I where
  replace : ∀ (s : Pool) (t : Tx), I s →
    s.cnonce t.sender ≤ t.nonce → Payable (s.balance t.sender) s.maxGas t →
    (s.pending t.sender).overlaps t = true → ((s.pending t.sender).add t s.cfg.priceBump).1 = true →
    I { s with pending := upd s.pending t.sender ((s.pending t.sender).add t s.cfg.priceBump).2.2,
               all := insertAll t (match ((s.pending t.sender).add t s.cfg.priceBump).2.1 with
                 | some o => delAll o s.all
                 | none => s.all) }
  enqueue : ∀ (s : Pool) (t : Tx), I s → s.cnonce t.sender ≤ t.nonce → (s.pending t.sender).overlaps t = false →
    I (s.enqueueTx t).2.2
  locals : ∀ (s : Pool) (L : List Addr), I s → I { s with locals := L }

theorem AddClosed.and_of_imp {I W J : Pool → Prop} (hI : AddClosed I) (hJ : AddClosed fun s => W s ∧ J s)
    (hw : ∀ s, I s → W s) : AddClosed fun s => I s ∧ J s :=
  { rem := fun s t h => ⟨hI.rem s t h.1, (hJ.rem s t ⟨hw s h.1, h.2⟩).2⟩
    cap := fun s a h => ⟨hI.cap s a h.1, (hJ.cap s a ⟨hw s h.1, h.2⟩).2⟩
    acct := fun s a h => ⟨hI.acct s a h.1, (hJ.acct s a ⟨hw s h.1, h.2⟩).2⟩
    replace := fun s t h h1 h2 h3 h4 => ⟨hI.replace s t h.1 h1 h2 h3 h4, (hJ.replace s t ⟨hw s h.1, h.2⟩ h1 h2 h3 h4).2⟩
    enqueue := fun s t h h1 h2 => ⟨hI.enqueue s t h.1 h1 h2, (hJ.enqueue s t ⟨hw s h.1, h.2⟩ h1 h2).2⟩
    locals := fun s L h => ⟨hI.locals s L h.1, (hJ.locals s L ⟨hw s h.1, h.2⟩).2⟩ }

theorem add_eq_addCore (s : Pool) (t : Tx) (loc : Bool) (sh : Shape) (vs : List Tx) :
    s.add t loc sh vs =
      if sh = .wellformed ∧ t ∈ s.all then (.known, false, s)
      else if s.validateTx t loc sh ≠ .ok then (s.validateTx t loc sh, false, s)
      else if (decide (s.cfg.globalSlots + s.cfg.globalQueue ≤ s.all.length) && s.underpriced t) = true then
        (.underpriced, false, s)
      else (s.afterDiscard vs).addCore t loc := rfl

theorem add_cases (s : Pool) (t : Tx) (loc : Bool) (sh : Shape) (victims : List Tx) :
    (s.add t loc sh victims).2.2 = s ∨
    (s.add t loc sh victims = (s.afterDiscard victims).addCore t loc ∧ s.validateTx t loc sh = .ok) := by
  rw [add_eq_addCore]
  split
  · exact Or.inl rfl
  · split
    · exact Or.inl rfl
    · rename_i he
      split
      · exact Or.inl rfl
      · exact Or.inr ⟨rfl, Decidable.not_not.mp he⟩

theorem addCore_cases (s : Pool) (t : Tx) (loc : Bool) :
    ((s.addCore t loc).1 = .replace ∧ (s.addCore t loc).2.2 = s ∧
      (if (s.pending t.sender).overlaps t = true then ((s.pending t.sender).add t s.cfg.priceBump).1 = false
       else ((s.queue t.sender).add t s.cfg.priceBump).1 = false)) ∨
    ((s.pending t.sender).overlaps t = true ∧ ((s.pending t.sender).add t s.cfg.priceBump).1 = true ∧
      (s.addCore t loc).1 = .ok ∧
      (s.addCore t loc).2.2 =
        { s with pending := upd s.pending t.sender ((s.pending t.sender).add t s.cfg.priceBump).2.2,
                 all := allPut t ((s.pending t.sender).add t s.cfg.priceBump).2.1 s.all }) ∨
    ((s.pending t.sender).overlaps t = false ∧ ((s.queue t.sender).add t s.cfg.priceBump).1 = true ∧
      (s.addCore t loc).1 = .ok ∧
      (s.addCore t loc).2.2 = { (s.enqueueTx t).2.2 with locals :=
        if (loc && !(s.enqueueTx t).2.2.isLocal t.sender) = true then t.sender :: (s.enqueueTx t).2.2.locals
        else (s.enqueueTx t).2.2.locals }) := by
  unfold Pool.addCore
  cases hov : (s.pending t.sender).overlaps t with
  | true =>
    cases hins : ((s.pending t.sender).add t s.cfg.priceBump).1 with
    | false => simp [hins]
    | true => simp [hins]; rfl
  | false =>
    cases hins : ((s.queue t.sender).add t s.cfg.priceBump).1 with
    | false => simp [enqueueTx_refused hins]
    | true =>
      simp only [enqueueTx_flag, hins, Bool.false_eq_true, if_false, Bool.not_true, true_and, reduceCtorEq, false_and, false_or]
      split <;> rfl

theorem addCore_pres (hc : AddClosed I) (s : Pool) (t : Tx) (loc : Bool) (h : I s)
    (hcn : s.cnonce t.sender ≤ t.nonce) (hpay : Payable (s.balance t.sender) s.maxGas t) : I (s.addCore t loc).2.2 := by
  rcases addCore_cases s t loc with ⟨_, e, _⟩ | ⟨hov, hins, _, e⟩ | ⟨hov, _, _, e⟩ <;> rw [e]
  · exact h
  · exact hc.replace s t h hcn hpay hov hins
  · exact hc.locals _ _ (hc.enqueue s t h hcn hov)

theorem add_pres (hc : AddClosed I) (s : Pool) (t : Tx) (loc : Bool) (sh : Shape) (victims : List Tx) (h : I s) :
    I (s.add t loc sh victims).2.2 := by
  rcases add_cases s t loc sh victims with e | ⟨e, hval⟩ <;> rw [e]
  · exact h
  · -- the victims are removed first; that keeps `I` and the chain view the transaction was validated against
    have hv := validate_ok hval
    have henv : SameEnv s (s.afterDiscard victims) :=
      afterDiscard_pres (I := SameEnv s) (fun m v _ hm => hm.trans (removeTx_env m v)) victims (SameEnv.refl s)
    exact addCore_pres hc _ t loc (hc.toClosed.afterDiscard victims h) (by rw [henv.cnonce]; exact hv.1)
      (by rw [henv.balance, henv.maxGas]; exact hv.2)

theorem overlaps_false {l : TxL} {t : Tx} (h : l.overlaps t = false) : ∀ p ∈ l.items, p.nonce ≠ t.nonce := by
  unfold TxL.overlaps at h
  cases hg : getN l.items t.nonce with
  | none => exact getN_none.mp hg
  | some o => rw [hg] at h; cases h

theorem overlaps_true {l : TxL} {t : Tx} (h : l.overlaps t = true) : (getN l.items t.nonce).isSome := h

theorem replace_weak {s : Pool} {t : Tx} (all' : List Tx) (h : WeakAll s)
    (hov : (s.pending t.sender).overlaps t = true) (hins : ((s.pending t.sender).add t s.cfg.priceBump).1 = true) :
    WeakAll { s with pending := upd s.pending t.sender ((s.pending t.sender).add t s.cfg.priceBump).2.2, all := all' } ∧
    Touch s t.sender { s with pending := upd s.pending t.sender ((s.pending t.sender).add t s.cfg.priceBump).2.2, all := all' } := by
  have hw := h.weak t.sender
  have ht := Touch.setP s t.sender ((s.pending t.sender).add t s.cfg.priceBump).2.2 all'
  -- the nonce is occupied in the pending list, hence free in the queue
  obtain ⟨o, ho⟩ := Option.isSome_iff_exists.mp (overlaps_true hov)
  have hop := getN_some ho
  refine ⟨h.touch ht ?_ (fun hna => ?_), ht⟩
  · show Weak (upd s.pending t.sender _ t.sender) (s.queue t.sender) t.sender
    rw [upd_same]
    exact hw.addP rfl hins (fun q hq => by rw [← hop.2]; exact (hw.disj o hop.1 q hq).symm)
  · rw [h.noPending hna] at hop; cases hop.1

theorem addClosed_weak : AddClosed WeakAll :=
  { closed_weak with
    replace := fun _ _ h _ _ hov hins => (replace_weak _ h hov hins).1
    enqueue := fun _ _ h _ hov => enqueueTx_weak h (overlaps_false hov)
    locals := fun _ _ h => h }

theorem addClosed_phase : AddClosed Phase :=
  { closed_phase with
    replace := fun s t h hcn hpay hov hins => by
      have hr := replace_weak (allPut t ((s.pending t.sender).add t s.cfg.priceBump).2.1 s.all) h.1 hov hins
      refine ⟨hr.1, h.2.touch hr.2 ?_⟩
      have hw := h.1.weak t.sender
      have hmem := TxL.mem_add hw.psorted hins
      show Lite _ _ _ (upd s.pending t.sender _ t.sender) (s.pnonce t.sender)
      rw [upd_same]
      rcases h.2 t.sender with hl | ⟨e, he, hen, hep⟩
      · exact Or.inl hl
      · right
        by_cases hc : e.nonce = t.nonce
        · exact ⟨t, (hmem t).mpr (Or.inl rfl), by omega, hpay⟩
        · exact ⟨e, (hmem e).mpr (Or.inr ⟨he, hc⟩), hen, hep⟩
    enqueue := fun s t h _ hov => by
      have hf := enqueueTx_facts s t
      refine ⟨enqueueTx_weak h.1 (overlaps_false hov), ?_⟩
      intro b
      rw [hf.env.cnonce, hf.env.balance, hf.env.maxGas, hf.pending, hf.pnonce]
      exact h.2 b
    locals := fun s L h => h }

theorem addClosed_good : AddClosed Good :=
  { closed_good with
    replace := fun s t h hcn hpay hov hins => by
      have hr := replace_weak (allPut t ((s.pending t.sender).add t s.cfg.priceBump).2.1 s.all) h.weakAll hov hins
      have hs := h.strong t.sender
      apply h.touch hr.2 _ (hr.1.2 t.sender)
      have hitems : (upd s.pending t.sender ((s.pending t.sender).add t s.cfg.priceBump).2.2 t.sender).items
          = put t (s.pending t.sender).items := by
        rw [upd_same, TxL.add_inserted hins]; rfl
      have hpr := hs.run.put_replace (t := t) (overlaps_true hov)
      have hw' := hr.1.weak t.sender
      have hmem := TxL.mem_add hs.psorted hins
      exact { hw' with
        run := by show IsRun _ (upd s.pending t.sender _ t.sender).items; rw [hitems]; exact hpr.1
        pn_le := by
          show s.pnonce t.sender ≤ _ + (upd s.pending t.sender _ t.sender).items.length
          rw [hitems, hpr.2]; exact hs.pn_le
        afford := fun u hu => by
          have hu' : u ∈ ((s.pending t.sender).add t s.cfg.priceBump).2.2.items := by
            have : u ∈ (upd s.pending t.sender ((s.pending t.sender).add t s.cfg.priceBump).2.2 t.sender).items := hu
            rwa [upd_same] at this
          rcases (hmem u).mp hu' with rfl | ⟨h1, _⟩
          · exact hpay
          · exact hs.afford u h1 }
    enqueue := fun s t h _ hov => by
      have hf := enqueueTx_facts s t
      have hw' := enqueueTx_weak h.weakAll (overlaps_false hov)
      refine ⟨fun b => ?_, hw'.2⟩
      have hsb := h.strong b
      rw [hf.env.cnonce, hf.env.balance, hf.env.maxGas, hf.pnonce]
      exact { hw'.weak b with
        run := by rw [hf.pending]; exact hsb.run
        pn_le := by rw [hf.pending]; exact hsb.pn_le
        afford := by rw [hf.pending]; exact hsb.afford }
    locals := fun s L h => h }

theorem addTx_snd (s : Pool) (t : Tx) (loc : Bool) (sh : Shape) (vs : List Tx) (sl qo : List Addr) :
    (s.addTx t loc sh vs sl qo).2 =
      if (s.add t (loc && !s.cfg.noLocals) sh vs).1 = .ok ∧ (s.add t (loc && !s.cfg.noLocals) sh vs).2.1 = false then
        (s.add t (loc && !s.cfg.noLocals) sh vs).2.2.promoteExecutables (some [t.sender]) sl qo
      else (s.add t (loc && !s.cfg.noLocals) sh vs).2.2 := by
  unfold Pool.addTx
  simp only
  generalize s.add t (loc && !s.cfg.noLocals) sh vs = r
  generalize r.2.2.promoteExecutables (some [t.sender]) sl qo = p
  split
  · rename_i h; rw [if_neg (fun hh => h hh.1)]
  · rename_i h
    split
    · rename_i h'; rw [if_pos ⟨Decidable.not_not.mp h, by simpa using h'⟩]
    · rename_i h'; rw [if_neg (fun hh => h' (by rw [hh.2]; rfl))]

theorem addTx_pres (hc : AddClosed I) (s : Pool) (t : Tx) (loc : Bool) (sh : Shape) (vs : List Tx) (sl qo : List Addr)
    (h : I s) : I (s.addTx t loc sh vs sl qo).2 := by
  have ha := add_pres hc s t (loc && !s.cfg.noLocals) sh vs h
  rw [addTx_snd]
  split
  · exact promoteExecutables_pres hc.toClosed _ _ sl qo ha
  · exact ha

theorem addMany_pres (hc : AddClosed I) (loc : Bool) : ∀ (ts : List Tx) (vs : List (List Tx)) (s : Pool), I s →
    I (s.addMany loc ts vs).2.2 := by
  intro ts
  induction ts with
  | nil => intro vs s h; exact h
  | cons t ts ih => intro vs s h; exact ih vs.tail _ (add_pres hc s t loc .wellformed (vs.headD []) h)

theorem addTxs_snd (s : Pool) (ts : List Tx) (loc : Bool) (vs : List (List Tx)) (sl qo : List Addr) :
    (s.addTxs ts loc vs sl qo).2 =
      if (s.addMany loc ts vs).2.1.isEmpty then (s.addMany loc ts vs).2.2
      else (s.addMany loc ts vs).2.2.promoteExecutables (some (s.addMany loc ts vs).2.1.eraseDups) sl qo := by
  unfold Pool.addTxs
  simp only
  generalize s.addMany loc ts vs = r
  -- with the promotion run left as a term, `rfl` would unfold it before it reduces the projection
  generalize r.2.2.promoteExecutables (some r.2.1.eraseDups) sl qo = p
  split <;> rfl

theorem addTxs_pres (hc : AddClosed I) (s : Pool) (ts : List Tx) (loc : Bool) (vs : List (List Tx)) (sl qo : List Addr)
    (h : I s) : I (s.addTxs ts loc vs sl qo).2 := by
  have ha := addMany_pres hc loc ts vs s h
  rw [addTxs_snd]
  split
  · exact ha
  · exact promoteExecutables_pres hc.toClosed _ _ sl qo ha

def syncStep (s : Pool) (a : Addr) : Pool :=
  match (s.pending a).items.getLast? with
  | some t => s.setN a (t.nonce + 1)
  | none => s

theorem syncStep_eq (s : Pool) (a : Addr) :
    syncStep s a = s.setN a (((s.pending a).items.getLast?.map (·.nonce + 1)).getD (s.pnonce a)) := by
  unfold syncStep
  cases (s.pending a).items.getLast? with
  | some t => rfl
  | none => simp only [Pool.setN, Option.map_none, Option.getD_none, upd_self]

theorem syncNonces_eq (s : Pool) :
    s.syncNonces = { s with pnonce := fun b =>
      if b ∈ s.accts then ((s.pending b).items.getLast?.map (·.nonce + 1)).getD (s.pnonce b) else s.pnonce b } := by
  have : ∀ (l : List Addr) (s : Pool), l.foldl syncStep s = { s with pnonce := fun b =>
      if b ∈ l then ((s.pending b).items.getLast?.map (·.nonce + 1)).getD (s.pnonce b) else s.pnonce b } := by
    intro l
    induction l with
    | nil => intro s; simp
    | cons a rest ih =>
      intro s
      rw [List.foldl_cons, ih, syncStep_eq]
      simp only [Pool.setN, List.mem_cons]
      congr 1; funext b
      by_cases hb : b = a
      · subst hb
        simp only [upd_same, true_or, if_true]
        cases (s.pending b).items.getLast? <;> simp
      · simp only [upd_other _ _ hb, hb, false_or]
  exact this _ s

theorem syncNonces_all (s : Pool) : s.syncNonces.all = s.all ∧ s.syncNonces.pending = s.pending ∧ s.syncNonces.queue = s.queue := by
  rw [syncNonces_eq]
  exact ⟨rfl, rfl, rfl⟩

theorem syncNonces_good {s : Pool} (h : Phase s) (hrp : ∀ b, RunPay s b) : Good s.syncNonces := by
  rw [syncNonces_eq]
  refine ⟨fun b => ?_, h.1.2⟩
  have hrb := hrp b
  exact { h.1.weak b with
    run := hrb.1
    afford := hrb.2
    pn_le := by
      show (if b ∈ s.accts then _ else _) ≤ s.cnonce b + (s.pending b).items.length
      -- an account without pending transactions keeps its virtual nonce, which Lite bounds by the chain nonce
      have hempty : (s.pending b).items = [] → s.pnonce b ≤ s.cnonce b := fun he => by
        rcases h.2 b with hle | ⟨e, he', _⟩
        · exact hle
        · rw [he] at he'; cases he'
      split
      · cases hl : (s.pending b).items.getLast? with
        | none => exact Nat.le_trans (hempty (List.getLast?_eq_none_iff.mp hl)) (Nat.le_add_right _ _)
        | some t => exact Nat.le_of_eq (hrb.1.nonce_getLast hl)
      · rename_i hb
        have := hempty (h.1.noPending hb); omega }

def Pool.atView (s : Pool) (v : View) : Pool :=
  { s with cnonce := v.nonce, balance := v.balance, maxGas := v.maxGas, pnonce := v.nonce }

def reinjection (oldNum newNum : Nat) (reorg : Bool) (disc inc : List Tx) : List Tx :=
  if reorg && decide ((if oldNum ≤ newNum then newNum - oldNum else oldNum - newNum) ≤ 64) then txDifference disc inc else []

theorem reinjection_reorg {oldNum newNum : Nat} (disc inc : List Tx)
    (hdepth : (if oldNum ≤ newNum then newNum - oldNum else oldNum - newNum) ≤ 64) :
    reinjection oldNum newNum true disc inc = txDifference disc inc := by
  rw [reinjection, Bool.true_and, decide_eq_true hdepth, if_pos rfl]

/-- the state after the view switch and the re-injection of `discarded \ included` -/
def Pool.resetMid (s : Pool) (v : View) (oldNum newNum : Nat) (reorg : Bool) (disc inc : List Tx) (o : ResetOracle) : Pool :=
  let depth := if oldNum ≤ newNum then newNum - oldNum else oldNum - newNum
  let reinject := if reorg && decide (depth ≤ 64) then txDifference disc inc else []
  let s := { s with cnonce := v.nonce, balance := v.balance, maxGas := v.maxGas, pnonce := v.nonce }
  if reinject.isEmpty then s else (s.addTxs reinject false o.victims o.slots1 o.qorder1).2

theorem reset_eq (g : Bool) (s : Pool) (v : View) (oldNum newNum : Nat) (reorg : Bool) (disc inc : List Tx) (o : ResetOracle) :
    s.reset g v oldNum newNum reorg disc inc o =
      (((s.resetMid v oldNum newNum reorg disc inc o).demoteUnexecutables g).syncNonces).promoteExecutables none o.slots2 o.qorder2 := rfl

theorem resetMid_eq (s : Pool) (v : View) (oldNum newNum : Nat) (reorg : Bool) (disc inc : List Tx) (o : ResetOracle) :
    s.resetMid v oldNum newNum reorg disc inc o =
      if (reinjection oldNum newNum reorg disc inc).isEmpty then s.atView v
      else ((s.atView v).addTxs (reinjection oldNum newNum reorg disc inc) false o.victims o.slots1 o.qorder1).2 := rfl

theorem resetMid_pres {I : Pool → Prop} (hc : AddClosed I) (s : Pool) (v : View) (oldNum newNum : Nat) (reorg : Bool)
    (disc inc : List Tx) (o : ResetOracle) (h0 : I (s.atView v)) : I (s.resetMid v oldNum newNum reorg disc inc o) := by
  rw [resetMid_eq]
  split
  · exact h0
  · exact addTxs_pres hc _ _ _ _ _ _ h0

theorem resetMid_phase (s : Pool) (v : View) (oldNum newNum : Nat) (reorg : Bool) (disc inc : List Tx) (o : ResetOracle)
    (h : Good s) : Phase (s.resetMid v oldNum newNum reorg disc inc o) :=
  resetMid_pres addClosed_phase s v oldNum newNum reorg disc inc o ⟨h.weakAll, fun _ => Or.inl (Nat.le_refl _)⟩

theorem syncNonces_pres {K : Pool → Prop} (hn : ∀ m f, K m → K { m with pnonce := f }) {m : Pool} (h : K m) : K m.syncNonces := by
  rw [syncNonces_eq]; exact hn _ _ h

theorem demoteSync_pres {K : Pool → Prop} (g : Bool) (hde : ∀ m a, K m → K (m.demoteAcct g a))
    (hn : ∀ m f, K m → K { m with pnonce := f }) {m : Pool} (h : K m) : K (m.demoteUnexecutables g).syncNonces :=
  syncNonces_pres hn (foldl_pres K _ hde _ _ h)

/-- reset stage by stage: `K1` holds after the view switch and the re-injection, `K2` after demotion and nonce update,
    `K3` after the final promotion -/
theorem reset_stages {K1 K2 K3 : Pool → Prop} (g : Bool) {s : Pool} {v : View} {oldNum newNum : Nat} {reorg : Bool}
    {disc inc : List Tx} {o : ResetOracle} (h12 : ∀ m, K1 m → K2 (m.demoteUnexecutables g).syncNonces)
    (h23 : ∀ m, K2 m → K3 (m.promoteExecutables none o.slots2 o.qorder2))
    (h : K1 (s.resetMid v oldNum newNum reorg disc inc o)) : K3 (s.reset g v oldNum newNum reorg disc inc o) := by
  rw [reset_eq]; exact h23 _ (h12 _ h)

theorem reset_of_mid {K : Pool → Prop} (g : Bool) {s : Pool} {v : View} {oldNum newNum : Nat} {reorg : Bool}
    {disc inc : List Tx} {o : ResetOracle} (hde : ∀ m a, K m → K (m.demoteAcct g a))
    (hn : ∀ m f, K m → K { m with pnonce := f }) (hpe : ∀ m, K m → K (m.promoteExecutables none o.slots2 o.qorder2))
    (h : K (s.resetMid v oldNum newNum reorg disc inc o)) : K (s.reset g v oldNum newNum reorg disc inc o) :=
  reset_stages g (fun _ => demoteSync_pres g hde hn) hpe h

theorem reset_pres {I : Pool → Prop} (hc : AddClosed I) (g : Bool) (hd : ∀ s a, I s → I (s.demoteAcct g a))
    (hn : ∀ s f, I s → I { s with pnonce := f }) (hv : ∀ s (v : View), I s → I (s.atView v))
    (s : Pool) (v : View) (o n : Nat) (r : Bool) (d i : List Tx) (orc : ResetOracle) (h : I s) :
    I (s.reset g v o n r d i orc) :=
  reset_of_mid g hd hn (fun m hm => promoteExecutables_pres hc.toClosed m none _ _ hm)
    (resetMid_pres hc s v o n r d i orc (hv s v h))

/-- `reset` is the caller's case (`hr`); `J` is what the caller wants of the new state -/
theorem step_pres {I J : Pool → Prop} (hc : AddClosed I) (hp : ∀ s p, I s → I { s with gasPrice := p }) (hJ : ∀ s, I s → J s)
    (g : Bool) (s : Pool) (op : Op) (h : I s) (hr : ∀ v o n r d i orc, J (s.reset g v o n r d i orc)) : J (s.step g op) := by
  cases op with
  | add t loc sh vs sl qo => exact hJ _ (addTx_pres hc s t loc sh vs sl qo h)
  | adds ts loc vs sl qo => exact hJ _ (addTxs_pres hc s ts _ vs sl qo h)
  | setGasPrice p => exact hJ _ (foldl_pres I _ hc.rem _ _ (hp s p h))
  | setGasPriceO p drops => exact hJ _ (foldl_pres I _ hc.rem _ _ (hp s p h))
  | reset v o n r d i orc => exact hr v o n r d i orc
  | evictIdle a =>
    show J (s.evictIdle a)
    unfold Pool.evictIdle
    split
    · exact hJ _ h
    · exact hJ _ (dropQueued_pres (fun m t _ => hc.rem m t) _ _ h)

/-- the pre-c2af732 reset is the reset at HEAD whenever the re-injection leaves no hole -/
theorem reset_agree (s : Pool) (v : View) (oldNum newNum : Nat) (reorg : Bool) (disc inc : List Tx) (o : ResetOracle)
    (h : Good s) (hn : NoHole (s.resetMid v oldNum newNum reorg disc inc o)) :
    s.reset false v oldNum newNum reorg disc inc o = s.reset true v oldNum newNum reorg disc inc o := by
  rw [reset_eq, reset_eq]
  unfold Pool.demoteUnexecutables
  rw [demoteAll_agree _ _ (resetMid_phase s v oldNum newNum reorg disc inc o h) hn]

theorem demoteSync_good {m : Pool} (h : Phase m) : Good (m.demoteUnexecutables true).syncNonces := by
  obtain ⟨d1, d2, -⟩ := demoteAll_spec m.accts m h
  refine syncNonces_good d1 fun b => ?_
  by_cases hb : b ∈ m.accts
  · exact d2 b (Or.inl hb)
  · -- an account outside the iteration domain has an empty pending list
    refine d2 b (Or.inr ?_)
    unfold RunPay
    rw [h.1.noPending hb]
    exact ⟨trivial, nofun⟩

theorem reset_good (s : Pool) (v : View) (oldNum newNum : Nat) (reorg : Bool) (disc inc : List Tx) (o : ResetOracle)
    (h : Good s) : Good (s.reset true v oldNum newNum reorg disc inc o) :=
  reset_stages true (fun _ => demoteSync_good) (fun m => promoteExecutables_pres closed_good m none _ _)
    (resetMid_phase s v oldNum newNum reorg disc inc o h)

end Aqv.TxPool
