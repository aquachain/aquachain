/-
  Aqv.Lemmas.Tx — the finite maps and the transaction model (C06, C05): what `update` does to `lookup` and `total`, the
  balance / nonce primitives, the world handed to the EVM, and the characterisations of `transitionDb` (`transitionDb_ok_iff`,
  read by field name through `Accepted`), of the loop of `processTxs` and of `process` on the accepted side, which the property
  files use instead of unfolding them.
-/
import Aqv.Model.Tx
namespace Aqv.Tx

theorem lookup_update (m : AMap) (a v b : Nat) : lookup (update m a v) b = if a = b then v else lookup m b := by
  induction m with
  | nil => simp [update, lookup]
  | cons p t ih =>
    obtain ⟨k, x⟩ := p
    by_cases hk : k = a
    · subst hk; by_cases hb : k = b <;> simp [update, lookup, hb]
    · by_cases hb : k = b
      · subst hb; simp [update, lookup, hk, Ne.symm hk]
      · simp [update, lookup, hk, hb, ih]

theorem total_update (m : AMap) (a v : Nat) : total (update m a v) + lookup m a = total m + v := by
  induction m with
  | nil => simp [update, lookup, total]
  | cons p t ih =>
    obtain ⟨k, x⟩ := p
    by_cases h : k = a <;> simp [update, lookup, total, h] <;> omega

variable {ρ : Type}

@[simp] theorem addBal_nonce (w : World ρ) (a v : Nat) : (addBal w a v).nonce = w.nonce := by
  unfold addBal; split <;> rfl
@[simp] theorem addBal_rest (w : World ρ) (a v : Nat) : (addBal w a v).rest = w.rest := by
  unfold addBal; split <;> rfl
@[simp] theorem subBal_nonce (w : World ρ) (a v : Nat) : (subBal w a v).nonce = w.nonce := by
  unfold subBal; split <;> rfl
@[simp] theorem subBal_rest (w : World ρ) (a v : Nat) : (subBal w a v).rest = w.rest := by
  unfold subBal; split <;> rfl
@[simp] theorem setNonce_bal (w : World ρ) (a n : Nat) : (setNonce w a n).bal = w.bal := rfl
@[simp] theorem setNonce_rest (w : World ρ) (a n : Nat) : (setNonce w a n).rest = w.rest := rfl

/-- the early return for a zero amount is invisible to `lookup`. -/
theorem lookup_addBal (w : World ρ) (a v b : Nat) : lookup (addBal w a v).bal b = lookup w.bal b + if a = b then v else 0 := by
  unfold addBal
  by_cases hv : v = 0
  · simp [hv]
  · by_cases h : a = b <;> simp [hv, lookup_update, h]

theorem lookup_subBal (w : World ρ) (a v b : Nat) : lookup (subBal w a v).bal b = lookup w.bal b - if a = b then v else 0 := by
  unfold subBal
  by_cases hv : v = 0
  · simp [hv]
  · by_cases h : a = b <;> simp [hv, lookup_update, h]

theorem total_addBal (w : World ρ) (a v : Nat) : total (addBal w a v).bal = total w.bal + v := by
  unfold addBal; split
  · next h => simp [h]
  · have := total_update w.bal a (lookup w.bal a + v); simp only []; omega

theorem total_subBal (w : World ρ) (a v : Nat) (h : v ≤ lookup w.bal a) : total (subBal w a v).bal + v = total w.bal := by
  unfold subBal; split
  · next h0 => simp [h0]
  · have := total_update w.bal a (lookup w.bal a - v); simp only []; omega

theorem lookup_setNonce (w : World ρ) (a n b : Nat) : lookup (setNonce w a n).nonce b = if a = b then n else lookup w.nonce b :=
  lookup_update _ _ _ _

theorem preWorld_bal (m : Msg) (w : World ρ) : (preWorld m w).bal = (subBal w m.sender (m.gas * m.gasPrice)).bal := by
  unfold preWorld; split <;> rfl

theorem preWorld_rest (m : Msg) (w : World ρ) : (preWorld m w).rest = w.rest := by
  unfold preWorld; split <;> simp

theorem preWorld_total (m : Msg) (w : World ρ) (h : m.gas * m.gasPrice ≤ lookup w.bal m.sender) :
    total (preWorld m w).bal + m.gas * m.gasPrice = total w.bal := by
  rw [preWorld_bal]; exact total_subBal _ _ _ h

/-- `TransitionDb` bumps the sender's nonce of a call; `evm.Create` bumps that of a creation itself. -/
theorem lookup_preWorld_nonce (m : Msg) (w : World ρ) (b : Nat) :
    lookup (preWorld m w).nonce b = if m.sender = b ∧ m.to.isSome then nonceInc (lookup w.nonce b) else lookup w.nonce b := by
  unfold preWorld
  by_cases ht : m.to.isSome = true
  · by_cases hb : m.sender = b <;> simp [ht, lookup_setNonce, hb]
  · simp [ht]

theorem bumped_once (m : Msg) (w : World ρ) :
    nonceInc (lookup w.nonce m.sender) =
      if m.to.isSome then lookup (preWorld m w).nonce m.sender else nonceInc (lookup (preWorld m w).nonce m.sender) := by
  rw [lookup_preWorld_nonce]; cases m.to <;> simp

/-- the nonces of the world a failed EVM run leaves (`EvmOk.call_fail_reverts`, `create_fail_reverts`): the sender's bumped once,
    by `TransitionDb` for a call and by `evm.Create` for a creation, every other address's as in `w` -/
theorem lookup_failed_nonce (m : Msg) (w : World ρ) (a : Addr) :
    lookup (if m.to.isSome then preWorld m w
        else setNonce (preWorld m w) m.sender (nonceInc (lookup (preWorld m w).nonce m.sender))).nonce a =
      if a = m.sender then nonceInc (lookup w.nonce m.sender) else lookup w.nonce a := by
  by_cases ha : a = m.sender
  · subst ha
    cases hto : m.to with
    | none => simp [lookup_setNonce, lookup_preWorld_nonce, hto]
    | some t => simp [lookup_preWorld_nonce, hto]
  · cases hto : m.to with
    | none => simp [lookup_setNonce, lookup_preWorld_nonce, hto, ha, Ne.symm ha]
    | some t => simp [lookup_preWorld_nonce, hto, ha, Ne.symm ha]

theorem nonceInc_eq {n : Nat} (h : n < uint64Max) : nonceInc n = n + 1 := Nat.mod_eq_of_lt (Nat.succ_lt_succ h)

theorem subGas_eq_some {gp a x : Nat} : subGas gp a = some x ↔ a ≤ gp ∧ x = gp - a := by
  unfold subGas; split <;> simp <;> omega

theorem addGas_eq_some {gp a x : Nat} : addGas gp a = some x ↔ gp ≤ uint64Max - a ∧ x = gp + a := by
  unfold addGas; split <;> simp <;> omega

/-- the EVM invocation `TransitionDb` makes (given the intrinsic gas). -/
def evmOut (env : Env ρ) (m : Msg) (w : World ρ) (ig : Nat) : EvmOut ρ := env.run m (m.gas - ig) (preWorld m w)

def gasBack (env : Env ρ) (m : Msg) (w : World ρ) (ig : Nat) : Nat :=
  (evmOut env m w ig).gasLeft + refundOf m.gas (evmOut env m w ig).gasLeft (env.refund (evmOut env m w ig).world)

/-- what an accepted transaction gives, with the intrinsic gas `ig` it was charged; read by field name -/
structure Accepted (env : Env ρ) (m : Msg) (gp : Nat) (w : World ρ) (ig : Nat) (r : TxOk ρ) : Prop where
  nonce : m.checkNonce = true → lookup w.nonce m.sender = m.nonce
  funds : m.gas * m.gasPrice ≤ lookup w.bal m.sender
  pool : m.gas ≤ gp
  intrinsic : intrinsicGas m.data m.to.isNone env.homestead = some ig
  ig_le : ig ≤ m.gas
  can_pay : (evmOut env m w ig).err ≠ some .insufficientBalance
  pool_room : gp - m.gas ≤ uint64Max - gasBack env m w ig
  result : r = { world := addBal (addBal (evmOut env m w ig).world m.sender (gasBack env m w ig * m.gasPrice)) env.coinbase
                            ((m.gas - gasBack env m w ig) * m.gasPrice),
                 gp := gp - m.gas + gasBack env m w ig, usedGas := m.gas - gasBack env m w ig,
                 failed := (evmOut env m w ig).err.isSome }

theorem transitionDb_ok_iff {env : Env ρ} {m : Msg} {gp : Nat} {w : World ρ} {r : TxOk ρ} :
    transitionDb env m gp w = .ok r ↔ ∃ ig, Accepted env m gp w ig r := by
  unfold transitionDb
  dsimp only
  constructor
  · intro h
    -- guard by guard, as `TransitionDb` runs: each either returns an error, which `h` excludes, or is passed
    split at h
    · cases h
    next h1 =>
    split at h
    · cases h
    next h2 =>
    split at h
    · cases h
    next h3 =>
    split at h
    · cases h
    next gp1 hsg =>
    split at h
    · cases h
    next ig hig =>
    split at h
    · cases h
    next h5 =>
    split at h
    · cases h
    next h6 =>
    split at h
    · cases h
    next gp2 hag =>
    cases h
    obtain ⟨h4, rfl⟩ := subGas_eq_some.mp hsg
    obtain ⟨h7, rfl⟩ := addGas_eq_some.mp hag
    refine ⟨ig, fun hc => ?_, by omega, h4, hig, by omega, h6, h7, rfl⟩
    simp [hc] at h1 h2
    omega
  · rintro ⟨ig, h1, h2, h3, hig, h5, h6, h7, rfl⟩
    unfold gasBack at h7 ⊢
    unfold evmOut at h6 h7 ⊢
    have c1 : ¬ (m.checkNonce && decide (lookup w.nonce m.sender < m.nonce)) = true := by
      cases hc : m.checkNonce with
      | false => simp
      | true =>
        simp
        have := h1 hc
        omega
    have c2 : ¬ (m.checkNonce && decide (lookup w.nonce m.sender > m.nonce)) = true := by
      cases hc : m.checkNonce with
      | false => simp
      | true =>
        simp
        have := h1 hc
        omega
    rw [if_neg c1, if_neg c2, if_neg (Nat.not_lt.mpr h2), subGas_eq_some.mpr ⟨h3, rfl⟩, hig]
    dsimp only
    rw [if_neg (Nat.not_lt.mpr h5), if_neg h6, addGas_eq_some.mpr ⟨h7, rfl⟩]

/-- the fee machinery writes neither a nonce nor `rest`: those of the result are the EVM's -/
theorem Accepted.nonce_rest {env : Env ρ} {m : Msg} {gp : Nat} {w : World ρ} {ig : Nat} {r : TxOk ρ} (a : Accepted env m gp w ig r) :
    r.world.nonce = (evmOut env m w ig).world.nonce ∧ r.world.rest = (evmOut env m w ig).world.rest := by
  rw [a.result]; simp

/-- the sender's nonce after an accepted transaction is the one bump, given that the EVM run itself made no other
    (`SenderIsEOA`, or C06 `signer_nonce_over_vm`) -/
theorem Accepted.sender_nonce {env : Env ρ} {m : Msg} {gp : Nat} {w : World ρ} {ig : Nat} {r : TxOk ρ} (a : Accepted env m gp w ig r)
    (hrun : lookup (evmOut env m w ig).world.nonce m.sender =
      if m.to.isSome then lookup (preWorld m w).nonce m.sender else nonceInc (lookup (preWorld m w).nonce m.sender)) :
    lookup r.world.nonce m.sender = nonceInc (lookup w.nonce m.sender) := by
  rw [a.nonce_rest.1, bumped_once m w]; exact hrun

/-- `refundGas` on variables: `l` gas left of `g` after the intrinsic `ig`, refund `rf` within the cap: no more comes back than was
    bought -/
theorem refund_le {g ig l rf : Nat} (hig : ig ≤ g) (hl : l ≤ g - ig) (hrf : rf ≤ (g - l) / 2) : l + rf ≤ g := by
  omega

/-- … and `g - (l + rf)` is the gas used: the last four bounds of C06 `gas_bounds_partial` -/
theorem refund_arith {g ig l rf : Nat} (hig : ig ≤ g) (hl : l ≤ g - ig) (hrf : rf ≤ (g - l) / 2) :
    g - (l + rf) + rf = g - l ∧ ig ≤ g - (l + rf) + rf ∧ ig ≤ 2 * (g - (l + rf)) ∧ (rf = 0 → ig ≤ g - (l + rf)) := by
  omega

theorem gasBack_le {env : Env ρ} (hE : EvmOk env) (m : Msg) (w : World ρ) {ig : Nat} (hig : ig ≤ m.gas) : gasBack env m w ig ≤ m.gas :=
  refund_le hig (hE.gas_le m (m.gas - ig) (preWorld m w)) (Nat.min_le_left _ _)

/-- `refundGas` + fee: what was bought is split between the sender and the coinbase. -/
theorem fee_split {back gas : Nat} (h : back ≤ gas) (price : Nat) : back * price + (gas - back) * price = gas * price := by
  rw [← Nat.add_mul, Nat.add_sub_cancel' h]

theorem applyTransaction_ok_iff {env : Env ρ} {m : Msg} {gp used : Nat} {w : World ρ} {a : ApplyOk ρ} :
    applyTransaction env m gp w used = .ok a ↔ ∃ r, transitionDb env m gp w = .ok r ∧
      a = { receipt := { hasRoot := !env.byzantium, failed := r.failed, cumulativeGasUsed := used + r.usedGas, gasUsed := r.usedGas,
                         creation := m.to.isNone }
            world := env.fin r.world, gp := r.gp, usedGas := used + r.usedGas } := by
  unfold applyTransaction
  cases transitionDb env m gp w <;> simp [eq_comm]

theorem processTxs_cons_ok_iff {env : Env ρ} {m : Msg} {ms : List Msg} {gp used : Nat} {w : World ρ} {b : BlockOk ρ} :
    processTxs env (m :: ms) gp w used = .ok b ↔ ∃ a b', applyTransaction env m gp w used = .ok a ∧
      processTxs env ms a.gp a.world a.usedGas = .ok b' ∧ b = { b' with receipts := a.receipt :: b'.receipts } := by
  rw [processTxs]
  constructor
  · intro h
    iterate 2 (split at h; cases h)
    cases h
    exact ⟨_, _, ‹_›, ‹_›, rfl⟩
  · rintro ⟨a, b', ha, hb, rfl⟩
    simp only [ha, hb]

theorem processTxs_inv {env : Env ρ} {I : World ρ → Prop}
    (hstep : ∀ m gp w r, I w → transitionDb env m gp w = .ok r → I (env.fin r.world))
    (ms : List Msg) (gp : Nat) (w : World ρ) (used : Nat) {b : BlockOk ρ}
    (h : processTxs env ms gp w used = .ok b) (hw : I w) : I b.world := by
  induction ms generalizing gp w used b with
  | nil => cases h; exact hw
  | cons m ms ih =>
    obtain ⟨a, b', ha, hb, rfl⟩ := processTxs_cons_ok_iff.mp h
    obtain ⟨r, hr, rfl⟩ := applyTransaction_ok_iff.mp ha
    exact ih (b := b') _ _ _ hb (hstep m gp w r hw hr)

/-- `AddGas` on the empty pool cannot panic: `Process` is the hard-fork edits, the loop and `Finalize`. -/
theorem process_eq (env : Env ρ) (hardFork finalize : World ρ → World ρ) (limit : Nat) (txs : List Msg) (w : World ρ) :
    process env hardFork finalize limit txs w =
      match processTxs env txs limit (hardFork w) 0 with
      | .error e => .error e
      | .ok b => .ok { b with world := finalize b.world } := by
  unfold process addGas
  rw [if_neg (Nat.not_lt_zero _), Nat.zero_add]
  rfl

theorem process_ok_iff {env : Env ρ} {hardFork finalize : World ρ → World ρ} {limit : Nat} {txs : List Msg} {w : World ρ}
    {b : BlockOk ρ} :
    process env hardFork finalize limit txs w = .ok b ↔
      ∃ b', processTxs env txs limit (hardFork w) 0 = .ok b' ∧ b = { b' with world := finalize b'.world } := by
  rw [process_eq]
  cases processTxs env txs limit (hardFork w) 0 <;> simp [eq_comm]

end Aqv.Tx
