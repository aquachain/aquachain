/- C07: classification of the generated big.Int → int64/uint64 conversion sites of the execute functions of core/vm
  (Gen.VmFlags.convs / helperCalls / fnRanges, derived from the source by go/extract/cmd/vmaccess). -/
import Aqv.Gen.VmFlags
namespace Aqv.Vm
open Aqv.Gen.VmFlags

/-- used as a value only (compared, stored as data), or as an argument of a Memory accessor / memory.store index: one of the
    generated memory ranges, covered by the opcode's memorySize check -/
def ConvUse.valueOrMem : ConvUse → Bool
  | .cmp => true
  | .mem => true
  | .store => true
  | _ => false

def fullValueChecks : List String := ["Cmp", "BitLen", "IsUint64", "IsInt64", "has"]

/-- a conversion site is acceptable if
    A. a check of the full big.Int value (`fullValueChecks`; not of the already truncated one) dominates it (`direct`), or dominates a sum it is an
       addend of (`sum`), or it is clamped by math.BigMin to a slice length (`min`); or
    B. its result never becomes a slice bound / index / call argument (`valueOrMem`; the Memory ranges are covered by
       `mem_access_in_bounds`, and exact by `mem_operand_conversions_exact_partial`); or
    C. it is `bigUint64`, which returns the overflow flag `BitLen() > 64` together with the truncated value; or
    D. it is the `size` parameter of `getDataBig` (→ RightPadBytes), discharged per call site by `helperOK`. -/
def convOK (c : Conv) : Bool :=
  (c.guard == .min || ((c.guard == .direct || c.guard == .sum) && fullValueChecks.contains c.guardFn)) ||
  c.uses.all ConvUse.valueOrMem ||
  (c.fn == "bigUint64" && c.uses == [.ret]) ||
  (c.fn == "getDataBig" && c.src == .param 2)

/-- the `size` argument is the package constant big32 or the size operand of one of the function's generated memory ranges,
    hence 0 or ≤ 0xffffffffe0 by the memory-size check of Run -/
def helperOK (h : HelperCall) : Bool :=
  !(h.helper == "getDataBig" && h.arg == 2) ||
  h.global == "big32" ||
  (match h.opnd with
   | some k => fnRanges.any (fun p => p.1 == h.fn && p.2.any (fun r => r.2 == .back k 0))
   | none => false)

def helperKnown (h : HelperCall) : Bool := convs.any (fun c => c.fn == h.helper)

theorem convs_ok : convs.all convOK = true := by decide
theorem helpers_ok : helperCalls.all (fun h => helperOK h && helperKnown h) = true := by decide
theorem conv_all_analysed : convUnanalysed = [] := by decide

end Aqv.Vm
