/-
  Aqv.Lemmas.ChainInv — the universe of blocks (`World`); total difficulty as a quantity intrinsic to a block (`TDof`, `TdAt`,
  `TdIntr`); where a write that went through the fork choice leaves a head (`ForkChoice`); and `InvC`, the invariant of the
  chain database with its three heads equal.  The preservation proofs are written against `GInvC` of `ChainK` (the block head
  may lag behind the header head), of which `InvC` is the case of equal heads.
-/
import Aqv.Lemmas.Chain
namespace Aqv.Chain

/-- The static universe of blocks: `U` maps a hash to THE block with that hash (hashes determine content, so a block
    and its whole ancestry are fixed once and for all, whatever the database currently holds).  Valid blocks have a
    positive difficulty, and no transaction occurs twice along one chain (nonces). -/
structure World (U : Map Blk) : Prop where
  ids : ∀ k x, U k = some x → x.id = k
  diffPos : ∀ k x, U k = some x → x.number ≠ 0 → 0 < x.diff
  nodup : ∀ k x l c, U k = some x → Path U x l c → (l.flatMap (·.txs)).Nodup

def diffSum (l : List Blk) : Nat := (l.map (·.diff)).sum

/-- `hb` is the head block, `C` its ancestry down to (excluding) genesis -/
structure InvC (U : Map Blk) (s : St) (hb : Blk) (C : List Blk) : Prop where
  sub : StoreExt s.store U
  headStored : s.store s.head = some hb
  path : Path s.store hb C s.genesis
  canon : ∀ n i, s.canon n = some i ↔ ∃ x ∈ C ++ [s.genesis], x.number = n ∧ x.id = i
  lookup : ∀ t l, s.lookup t = some l ↔
    ∃ x ∈ C ++ [s.genesis], x.id = l.blk ∧ x.number = l.num ∧ x.txs[l.idx]? = some t
  canonSeen : ∀ x ∈ C ++ [s.genesis], s.seen x.id = true
  seenClosed : ∀ k x, s.seen k = true → U k = some x → x.number ≠ 0 → s.seen x.parent = true
  stateSeen : ∀ k, s.hasState k = true → s.seen k = true
  diskState : ∀ k, s.onDisk k = true → s.hasState k = true
  seenRcpt : ∀ k, s.seen k = true → s.receipts k = true
  tdIntr : ∀ k t, s.td k = some t →
    ∃ x l, U k = some x ∧ Path U x l s.genesis ∧ t = s.genesis.diff + diffSum l
  storeTd : ∀ k x, s.store k = some x → (s.td k).isSome = true
  hheadEq : s.hhead = s.head
  fheadEq : s.fhead = s.head
  genNum : s.genesis.number = 0
  genTxs : s.genesis.txs = []
  genState : s.onDisk s.genesis.id = true
  headState : s.hasState s.head = true

def Inv (U : Map Blk) (s : St) : Prop := ∃ hb C, InvC U s hb C

theorem mem_txs_of_getElem? {x : Blk} {j t : Nat} (h : x.txs[j]? = some t) : t ∈ x.txs :=
  List.mem_iff_getElem?.mpr ⟨j, h⟩

theorem txs_sublist_flatMap : ∀ (l : List Blk) (x : Blk), x ∈ l → (x.txs).Sublist (l.flatMap (·.txs)) := by
  intro l
  induction l with
  | nil => intro x hx; cases hx
  | cons a l ih =>
    intro x hx
    simp only [List.flatMap_cons]
    rcases List.mem_cons.mp hx with rfl | hx
    · exact List.sublist_append_left _ _
    · exact (ih x hx).trans (List.sublist_append_right _ _)

theorem World.txs_nodup {U : Map Blk} (W : World U) {k : Nat} {x c : Blk} {l : List Blk} (hx : U k = some x)
    (hp : Path U x l c) {y : Blk} (hy : y ∈ l) : y.txs.Nodup :=
  (W.nodup k x l c hx hp).sublist (txs_sublist_flatMap l y hy)

theorem World.disjoint {U : Map Blk} (W : World U) {k : Nat} {x c : Blk} {l1 l2 : List Blk} (hx : U k = some x)
    (hp : Path U x (l1 ++ l2) c) {y z : Blk} (hy : y ∈ l1) (hz : z ∈ l2) {t : Nat} (hty : t ∈ y.txs) : t ∉ z.txs := by
  have := W.nodup k x _ c hx hp
  rw [List.flatMap_append, List.nodup_append] at this
  intro htz
  exact this.2.2 t (List.mem_flatMap.mpr ⟨y, hy, hty⟩) t (List.mem_flatMap.mpr ⟨z, hz, htz⟩) rfl

theorem diffSum_append (l1 l2 : List Blk) : diffSum (l1 ++ l2) = diffSum l1 + diffSum l2 := by
  simp [diffSum, List.map_append, List.sum_append]

theorem diffSum_cons (x : Blk) (l : List Blk) : diffSum (x :: l) = x.diff + diffSum l := by
  simp [diffSum]

theorem diffSum_pos {U : Map Blk} (W : World U) {x y : Blk} {l : List Blk} (hp : Path U x l y) (hne : l ≠ [])
    (hx : U x.id = some x) : 0 < diffSum l := by
  cases hp with
  | nil => exact absurd rfl hne
  | cons hpar hrest =>
    rw [diffSum_cons]
    have hn := (parentOf_some hpar).2
    have := W.diffPos _ _ hx (by omega)
    omega

def TDof (U : Map Blk) (g : Blk) (x : Blk) (t : Nat) : Prop := ∃ l, Path U x l g ∧ t = g.diff + diffSum l

theorem TDof.unique {U : Map Blk} {g x : Blk} {t t' : Nat} (h : TDof U g x t) (h' : TDof U g x t') : t = t' := by
  obtain ⟨l, hl, rfl⟩ := h
  obtain ⟨l', hl', rfl⟩ := h'
  rw [(hl.det hl' rfl).1]

theorem TDof.ge_genesis {U : Map Blk} {g x : Blk} {t : Nat} (h : TDof U g x t) : g.diff ≤ t := by
  obtain ⟨l, _, rfl⟩ := h
  omega

/-- `ptd + b.diff` is what `WriteTd` records for `b` -/
theorem TDof.child {U : Map Blk} {g b p : Blk} {ptd : Nat} (hp : TDof U g p ptd) (hpar : parentOf U b = some p) :
    TDof U g b (ptd + b.diff) := by
  obtain ⟨l, hl, rfl⟩ := hp
  exact ⟨b :: l, .cons hpar hl, by rw [diffSum_cons]; omega⟩

/-- `TDof` by hash: `t` is THE total difficulty of the block with hash `k` -/
def TdAt (U : Map Blk) (g : Blk) (k t : Nat) : Prop := ∃ x l, U k = some x ∧ Path U x l g ∧ t = g.diff + diffSum l

theorem TdAt.tdof {U : Map Blk} {g : Blk} {k t : Nat} (h : TdAt U g k t) {x : Blk} (hx : U k = some x) : TDof U g x t := by
  obtain ⟨x', l, hx', hp, ht⟩ := h
  rw [hx] at hx'; cases hx'
  exact ⟨l, hp, ht⟩

def TdIntr (U : Map Blk) (g : Blk) (td : Map Nat) : Prop := ∀ k t, td k = some t → TdAt U g k t

theorem tdIntr_init {U : Map Blk} {g : Blk} (hgU : U g.id = some g) :
    TdIntr U g (upd (fun _ => none) g.id (some g.diff)) := by
  intro k t hk
  obtain ⟨rfl, rfl⟩ := upd_empty_some.mp hk
  exact ⟨g, [], hgU, .nil _, rfl⟩

theorem td_unique {U : Map Blk} {g : Blk} {k t t' : Nat} (h : TdAt U g k t) (h' : TdAt U g k t') : t = t' := by
  obtain ⟨x, l, hx, hp, ht⟩ := h
  exact TDof.unique ⟨l, hp, ht⟩ (h'.tdof hx)

section td
variable {U store : Map Blk} {g : Blk} {td : Map Nat} {b p : Blk} {ptd : Nat}

theorem TdAt.child (hp : TdAt U g b.parent ptd) (hsub : StoreExt store U) (hbU : U b.id = some b)
    (hpar : parentOf store b = some p) : TdAt U g b.id (ptd + b.diff) := by
  obtain ⟨l, hl, ht⟩ := (hp.tdof (hsub _ _ (parentOf_some hpar).1)).child (parentOf_mono hsub hpar)
  exact ⟨b, l, hbU, hl, ht⟩

theorem TdIntr.child (hI : TdIntr U g td) (hsub : StoreExt store U) (hbU : U b.id = some b)
    (hpar : parentOf store b = some p) (hptd : td b.parent = some ptd) : TdAt U g b.id (ptd + b.diff) :=
  (hI _ _ hptd).child hsub hbU hpar

theorem TdIntr.write (hI : TdIntr U g td) (hsub : StoreExt store U) (hbU : U b.id = some b)
    (hpar : parentOf store b = some p) (hptd : td b.parent = some ptd) :
    TdIntr U g (upd td b.id (some (ptd + b.diff))) := by
  intro k t hk
  by_cases hkb : k = b.id
  · subst hkb
    rw [upd_same, Option.some.injEq] at hk
    subst hk
    exact hI.child hsub hbU hpar hptd
  · rw [upd_other _ _ _ _ hkb] at hk
    exact hI k t hk

theorem TdIntr.rewrite (hI : TdIntr U g td) (hsub : StoreExt store U) (hbU : U b.id = some b)
    (hpar : parentOf store b = some p) (hptd : td b.parent = some ptd) {k t : Nat} (hk : td k = some t) :
    upd td b.id (some (ptd + b.diff)) k = some t := by
  by_cases hkb : k = b.id
  · subst hkb
    rw [upd_same, td_unique (hI.child hsub hbU hpar hptd) (hI _ _ hk)]
  · rw [upd_other _ _ _ _ hkb]; exact hk

/-- "at most the head's record", read once that record is known (the form in which `HMax`, `HeadMax` and `MInv.headMax`
    state that the head is heaviest) -/
theorem le_headTd {head t lt : Nat} (h : ∃ th, td head = some th ∧ t ≤ th) (hlt : td head = some lt) : t ≤ lt := by
  obtain ⟨th, hth, hle⟩ := h
  rw [hlt] at hth; cases hth; exact hle

theorem headTd_trans {td td' td'' : Map Nat} {k k' k'' : Nat}
    (h1 : ∀ t, td k = some t → ∃ t', td' k' = some t' ∧ t ≤ t')
    (h2 : ∀ t, td' k' = some t → ∃ t', td'' k'' = some t' ∧ t ≤ t') :
    ∀ t, td k = some t → ∃ t', td'' k'' = some t' ∧ t ≤ t' := by
  intro t ht
  obtain ⟨t', ht', hle⟩ := h1 t ht
  obtain ⟨t'', ht'', hle'⟩ := h2 t' ht'
  exact ⟨t'', ht'', by omega⟩

/-- where a write that went through the fork choice leaves the head (`e` the record of `b`, `lt` that of the old head) -/
def ForkChoice (head head' : Nat) (b : Blk) (e lt : Nat) : Prop := (head' = b.id ∧ lt ≤ e) ∨ (head' = head ∧ e ≤ lt)

theorem ForkChoice.headTd {head head' e lt : Nat} (hf : ForkChoice head head' b e lt)
    (hkeep : upd td b.id (some e) head = some lt) : ∃ th, upd td b.id (some e) head' = some th ∧ lt ≤ th ∧ e ≤ th := by
  rcases hf with ⟨rfl, hle⟩ | ⟨rfl, hle⟩
  · exact ⟨e, upd_same _ _ _, hle, Nat.le_refl _⟩
  · exact ⟨lt, hkeep, Nat.le_refl _, hle⟩

theorem td_lt_of_path (W : World U) (hI : TdIntr U g td) {y x : Blk} {l : List Blk} {ty tx : Nat}
    (hyU : U y.id = some y) (hxU : U x.id = some x) (hp : Path U y l x) (hne : l ≠ [])
    (hty : td y.id = some ty) (htx : td x.id = some tx) : tx < ty := by
  obtain ⟨ly, hpy, hty'⟩ := (hI _ _ hty).tdof hyU
  obtain ⟨lx, hpx, htx'⟩ := (hI _ _ htx).tdof hxU
  rw [hty', htx', ← ((hp.append hpx).det hpy rfl).1, diffSum_append]
  have := diffSum_pos W hp hne hyU
  omega

theorem td_child_eq (W : World U) (hI : TdIntr U g td) {x p : Blk} {tx tp : Nat} (hx : U x.id = some x)
    (hpar : parentOf U x = some p) (htx : td x.id = some tx) (htp : td p.id = some tp) : tx = tp + x.diff := by
  have hpid := W.ids _ _ (parentOf_some hpar).1
  exact td_unique (hI _ _ htx) (hI.child (fun _ _ h => h) hx hpar (by rw [← hpid]; exact htp))

end td

theorem seen_along {U : Map Blk} (W : World U) {store : Map Blk} {seen : Nat → Bool} (hsub : StoreExt store U)
    (hclosed : ∀ k x, seen k = true → U k = some x → x.number ≠ 0 → seen x.parent = true)
    {q c : Blk} {l : List Blk} (hp : Path store q l c) (hs : seen q.id = true) (hqU : U q.id = some q) :
    ∀ x ∈ l, seen x.id = true := by
  induction hp with
  | nil x => intro x hx; cases hx
  | cons hpar hrest ih =>
    rename_i x q' l' y
    intro z hz
    rcases List.mem_cons.mp hz with rfl | hz
    · exact hs
    · have hq := (parentOf_some hpar)
      have hqU' := hsub _ _ hq.1
      have hqid := W.ids _ _ hqU'
      have := hclosed _ _ hs hqU (by omega)
      exact ih (by rw [hqid]; exact this) (by rw [hqid]; exact hqU') z hz

namespace InvC
variable {U : Map Blk} {s : St} {hb : Blk} {C : List Blk}

theorem headId (W : World U) (h : InvC U s hb C) : hb.id = s.head := W.ids _ _ (h.sub _ _ h.headStored)

theorem canonHead (h : InvC U s hb C) : s.canon hb.number = some hb.id :=
  (h.canon _ _).mpr ⟨hb, h.path.head_mem, rfl, rfl⟩

theorem canonBelow (h : InvC U s hb C) (n : Nat) (hn : n ≤ hb.number) : ∃ x ∈ C ++ [s.genesis], x.number = n :=
  h.path.cover' n (by rw [h.genNum]; omega) hn

theorem pathFromHead (h : InvC U s hb C) {store' : Map Blk} (hext : StoreExt s.store store') {l : List Blk} {o : Blk}
    (hp : Path store' hb l o) : Path s.store hb l o :=
  (h.path.prefix_of_ext hext (by rw [h.genNum]; omega) hp).2

end InvC

end Aqv.Chain
