/-
  Aqv.Lemmas.TxPoolAll — the lookup table `all` is exactly pending ∪ queue (`AllOK`).  This is internal bookkeeping
  (deliberately not part of `Inv`), but the reorg re-injection clause rests on it: `add` refuses a transaction that is
  in `all`, so a transaction in `all` but in neither list can never be pooled again.

  Every primitive touches the lists of one account `a`; `AllOK.step` reduces its case to an equation between `a`'s two lists,
  a propositional consequence of the facts stated in front of it (what each stage keeps, sortedness, no nonce in both lists).
-/
import Aqv.Lemmas.TxPoolOps
namespace Aqv.TxPool

def AllOK (s : Pool) : Prop := ∀ t, t ∈ s.all ↔ s.pooled t

theorem allOK_init (c : Cfg) (v : View) : AllOK (Pool.init c v) := fun _ => ⟨nofun, fun h => h.elim nofun nofun⟩

/-- `R` leaves the lookup table and `A` enters it, all of them `a`'s -/
theorem AllOK.step {s s' : Pool} {a : Addr} (R A : Tx → Prop) (ha : AllOK s) (ht : Touch s a s')
    (hR : ∀ u, R u → u.sender = a) (hA : ∀ u, A u → u.sender = a)
    (hall : ∀ u, u ∈ s'.all ↔ (u ∈ s.all ∧ ¬ R u) ∨ A u)
    (hlists : ∀ u, (u ∈ (s'.pending a).items ∨ u ∈ (s'.queue a).items) ↔
      ((u ∈ (s.pending a).items ∨ u ∈ (s.queue a).items) ∧ ¬ R u) ∨ A u) : AllOK s' := by
  intro u
  rw [hall u, ha u, pooled_iff, pooled_iff]
  by_cases hu : u.sender = a
  · rw [hu, hlists u]
  · rw [ht.pother _ hu, ht.qother _ hu]
    exact ⟨fun h => h.elim (·.1) (fun h => absurd (hA u h) hu), fun h => Or.inl ⟨h, fun h' => hu (hR u h')⟩⟩

theorem mem_take_or_drop {α : Type} (l : List α) (k : Nat) (u : α) : u ∈ l ↔ u ∈ l.take k ∨ u ∈ l.drop k := by
  rw [← List.mem_append, List.take_append_drop]

theorem Sorted.append_disjoint {l1 l2 : List Tx} (h : Sorted (l1 ++ l2)) {u : Tx} (h1 : u ∈ l1) (h2 : u ∈ l2) : False := by
  have := (List.pairwise_append.mp h).2.2 u h1 u h2; omega

theorem removeTx_allok {s : Pool} (t : Tx) (hw : WeakAll s) (ha : AllOK s) : AllOK (s.removeTx t) := by
  obtain ⟨ht, _, hc⟩ := removeTx_spec s t hw
  have hwa := hw.weak t.sender
  have hpi := fun u hu => hwa.psorted.nonce_inj (t := u) (u := t) hu
  have hqi := fun u hu => hwa.qsorted.nonce_inj (t := u) (u := t) hu
  have hdj := hwa.disj
  cases hc with
  | noop e _ => rw [e]; exact ha
  | pend hin hfound hitems hpn hqx hall =>
    have htp : t ∈ (s.pending t.sender).items := by
      rcases (ha t).mp hin with h | h
      · exact h
      · cases hg : getN (s.pending t.sender).items t.nonce with
        | none => rw [hg] at hfound; cases hfound
        | some o => exact absurd (getN_some hg).2 (hwa.disj o (getN_some hg).1 t h)
    refine ha.step (· = t) (fun u => u ∈ (s.pending t.sender).items ∧ t.nonce < u.nonce) ht (fun u e => e ▸ rfl)
      (fun u h => hwa.powner u h.1) hall (fun u => ?_)
    rw [hitems, hqx u, List.mem_filter, decide_eq_true_eq]
    -- `t` sits in the pending list (`htp`), alone at its nonce there (`hpi`) and in neither list twice (`hdj`)
    grind
  | queue hin hp hpn _ hnone hall hqitems =>
    have htq : t ∈ (s.queue t.sender).items := by
      rcases (ha t).mp hin with h | h
      · exact absurd rfl (getN_none.mp hnone t h)
      · exact h
    have hnp := getN_none.mp hnone
    refine ha.step (· = t) (fun _ => False) ht (fun u e => e ▸ rfl) (fun _ h => h.elim)
      (fun u => by rw [hall u, or_false]) (fun u => ?_)
    rw [hp, hqitems, List.mem_filter, Bool.not_eq_true', decide_eq_false_iff_not]
    -- `t` sits in the queue (`htq`), alone at its nonce there (`hqi`); the pending list has nothing at it (`hnp`)
    grind

theorem capOne_allok {s : Pool} (a : Addr) (hw : WeakAll s) (ha : AllOK s) : AllOK (s.capOne a) := by
  have hf := capOne_facts s a
  have hwa := hw.weak a
  cases hf.cases with
  | empty h1 h2 _ hall =>
    refine ha.step (fun _ => False) (fun _ => False) hf.touch (fun _ h => h.elim) (fun _ h => h.elim)
      (fun u => by rw [hall u]; simp only [not_false_eq_true, and_true, or_false]) (fun u => ?_)
    rw [hf.queue, h1, h2]; simp only [not_false_eq_true, and_true, or_false]
  | last x hx h2 _ hall =>
    have hxP : x ∈ (s.pending a).items := List.mem_of_getLast? hx
    have hs := hwa.psorted; rw [← h2] at hs
    have hlast := fun u hu => Sorted.append_disjoint hs (u := u) hu
    have hdj := hwa.disj x hxP
    refine ha.step (· = x) (fun _ => False) hf.touch (fun u e => e ▸ hwa.powner x hxP) (fun _ h => h.elim)
      (fun u => by rw [hall u, or_false]) (fun u => ?_)
    rw [hf.queue, ← h2, List.mem_append, List.mem_singleton]
    -- the last entry occurs nowhere before itself (`hlast`) and not in the queue (`hdj`)
    grind

theorem pa_queue_split {s : Pool} {a : Addr} (hwa : Weak (s.pending a) (s.queue a) a) (k : Nat) (u : Tx) :
    (u ∈ (paReady s a).1 ∨ u ∈ (paReady s a).2.take k) ↔
      u ∈ (s.queue a).items ∧ u ∉ (forward (s.cnonce a) (s.queue a).items).1 ∧
        u ∉ ((paQ1 s a).filter (s.balance a) s.maxGas).1 ∧ u ∉ (paReady s a).2.drop k := by
  have hq := paq s a hwa
  have hfs := TxL.filter_spec (paQ1 s a) (s.balance a) s.maxGas
  constructor
  · intro h
    have h2 : u ∈ (paQ2 s a).items := by
      rw [← hq.rapp]; exact List.mem_append.mpr (h.imp_right List.mem_of_mem_take)
    refine ⟨(hq.q2sub u h2).1, fun hc => ?_, fun hc => ?_, fun hd => ?_⟩
    · have := (mem_forward_fst.mp hc).2
      have := (hq.q2sub u h2).2
      omega
    · have := hfs.rem_unpay u hc
      rw [unpayable_false.mpr (hq.q2pay u h2)] at this; cases this
    · rcases h with h | h
      · exact hq.rfreeQ u h u (List.mem_of_mem_drop hd) rfl
      · exact Nat.lt_irrefl _ (hq.restsorted.take_lt_drop k u h u hd)
  · rintro ⟨hQ, hnf, hng, hnd⟩
    have h1 : u ∈ (paQ1 s a).items := by
      by_cases hlt : u.nonce < s.cnonce a
      · exact absurd (mem_forward_fst.mpr ⟨hQ, hlt⟩) hnf
      · exact mem_forward_snd.mpr ⟨hQ, Nat.not_lt.mp hlt⟩
    rcases hfs.cover u h1 with h2 | h2 | h2
    · have h2' : u ∈ (paQ2 s a).items := h2
      rw [← hq.rapp, List.mem_append] at h2'
      rcases h2' with h3 | h3
      · exact Or.inl h3
      · rcases (mem_take_or_drop _ k u).mp h3 with h4 | h4
        · exact Or.inr h4
        · exact absurd h4 hnd
    · exact absurd h2 hng
    · rw [hfs.nonstrict hwa.qstrict] at h2; cases h2

theorem promoteAcct_allok {s : Pool} (a : Addr) (hw : WeakAll s) (ha : AllOK s) : AllOK (s.promoteAcct a) := by
  have hwa := hw.weak a
  have hq := paq s a hwa
  have hx := promote_exact a hwa
  have hfs := TxL.filter_spec (paQ1 s a) (s.balance a) s.maxGas
  have hRQ : ∀ u, (u ∈ (forward (s.cnonce a) (s.queue a).items).1 ∨ u ∈ ((paQ1 s a).filter (s.balance a) s.maxGas).1 ∨
      u ∈ (paReady s a).2.drop (paCap s a)) → u ∈ (s.queue a).items := by
    rintro u (h | h | h)
    · exact (mem_forward_fst.mp h).1
    · exact (mem_forward_snd.mp (hfs.rem_sub u h)).1
    · exact (hq.q2sub u (hq.restsub u (List.mem_of_mem_drop h))).1
  refine ha.step (fun u => u ∈ (forward (s.cnonce a) (s.queue a).items).1 ∨
      u ∈ ((paQ1 s a).filter (s.balance a) s.maxGas).1 ∨ u ∈ (paReady s a).2.drop (paCap s a)) (fun u => u ∈ (paReady s a).1)
    (promoteAcct_touch s a) (fun u h => hwa.qowner u (hRQ u h)) hq.rowner (fun u => ?_) (fun u => ?_)
  · have hsp := pa_queue_split hwa (paCap s a) u
    rw [hx.amem u]
    -- `hsp`: what stays of the queue; `hRQ`: what leaves was queued, hence in `all`
    grind
  · have hsp := pa_queue_split hwa (paCap s a) u
    have hdj : u ∈ (s.pending a).items → u ∉ (s.queue a).items := fun h hq => hwa.disj u h u hq rfl
    have hRQ := hRQ u
    rw [hx.pmem u, hx.qitems]
    -- `hsp`, `hRQ` as above; `hdj`: the two lists share no entry
    grind

theorem demoteAcct_allok (g : Bool) {s : Pool} (a : Addr) (hw : WeakAll s) (ha : AllOK s) : AllOK (s.demoteAcct g a) := by
  have hwa := hw.weak a
  have hd := dfacts s a hwa
  have hx := demote_exact g a hw
  have hfs := TxL.filter_spec (dP1 s a) (s.balance a) s.maxGas
  -- the pending list splits into: too old, unpayable, invalidated, kept, cut off by the gap check
  have hfwd : ∀ u, u ∈ (forward (s.cnonce a) (s.pending a).items).1 ↔ u ∈ (s.pending a).items ∧ u.nonce < s.cnonce a :=
    fun u => mem_forward_fst
  have hp1 : ∀ u, u ∈ (dP1 s a).items ↔ u ∈ (s.pending a).items ∧ ¬ u.nonce < s.cnonce a := fun u => mem_forward_snd.trans (and_congr_right fun _ => Nat.not_lt.symm)
  have hcov : ∀ u ∈ (dP1 s a).items, u ∈ (dG s a).2.2.items ∨ u ∈ (dG s a).1 ∨ u ∈ (dG s a).2.1 := hfs.cover
  have hp2 : ∀ u ∈ (dG s a).2.2.items, u ∈ (dP1 s a).items ∧ u ∉ (dG s a).1 :=
    fun u hu => ⟨hfs.kept_sub u hu, fun hc => by
      have := hfs.rem_unpay u hc; rw [unpayable_false.mpr (hd.p2pay u hu)] at this; cases this⟩
  have hrem : ∀ u ∈ (dG s a).1, u ∈ (dP1 s a).items := hfs.rem_sub
  have hinv := hd.invsub
  have htd := mem_take_or_drop (dG s a).2.2.items (dKeep g s a)
  have hdj := hwa.disj
  refine ha.step (fun u => u ∈ (forward (s.cnonce a) (s.pending a).items).1 ∨ u ∈ (dG s a).1)
    (fun u => u ∈ (dG s a).2.2.items.drop (dKeep g s a) ∨ u ∈ (dG s a).2.1) (demoteAcct_facts g a hw).touch
    (fun u h => hwa.powner u (h.elim (fun h => ((hfwd u).mp h).1) (fun h => ((hp1 u).mp (hrem u h)).1)))
    (fun u h => hwa.powner u (h.elim (fun h => (hd.p2sub u (List.mem_of_mem_drop h)).1) (hinv u))) (fun u => ?_) (fun u => ?_)
  -- the partition `hfwd hp1 hcov hp2 hrem hinv htd` of the pending list, and `hdj`
  · rw [hx.amem u]; grind
  · rw [hx.pitems, hx.qmem u]; grind

theorem demoteAcct_nonew (g : Bool) {s : Pool} (a : Addr) (hw : WeakAll s) : NoNew s (s.demoteAcct g a) := by
  have hx := demote_exact g a hw
  have hd := dfacts s a (hw.weak a)
  refine NoNew.touch (demoteAcct_facts g a hw).touch fun u hu => ?_
  rw [hx.pitems, hx.qmem u] at hu
  rcases hu with h | h | h | h
  · exact Or.inl (hd.p2sub u (List.mem_of_mem_take h)).1
  · exact Or.inl (hd.p2sub u (List.mem_of_mem_drop h)).1
  · exact Or.inl (hd.invsub u h)
  · exact Or.inr h

theorem mem_all_add {l : TxL} {t : Tx} {b : Nat} (all : List Tx) (hs : Sorted l.items) (h : (l.add t b).1 = true) (u : Tx) :
    u ∈ allPut t (l.add t b).2.1 all ↔ (u ∈ all ∧ ¬(u ∈ l.items ∧ u.nonce = t.nonce)) ∨ u = t := by
  rw [allPut.eq_def, mem_insertAll, Or.comm, TxL.add_inserted h]
  cases hg : getN l.items t.nonce with
  | none =>
    have := getN_none.mp hg
    simp only
    grind
  | some o =>
    have ho := getN_some hg
    have hi := fun hu => hs.nonce_inj (t := u) (u := o) hu ho.1
    simp only [mem_delAll]
    grind

/-- `l` is the list `t` goes into, `x` the sender's other list -/
theorem add_lists {l x : TxL} {t : Tx} {b : Nat} (hs : Sorted l.items) (hdj : ∀ u ∈ l.items, u ∉ x.items)
    (h : (l.add t b).1 = true) (u : Tx) :
    (u ∈ (l.add t b).2.2.items ∨ u ∈ x.items) ↔
      ((u ∈ l.items ∨ u ∈ x.items) ∧ ¬(u ∈ l.items ∧ u.nonce = t.nonce)) ∨ u = t := by
  rw [TxL.mem_add hs h u]
  grind

theorem replace_allok {s : Pool} {t : Tx} (hw : WeakAll s) (ha : AllOK s)
    (hov : (s.pending t.sender).overlaps t = true) (hins : ((s.pending t.sender).add t s.cfg.priceBump).1 = true) :
    AllOK { s with pending := upd s.pending t.sender ((s.pending t.sender).add t s.cfg.priceBump).2.2,
                   all := allPut t ((s.pending t.sender).add t s.cfg.priceBump).2.1 s.all } := by
  have hwa := hw.weak t.sender
  refine ha.step (fun u => u ∈ (s.pending t.sender).items ∧ u.nonce = t.nonce) (· = t) (replace_weak _ hw hov hins).2
    (fun u h => hwa.powner u h.1) (fun u e => e ▸ rfl) (mem_all_add s.all hwa.psorted hins) (fun u => ?_)
  show u ∈ (upd s.pending t.sender _ t.sender).items ∨ _ ↔ _
  rw [upd_same]
  exact add_lists hwa.psorted (fun u hp hq => hwa.disj u hp u hq rfl) hins u

theorem enqueueTx_allok {s : Pool} {t : Tx} (hw : WeakAll s) (ha : AllOK s) : AllOK (s.enqueueTx t).2.2 := by
  have hwa := hw.weak t.sender
  have hf := enqueueTx_facts s t
  rcases enqueueTx_cases s t with e | ⟨hins, hq, _, hall⟩
  · rw [e]; exact ha
  · refine ha.step (fun u => u ∈ (s.queue t.sender).items ∧ u.nonce = t.nonce) (· = t) hf.touch
      (fun u h => hwa.qowner u h.1) (fun u e => e ▸ rfl) (fun u => hall ▸ mem_all_add s.all hwa.qsorted hins u) (fun u => ?_)
    rw [hf.pending, hq, Or.comm, add_lists hwa.qsorted (fun u hq hp => hwa.disj u hp u hq rfl) hins u,
      Or.comm (a := u ∈ (s.queue t.sender).items)]

/-- what `AllOK` needs to be kept, and is kept inside a reset and by both demotions -/
def WA (s : Pool) : Prop := WeakAll s ∧ AllOK s

theorem addClosed_wa : AddClosed WA :=
  { rem := fun _ t h => ⟨removeTx_weak t h.1, removeTx_allok t h.1 h.2⟩
    cap := fun _ a h => ⟨capOne_weak a h.1, capOne_allok a h.1 h.2⟩
    acct := fun _ a h => ⟨promoteAcct_weak a h.1, promoteAcct_allok a h.1 h.2⟩
    replace := fun _ _ h _ _ hov hins => ⟨(replace_weak _ h.1 hov hins).1, replace_allok h.1 h.2 hov hins⟩
    enqueue := fun _ _ h _ hov => ⟨enqueueTx_weak h.1 (overlaps_false hov), enqueueTx_allok h.1 h.2⟩
    locals := fun _ _ h => h }

theorem demoteAcct_wa (g : Bool) (m : Pool) (a : Addr) (h : WA m) : WA (m.demoteAcct g a) :=
  ⟨(demoteAcct_facts g a h.1).weak, demoteAcct_allok g a h.1 h.2⟩

theorem reset_wa (g : Bool) (s : Pool) (v : View) (oldNum newNum : Nat) (reorg : Bool) (disc inc : List Tx)
    (o : ResetOracle) (h : WA s) : WA (s.reset g v oldNum newNum reorg disc inc o) :=
  reset_pres addClosed_wa g (demoteAcct_wa g) (fun _ _ h => h) (fun _ _ h => h) s v oldNum newNum reorg disc inc o h

end Aqv.TxPool
