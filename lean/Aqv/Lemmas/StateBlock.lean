/-
  Aqv.Lemmas.StateBlock — Finalise is independent of the iteration order over the dirty set; Finalise and Commit described
  address by address.
-/
import Aqv.Lemmas.State
namespace Aqv.State

def finObj (d : Bool) (o : Obj) : Obj := if delCond d o then { o with deleted := true } else o.flush
def finLeaf (d : Bool) (x : Option Obj) (leaf : Option Acct) : Option Acct :=
  match x with
  | none => leaf
  | some o => if delCond d o then none else some o.toAcct
def finBad (d : Bool) (x : Option Obj) : Bool :=
  match x with
  | none => true
  | some o => !delCond d o && decide (o.balance < 0)

theorem finalise_eq (d : Bool) (s : SDB) : finalise d s =
    { s with
      trie := fun a => if a ∈ s.dirty then finLeaf d (s.objs a) (s.trie a) else s.trie a
      objs := fun a => if a ∈ s.dirty then (s.objs a).map (finObj d) else s.objs a
      fault := s.fault || s.dirty.any fun a => finBad d (s.objs a)
      journal := [], revs := [], refund := 0 } := by
  unfold finalise
  -- `finLeaf` and `finBad` unfold to what `finalise` says; only the cache needs the case split that `finObj` hides
  congr 1
  funext a
  split
  · cases s.objs a with
    | none => rfl
    | some o => simp only [Option.map, finObj]; split <;> rfl
  · rfl

theorem finalise_objs (d : Bool) (s : SDB) (a : Addr) :
    (finalise d s).objs a = if a ∈ s.dirty then (s.objs a).map (finObj d) else s.objs a := by
  rw [finalise_eq]

theorem finalise_trie (d : Bool) (s : SDB) (a : Addr) :
    (finalise d s).trie a = if a ∈ s.dirty then finLeaf d (s.objs a) (s.trie a) else s.trie a := by
  rw [finalise_eq]

theorem finStep_eq (d : Bool) (s : SDB) (a : Addr) : finStep d s a =
    { s with
      objs := upd s.objs a ((s.objs a).map (finObj d))
      trie := upd s.trie a (finLeaf d (s.objs a) (s.trie a))
      fault := s.fault || finBad d (s.objs a) } := by
  unfold finStep
  cases h : s.objs a with
  | none => simp only [Option.map, finLeaf, finBad, Bool.or_true]; rw [upd_self, ← h, upd_self]
  | some o => by_cases hd : delCond d o = true <;> simp [finObj, finLeaf, finBad, hd]

theorem any_congr {α : Type} {l l' : List α} {p q : α → Bool} (hm : ∀ a, a ∈ l ↔ a ∈ l') (hp : ∀ a ∈ l, p a = q a) :
    l.any p = l'.any q := by
  rw [Bool.eq_iff_iff]; simp only [List.any_eq_true]
  exact ⟨fun ⟨a, ha, h⟩ => ⟨a, (hm a).mp ha, hp a ha ▸ h⟩, fun ⟨a, ha, h⟩ => ⟨a, (hm a).mpr ha, hp a ((hm a).mpr ha) ▸ h⟩⟩

theorem foldl_finStep (d : Bool) : ∀ (l : List Addr) (s : SDB), l.Nodup → l.foldl (finStep d) s =
    { s with
      objs := fun a => if a ∈ l then (s.objs a).map (finObj d) else s.objs a
      trie := fun a => if a ∈ l then finLeaf d (s.objs a) (s.trie a) else s.trie a
      fault := s.fault || l.any fun a => finBad d (s.objs a) }
  | [], s, _ => by simp
  | x :: xs, s, hnd => by
    have hx : x ∉ xs := (List.nodup_cons.mp hnd).1
    have hne : ∀ a ∈ xs, a ≠ x := fun a ha h => hx (h ▸ ha)
    rw [List.foldl_cons, foldl_finStep d xs _ (List.nodup_cons.mp hnd).2, finStep_eq]
    congr 1
    · funext a
      by_cases hax : a = x
      · subst hax; simp [hx]
      · simp [hax]
    · funext a
      by_cases hax : a = x
      · subst hax; simp [hx]
      · simp [hax]
    · rw [List.any_cons, Bool.or_assoc]
      exact congrArg (fun b => s.fault || (finBad d (s.objs x) || b))
        (any_congr (fun _ => Iff.rfl) fun a ha => congrArg (finBad d) (upd_ne _ _ _ _ (hne a ha)))

/-- `Finalise` computes the same state whatever order Go's map iteration visits the dirty set in. -/
theorem finaliseFold_eq (d : Bool) (s : SDB) (order : List Addr) (hnd : order.Nodup) (hmem : ∀ a, a ∈ order ↔ a ∈ s.dirty) :
    finaliseFold d order s = finalise d s := by
  rw [finaliseFold, foldl_finStep d order s hnd, finalise_eq, clearJournalAndRefund]
  congr 1
  · simp only [hmem]
  · simp only [hmem]
  · exact congrArg (s.fault || ·) (any_congr hmem fun _ _ => rfl)

/-- the deletion test of `Commit`. -/
def cdel (d : Bool) (s : SDB) (a : Addr) (o : Obj) : Bool := o.suicided || (decide (a ∈ s.dirty) && d && o.empty)

theorem commit_objs (d : Bool) (s : SDB) (a : Addr) :
    (commit d s).objs a = match s.objs a with
      | none => none
      | some o => if cdel d s a o then some { o with deleted := true } else if a ∈ s.dirty then some o.flush else some o := rfl

theorem commit_trie (d : Bool) (s : SDB) (a : Addr) :
    (commit d s).trie a = match s.objs a with
      | none => s.trie a
      | some o => if cdel d s a o then none else if a ∈ s.dirty then some o.toAcct else s.trie a := rfl

end Aqv.State
