/-
  Aqv.Lemmas.FeedInvE — the ghost state of the model is a function of the chronological history `tr`:
  who is subscribed / has called or returned from Unsubscribe / Send, the placement and receive logs, and the two
  snapshots `atCall` ("Subscribe(c) returned before Send g was called") and `atRet` ("Unsubscribe(c) was called before
  Send g returned").  This lets the property theorems be stated on the history alone.
-/
import Aqv.Lemmas.FeedStep
import Aqv.Lemmas.FeedTrace
namespace Aqv.Feed
variable {s s' : St} {a : Act}

structure InvE (s : St) : Prop where
  t_sub : ∀ c, Ev.subRet c ∈ s.tr ↔ s.subscribed c = true
  t_ucall : ∀ c, Ev.unsubCall c ∈ s.tr ↔ s.rpc c ≠ .idle
  t_uret : ∀ c, Ev.unsubRet c ∈ s.tr ↔ s.rpc c = .done
  t_scall : ∀ g, Ev.sendCall g ∈ s.tr ↔ s.spc g ≠ .idle
  t_sret : ∀ g n, Ev.sendRet g n ∈ s.tr ↔ s.spc g = .done n
  t_place : placesOf s.tr = s.placed
  t_recv : ∀ c, recvsOf c s.tr = s.rcvd c
  t_atCall : ∀ g c, s.atCall g c = true ↔ Before s.tr (.subRet c) (.sendCall g)
  t_atRet : ∀ g n c, Ev.sendRet g n ∈ s.tr → (s.atRet g c = true ↔ Before s.tr (.unsubCall c) (.sendRet g n))

theorem invE_init : InvE init := by
  constructor <;> simp [init, placesOf, recvsOf, Before]

theorem t_sub_step (h : ∀ c, Ev.subRet c ∈ s.tr ↔ s.subscribed c = true) (st : Step s a s') :
    ∀ c, Ev.subRet c ∈ s'.tr ↔ s'.subscribed c = true := by
  cases st with
  | subscribe => grind
  | _ => first | exact h | simpa only [mem_snoc, reduceCtorEq, or_false] using h

/-! A call or return event is appended by exactly the step that takes the program counter out of `idle`, or into
`done`; another step of the same call moves the pc between values on the same side, and every other step appends
another kind of event or none. -/

theorem t_ucall_step (h : ∀ c, Ev.unsubCall c ∈ s.tr ↔ s.rpc c ≠ .idle) (st : Step s a s') :
    ∀ c, Ev.unsubCall c ∈ s'.tr ↔ s'.rpc c ≠ .idle := by
  cases st with
  | unsubCall | rmInbox | rmMiss | rmToken | rmDelete | rmPanic | rmRelease | selRecv => grind
  | _ => first | exact h | simpa only [mem_snoc, reduceCtorEq, or_false] using h

theorem t_uret_step (h : ∀ c, Ev.unsubRet c ∈ s.tr ↔ s.rpc c = .done) (st : Step s a s') :
    ∀ c, Ev.unsubRet c ∈ s'.tr ↔ s'.rpc c = .done := by
  cases st with
  | unsubCall | rmInbox | rmMiss | rmToken | rmDelete | rmPanic | rmRelease | selRecv => grind
  | _ => first | exact h | simpa only [mem_snoc, reduceCtorEq, or_false] using h

theorem t_scall_step (h : ∀ g, Ev.sendCall g ∈ s.tr ↔ s.spc g ≠ .idle) (st : Step s a s') :
    ∀ g, Ev.sendCall g ∈ s'.tr ↔ s'.spc g ≠ .idle := by
  cases st with
  | sendCall | acquire | merge | tryOk | tryFail | sendRet | toSelect | selPlace | selRecv | doRemove | sendPanic => grind
  | _ => first | exact h | simpa only [mem_snoc, reduceCtorEq, or_false] using h

theorem t_sret_step (h : ∀ g n, Ev.sendRet g n ∈ s.tr ↔ s.spc g = .done n) (st : Step s a s') :
    ∀ g n, Ev.sendRet g n ∈ s'.tr ↔ s'.spc g = .done n := by
  cases st with
  | sendCall | acquire | merge | tryOk | tryFail | sendRet | toSelect | selPlace | selRecv | doRemove | sendPanic => grind
  | _ => first | exact h | simpa only [mem_snoc, reduceCtorEq, or_false] using h

theorem t_place_step (h : placesOf s.tr = s.placed) (st : Step s a s') : placesOf s'.tr = s'.placed := by
  cases st <;> simp [placesOf_snoc, h]

theorem t_recv_step (h : ∀ c, recvsOf c s.tr = s.rcvd c) (st : Step s a s') : ∀ c, recvsOf c s'.tr = s'.rcvd c := by
  cases st with
  | recvTake => grind [recvsOf_snoc]
  | _ => first | exact h | simpa [recvsOf_snoc] using h

theorem t_atCall_step (hsub : ∀ c, Ev.subRet c ∈ s.tr ↔ s.subscribed c = true)
    (h : ∀ g c, s.atCall g c = true ↔ Before s.tr (.subRet c) (.sendCall g)) (st : Step s a s') :
    ∀ g c, s'.atCall g c = true ↔ Before s'.tr (.subRet c) (.sendCall g) := by
  cases st with
  | @sendCall g₀ =>
    intro g c
    by_cases hg : g = g₀
    · subst hg; simp [before_snoc_self, hsub]
    · simpa [before_snoc, hg] using h g c
  | _ => first | exact h | simpa [before_snoc] using h

theorem t_atRet_step (hcall : ∀ c, Ev.unsubCall c ∈ s.tr ↔ s.rpc c ≠ .idle)
    (hret : ∀ g n, Ev.sendRet g n ∈ s.tr ↔ s.spc g = .done n)
    (h : ∀ g n c, Ev.sendRet g n ∈ s.tr → (s.atRet g c = true ↔ Before s.tr (.unsubCall c) (.sendRet g n)))
    (st : Step s a s') :
    ∀ g n c, Ev.sendRet g n ∈ s'.tr → (s'.atRet g c = true ↔ Before s'.tr (.unsubCall c) (.sendRet g n)) := by
  cases st with
  | @sendRet g₀ i hg₀ =>
    intro g n c
    by_cases hg : g = g₀
    · -- no earlier return of this Send is in the history, so the event meant is the one appended now
      subst hg
      have : ∀ n, Ev.sendRet g n ∉ s.tr := fun n hn => by simp [(hret g n).mp hn] at hg₀
      simp +contextual [this, before_snoc_self, hcall]
    · simpa [before_snoc, hg] using h g n c
  | _ => first | exact h | simpa [before_snoc] using h

theorem invE_step (h : InvE s) (st : Step s a s') : InvE s' where
  t_sub := t_sub_step h.t_sub st
  t_ucall := t_ucall_step h.t_ucall st
  t_uret := t_uret_step h.t_uret st
  t_scall := t_scall_step h.t_scall st
  t_sret := t_sret_step h.t_sret st
  t_place := t_place_step h.t_place st
  t_recv := t_recv_step h.t_recv st
  t_atCall := t_atCall_step h.t_sub h.t_atCall st
  t_atRet := t_atRet_step h.t_ucall h.t_sret h.t_atRet st

theorem invE_reach {s : St} (h : Reach s) : InvE s := by
  induction h with
  | init => exact invE_init
  | step a _ hs ih => exact invE_step ih (.of_step hs)

end Aqv.Feed
