/-
  Lemmas for Layer C of Aqv.Model.BlockImport: the store invariant; `Run`, the list of what one import can do to the store,
  from which come what an accepted block has passed and that a refusal leaves nothing behind; a preservation principle for
  the import loop (what a property of stores must satisfy to survive every import); the abort discipline of a batch.
-/
import Aqv.Lemmas.BlockImportPipe
namespace Aqv.BlockImport

variable {St Tx : Type}

/-- the value of `result` at SOME parent state with the root the parent header commits to, not at a stored one. -/
def Justified (C : ChainComp St Tx) (cfg : Cfg) (s : Stored Tx) (rs : List Receipt) : Prop :=
  ∃ (pst : St) (ph : Header) (p : Processed St),
    C.hashHeader ph = s.block.header.parentHash ∧ C.root pst = ph.root ∧
    result C.toComp cfg pst s.block = .ok p ∧ p.receipts = rs ∧ p.gasUsed = s.gasUsed ∧ C.root p.st = s.block.header.root

structure Inv (C : ChainComp St Tx) (cfg : Cfg) (g : Header) (S : Store St Tx) : Prop where
  keys : ∀ h s, S.blocks h = some s → C.hashHeader s.block.header = h
  states : ∀ r st, S.states r = some st → C.root st = r
  just : ∀ h s rs, S.blocks h = some s → s.receipts = some rs → s = genesisEntry g ∨ Justified C cfg s rs

theorem result_root (C : Comp St Tx) (cfg : Cfg) (pst : St) (b : Block Tx) (p : Processed St)
    (h : result C cfg pst b = .ok p) : C.root p.st = b.header.root := by
  obtain ⟨p', _, hv, rfl⟩ := (result_ok_iff C cfg pst b p).1 h
  exact ((validateState_ok_iff C cfg b p'.st p'.receipts p'.gasUsed).1 hv).2.2.2

theorem Justified.unique {C : ChainComp St Tx} {cfg : Cfg} (rootInj : ∀ s₁ s₂ : St, C.root s₁ = C.root s₂ → s₁ = s₂)
    (hashInj : ∀ h₁ h₂ : Header, C.hashHeader h₁ = C.hashHeader h₂ → h₁ = h₂) {s₁ s₂ : Stored Tx} {rs₁ rs₂ : List Receipt}
    (j₁ : Justified C cfg s₁ rs₁) (j₂ : Justified C cfg s₂ rs₂) (hb : s₁.block = s₂.block) :
    rs₁ = rs₂ ∧ s₁.gasUsed = s₂.gasUsed := by
  obtain ⟨pst₁, ph₁, p₁, k₁, r₁, res₁, a₁, b₁, _⟩ := j₁
  obtain ⟨pst₂, ph₂, p₂, k₂, r₂, res₂, a₂, b₂, _⟩ := j₂
  rw [hb] at k₁ res₁
  cases hashInj _ _ (k₁.trans k₂.symm)
  cases rootInj _ _ (r₁.trans r₂.symm)
  cases res₁.symm.trans res₂
  exact ⟨a₁.symm.trans a₂, b₁.symm.trans b₂⟩

theorem genesis_inv (C : ChainComp St Tx) (cfg : Cfg) (g : Header) (gst : St) (hg : C.root gst = g.root) :
    Inv C cfg g (genesisStore C.toComp g gst) :=
  ⟨entries_upd rfl entries_none, entries_upd hg entries_none,
   fun h s rs hs _ => entries_upd (P := fun _ s => s = genesisEntry g ∨ Justified C cfg s rs) (Or.inl rfl) entries_none h s hs⟩

theorem writeBlockWithState_blocks (C : ChainComp St Tx) (S : Store St Tx) (b : Block Tx) (p : Processed St) (coin : Bool) :
    (writeBlockWithState C S b p coin).blocks = upd S.blocks (C.hashHeader b.header)
      (some { block := b, td := S.td b.header.parentHash + b.header.difficulty, receipts := some p.receipts, gasUsed := p.gasUsed }) :=
  rfl

theorem writeBlockWithState_states (C : ChainComp St Tx) (S : Store St Tx) (b : Block Tx) (p : Processed St) (coin : Bool) :
    (writeBlockWithState C S b p coin).states = upd S.states b.header.root (some p.st) :=
  rfl

theorem write_inv (C : ChainComp St Tx) (cfg : Cfg) (g : Header) (S : Store St Tx) (hI : Inv C cfg g S)
    (b : Block Tx) (ph : Header) (pst : St) (p : Processed St) (coin : Bool)
    (hk : C.hashHeader ph = b.header.parentHash) (hr0 : C.root pst = ph.root)
    (hr : result C.toComp cfg pst b = .ok p) : Inv C cfg g (writeBlockWithState C S b p coin) :=
  have hroot := result_root C.toComp cfg pst b p hr
  ⟨entries_upd rfl hI.keys, entries_upd hroot hI.states,
   fun h s rs hs => entries_upd (fun hrs => Or.inr ⟨pst, ph, p, hk, hr0, hr, Option.some.inj hrs, rfl, hroot⟩)
     (fun x y => hI.just x y rs) h s hs⟩

theorem writeSide_inv (C : ChainComp St Tx) (cfg : Cfg) (g : Header) (S : Store St Tx) (hI : Inv C cfg g S)
    (b : Block Tx) (td : Nat) : Inv C cfg g (writeBlockWithoutState C S b td) :=
  ⟨entries_upd rfl hI.keys, hI.states, fun h s rs hs => entries_upd (fun hrs => nomatch hrs) (fun x y => hI.just x y rs) h s hs⟩

theorem tailStep_cases (C : ChainComp St Tx) (cfg : Cfg) (S : Store St Tx) (pst : St) (b : Block Tx) (coin cu ch : Bool) :
    (∃ e, tailStep C cfg S pst b coin cu ch = (.abort e, S)) ∨
    (∃ p, result C.toComp cfg pst b = .ok p ∧ (ch = true → validateAll C.toComp cfg pst b = .ok p) ∧
      tailStep C cfg S pst b coin cu ch = (.written, writeBlockWithState C S b p coin)) := by
  unfold tailStep
  split
  · exact Or.inl ⟨_, rfl⟩
  · split
    · exact Or.inl ⟨_, rfl⟩
    · rename_i p hh
      refine Or.inr ⟨p, ?_, ?_, rfl⟩
      · cases ch
        · simpa using hh
        · simp only [if_true] at hh; exact ((validateAll_ok_iff _ _ _ _ _).1 hh).2
      · intro hc; subst hc; simpa using hh

theorem bodyGate_none (C : ChainComp St Tx) (b : Block Tx) (hbf : C.bodyFirst = true) (h : bodyGate C b = none) :
    validateBodyHashes C.toComp b = .ok () := by
  unfold bodyGate at h
  rw [if_pos hbf] at h
  split at h
  · cases h
  · assumption

/-- every outcome and store that one iteration of `insertChain2`'s loop (`importBlock`), or the nested `bc.insertChain(winner)`
    of its ErrPrunedAncestor branch (`reimport`), can return on the store `S` and the block `b`. -/
inductive Run (C : ChainComp St Tx) (cfg : Cfg) (coin : Bool) (S : Store St Tx) : Block Tx → Outcome → Store St Tx → Prop
  | refuse {b} (e) : Run C cfg coin S b (.abort e) S
  | skip {b} : Run C cfg coin S b .skipped S
  | side {b} (td) : bodyGate C b = none → Run C cfg coin S b .side (writeBlockWithoutState C S b td)
  | write {b ps pst p} : bodyGate C b = none → S.blocks b.header.parentHash = some ps →
      S.states ps.block.header.root = some pst → result C.toComp cfg pst b = .ok p →
      Run C cfg coin S b .written (writeBlockWithState C S b p coin)
  | ancStop {b ps o₁ S₁} (e) : S.blocks b.header.parentHash = some ps → S.states ps.block.header.root = none →
      Run C cfg coin S ps.block o₁ S₁ → Run C cfg coin S b (.abort e) S₁
  | ancWrite {b ps o₁ S₁ pst p} : bodyGate C b = none → S.blocks b.header.parentHash = some ps →
      S.states ps.block.header.root = none → Run C cfg coin S ps.block o₁ S₁ →
      S₁.states ps.block.header.root = some pst → result C.toComp cfg pst b = .ok p →
      Run C cfg coin S b .written (writeBlockWithState C S₁ b p coin)

namespace Run
variable {C : ChainComp St Tx} {cfg : Cfg} {coin : Bool} {S : Store St Tx} {b : Block Tx} {ps : Stored Tx} {pst : St}

theorem tail (hbg : bodyGate C b = none) (hps : S.blocks b.header.parentHash = some ps)
    (hst : S.states ps.block.header.root = some pst) (cu ch : Bool) :
    Run C cfg coin S b (tailStep C cfg S pst b coin cu ch).1 (tailStep C cfg S pst b coin cu ch).2 := by
  rcases tailStep_cases C cfg S pst b coin cu ch with ⟨e, h⟩ | ⟨p, hr, _, h⟩
  · rw [h]; exact refuse e
  · rw [h]; exact write hbg hps hst hr

/-- what `reimport` and `importBlock` both do with the outcome `r` of the parent's run. -/
theorem afterParent (hbg : bodyGate C b = none) (hps : S.blocks b.header.parentHash = some ps)
    (hno : S.states ps.block.header.root = none) (r : Outcome × Store St Tx) (cu ch : Bool) {o : Outcome} {S' : Store St Tx}
    (h : (match r with
          | (.abort e, S1) => (Outcome.abort e, S1)
          | (_, S1) =>
            match S1.states ps.block.header.root with
            | some pst => tailStep C cfg S1 pst b coin cu ch
            | none => (.abort .noParentState, S1)) = (o, S'))
    (h₁ : Run C cfg coin S ps.block r.1 r.2) : Run C cfg coin S b o S' := by
  split at h
  · cases h; exact ancStop _ hps hno h₁
  · rename_i o₁ S₁ _
    split at h
    · rename_i pst hst
      rcases tailStep_cases C cfg S₁ pst b coin cu ch with ⟨e, h'⟩ | ⟨p, hr, _, h'⟩
      · cases h'.symm.trans h; exact ancStop e hps hno h₁
      · cases h'.symm.trans h; exact ancWrite hbg hps hno h₁ hst hr
    · cases h; exact ancStop _ hps hno h₁

/-- a written block passed the body gate, and `Process` + `ValidateState` on the state under its parent's root in `S₁`, the
    store once the ancestors had their states again. -/
theorem written {S' : Store St Tx} (h : Run C cfg coin S b .written S') :
    bodyGate C b = none ∧ ∃ ps S₁ pst p, S.blocks b.header.parentHash = some ps ∧ S₁.states ps.block.header.root = some pst ∧
      result C.toComp cfg pst b = .ok p ∧ S' = writeBlockWithState C S₁ b p coin := by
  cases h with
  | write hbg hps hst hr => exact ⟨hbg, _, S, _, _, hps, hst, hr, rfl⟩
  | ancWrite hbg hps _ _ hst hr => exact ⟨hbg, _, _, _, _, hps, hst, hr, rfl⟩

theorem abort_unchanged {e : Err} {S' : Store St Tx} (h : Run C cfg coin S b (.abort e) S')
    (hps : S.blocks b.header.parentHash = some ps) (hst : S.states ps.block.header.root = some pst) : S' = S := by
  cases h with
  | refuse => rfl
  | ancStop _ hps' hno => rw [hps] at hps'; cases hps'; rw [hst] at hno; cases hno

end Run

theorem reimport_run (C : ChainComp St Tx) (cfg : Cfg) (coin : Bool) (f : Nat) (S : Store St Tx) (b : Block Tx) :
    Run C cfg coin S b (reimport C cfg coin f S b).1 (reimport C cfg coin f S b).2 := by
  induction f generalizing b with
  | zero => exact .refuse _
  | succ f ih =>
    unfold reimport
    split
    · exact .refuse _
    · split
      · exact .refuse _
      · rename_i hbg
        split
        · exact .refuse _
        · rename_i ps hps
          split
          · rename_i pst hst; exact .tail hbg hps hst _ _
          · rename_i hno
            exact .afterParent hbg hps hno _ _ _ rfl (ih ps.block)

theorem importBlock_run (C : ChainComp St Tx) (cfg : Cfg) (coin : Bool) (S : Store St Tx) (b : Block Tx) :
    Run C cfg coin S b (importBlock C cfg coin S b).1 (importBlock C cfg coin S b).2 := by
  unfold importBlock
  split
  · exact .refuse _
  · split
    · exact .refuse _
    · rename_i hbg
      simp only []
      split
      · exact .skip
      · split
        · exact .refuse _
        · rename_i ps hps
          split
          · rename_i pst hst; exact .tail hbg hps hst _ _
          · rename_i hno
            split
            · exact .refuse _
            · split
              · exact .side _ hbg
              · exact .afterParent hbg hps hno _ _ _ rfl (reimport_run C cfg coin _ S ps.block)

/-- a block for which `WriteBlockWithState` ran has passed the body gate and `Process` + `ValidateState` on some state. -/
theorem importBlock_written (C : ChainComp St Tx) (cfg : Cfg) (coin : Bool) (S : Store St Tx) (b : Block Tx)
    (h : (importBlock C cfg coin S b).1 = .written) :
    bodyGate C b = none ∧ ∃ pst p, result C.toComp cfg pst b = .ok p := by
  have r := importBlock_run C cfg coin S b
  rw [h] at r
  obtain ⟨hbg, _, _, pst, p, _, _, hr, _⟩ := r.written
  exact ⟨hbg, pst, p, hr⟩

theorem importLoop_cons (C : ChainComp St Tx) (cfg : Cfg) (coins : Nat → Bool) (S : Store St Tx) (i : Nat)
    (b : Block Tx) (rest : List (Block Tx)) :
    importLoop C cfg coins S i (b :: rest) =
      match importBlock C cfg (coins i) S b with
      | (.abort e, S') => (i, some e, S')
      | (_, S') => importLoop C cfg coins S' (i + 1) rest := by
  rw [importLoop]
  cases importBlock C cfg (coins i) S b with
  | mk o S' => cases o <;> rfl

theorem importLoop_cons_abort (C : ChainComp St Tx) (cfg : Cfg) (coins : Nat → Bool) (S S' : Store St Tx) (i : Nat)
    (b : Block Tx) (rest : List (Block Tx)) (e : Err) (h : importBlock C cfg (coins i) S b = (.abort e, S')) :
    importLoop C cfg coins S i (b :: rest) = (i, some e, S') := by
  rw [importLoop_cons, h]

theorem importLoop_append (C : ChainComp St Tx) (cfg : Cfg) (coins : Nat → Bool) (S : Store St Tx) (i : Nat)
    (pre post : List (Block Tx)) :
    importLoop C cfg coins S i (pre ++ post) =
      match importLoop C cfg coins S i pre with
      | (j, some e, S') => (j, some e, S')
      | (j, none, S') => importLoop C cfg coins S' j post := by
  induction pre generalizing S i with
  | nil => rfl
  | cons b rest ih =>
    simp only [List.cons_append]
    rw [importLoop_cons, importLoop_cons]
    split
    · rfl
    · exact ih _ _

section Preserve
variable (C : ChainComp St Tx) (cfg : Cfg) (g : Header) (P : Store St Tx → Prop)

/-- what a property of stores has to satisfy to be carried through every import: it implies the store invariant, and it is
    kept by the two write functions under the facts the import path has established when it calls them. -/
structure Carried : Prop where
  inv : ∀ S, P S → Inv C cfg g S
  withState : ∀ S (b : Block Tx) p coin ph pst, P S → bodyGate C b = none → C.hashHeader ph = b.header.parentHash →
    S.states ph.root = some pst → result C.toComp cfg pst b = .ok p → P (writeBlockWithState C S b p coin)
  withoutState : ∀ S (b : Block Tx) td, P S → bodyGate C b = none → P (writeBlockWithoutState C S b td)

variable {C cfg g P}

theorem Run.carried (hc : Carried C cfg g P) {coin : Bool} {S S' : Store St Tx} {b : Block Tx} {o : Outcome}
    (h : Run C cfg coin S b o S') (hP : P S) : P S' := by
  induction h with
  | refuse | skip => exact hP
  | side td hbg => exact hc.withoutState S _ td hP hbg
  | write hbg hps hst hr => exact hc.withState S _ _ coin _ _ hP hbg ((hc.inv S hP).keys _ _ hps) hst hr
  | ancStop _ _ _ _ ih => exact ih
  | ancWrite hbg hps _ _ hst hr ih => exact hc.withState _ _ _ coin _ _ ih hbg ((hc.inv S hP).keys _ _ hps) hst hr

theorem importLoop_carried (hc : Carried C cfg g P) (coins : Nat → Bool) (S : Store St Tx) (hP : P S) (i : Nat)
    (batch : List (Block Tx)) : P (importLoop C cfg coins S i batch).2.2 := by
  induction batch generalizing S i with
  | nil => exact hP
  | cons b rest ih =>
    rw [importLoop_cons]
    have h1 := (importBlock_run C cfg (coins i) S b).carried hc hP
    split
    · rename_i e S' heq; rw [heq] at h1; exact h1
    · rename_i o S' _ heq; rw [heq] at h1; exact ih S' h1 (i + 1)

theorem insertChain_carried (hc : Carried C cfg g P) (coins : Nat → Bool) (S : Store St Tx) (hP : P S)
    (batch : List (Block Tx)) : P (insertChain C cfg coins S batch).2.2 := by
  unfold insertChain
  split
  · exact hP
  · exact importLoop_carried hc coins S hP 0 _

end Preserve

theorem inv_carried (C : ChainComp St Tx) (cfg : Cfg) (g : Header) : Carried C cfg g (Inv C cfg g) :=
  ⟨fun _ h => h, fun S b p coin ph pst hI _ hk hst hr => write_inv C cfg g S hI b ph pst p coin hk (hI.states _ _ hst) hr,
   fun S b td hI _ => writeSide_inv C cfg g S hI b td⟩

theorem apply_inv (C : ChainComp St Tx) (cfg : Cfg) (g : Header) (S : Store St Tx) (hI : Inv C cfg g S) (ev : Event Tx) :
    Inv C cfg g (S.apply C cfg ev) := by
  cases ev with
  | insert batch coins => exact insertChain_carried (inv_carried C cfg g) coins S hI batch
  | prune keep => exact ⟨hI.keys, entries_filter keep hI.states, hI.just⟩
  | restart => exact hI
  | setHead keep head =>
    exact ⟨entries_filter keep hI.keys, hI.states, fun h s rs hs => entries_filter keep (fun x y => hI.just x y rs) h s hs⟩

theorem run_inv (C : ChainComp St Tx) (cfg : Cfg) (g : Header) (S : Store St Tx) (hI : Inv C cfg g S) (evs : List (Event Tx)) :
    Inv C cfg g (S.run C cfg evs) :=
  List.foldlRecOn evs _ hI fun S hI ev _ => apply_inv C cfg g S hI ev

end Aqv.BlockImport
