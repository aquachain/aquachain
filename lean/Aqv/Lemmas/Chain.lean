/-
  Aqv.Lemmas.Chain — basic lemmas about `Aqv.Model.Chain`: finite-map updates, parent walks (`Path`) and the chain
  `l ++ [y]` of blocks a walk visits, the walks of `reorg`, the fork choice and the header checks, closed forms of the
  lookup/canonical-number folds.
-/
import Aqv.Model.Chain
namespace Aqv.Chain

@[simp] theorem upd_same {α : Type} (m : Map α) (k : Nat) (v : Option α) : upd m k v k = v := by simp [upd]

theorem upd_other {α : Type} (m : Map α) (k x : Nat) (v : Option α) (h : x ≠ k) : upd m k v x = m x := by
  simp [upd, h]

@[simp] theorem updB_same (m : Nat → Bool) (k : Nat) (v : Bool) : updB m k v k = v := by simp [updB]

theorem updB_other (m : Nat → Bool) (k x : Nat) (v : Bool) (h : x ≠ k) : updB m k v x = m x := by
  simp [updB, h]

@[simp] theorem upd_upd_same {α : Type} (m : Map α) (k : Nat) (v w : Option α) : upd (upd m k v) k w = upd m k w := by
  funext x; unfold upd; split <;> rfl

@[simp] theorem updB_updB_same (m : Nat → Bool) (k : Nat) (v w : Bool) : updB (updB m k v) k w = updB m k w := by
  funext x; unfold updB; split <;> rfl

theorem updB_true_of (m : Nat → Bool) (k x : Nat) (h : m x = true) : updB m k true x = true := by
  unfold updB; split <;> simp_all

theorem updB_mono {m m' : Nat → Bool} (h : ∀ x, m x = true → m' x = true) (k : Nat) :
    ∀ x, updB m k true x = true → updB m' k true x = true := by
  intro x hx
  by_cases hxk : x = k
  · subst hxk; simp
  · rw [updB_other _ _ _ _ hxk] at hx ⊢; exact h x hx

theorem upd_isSome_mono {α β : Type} {m : Map α} {m' : Map β} (h : ∀ x a, m x = some a → (m' x).isSome = true)
    (k : Nat) (v : α) (w : β) : ∀ x a, upd m k (some v) x = some a → (upd m' k (some w) x).isSome = true := by
  intro x a hx
  by_cases hxk : x = k
  · subst hxk; simp
  · rw [upd_other _ _ _ _ hxk] at hx ⊢; exact h x a hx

theorem upd_empty_some {α : Type} {k k' : Nat} {v x : α} :
    upd (fun _ => none) k (some v) k' = some x ↔ k' = k ∧ v = x := by
  by_cases hk : k' = k
  · subst hk; simp
  · simp [upd_other _ _ _ _ hk, hk]

theorem updB_empty_true {k k' : Nat} : updB (fun _ => false) k true k' = true ↔ k' = k := by
  by_cases hk : k' = k
  · subst hk; simp
  · simp [updB_other _ _ _ _ hk, hk]

theorem upd_some_cases {α : Type} {m : Map α} {k x : Nat} {v a : α} (h : upd m k (some v) x = some a) :
    m x = some a ∨ a = v := by
  by_cases hx : x = k
  · subst hx; simp at h; exact .inr h.symm
  · rw [upd_other _ _ _ _ hx] at h; exact .inl h

theorem upd_self {α : Type} (m : Map α) (k : Nat) (v : Option α) (h : m k = v) : upd m k v = m := by
  funext x
  unfold upd
  split
  · rename_i hx; rw [hx, h]
  · rfl

theorem upd_le {tab : Map Nat} {i k t v m : Nat} (hold : k ≠ i → ∀ t, tab k = some t → t ≤ m) (hv : v ≤ m)
    (hk : upd tab i (some v) k = some t) : t ≤ m := by
  by_cases hki : k = i
  · subst hki
    rw [upd_same, Option.some.injEq] at hk
    omega
  · rw [upd_other _ _ _ _ hki] at hk; exact hold hki t hk

theorem parentOf_some {store : Map Blk} {x p : Blk} (h : parentOf store x = some p) :
    store x.parent = some p ∧ p.number + 1 = x.number := by
  unfold parentOf at h
  split at h
  · cases h
  · rename_i n hn
    split at h
    · rename_i q hq
      split at h
      · rename_i hqn
        cases h
        exact ⟨hq, by omega⟩
      · cases h
    · cases h

theorem parentOf_of {store : Map Blk} {x p : Blk} (h1 : store x.parent = some p) (h2 : p.number + 1 = x.number) :
    parentOf store x = some p := by
  unfold parentOf
  split
  · omega
  · rename_i n hn
    rw [h1]
    simp
    omega

def StoreExt (store store' : Map Blk) : Prop := ∀ k x, store k = some x → store' k = some x

theorem parentOf_mono {store store' : Map Blk} (he : StoreExt store store') {x p : Blk}
    (h : parentOf store x = some p) : parentOf store' x = some p := by
  obtain ⟨h1, h2⟩ := parentOf_some h
  exact parentOf_of (he _ _ h1) h2

/-- (suffix `K`, here and in `wbws_storeExtK`, `reorg_ok_of_closedK`: stated on a store inside `U` alone, not on an
    invariant, as the proofs about the core `InvK` need it) -/
theorem storeExt_updK {U : Map Blk} {store : Map Blk} (hsub : StoreExt store U) {b : Blk} (hbU : U b.id = some b) :
    StoreExt store (upd store b.id (some b)) ∧ StoreExt (upd store b.id (some b)) U := by
  constructor
  · intro k x hx
    by_cases hk : k = b.id
    · subst hk
      have := hsub _ _ hx
      rw [hbU] at this
      cases this
      simp
    · rw [upd_other _ _ _ _ hk]; exact hx
  · intro k x hx
    by_cases hk : k = b.id
    · subst hk; simp at hx; subst hx; exact hbU
    · rw [upd_other _ _ _ _ hk] at hx; exact hsub _ _ hx

/-- walking parent links from `x` reaches `y`; `l` lists the blocks visited, `x` first, `y` excluded -/
inductive Path (store : Map Blk) : Blk → List Blk → Blk → Prop
  | nil (x : Blk) : Path store x [] x
  | cons {x p : Blk} {l : List Blk} {y : Blk} : parentOf store x = some p → Path store p l y → Path store x (x :: l) y

theorem Path.mono {store store' : Map Blk} (he : StoreExt store store') {x y : Blk} {l : List Blk}
    (h : Path store x l y) : Path store' x l y := by
  induction h with
  | nil x => exact .nil x
  | cons hp _ ih => exact .cons (parentOf_mono he hp) ih

/-- ancestor-closed: from every stored block the parent walk reaches `g`; no rewind has orphaned anything (`Closed`,
    `HClosed` are this for the two kinds of database) -/
def AncClosed (store : Map Blk) (g : Blk) : Prop := ∀ k x, store k = some x → ∃ l, Path store x l g

theorem ancClosed_init (g : Blk) : AncClosed (upd (fun _ => none) g.id (some g)) g := by
  intro k x hx
  obtain ⟨rfl, rfl⟩ := upd_empty_some.mp hx
  exact ⟨[], .nil _⟩

theorem closed_upd {store : Map Blk} {g : Blk} (hc : AncClosed store g) {b p : Blk}
    (hpar : parentOf store b = some p) {store' : Map Blk} (hext : StoreExt store store')
    (hb' : ∀ k x, store' k = some x → store k = some x ∨ x = b) : AncClosed store' g := by
  intro k x hx
  rcases hb' k x hx with hx' | hx'
  · obtain ⟨l, hl⟩ := hc k x hx'
    exact ⟨l, hl.mono hext⟩
  · subst hx'
    obtain ⟨l, hl⟩ := hc _ _ (parentOf_some hpar).1
    exact ⟨x :: l, .cons (parentOf_mono hext hpar) (hl.mono hext)⟩

theorem Path.index {store : Map Blk} {x y : Blk} {l : List Blk} (h : Path store x l y) :
    ∀ i z, (l ++ [y])[i]? = some z → z.number + i = x.number := by
  induction h with
  | nil x =>
    intro i z hz
    cases i with
    | zero => simp at hz; subst hz; rfl
    | succ i => simp at hz
  | cons hp _ ih =>
    intro i z hz
    have := (parentOf_some hp).2
    cases i with
    | zero => simp at hz; subst hz; rfl
    | succ i => simp at hz; have := ih i z hz; omega

theorem Path.number {store : Map Blk} {x y : Blk} {l : List Blk} (h : Path store x l y) :
    x.number = y.number + l.length :=
  (h.index l.length y (by simp)).symm

section numbers
variable {store : Map Blk} {x y : Blk} {l : List Blk}

theorem Path.mem_index {z : Blk} (h : Path store x l y) (hz : z ∈ l ++ [y]) :
    ∃ i, (l ++ [y])[i]? = some z ∧ z.number + i = x.number := by
  obtain ⟨i, hi⟩ := List.mem_iff_getElem?.mp hz
  exact ⟨i, hi, h.index i z hi⟩

theorem Path.mem_le (h : Path store x l y) :
    ∀ z ∈ l ++ [y], y.number ≤ z.number ∧ z.number ≤ x.number := by
  intro z hz
  obtain ⟨i, hi, hin⟩ := h.mem_index hz
  obtain ⟨hlt, _⟩ := List.getElem?_eq_some_iff.mp hi
  have := h.number
  simp at hlt
  omega

theorem Path.mem_number (h : Path store x l y) :
    ∀ z ∈ l, y.number < z.number ∧ z.number ≤ x.number := by
  intro z hz
  obtain ⟨i, hi⟩ := List.mem_iff_getElem?.mp hz
  obtain ⟨hlt, _⟩ := List.getElem?_eq_some_iff.mp hi
  have := h.index i z (by rw [List.getElem?_append_left hlt]; exact hi)
  have := h.number
  omega

theorem Path.atNumber (h : Path store x l y) (n : Nat)
    (h1 : y.number ≤ n) (h2 : n ≤ x.number) : ∃ z, (l ++ [y])[x.number - n]? = some z ∧ z.number = n := by
  have := h.number
  have hlt : x.number - n < (l ++ [y]).length := by simp; omega
  exact ⟨_, List.getElem?_eq_getElem hlt, by have := h.index _ _ (List.getElem?_eq_getElem hlt); omega⟩

theorem Path.cover' (h : Path store x l y) (n : Nat)
    (h1 : y.number ≤ n) (h2 : n ≤ x.number) : ∃ z ∈ l ++ [y], z.number = n := by
  obtain ⟨z, hz, hzn⟩ := h.atNumber n h1 h2
  exact ⟨z, List.mem_of_getElem? hz, hzn⟩

theorem Path.cover (h : Path store x l y) :
    ∀ n, y.number < n → n ≤ x.number → ∃ z ∈ l, z.number = n := by
  intro n h1 h2
  obtain ⟨z, hz, hzn⟩ := h.cover' n (by omega) h2
  rcases List.mem_append.mp hz with hz | hz
  · exact ⟨z, hz, hzn⟩
  · rw [List.mem_singleton.mp hz] at hzn; omega

theorem Path.num_inj' (h : Path store x l y) :
    ∀ z ∈ l ++ [y], ∀ w ∈ l ++ [y], z.number = w.number → z = w := by
  intro z hz w hw hzw
  obtain ⟨i, hi, hin⟩ := h.mem_index hz
  obtain ⟨j, hj, hjn⟩ := h.mem_index hw
  obtain rfl : i = j := by omega
  exact Option.some.inj (hi.symm.trans hj)

end numbers

theorem Path.append {store : Map Blk} {x y z : Blk} {l1 l2 : List Blk} (h1 : Path store x l1 y)
    (h2 : Path store y l2 z) : Path store x (l1 ++ l2) z := by
  induction h1 with
  | nil x => simpa using h2
  | cons hp _ ih => exact .cons hp (ih h2)

theorem Path.det {store : Map Blk} {x y y' : Blk} {l l' : List Blk} (h : Path store x l y) (h' : Path store x l' y')
    (hn : y.number = y'.number) : l = l' ∧ y = y' := by
  induction h generalizing l' y' with
  | nil x =>
    cases h' with
    | nil => exact ⟨rfl, rfl⟩
    | cons hp hrest =>
      have := (Path.cons hp hrest).number
      simp at this
      omega
  | cons hp hrest ih =>
    cases h' with
    | nil =>
      have := (Path.cons hp hrest).number
      simp at this
      omega
    | cons hp' hrest' =>
      rw [hp] at hp'
      cases hp'
      obtain ⟨h1, h2⟩ := ih hrest' hn
      exact ⟨by rw [h1], h2⟩

theorem Path.split {store : Map Blk} {x y : Blk} {l : List Blk} (h : Path store x l y) :
    ∀ n, y.number ≤ n → n ≤ x.number →
      ∃ l1 l2 z, l = l1 ++ l2 ∧ Path store x l1 z ∧ Path store z l2 y ∧ z.number = n := by
  induction h with
  | nil x =>
    intro n h1 h2
    exact ⟨[], [], x, rfl, .nil x, .nil x, by omega⟩
  | cons hp hrest ih =>
    rename_i x p l y
    intro n h1 h2
    have hn := (parentOf_some hp).2
    by_cases hx : n = x.number
    · exact ⟨[], x :: l, x, rfl, .nil x, .cons hp hrest, hx.symm⟩
    · obtain ⟨l1, l2, z, hl, hp1, hp2, hz⟩ := ih n h1 (by omega)
      exact ⟨x :: l1, l2, z, by simp [hl], .cons hp hp1, hp2, hz⟩

theorem Path.splitAbove {store : Map Blk} {x y : Blk} {l : List Blk} (h : Path store x l y) (n : Nat)
    (hy : y.number ≤ n) :
    ∃ O R c, l = O ++ R ∧ Path store x O c ∧ Path store c R y ∧ (∀ z ∈ O, n < z.number) ∧ c.number ≤ n ∧
      (c.number = n ∨ O = []) := by
  by_cases hx : n ≤ x.number
  · obtain ⟨O, R, c, hl, hO, hR, hc⟩ := h.split n hy hx
    exact ⟨O, R, c, hl, hO, hR, fun z hz => hc ▸ (hO.mem_number z hz).1, Nat.le_of_eq hc, .inl hc⟩
  · exact ⟨[], l, x, rfl, .nil x, h, fun _ hz => absurd hz List.not_mem_nil, by omega, .inr rfl⟩

theorem Path.head_eq {store : Map Blk} {x y : Blk} {l : List Blk} (h : Path store x l y) :
    l = [] ∧ x = y ∨ ∃ l', l = x :: l' := by
  cases h with
  | nil => exact .inl ⟨rfl, rfl⟩
  | cons hp hr => exact .inr ⟨_, rfl⟩

theorem Path.cons_inv {store : Map Blk} {x a y : Blk} {l : List Blk} (h : Path store x (a :: l) y) :
    ∃ p, x = a ∧ parentOf store x = some p ∧ Path store p l y := by
  cases h with
  | cons hpar hrest => exact ⟨_, rfl, hpar, hrest⟩

theorem Path.end_stored {store : Map Blk} {x y : Blk} {l : List Blk} (h : Path store x l y) (hne : l ≠ []) :
    ∃ w, store w = some y := by
  induction h with
  | nil x => exact absurd rfl hne
  | cons hp hrest ih =>
    cases hrest with
    | nil => exact ⟨_, (parentOf_some hp).1⟩
    | cons _ _ => exact ih (List.cons_ne_nil _ _)

theorem Path.stored_of {store : Map Blk} (hid : ∀ k x, store k = some x → x.id = k) {x y : Blk} {l : List Blk}
    (h : Path store x l y) (hx : store x.id = some x) : (∀ z ∈ l, store z.id = some z) ∧ store y.id = some y := by
  induction h with
  | nil x => exact ⟨by simp, hx⟩
  | cons hp hrest ih =>
    rename_i x p l y
    have h1 := (parentOf_some hp).1
    have hpid := hid _ _ h1
    have := ih (by rw [hpid]; exact h1)
    refine ⟨?_, this.2⟩
    intro z hz
    rcases List.mem_cons.mp hz with rfl | hz
    · exact hx
    · exact this.1 z hz

theorem Path.unupd {store : Map Blk} {b : Blk} : ∀ {l : List Blk} {x y : Blk},
    Path (upd store b.id (some b)) x l y → x.number ≤ b.number → Path store x l y := by
  intro l
  induction l with
  | nil => intro x y h _; cases h; exact .nil _
  | cons a l ih =>
    intro x y h hnum
    cases h with
    | cons hp hrest =>
      rename_i p
      obtain ⟨h1, h2⟩ := parentOf_some hp
      by_cases hk : a.parent = b.id
      · rw [hk] at h1
        simp at h1
        subst h1
        omega
      · rw [upd_other _ _ _ _ hk] at h1
        exact .cons (parentOf_of h1 h2) (ih hrest (by omega))

theorem Path.head_mem {store : Map Blk} {x y : Blk} {l : List Blk} (h : Path store x l y) : x ∈ l ++ [y] := by
  cases h <;> simp

theorem Path.splitAt {store : Map Blk} {x y c : Blk} {l : List Blk} (h : Path store x l y) (hc : c ∈ l ++ [y]) :
    ∃ O R, l = O ++ R ∧ Path store x O c ∧ Path store c R y := by
  obtain ⟨O, R, z, hl, hO, hR, hz⟩ := h.split c.number (h.mem_le c hc).1 (h.mem_le c hc).2
  have hzc : z = c := h.num_inj' z (by rw [hl, List.append_assoc]; exact List.mem_append_right _ hR.head_mem) c hc hz
  subst hzc
  exact ⟨O, R, hl, hO, hR⟩

theorem Path.prefix_of_ext {store store' : Map Blk} (hext : StoreExt store store') {x y o : Blk} {L l : List Blk}
    (h : Path store x L y) (hy : y.number ≤ o.number) (hp : Path store' x l o) :
    o ∈ L ++ [y] ∧ Path store x l o := by
  have := hp.number
  obtain ⟨l1, l2, z, hL, hp1, hp2, hz⟩ := h.split o.number hy (by omega)
  obtain ⟨hl, ho⟩ := hp.det (hp1.mono hext) hz.symm
  subst hl ho
  exact ⟨by rw [hL, List.append_assoc]; exact List.mem_append_right _ hp2.head_mem, hp1⟩

theorem Path.chainStored {store : Map Blk} (hid : ∀ k x, store k = some x → x.id = k) {x y : Blk} {l : List Blk}
    (h : Path store x l y) (hx : store x.id = some x) : ∀ z ∈ l ++ [y], store z.id = some z := by
  intro z hz
  rcases List.mem_append.mp hz with hz | hz
  · exact (h.stored_of hid hx).1 z hz
  · rw [List.mem_singleton.mp hz]; exact (h.stored_of hid hx).2

theorem Path.parent_stored_of_mem {store : Map Blk} {x y : Blk} {l : List Blk} (h : Path store x l y) :
    ∀ z ∈ l, ∃ q, parentOf store z = some q := by
  induction h with
  | nil x => intro z hz; cases hz
  | cons hp _ ih =>
    intro z hz
    rcases List.mem_cons.mp hz with rfl | hz'
    · exact ⟨_, hp⟩
    · exact ih z hz'

theorem Path.parent_mem {store : Map Blk} {x y z q : Blk} {l : List Blk} (h : Path store x l y) (hz : z ∈ l)
    (hq : parentOf store z = some q) : q ∈ l ++ [y] := by
  induction h with
  | nil x => cases hz
  | cons hp hrest ih =>
    rcases List.mem_cons.mp hz with rfl | hz
    · rw [hp] at hq; cases hq
      exact List.mem_cons_of_mem _ hrest.head_mem
    · exact List.mem_cons_of_mem _ (ih hz)

theorem Path.congr {store store' : Map Blk} {x y : Blk} {l : List Blk} (h : Path store x l y)
    (hsame : ∀ z ∈ l, store' z.parent = store z.parent) : Path store' x l y := by
  induction h with
  | nil x => exact .nil x
  | cons hp hrest ih =>
    rename_i x p l y
    have hx := hsame x (by simp)
    obtain ⟨h1, h2⟩ := parentOf_some hp
    exact .cons (parentOf_of (by rw [hx]; exact h1) h2) (ih (fun z hz => hsame z (List.mem_cons_of_mem _ hz)))

theorem reduce_spec {store : Map Blk} : ∀ (f : Nat) (x : Blk) (n : Nat) (y : Blk) (l : List Blk),
    reduce store f x n = some (y, l) → Path store x l y ∧ y.number = n := by
  intro f
  induction f with
  | zero => intro x n y l h; cases h
  | succ f ih =>
    intro x n y l h
    unfold reduce at h
    split at h
    · rename_i hx
      cases h
      exact ⟨.nil _, hx⟩
    · split at h
      · cases h
      · rename_i p hp
        split at h
        · cases h
        · rename_i y' l' hr
          cases h
          obtain ⟨h1, h2⟩ := ih p n _ _ hr
          exact ⟨.cons hp h1, h2⟩

theorem reduce_of_path {store : Map Blk} {x y : Blk} {l : List Blk} (h : Path store x l y) :
    ∀ f, l.length < f → reduce store f x y.number = some (y, l) := by
  induction h with
  | nil x =>
    intro f hf
    cases f with
    | zero => omega
    | succ f => simp [reduce]
  | cons hp hrest ih =>
    rename_i x p l y
    intro f hf
    cases f with
    | zero => omega
    | succ f =>
      have hnum := (Path.cons hp hrest).number
      simp at hnum
      unfold reduce
      rw [if_neg (by omega), hp]
      simp only
      rw [ih f (by simp at hf; omega)]

theorem walkBoth_spec {store : Map Blk} : ∀ (f : Nat) (o n c : Blk) (oc nc : List Blk),
    walkBoth store f o n = some (c, oc, nc) →
      ∃ c', Path store o oc c ∧ Path store n nc c' ∧ c.id = c'.id := by
  intro f
  induction f with
  | zero => intro o n c oc nc h; cases h
  | succ f ih =>
    intro o n c oc nc h
    unfold walkBoth at h
    split at h
    · rename_i hid
      cases h
      exact ⟨n, .nil _, .nil _, hid⟩
    · split at h
      · rename_i o' n' ho hn
        split at h
        · cases h
        · rename_i c' oc' nc' hw
          cases h
          obtain ⟨c'', h1, h2, h3⟩ := ih o' n' _ _ _ hw
          exact ⟨c'', .cons ho h1, .cons hn h2, h3⟩
      · cases h

theorem walkBoth_of_paths {store : Map Blk} {o c : Blk} {lo : List Blk} (ho : Path store o lo c) :
    ∀ (n : Blk) (ln : List Blk), Path store n ln c → lo.length = ln.length → ∀ f, lo.length < f →
      ∃ r, walkBoth store f o n = some r := by
  induction ho with
  | nil x =>
    intro n ln hn hlen f hf
    have : ln = [] := by simpa using hlen.symm
    subst this
    cases hn
    cases f with
    | zero => omega
    | succ f => exact ⟨(x, [], []), by simp [walkBoth]⟩
  | cons hp hrest ih =>
    rename_i x p l y
    intro n ln hn hlen f hf
    cases hn with
    | nil => simp at hlen
    | cons hp' hrest' =>
      cases f with
      | zero => omega
      | succ f =>
        unfold walkBoth
        split
        · exact ⟨_, rfl⟩
        · rw [hp, hp']
          simp only
          obtain ⟨r, hr⟩ := ih _ _ hrest' (by simpa using hlen) f (by simp at hf; omega)
          rw [hr]
          exact ⟨_, rfl⟩

theorem decideReorg_ge {e l bn hn : Nat} {coin : Bool} (h : decideReorg e l bn hn coin = true) : l ≤ e := by
  unfold decideReorg at h
  simp only [Bool.or_eq_true, Bool.and_eq_true, decide_eq_true_eq, beq_iff_eq] at h
  omega

theorem decideReorg_false_le {e l bn hn : Nat} {coin : Bool} (h : decideReorg e l bn hn coin = false) : e ≤ l := by
  unfold decideReorg at h
  simp only [Bool.or_eq_false_iff, decide_eq_false_iff_not] at h
  omega

theorem headerCheck_none_iff {store : Map Blk} {b : Blk} :
    headerCheck store b = none ↔ ∃ p, parentOf store b = some p ∧ (1 < p.number → ∃ q, parentOf store p = some q) := by
  unfold headerCheck
  cases hp : parentOf store b with
  | none => simp
  | some p =>
    simp only [Option.some.injEq, exists_eq_left']
    by_cases h1 : p.number > 1
    · rw [if_pos h1]
      cases hq : parentOf store p with
      | none => simp [h1]
      | some q => simp
    · rw [if_neg h1]
      exact ⟨fun _ h => absurd h h1, fun _ => rfl⟩

theorem headerCheck_none {store : Map Blk} {b : Blk} (h : headerCheck store b = none) :
    ∃ p, parentOf store b = some p := by
  obtain ⟨p, hp, _⟩ := headerCheck_none_iff.mp h
  exact ⟨p, hp⟩

theorem headerCheck_err {store : Map Blk} {b : Blk} {e : Err} (h : headerCheck store b = some e) :
    e ≠ .reorgFail ∧ e ≠ .modelPanic := by
  unfold headerCheck at h
  split at h
  · cases h; simp
  · split at h
    · split at h
      · cases h; simp
      · cases h
    · cases h

theorem mem_contigPrefix : ∀ (l : List Blk) (x : Blk), x ∈ contigPrefix l → x ∈ l := by
  intro l
  induction l with
  | nil => intro x hx; cases hx
  | cons a l ih =>
    intro x hx
    cases l with
    | nil => simpa [contigPrefix] using hx
    | cons c l =>
      unfold contigPrefix at hx
      split at hx
      · rcases List.mem_cons.mp hx with rfl | hx
        · simp
        · exact List.mem_cons_of_mem _ (ih x hx)
      · simp at hx; subst hx; simp

theorem isContig_cons {x y : Blk} {rest : List Blk} (h : isContig (x :: y :: rest) = true) :
    y.number = x.number + 1 ∧ y.parent = x.id ∧ isContig (y :: rest) = true := by
  simp only [isContig, Bool.and_eq_true, beq_iff_eq] at h
  exact ⟨h.1.1, h.1.2, h.2⟩

theorem isContig_tail {h : Blk} {rest : List Blk} (hc : isContig (h :: rest) = true) : isContig rest = true := by
  cases rest with
  | nil => rfl
  | cons y r => exact (isContig_cons hc).2.2

theorem isContig_next {h : Blk} {rest : List Blk} (hc : isContig (h :: rest) = true) {store : Map Blk}
    (hs : store h.id = some h) : ∀ h0 ∈ rest.head?, ∃ p, parentOf store h0 = some p := by
  intro h0 hh0
  cases rest with
  | nil => cases hh0
  | cons y r =>
    simp only [List.head?_cons, Option.mem_def, Option.some.injEq] at hh0
    subst hh0
    obtain ⟨hn, hp, _⟩ := isContig_cons hc
    exact ⟨h, parentOf_of (by rw [hp]; exact hs) (by omega)⟩

theorem writeLookupsFrom_not_mem (lk : Map Loc) (b : Blk) : ∀ (ts : List Nat) (i t : Nat), t ∉ ts →
    writeLookupsFrom lk b i ts t = lk t := by
  intro ts
  induction ts generalizing lk with
  | nil => intro i t _; rfl
  | cons a ts ih =>
    intro i t ht
    simp only [List.mem_cons, not_or] at ht
    unfold writeLookupsFrom
    rw [ih _ _ _ ht.2, upd_other _ _ _ _ ht.1]

theorem writeLookupsFrom_mem (lk : Map Loc) (b : Blk) : ∀ (ts : List Nat) (i j t : Nat), ts.Nodup → ts[j]? = some t →
    writeLookupsFrom lk b i ts t = some ⟨b.id, b.number, i + j⟩ := by
  intro ts
  induction ts generalizing lk with
  | nil => intro i j t _ h; simp at h
  | cons a ts ih =>
    intro i j t hnd hj
    have hnd' := List.nodup_cons.mp hnd
    unfold writeLookupsFrom
    cases j with
    | zero =>
      simp at hj
      subst hj
      rw [writeLookupsFrom_not_mem _ _ _ _ _ hnd'.1]
      simp
    | succ j =>
      simp at hj
      rw [ih _ (i + 1) j t hnd'.2 hj]
      congr 2
      omega

theorem writeLookups_not_mem (lk : Map Loc) (b : Blk) (t : Nat) (h : t ∉ b.txs) : writeLookups lk b t = lk t :=
  writeLookupsFrom_not_mem lk b b.txs 0 t h

theorem writeLookups_mem (lk : Map Loc) (b : Blk) (j t : Nat) (hnd : b.txs.Nodup) (h : b.txs[j]? = some t) :
    writeLookups lk b t = some ⟨b.id, b.number, j⟩ := by
  have := writeLookupsFrom_mem lk b b.txs 0 j t hnd h
  simpa [writeLookups] using this

theorem delLookups_apply (lk : Map Loc) : ∀ (ts : List Nat) (t : Nat),
    delLookups lk ts t = if t ∈ ts then none else lk t := by
  intro ts
  induction ts generalizing lk with
  | nil => intro t; simp [delLookups]
  | cons a ts ih =>
    intro t
    unfold delLookups
    rw [ih]
    by_cases h1 : t ∈ ts
    · simp [h1]
    · by_cases h2 : t = a
      · subst h2; simp [h1]
      · simp [h1, h2, upd_other]

theorem mem_txDifference (a b : List Nat) (t : Nat) : t ∈ txDifference a b ↔ t ∈ a ∧ t ∉ b := by
  simp [txDifference]

theorem dropLookupsOf_apply (x : Blk) : ∀ (ts : List Nat) (lk : Map Loc) (t : Nat),
    dropLookupsOf lk x ts t = if t ∈ ts ∧ (∃ l, lk t = some l ∧ l.blk = x.id) then none else lk t := by
  intro ts lk t
  unfold dropLookupsOf
  cases hl : lk t with
  | none => simp
  | some l =>
    simp only
    by_cases hc : l.blk = x.id ∧ t ∈ ts
    · rw [if_pos hc, if_pos ⟨hc.2, l, rfl, hc.1⟩]
    · rw [if_neg hc, if_neg]
      rintro ⟨h1, l', h2, h3⟩
      cases h2
      exact hc ⟨h3, h1⟩

theorem delCanonAbove_below : ∀ (f : Nat) (canon : Map Nat) (i n : Nat), n < i → delCanonAbove canon f i n = canon n := by
  intro f
  induction f with
  | zero => intro canon i n _; rfl
  | succ f ih =>
    intro canon i n hn
    unfold delCanonAbove
    cases hci : canon i with
    | none => rfl
    | some v =>
      simp only
      rw [ih _ _ _ (by omega), upd_other _ _ _ _ (by omega)]

/-- the loop stops at the gap at `top`, not on fuel -/
theorem delCanonAbove_clears : ∀ (f : Nat) (canon : Map Nat) (i top : Nat), top ≤ i + f →
    (∀ n, i ≤ n → n < top → (canon n).isSome = true) →
    (∀ n, top ≤ n → canon n = none) → ∀ n, i ≤ n → delCanonAbove canon f i n = none := by
  intro f
  induction f with
  | zero =>
    intro canon i top hf _ hnone n hn
    exact hnone n (by omega)
  | succ f ih =>
    intro canon i top hf hsome hnone n hn
    unfold delCanonAbove
    cases hci : canon i with
    | none =>
      simp only
      have : top ≤ i := by
        apply Nat.le_of_not_lt
        intro hlt
        have := hsome i (Nat.le_refl _) hlt
        rw [hci] at this
        simp at this
      exact hnone n (by omega)
    | some v =>
      simp only
      by_cases h : n = i
      · subst h
        rw [delCanonAbove_below _ _ _ _ (by omega)]
        simp
      · exact ih (upd canon i none) (i + 1) top (by omega)
          (fun k hk1 hk2 => by rw [upd_other _ _ _ _ (by omega)]; exact hsome k (by omega) hk2)
          (fun k hk => by
            by_cases hki : k = i
            · subst hki; simp
            · rw [upd_other _ _ _ _ hki]; exact hnone k hk) n (by omega)

/-! ### the loops of `BlockChain.insert` (fix 3f14ce8) -/

theorem dropAt_apply (store : Map Blk) (lk : Map Loc) (n o t : Nat) :
    dropAt store lk n o t =
      if ∃ y, store o = some y ∧ y.number = n ∧ t ∈ y.txs ∧ ∃ l, lk t = some l ∧ l.blk = y.id then none else lk t := by
  unfold dropAt
  cases hy : store o with
  | none => simp
  | some y =>
    simp only
    by_cases hn : y.number = n
    · rw [if_pos hn, dropLookupsOf_apply]
      by_cases hc : t ∈ y.txs ∧ ∃ l, lk t = some l ∧ l.blk = y.id
      · rw [if_pos hc, if_pos ⟨y, rfl, hn, hc.1, hc.2⟩]
      · rw [if_neg hc, if_neg]
        rintro ⟨y', hy', _, h1, h2⟩
        cases hy'
        exact hc ⟨h1, h2⟩
    · rw [if_neg hn, if_neg]
      rintro ⟨y', hy', hn', _⟩
      cases hy'
      exact hn hn'

theorem dropAbove_stop (store : Map Blk) (pre : Map Nat) (f : Nat) {i : Nat} (c : Map Nat) (lk : Map Loc)
    (h : pre i = none) : dropAbove store pre f i c lk = (c, lk) := by
  cases f with
  | zero => rfl
  | succ f => unfold dropAbove; rw [h]

theorem dropAbove_step (store : Map Blk) (pre : Map Nat) (f : Nat) {i o : Nat} (c : Map Nat) (lk : Map Loc)
    (h : pre i = some o) :
    dropAbove store pre (f + 1) i c lk = dropAbove store pre f (i + 1) (upd c i none) (dropAt store lk i o) := by
  rw [dropAbove, h]

/-- the number-index component of the "entries above" loop of `insert` is the loop of `HeaderChain.WriteHeader` -/
theorem dropAbove_fst (store : Map Blk) (pre : Map Nat) : ∀ (f i : Nat) (c : Map Nat) (lk : Map Loc),
    (∀ n, i ≤ n → c n = pre n) → (dropAbove store pre f i c lk).1 = delCanonAbove c f i := by
  intro f
  induction f with
  | zero => intro i c lk _; rfl
  | succ f ih =>
    intro i c lk hag
    unfold delCanonAbove
    rw [hag i (Nat.le_refl _)]
    cases hp : pre i with
    | none => rw [dropAbove_stop _ _ _ _ _ hp]
    | some o =>
      rw [dropAbove_step _ _ _ _ _ hp]
      exact ih (i + 1) _ _ (fun n hn => by rw [upd_other _ _ _ _ (by omega)]; exact hag n (by omega))

theorem dropAbove_snd_indep (store : Map Blk) (pre : Map Nat) : ∀ (f i : Nat) (c c' : Map Nat) (lk : Map Loc),
    (dropAbove store pre f i c lk).2 = (dropAbove store pre f i c' lk).2 := by
  intro f
  induction f with
  | zero => intro i c c' lk; rfl
  | succ f ih =>
    intro i c c' lk
    cases hp : pre i with
    | none => rw [dropAbove_stop _ _ _ _ _ hp, dropAbove_stop _ _ _ _ _ hp]
    | some o => rw [dropAbove_step _ _ _ _ _ hp, dropAbove_step _ _ _ _ _ hp]; exact ih _ _ _ _

theorem dropAbove_lk (store : Map Blk) (pre : Map Nat) : ∀ (f i : Nat) (c : Map Nat) (lk : Map Loc) (t : Nat),
    (dropAbove store pre f i c lk).2 t = lk t ∨
      ((dropAbove store pre f i c lk).2 t = none ∧ ∃ l m o y, lk t = some l ∧ i ≤ m ∧ pre m = some o ∧
        store o = some y ∧ y.number = m ∧ t ∈ y.txs ∧ l.blk = y.id) := by
  intro f
  induction f with
  | zero => intro i c lk t; exact .inl rfl
  | succ f ih =>
    intro i c lk t
    cases hp : pre i with
    | none => rw [dropAbove_stop _ _ _ _ _ hp]; exact .inl rfl
    | some o =>
      rw [dropAbove_step _ _ _ _ _ hp]
      have hd := dropAt_apply store lk i o t
      rcases ih (i + 1) (upd c i none) (dropAt store lk i o) t with h | ⟨h1, l, m, o', y, hl, hm, hpm, hy, hyn, hty, hlb⟩
      · rw [h, hd]
        split
        · rename_i hex
          obtain ⟨y, hy, hyn, hty, l, hl, hlb⟩ := hex
          exact .inr ⟨rfl, l, i, o, y, hl, Nat.le_refl _, hp, hy, hyn, hty, hlb⟩
        · exact .inl rfl
      · rw [h1]
        rw [hd] at hl
        split at hl
        · cases hl
        · exact .inr ⟨rfl, l, m, o', y, hl, by omega, hpm, hy, hyn, hty, hlb⟩

theorem dropAbove_none (store : Map Blk) (pre : Map Nat) (f i : Nat) (c : Map Nat) (lk : Map Loc) (t : Nat)
    (h : lk t = none) : (dropAbove store pre f i c lk).2 t = none := by
  rcases dropAbove_lk store pre f i c lk t with h1 | ⟨h1, _⟩
  · rw [h1, h]
  · exact h1

theorem dropAbove_drops (store : Map Blk) (pre : Map Nat) : ∀ (f i : Nat) (c : Map Nat) (lk : Map Loc) (top : Nat),
    top ≤ i + f → (∀ n, i ≤ n → n < top → (pre n).isSome = true) →
    ∀ m, i ≤ m → m < top → ∀ o y, pre m = some o → store o = some y → y.number = m → ∀ t, t ∈ y.txs →
      ∀ l, lk t = some l → l.blk = y.id → (dropAbove store pre f i c lk).2 t = none := by
  intro f
  induction f with
  | zero => intro i c lk top hf _ m hm1 hm2; omega
  | succ f ih =>
    intro i c lk top hf hsome m hm1 hm2 o y hpm hy hyn t hty l hl hlb
    cases hp : pre i with
    | none =>
      have := hsome i (Nat.le_refl _) (by omega)
      rw [hp] at this
      cases this
    | some o' =>
      rw [dropAbove_step _ _ _ _ _ hp]
      have hd := dropAt_apply store lk i o' t
      by_cases hmi : m = i
      · subst hmi
        rw [hp] at hpm
        cases hpm
        apply dropAbove_none
        rw [hd, if_pos ⟨y, hy, hyn, hty, l, hl, hlb⟩]
      · cases hl' : dropAt store lk i o' t with
        | none => exact dropAbove_none _ _ _ _ _ _ _ hl'
        | some l' =>
          have : l' = l := by
            rw [hd] at hl'
            split at hl'
            · cases hl'
            · rw [hl] at hl'; cases hl'; rfl
          subst this
          exact ih (i + 1) _ _ top (by omega) (fun n hn1 hn2 => hsome n (by omega) hn2) m (by omega) hm2 o y hpm hy hyn t
            hty l' hl' hlb

/-- exactly the lookups into a block indexed at or above `i` go; the loop stops at the gap at `top`, not on fuel -/
theorem dropAbove_snd (store : Map Blk) (pre : Map Nat) (top : Nat) (hnone : ∀ n, top ≤ n → pre n = none) (t : Nat) :
    ∀ (f i : Nat) (c : Map Nat) (lk : Map Loc), top ≤ i + f → (∀ n, i ≤ n → n < top → (pre n).isSome = true) →
    ((∃ m o y, i ≤ m ∧ pre m = some o ∧ store o = some y ∧ y.number = m ∧ t ∈ y.txs ∧ ∃ l, lk t = some l ∧ l.blk = y.id) →
      (dropAbove store pre f i c lk).2 t = none) ∧
    ((¬ ∃ m o y, i ≤ m ∧ pre m = some o ∧ store o = some y ∧ y.number = m ∧ t ∈ y.txs ∧ ∃ l, lk t = some l ∧ l.blk = y.id) →
      (dropAbove store pre f i c lk).2 t = lk t) := by
  intro f i c lk hf hsome
  constructor
  · rintro ⟨m, o, y, hm, hpm, hy, hyn, hty, l, hl, hlb⟩
    refine dropAbove_drops store pre f i c lk top hf hsome m hm ?_ o y hpm hy hyn t hty l hl hlb
    apply Nat.lt_of_not_le
    intro h
    rw [hnone m h] at hpm; cases hpm
  · intro hC
    rcases dropAbove_lk store pre f i c lk t with h | ⟨_, l, m, o, y, hl, hm, hpm, hy, hyn, hty, hlb⟩
    · exact h
    · exact absurd ⟨m, o, y, hm, hpm, hy, hyn, hty, l, hl, hlb⟩ hC

theorem overwriteStale_stop (store : Map Blk) (f : Nat) {canon : Map Nat} {hh hn : Nat} (h : canon hn = some hh) :
    overwriteStale store (f + 1) canon hh hn = (canon, true) := by
  rw [overwriteStale, if_pos h]

theorem overwriteStale_step (store : Map Blk) (f : Nat) {canon : Map Nat} {hh k : Nat} {x : Blk}
    (h : canon (k + 1) ≠ some hh) (hx : store hh = some x) (hxn : x.number = k + 1) :
    overwriteStale store (f + 1) canon hh (k + 1) = overwriteStale store f (upd canon (k + 1) (some hh)) x.parent k := by
  rw [overwriteStale, if_neg h]
  simp only [hx]
  rw [if_neg (fun hne => hne hxn)]

theorem overwriteStale_true {store : Map Blk} {f : Nat} {canon c2 : Map Nat} {hh hn : Nat}
    (h : overwriteStale store (f + 1) canon hh hn = (c2, true)) :
    (canon hn = some hh ∧ c2 = canon) ∨
      ∃ x k, canon hn ≠ some hh ∧ store hh = some x ∧ x.number = hn ∧ hn = k + 1 ∧
        overwriteStale store f (upd canon hn (some hh)) x.parent k = (c2, true) := by
  unfold overwriteStale at h
  split at h
  · rename_i hc
    cases h
    exact .inl ⟨hc, rfl⟩
  · rename_i hc
    simp only at h
    split at h
    · cases h
    · rename_i x hx
      split at h
      · cases h
      · rename_i hxn
        split at h
        · cases h
        · rename_i k
          exact .inr ⟨x, k, hc, hx, Classical.byContradiction hxn, rfl, h⟩

theorem repointBelow_stop (store : Map Blk) (pre : Map Nat) (f hash number : Nat) (c : Map Nat) (lk : Map Loc)
    (h : pre number = some hash) : repointBelow store pre f hash number c lk = (c, lk) := by
  cases f with
  | zero => rfl
  | succ f => unfold repointBelow; rw [if_pos h]

/-- where the overwrite loop of `HeaderChain.WriteHeader` succeeds, it is the number-index component of the "stale entries
    below" loop of `insert` -/
theorem repointBelow_fst (store : Map Blk) (pre : Map Nat) : ∀ (f hash number : Nat) (c : Map Nat) (lk : Map Loc)
    (c2 : Map Nat), (∀ n, n ≤ number → c n = pre n) → overwriteStale store f c hash number = (c2, true) →
      (repointBelow store pre f hash number c lk).1 = c2 := by
  intro f
  induction f with
  | zero => intro hash number c lk c2 _ h; cases h
  | succ f ih =>
    intro hash number c lk c2 hag h
    have hcase := overwriteStale_true h
    rw [hag number (Nat.le_refl _)] at hcase
    rcases hcase with ⟨hc, rfl⟩ | ⟨x, k, hc, hx, hxn, rfl, h'⟩
    · rw [repointBelow_stop _ _ _ _ _ _ _ hc]
    · unfold repointBelow
      rw [if_neg hc]
      simp only [hx]
      rw [if_neg (fun hne => hne hxn)]
      exact ih _ _ _ _ _ (fun n hn => by rw [upd_other _ _ _ _ (by omega)]; exact hag n (by omega)) h'

end Aqv.Chain
