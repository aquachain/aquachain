/-
  What the strict decoder accepts, the shallow reader of rlp/raw.go accepts with the same rest, so `SplitList` and
  `CountValues` take a decoded list apart as `dec` does (`dec_list_split`).
-/
import Aqv.Lemmas.RlpRaw
import Aqv.Lemmas.RlpTypedPrim
namespace Aqv.RlpRaw
open Aqv Aqv.Rlp

theorem shallowSplit_of_readBytes (bs s rest : Bytes) (h : readBytes bs = .ok (s, rest)) :
    ∃ k, shallowSplit bs = some (k, s, rest) := by
  revert h
  unfold readBytes shallowSplit
  cases readHead bs with
  | error e => intro h; cases h
  | ok hd =>
    cases hd with
    | byte b r => intro h; cases h; exact ⟨_, rfl⟩
    | list n r => intro h; cases h
    | str n r =>
      simp only
      generalize List.take n r = t
      split
      · intro h; cases h
      · rcases t with _ | ⟨x, _ | _⟩
        · intro h; cases h; exact ⟨_, rfl⟩
        · simp only
          split <;> intro h <;> cases h
          exact ⟨_, rfl⟩
        · intro h; cases h; exact ⟨_, rfl⟩

theorem shallowSplit_of_readList (bs p rest : Bytes) (h : readList bs = .ok (p, rest)) :
    shallowSplit bs = some (.list, p, rest) := by
  revert h
  unfold readList shallowSplit
  cases readHead bs with
  | error e => intro h; cases h
  | ok hd =>
    cases hd <;> simp only <;> try (intro h; cases h)
    split <;> intro h <;> cases h
    rfl

theorem decItem_shallow (f : Nat) (bs : Bytes) (it : Item) (rest : Bytes) (h : decItem f bs = .ok (it, rest)) :
    ∃ k c, shallowSplit bs = some (k, c, rest) := by
  cases f with
  | zero => cases h
  | succ f =>
    rcases (decItem_ok_iff _ _ _ _).1 h with ⟨s, hb, _⟩ | ⟨p, _, hl, _⟩
    · obtain ⟨k, hk⟩ := shallowSplit_of_readBytes _ _ _ hb
      exact ⟨k, s, hk⟩
    · exact ⟨_, p, shallowSplit_of_readList _ _ _ hl⟩

theorem decList_shallowCount (f : Nat) : ∀ (p : Bytes) (xs : List Item), decList f p = .ok xs →
    ∀ g, p.length ≤ g → shallowCount g p = some xs.length := by
  induction f with
  | zero => intro p xs h; cases h
  | succ f ih =>
    intro p xs h g hg
    cases p with
    | nil =>
      cases h
      cases g <;> rfl
    | cons b bs =>
      simp only [decList] at h
      split at h
      · rename_i x rest hx
        split at h
        · rename_i ys hys
          cases h
          obtain ⟨k, c, hsh⟩ := decItem_shallow _ _ _ _ hx
          have hcons := decItem_consumes _ _ _ _ hx
          simp only [List.length_cons] at hg hcons
          obtain ⟨g', rfl⟩ : ∃ g', g = g' + 1 := ⟨g - 1, by omega⟩
          simp [shallowCount, hsh, ih rest ys hys g' (by omega)]
        · cases h
      · cases h

theorem dec_list_split (bs : Bytes) (xs : List Item) (h : dec bs = .ok (.list xs)) :
    splitList bs = .ok (encList xs, []) ∧ countValues (encList xs) = .ok xs.length := by
  rcases (decItem_ok_iff _ _ _ _).1 ((dec_ok_iff_decItem _ _).1 h) with ⟨_, _, hs⟩ | ⟨p, ys, hl, hp, hxs⟩
  · cases hs
  · cases hxs
    obtain ⟨rfl, _⟩ := (dec_canon _).2 _ _ hp
    refine ⟨?_, ?_⟩
    · simp only [splitList, (split_ok_iff bs _).2 (shallowSplit_of_readList _ _ _ hl)]
    · rw [countValues_ok_iff]
      exact decList_shallowCount _ _ _ hp _ (Nat.le_refl _)

end Aqv.RlpRaw
