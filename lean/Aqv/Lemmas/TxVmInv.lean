/-
  Aqv.Lemmas.TxVmInv — a world predicate carried through the C07 machine (Aqv.Model.Vm). The machine itself only applies
  oracle effects, takes snapshots and reverts to them (`Vm.run_reach`); so if the effect functions the oracle supplies preserve
  a predicate P on worlds, P holds of the current world and of every live snapshot (`DbInv`) after any run of the interpreter
  and of the call and create wrappers: the instance `R := Keeps P` of `Vm.Reach`.

  The interpreter loop reads oracle entries `o t` with t ≥ 1 only (entry 0 describes the depth-0 callee and is read by the
  top-level wrapper alone) and ticks never decrease. The invariant is therefore stated from a tick `n` on: only the entries
  t ≥ n have to preserve P. n = 0 gives the supply bound (C05 `vm_run_supply_nonincreasing`); n = 1 gives the signer's nonce
  (C06 `nonce_plus_one_over_vm`): the depth-0 `evm.Create` bumps it once, nothing after it may.
-/
import Aqv.Lemmas.VmReach
namespace Aqv.TxVm
open Aqv.Vm Aqv.Gen.VmFlags

variable {W : Type}

structure DbInv (P : W → Prop) (d : Db W) : Prop where
  cur : P d.cur
  revs : ∀ p ∈ d.revs, P p.2

/-- the relation on worlds that carries `P` forward: the `R` of `Vm.Reach` for a world predicate -/
def Keeps (P : W → Prop) (w w' : W) : Prop := P w → P w'

def Pres (P : W → Prop) (f : W → W) : Prop := ∀ w, Keeps P w (f w)

def EffOk (n : Nat) (P : W → Prop) (o : Nat → StepIn W) : Prop := ∀ t, n ≤ t → AllEff (Pres P) (o t)

theorem DbInv.app {P : W → Prop} {d : Db W} (h : DbInv P d) {f : W → W} (hf : Pres P f) : DbInv P (d.app f) :=
  ⟨hf _ h.cur, h.revs⟩

theorem DbInv.snapshot {P : W → Prop} {d : Db W} (h : DbInv P d) : DbInv P d.snapshot.2 :=
  ⟨h.cur, fun p hp => by
    simp only [Db.snapshot, List.mem_cons] at hp
    rcases hp with hp | hp
    · rw [hp]; exact h.cur
    · exact h.revs p hp⟩

theorem dropTo_mem (id : Nat) (l : List (Nat × W)) {w : W} {rest : List (Nat × W)} (h : dropTo id l = some (w, rest)) :
    (∃ i, (i, w) ∈ l) ∧ ∀ p ∈ rest, p ∈ l := by
  induction l with
  | nil => simp [dropTo] at h
  | cons q qs ih =>
    obtain ⟨i, v⟩ := q
    simp only [dropTo] at h
    split at h
    · cases h; exact ⟨⟨i, List.mem_cons_self⟩, fun p hp => List.mem_cons_of_mem _ hp⟩
    · split at h
      · obtain ⟨⟨j, hj⟩, hr⟩ := ih h
        exact ⟨⟨j, List.mem_cons_of_mem _ hj⟩, fun p hp => List.mem_cons_of_mem _ (hr p hp)⟩
      · cases h

theorem DbInv.revert {P : W → Prop} {d d' : Db W} (h : DbInv P d) {id : Nat} (hr : d.revert id = some d') : DbInv P d' := by
  unfold Db.revert at hr
  split at hr
  · cases hr
  · next w rest hd =>
    cases hr
    obtain ⟨⟨i, hi⟩, hrest⟩ := dropTo_mem id d.revs hd
    exact ⟨h.revs _ hi, fun p hp => h.revs p (hrest p hp)⟩

variable {P : W → Prop} {n : Nat}

theorem keeps_preOrd : PreOrd (Keeps P) := ⟨fun _ h => h, fun h1 h2 h => h2 (h1 h)⟩

/-- the current world and every snapshot taken since come from a world with `P`, the older snapshots are those of `d` -/
theorem DbInv.reach {d d' : Db W} (hd : DbInv P d) (h : Reach (Keeps P) d d') : DbInv P d' := by
  obtain ⟨_, r, e, he, hp⟩ := h
  refine ⟨r hd.cur, fun p hp' => ?_⟩
  rw [he] at hp'
  rcases List.mem_append.mp hp' with h | h
  · exact (hp p h).2.2 hd.cur
  · exact hd.revs p h

theorem run_keeps (env : Env) {o : Nat → StepIn W} (hO : EffOk n P o) (fuel : Nat) : ChildReach (Keeps P) n false (run env o fuel) :=
  run_reach keeps_preOrd env (s := false) (fun t ht => ⟨(hO t ht).neutral, fun _ => hO t ht⟩) nofun fuel

theorem run_inv (env : Env) {o : Nat → StepIn W} (hO : EffOk n P o) (fuel : Nat) (fr : Frame) {db : Db W} {t : Nat} (ht : n ≤ t)
    (h : DbInv P db) : DbInv P (run env o fuel fr db t).db :=
  h.reach (run_keeps env hO fuel fr db t nofun ht).reach

/-- `evm.Call` at depth 0: the loop reads the entries t ≥ 1; the entry-0 effects the wrapper may apply are given explicitly. -/
theorem topCall_inv_tick1 (env : Env) {o : Nat → StepIn W} (hO : EffOk 1 P o) (hx : Pres P (o 0).xferEff) (hn : Pres P (o 0).neutralEff)
    (fuel : Nat) (k : CallKind) (gas : Nat) (v : Bool) {db : Db W} (h : DbInv P db) : DbInv P (topCall env o fuel k gas v db).db :=
  h.reach (callWrap_reach keeps_preOrd (run_keeps env hO fuel) k (fun _ _ => hx) hn 0 nofun gas (Nat.le_refl 1)).1.reach

/-- `evm.Create`: the creator's nonce bump precedes the snapshot, so `P` is asked of the state AFTER the bump; the state
    before it is returned only by a creation that was refused (CanTransfer; the depth is 0). -/
theorem topCreate_inv_tick1 (env : Env) {o : Nat → StepIn W} (hO : EffOk 1 P o) (hx : Pres P (o 0).xferEff) (hs : Pres P (o 0).setCodeEff)
    (fuel : Nat) (gas : Nat) {db : Db W} (h : (o 0).canTransfer = false → DbInv P db) (h0 : DbInv P (db.app (o 0).nonceEff)) :
    DbInv P (topCreate env o fuel gas db).db := by
  refine DbInv.reach ?_ (createWrap_reach keeps_preOrd (run_keeps env hO fuel) hx hs 0 nofun gas (Nat.le_refl 1)).1.reach
  split
  · next hr => exact h (hr.resolve_left (Nat.not_lt_zero _))
  · exact h0

theorem EffOk.tick1 {o : Nat → StepIn W} (hO : EffOk 0 P o) : EffOk 1 P o := fun t _ => hO t (Nat.zero_le t)

theorem topCall_inv (env : Env) {o : Nat → StepIn W} (hO : EffOk 0 P o) (fuel : Nat) (k : CallKind) (gas : Nat) (v : Bool)
    {db : Db W} (h : DbInv P db) : DbInv P (topCall env o fuel k gas v db).db :=
  have e := hO 0 (Nat.le_refl 0)
  topCall_inv_tick1 env hO.tick1 e.xfer e.neutral fuel k gas v h

theorem topCreate_inv (env : Env) {o : Nat → StepIn W} (hO : EffOk 0 P o) (fuel : Nat) (gas : Nat)
    {db : Db W} (h : DbInv P db) : DbInv P (topCreate env o fuel gas db).db :=
  have e := hO 0 (Nat.le_refl 0)
  topCreate_inv_tick1 env hO.tick1 e.xfer e.setCode fuel gas (fun _ => h) (h.app e.nonce)

end Aqv.TxVm
