/-
  The Stream machine primitives `uint(maxbits)` and `Bool()` refine `Rlp.readUint` and `Rlp.readBool` of
  Aqv.Model.RlpTyped on a ready, re-armed stream (top level or inside a list); for `Bytes()` that is `bytes_sim` of
  Lemmas/RlpStream.
-/
import Aqv.Lemmas.RlpStream
namespace Aqv.RlpStream
open Aqv Aqv.Rlp

theorem beNat_ge_256 (b0 x : UInt8) (t : Bytes) (h0 : b0 ≠ 0) : 256 ≤ beNat (b0 :: x :: t) := by
  apply Nat.le_of_not_lt
  intro hlt
  have h := beBytes_length_le (beNat (b0 :: x :: t)) 1 hlt
  rw [beBytes_beNat _ (by intro b r hb; cases hb; exact h0)] at h
  simp at h

theorem uint_byte {s s1 : St} {k n : Nat} (hko : kindOf s = (.ok (.byte, n), s1)) :
    uint k s = if s1.byteval = 0 then (.error .canonInt, s1) else (.ok s1.byteval.toNat, { s1 with kind := none }) := by
  simp only [uint, hko]

/-- `uint(8k)` on a string that `Kind` found within the window and that fits the width: `readUint(size)` (the machine's, which
    rejects a leading zero), then the test for a single byte below 128.  The three shapes are those of `Rlp.readUint`. -/
theorem uint_string {s s1 : St} {k n : Nat} (hko : kindOf s = (.ok (.string, n), s1)) (hr1 : Ready s1)
    (hn : n ≤ avail s1) (hkn : ¬ k < n) :
    uint k s =
      match s1.inp.take n with
      | [] => (.ok 0, { s1 with kind := none })
      | [x] => (if x < 0x80 then .error .canonSize else .ok x.toNat, after n s1)
      | b0 :: x :: t => (if b0 = 0 then .error .canonInt else .ok (beNat (b0 :: x :: t)), after n s1) := by
  have hlen : (s1.inp.take n).length = n := by
    rw [List.length_take]; exact Nat.min_eq_left (Nat.le_trans hn (avail_le s1 hr1))
  have hnk : ¬ n > k := hkn
  match hl : s1.inp.take n with
  | [] =>
    obtain rfl : n = 0 := by rw [hl] at hlen; exact hlen.symm
    simp [uint, hko, RlpStream.readUint]
  | [x] =>
    obtain rfl : n = 1 := by rw [hl] at hlen; exact hlen.symm
    have hrd := RlpStream.readUint_ok 1 (Nat.le_refl 1) s1 hr1 hn
    rw [hl] at hrd
    have hv : x.toNat < 128 ↔ x < 0x80 := (UInt8.lt_iff_toNat_lt (a := x) (b := 0x80)).symm
    by_cases hx : x < 0x80 <;> simp [uint, hko, hnk, hrd, beNat_singleton, hv, hx]
  | b0 :: x :: t =>
    have hrd := RlpStream.readUint_ok n (by rw [← hlen, hl]; simp) s1 hr1 hn
    rw [hl] at hrd
    by_cases hb0 : b0 = 0
    · simp [uint, hko, hnk, hrd, hb0]
    · -- two or more bytes without a leading zero are not below 128
      have hv : ¬ beNat (b0 :: x :: t) < 128 := by have := beNat_ge_256 b0 x t hb0; omega
      simp [uint, hko, hnk, hrd, hb0, hv]

theorem uint_refines (k : Nat) (s : St) (hr : Ready s) (hk : s.kind = none) (ha : 1 ≤ avail s) :
    (∀ n rest, Rlp.readUint k (win s) = .ok (n, rest) →
      ∃ s', uint k s = (.ok n, s') ∧ ReadTo s rest s' ∧ s'.alloc = s.alloc) ∧
    (∀ e, Rlp.readUint k (win s) = .error e → ∃ e' s', uint k s = (.error e', s') ∧ s'.alloc = s.alloc) := by
  have hks := kind_spec s hr hk ha
  have hkerr : Fails s (kindOf s) → ∃ e' s', uint k s = (.error e', s') ∧ s'.alloc = s.alloc :=
    fun ⟨e', s', hko, _, hal⟩ => ⟨e', s', by simp only [uint, hko], hal⟩
  unfold Rlp.readUint
  cases hh : readHead (win s) with
  | error e0 => rw [hh] at hks; exact ⟨nofun, fun _ _ => hkerr hks⟩
  | ok hd =>
    rw [hh] at hks
    cases hd with
    | byte x r =>
      obtain ⟨s1, hko, hc⟩ := hks.cached (Nat.zero_le _)
      rw [uint_byte hko, show s1.byteval = x from hc.byteval]
      by_cases hx : x = 0
      · simp only [hx, if_true]; exact ⟨nofun, fun _ _ => ⟨_, _, rfl, hc.alloc⟩⟩
      · simp only [hx, if_false]
        refine ⟨fun n rest h => ?_, nofun⟩
        cases h
        exact ⟨_, rfl, ⟨hc.step.of_pos rfl rfl, rfl, hc.win⟩, hc.alloc⟩
    | list m r =>
      refine ⟨nofun, fun e _ => ?_⟩
      by_cases hlt : r.length < m
      · exact hkerr (hks.fails hlt)
      · obtain ⟨s1, hko, hc⟩ := hks.cached (Nat.le_of_not_lt hlt)
        exact ⟨.expectedString, s1, by simp only [uint, hko, hdKind], hc.alloc⟩
    | str m r =>
      simp only
      by_cases hlt : r.length < m
      · rw [if_pos hlt]; exact ⟨nofun, fun _ _ => hkerr (hks.fails hlt)⟩
      rw [if_neg hlt]
      have hm := Nat.le_of_not_lt hlt
      obtain ⟨s1, hko, hc⟩ := hks.cached hm
      have hko : kindOf s = (.ok (.string, m), s1) := hko
      by_cases hkm : k < m
      · rw [if_pos hkm]
        exact ⟨nofun, fun _ _ => ⟨.uintOverflow, s1, by simp only [uint, hko, show m > k from hkm, if_true], hc.alloc⟩⟩
      -- machine and reader now branch on the same three shapes of the payload `r.take m`
      rw [if_neg hkm, uint_string hko hc.ready (hc.avail ▸ hm) hkm, hc.take hm]
      have hlen : (r.take m).length = m := by rw [List.length_take]; omega
      have hok : ∀ s2, Step s1 m s2 → s2.kind = none → s2.alloc = s1.alloc → ∀ v n rest,
          (Except.ok (v, r.drop m) : Except TErr _) = .ok (n, rest) →
          ∃ s', ((Except.ok v : Except SErr Nat), s2) = (.ok n, s') ∧ ReadTo s rest s' ∧ s'.alloc = s.alloc :=
        fun s2 st2 hk2 hal v n rest h => by
          cases h
          obtain ⟨hst, hw2, _⟩ := step_drop hr hc.step hc.ready hc.win st2 hm
          exact ⟨s2, rfl, ⟨hst, hk2, hw2⟩, hal.trans hc.alloc⟩
      match hl : r.take m with
      | [] =>
        obtain rfl : m = 0 := by rw [hl] at hlen; exact hlen.symm
        exact ⟨hok { s1 with kind := none } ((step_refl s1).of_pos rfl rfl) rfl rfl _, nofun⟩
      | [x] =>
        by_cases hx : x < 0x80
        · simp only [hx, if_true]; exact ⟨nofun, fun _ _ => ⟨_, _, rfl, hc.alloc⟩⟩
        · simp only [hx, if_false]; exact ⟨hok _ (after_step m s1) rfl rfl _, nofun⟩
      | b0 :: x :: t =>
        by_cases hb0 : b0 = 0
        · simp only [hb0, if_true]; exact ⟨nofun, fun _ _ => ⟨_, _, rfl, hc.alloc⟩⟩
        · simp only [hb0, if_false]; exact ⟨hok _ (after_step m s1) rfl rfl _, nofun⟩

theorem bool_refines (s : St) (hr : Ready s) (hk : s.kind = none) (ha : 1 ≤ avail s) :
    (∀ b rest, Rlp.readBool (win s) = .ok (b, rest) →
      ∃ s', bool s = (.ok b, s') ∧ ReadTo s rest s' ∧ s'.alloc = s.alloc) ∧
    (∀ e, Rlp.readBool (win s) = .error e → ∃ e' s', bool s = (.error e', s') ∧ s'.alloc = s.alloc) := by
  obtain ⟨hok, herr⟩ := uint_refines 1 s hr hk ha
  unfold Rlp.readBool
  cases hu : Rlp.readUint 1 (win s) with
  | error e =>
    obtain ⟨e', s', hm, hal⟩ := herr e hu
    exact ⟨nofun, fun _ _ => ⟨e', s', by simp only [bool, hm], hal⟩⟩
  | ok p =>
    obtain ⟨n, rest⟩ := p
    obtain ⟨s', hm, hs'⟩ := hok n rest hu
    match n, hm with
    | 0, hm | 1, hm => exact ⟨fun b rest' h => by cases h; exact ⟨s', by simp only [bool, hm], hs'⟩, nofun⟩
    | n + 2, hm => exact ⟨nofun, fun _ _ => ⟨.badBool, s', by simp only [bool, hm], hs'.2⟩⟩

end Aqv.RlpStream
