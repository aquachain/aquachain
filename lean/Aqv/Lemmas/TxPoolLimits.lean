/-
  Aqv.Lemmas.TxPoolLimits — the limit enforcement of promoteExecutables establishes the `Limits` clause:
  per-account queue cap, pool-wide queue cap and the pending-slot equalisation, for every eviction oracle.
-/
import Aqv.Lemmas.TxPoolAll
namespace Aqv.TxPool

/-- the carrier of the limit enforcement: with `AllOK` a queued transaction is found by removeTx -/
def GA (s : Pool) : Prop := Good s ∧ AllOK s

theorem addClosed_ga : AddClosed GA := addClosed_good.and_of_imp addClosed_wa fun _ => Good.weakAll

theorem sumLen_nil (f : Addr → TxL) : sumLen f [] = 0 := rfl
theorem sumLen_cons (f : Addr → TxL) (a : Addr) (as : List Addr) : sumLen f (a :: as) = (f a).items.length + sumLen f as := by
  simp [sumLen]

theorem sumLen_le {f f' : Addr → TxL} {as : List Addr} (h : ∀ b ∈ as, (f' b).items.length ≤ (f b).items.length) :
    sumLen f' as ≤ sumLen f as := by
  induction as with
  | nil => simp [sumLen]
  | cons a rest ih =>
    rw [sumLen_cons, sumLen_cons]
    have := h a List.mem_cons_self
    have := ih (fun b hb => h b (List.mem_cons_of_mem _ hb))
    omega

theorem sumLen_drop {f f' : Addr → TxL} {as : List Addr} {a : Addr} {k : Nat} (ha : a ∈ as)
    (h : ∀ b ∈ as, (f' b).items.length ≤ (f b).items.length) (hk : (f' a).items.length + k ≤ (f a).items.length) :
    sumLen f' as + k ≤ sumLen f as := by
  induction as with
  | nil => cases ha
  | cons x rest ih =>
    rw [sumLen_cons, sumLen_cons]
    have hx := h x List.mem_cons_self
    have hrest := sumLen_le (f := f) (f' := f') (as := rest) (fun b hb => h b (List.mem_cons_of_mem _ hb))
    rcases List.mem_cons.mp ha with rfl | ha'
    · omega
    · have := ih ha' (fun b hb => h b (List.mem_cons_of_mem _ hb)); omega

theorem sumLen_filter_le (f : Addr → TxL) (p : Addr → Bool) (as : List Addr) : sumLen f (as.filter p) ≤ sumLen f as := by
  induction as with
  | nil => simp [sumLen]
  | cons a rest ih =>
    rw [List.filter_cons]; split
    · rw [sumLen_cons, sumLen_cons]; omega
    · rw [sumLen_cons]; omega

theorem sumLen_zero {f : Addr → TxL} {as : List Addr} (h : ∀ b ∈ as, (f b).items = []) : sumLen f as = 0 := by
  induction as with
  | nil => rfl
  | cons a rest ih =>
    rw [sumLen_cons, h a List.mem_cons_self, ih (fun b hb => h b (List.mem_cons_of_mem _ hb))]; rfl

theorem removeTx_queued {s : Pool} {t : Tx} (h : GA s) (ht : t ∈ (s.queue t.sender).items) :
    GA (s.removeTx t) ∧ Touch s t.sender (s.removeTx t) ∧ (s.removeTx t).pending = s.pending ∧
    (s.removeTx t).accts = s.accts ∧
    ((s.removeTx t).queue t.sender).items = (s.queue t.sender).items.filter (fun u => !decide (u.nonce = t.nonce)) := by
  have hw := h.1.weakAll
  obtain ⟨hto, _, hc⟩ := removeTx_spec s t hw
  have hin : t ∈ s.all := (h.2 t).mpr (Or.inr ht)
  have hnone : getN (s.pending t.sender).items t.nonce = none :=
    getN_none.mpr (fun p hp e => (hw.weak t.sender).disj p hp t ht e)
  cases hc with
  | noop _ hnin => exact absurd hin hnin
  | pend _ hfound _ _ _ _ => rw [hnone] at hfound; cases hfound
  | queue _ hp _ haccts _ _ hqitems => exact ⟨⟨removeTx_good t h.1, removeTx_allok t hw h.2⟩, hto, hp, haccts, hqitems⟩

/-- no transaction of `ts` has `u`'s nonce: what removeTx, which removes by nonce, leaves of a list after `ts` went -/
def freeOf (ts : List Tx) (u : Tx) : Bool := ts.all (fun t => !decide (u.nonce = t.nonce))

/-- what `dropQueued s a ts` leaves, for queued `ts` of `a` -/
structure DQ (s : Pool) (a : Addr) (ts : List Tx) (s' : Pool) : Prop where
  ga      : GA s'
  pending : s'.pending = s.pending
  accts   : s'.accts = s.accts
  locals  : s'.locals = s.locals
  cfg     : s'.cfg = s.cfg
  qother  : ∀ b, b ≠ a → s'.queue b = s.queue b
  qitems  : (s'.queue a).items = (s.queue a).items.filter (freeOf ts)

theorem dropQueued_spec : ∀ (ts : List Tx) (s : Pool) (a : Addr), GA s → (∀ t ∈ ts, t ∈ (s.queue a).items) →
    ts.Pairwise (fun x y => x.nonce ≠ y.nonce) → DQ s a ts (s.dropQueued a ts) := by
  intro ts
  induction ts with
  | nil =>
    intro s a h _ _
    exact { ga := h, pending := rfl, accts := rfl, locals := rfl, cfg := rfl, qother := fun _ _ => rfl
            qitems := by
              show (s.queue a).items = (s.queue a).items.filter (freeOf [])
              symm; rw [List.filter_eq_self]; intro u _; rfl }
  | cons x xs ih =>
    intro s a h hin hpw
    have hx := hin x List.mem_cons_self
    have hxa : x.sender = a := (h.1.strong a).qowner x hx
    have hpw' := List.pairwise_cons.mp hpw
    subst hxa
    obtain ⟨hga, hto, hp, hacc, hq⟩ := removeTx_queued h hx
    have hrest : ∀ t ∈ xs, t ∈ ((s.removeTx x).queue x.sender).items := by
      intro t ht
      rw [hq]
      exact List.mem_filter.mpr ⟨hin t (List.mem_cons_of_mem _ ht), by
        have := hpw'.1 t ht
        simp only [Bool.not_eq_true', decide_eq_false_iff_not]; exact fun e => this e.symm⟩
    have := ih (s.removeTx x) x.sender hga hrest hpw'.2
    show DQ s x.sender (x :: xs) ((s.removeTx x).dropQueued x.sender xs)
    exact { ga := this.ga, pending := this.pending.trans hp, accts := this.accts.trans hacc
            locals := this.locals.trans hto.locals, cfg := this.cfg.trans hto.env.cfg
            qother := fun b hb => (this.qother b hb).trans (hto.qother b hb)
            qitems := by
              rw [this.qitems, hq, List.filter_filter]
              apply List.filter_congr
              intro u _
              simp [freeOf, Bool.and_comm] }

theorem filter_freeOf_self {l : List Tx} : l.filter (freeOf l) = [] := by
  rw [List.filter_eq_nil_iff]
  intro u hu h
  unfold freeOf at h
  have := List.all_eq_true.mp h u hu
  simp at this

theorem filter_freeOf_suffix {l : List Tx} (hs : Sorted l) (k : Nat) :
    l.filter (freeOf (l.drop k).reverse) = l.take k := by
  refine (hs.filter _).ext (hs.take k) fun u => ?_
  simp only [List.mem_filter, freeOf, List.all_eq_true, List.mem_reverse, Bool.not_eq_true', decide_eq_false_iff_not]
  constructor
  · rintro ⟨hu, hfree⟩
    exact ((mem_take_or_drop l k u).mp hu).resolve_right fun h => hfree u h rfl
  · exact fun hu => ⟨List.mem_of_mem_take hu, fun t ht => by have := hs.take_lt_drop k u hu t ht; omega⟩

/-- what the drop loop of the global queue limit (`queueDrop`) leaves -/
structure QD (s s' : Pool) : Prop where
  ga      : GA s'
  pending : s'.pending = s.pending
  accts   : s'.accts = s.accts
  locals  : s'.locals = s.locals
  cfg     : s'.cfg = s.cfg
  qle     : ∀ b, (s'.queue b).items.length ≤ (s.queue b).items.length

theorem QD.refl {s : Pool} (h : GA s) : QD s s :=
  { ga := h, pending := rfl, accts := rfl, locals := rfl, cfg := rfl, qle := fun _ => Nat.le_refl _ }

theorem QD.trans {a b c : Pool} (h1 : QD a b) (h2 : QD b c) : QD a c :=
  { ga := h2.ga, pending := h2.pending.trans h1.pending, accts := h2.accts.trans h1.accts
    locals := h2.locals.trans h1.locals, cfg := h2.cfg.trans h1.cfg
    qle := fun x => Nat.le_trans (h2.qle x) (h1.qle x) }

theorem DQ.qd {s s' : Pool} {a : Addr} {ts : List Tx} (h : DQ s a ts s') : QD s s' :=
  { ga := h.ga, pending := h.pending, accts := h.accts, locals := h.locals, cfg := h.cfg
    qle := fun b => by
      by_cases hb : b = a
      · subst hb; rw [h.qitems]; exact List.length_filter_le _ _
      · rw [h.qother b hb]; exact Nat.le_refl _ }

theorem queuedCount_le {s s' : Pool} (h : QD s s') : s'.queuedCount ≤ s.queuedCount := by
  unfold Pool.queuedCount; rw [h.accts]; exact sumLen_le (fun b _ => h.qle b)

theorem queueDrop_spec : ∀ (as : List Addr) (d : Nat) (s : Pool), GA s →
    QD s (Pool.queueDrop d as s) ∧
    (s.queuedCount ≤ s.cfg.globalQueue + d →
      ((Pool.queueDrop d as s).queuedCount ≤ s.cfg.globalQueue ∨ ∀ a ∈ as, ((Pool.queueDrop d as s).queue a).items = [])) := by
  intro as
  induction as with
  | nil => intro d s h; rw [queueDrop_nil]; exact ⟨QD.refl h, fun _ => Or.inr (by simp)⟩
  | cons a rest ih =>
    intro d s h
    cases d with
    | zero => rw [queueDrop_zero]; exact ⟨QD.refl h, fun hq => Or.inl (by omega)⟩
    | succ d =>
      have hwa := h.1.strong a
      have hsorted := hwa.qsorted
      by_cases hfull : (s.queue a).items.length ≤ d + 1
      · rw [queueDrop_all rest hfull]
        have hdq := dropQueued_spec (s.queue a).items s a h (fun _ ht => ht)
          (List.Pairwise.imp (fun hlt => by omega) hsorted)
        have hempty : ((s.dropQueued a (s.queue a).items).queue a).items = [] := by rw [hdq.qitems, filter_freeOf_self]
        obtain ⟨ih1, ih2⟩ := ih (d + 1 - (s.queue a).items.length) (s.dropQueued a (s.queue a).items) hdq.ga
        refine ⟨hdq.qd.trans ih1, fun hq => ?_⟩
        have hcount : (s.dropQueued a (s.queue a).items).queuedCount + (s.queue a).items.length ≤ s.queuedCount := by
          by_cases hacc : a ∈ s.accts
          · unfold Pool.queuedCount; rw [hdq.accts]
            exact sumLen_drop hacc (fun b _ => hdq.qd.qle b) (by rw [hempty]; simp)
          · have hl : (s.queue a).items.length = 0 := by rw [h.1.weakAll.noQueue hacc]; rfl
            have := queuedCount_le hdq.qd
            omega
        rw [hdq.cfg] at ih2
        rcases ih2 (by omega) with hl | hr
        · exact Or.inl hl
        · right
          intro b hb
          rcases List.mem_cons.mp hb with rfl | hb'
          · have := ih1.qle b
            rw [hempty] at this
            exact List.eq_nil_of_length_eq_zero (by simpa using this)
          · exact hr b hb'
      · rw [queueDrop_part rest hfull]
        have hlen : d + 1 < (s.queue a).items.length := by omega
        have hdq := dropQueued_spec ((s.queue a).items.drop ((s.queue a).items.length - (d + 1))).reverse s a h
          (fun t ht => List.mem_of_mem_drop (List.mem_reverse.mp ht))
          (by
            rw [List.pairwise_reverse]
            exact List.Pairwise.imp (fun hlt => by omega) (hsorted.drop _))
        refine ⟨hdq.qd, fun hq => Or.inl ?_⟩
        have hitems : ((s.dropQueued a ((s.queue a).items.drop ((s.queue a).items.length - (d + 1))).reverse).queue a).items
            = (s.queue a).items.take ((s.queue a).items.length - (d + 1)) := by
          rw [hdq.qitems, filter_freeOf_suffix hsorted]
        have hacc : a ∈ s.accts := by
          apply Decidable.byContradiction
          intro hna
          have := h.1.weakAll.noQueue hna
          rw [this] at hlen; simp at hlen
        have hcount : (s.dropQueued a ((s.queue a).items.drop ((s.queue a).items.length - (d + 1))).reverse).queuedCount + (d + 1)
            ≤ s.queuedCount := by
          unfold Pool.queuedCount; rw [hdq.accts]
          apply sumLen_drop hacc (fun b _ => hdq.qd.qle b)
          rw [hitems, List.length_take]; omega
        omega

theorem queueEvict_spec (s : Pool) (order : List Addr) (h : GA s) :
    QD s (s.queueEvict order) ∧
    sumLen (s.queueEvict order).queue ((s.queueEvict order).accts.filter (fun a => !(s.queueEvict order).isLocal a))
      ≤ (s.queueEvict order).cfg.globalQueue := by
  by_cases hq : s.queuedCount ≤ s.cfg.globalQueue
  · rw [queueEvict_id order hq]
    exact ⟨QD.refl h, Nat.le_trans (sumLen_filter_le _ _ _) hq⟩
  · rw [queueEvict_over order hq]
    obtain ⟨h1, h2⟩ := queueDrop_spec (order.filter (fun a => !s.isLocal a) ++ s.accts.filter (fun a => !s.isLocal a))
      (s.queuedCount - s.cfg.globalQueue) s h
    have h2' := h2 (by omega)
    generalize Pool.queueDrop (s.queuedCount - s.cfg.globalQueue)
      (order.filter (fun a => !s.isLocal a) ++ s.accts.filter (fun a => !s.isLocal a)) s = X at h1 h2' ⊢
    refine ⟨h1, ?_⟩
    have hloc : ∀ a, X.isLocal a = s.isLocal a := isLocal_congr h1.locals
    rw [h1.cfg, h1.accts]
    simp only [hloc]
    rcases h2' with hl | hr
    · have hl' : sumLen X.queue s.accts ≤ s.cfg.globalQueue := by
        unfold Pool.queuedCount at hl; rw [h1.accts] at hl; exact hl
      exact Nat.le_trans (sumLen_filter_le _ _ _) hl'
    · rw [sumLen_zero (fun b hb => hr b (List.mem_append_right _ hb))]; exact Nat.zero_le _

/-- what the pending-slot equalisation (`slotEvict`) leaves -/
structure SE (s s' : Pool) : Prop where
  ga      : GA s'
  queue   : s'.queue = s.queue
  accts   : s'.accts = s.accts
  locals  : s'.locals = s.locals
  cfg     : s'.cfg = s.cfg

theorem SE.refl {s : Pool} (h : GA s) : SE s s := ⟨h, rfl, rfl, rfl, rfl⟩
theorem SE.trans {a b c : Pool} (h1 : SE a b) (h2 : SE b c) : SE a c :=
  ⟨h2.ga, h2.queue.trans h1.queue, h2.accts.trans h1.accts, h2.locals.trans h1.locals, h2.cfg.trans h1.cfg⟩

theorem capOne_se {s : Pool} (a : Addr) (h : GA s) : SE s (s.capOne a) :=
  have hf := capOne_facts s a
  ⟨⟨capOne_good a h.1, capOne_allok a h.1.weakAll h.2⟩, hf.queue, hf.accts, hf.touch.locals, hf.touch.env.cfg⟩

theorem capOne_count {s : Pool} {a : Addr} (ha : a ∈ s.accts) (hne : (s.pending a).items ≠ []) :
    (s.capOne a).pendingCount + 1 ≤ s.pendingCount := by
  have hf := capOne_facts s a
  unfold Pool.pendingCount
  rw [hf.accts]
  cases hf.cases with
  | empty h1 => exact absurd h1 hne
  | last x _ h2 =>
    have hlen : ((s.capOne a).pending a).items.length + 1 = (s.pending a).items.length := by rw [← h2]; simp
    apply sumLen_drop ha _ (by omega)
    intro b _
    by_cases hb : b = a
    · subst hb; omega
    · rw [hf.touch.pother b hb]; exact Nat.le_refl _

theorem slotFinish_spec : ∀ (fuel : Nat) (s : Pool), GA s → s.pendingCount ≤ fuel →
    SE s (Pool.slotFinish fuel s) ∧
    ((Pool.slotFinish fuel s).pendingCount ≤ s.cfg.globalSlots ∨
      ∀ a ∈ s.accts, (Pool.slotFinish fuel s).offender a = false) := by
  intro fuel
  induction fuel with
  | zero => intro s h hf; exact ⟨SE.refl h, Or.inl (show s.pendingCount ≤ _ by omega)⟩
  | succ n ih =>
    intro s h hf
    rcases slotFinish_succ n s with ⟨e, hstop⟩ | ⟨a, hmem, hoff, _, e⟩ <;> rw [e]
    · exact ⟨SE.refl h, hstop⟩
    · have hne : (s.pending a).items ≠ [] := fun e => by
        have := (offender_iff.mp hoff).2; rw [e] at this; cases this
      have hse := capOne_se a h
      have hcnt := capOne_count hmem hne
      obtain ⟨i1, i2⟩ := ih (s.capOne a) hse.ga (by omega)
      refine ⟨hse.trans i1, ?_⟩
      rw [hse.cfg, hse.accts] at i2
      exact i2

theorem slotEvict_spec (s : Pool) (sched : List Addr) (h : GA s) :
    SE s (s.slotEvict sched) ∧
    ((s.slotEvict sched).pendingCount ≤ s.cfg.globalSlots ∨ ∀ a ∈ s.accts, (s.slotEvict sched).offender a = false) := by
  by_cases hle : s.pendingCount ≤ s.cfg.globalSlots
  · rw [slotEvict_id sched hle]; exact ⟨SE.refl h, Or.inl hle⟩
  · rw [slotEvict_over sched hle]
    have h1 : SE s (sched.foldl (fun s a => if s.offender a = true then s.capOne a else s) s) := by
      apply foldl_pres (SE s) _ _ sched s (SE.refl h)
      intro m a hm
      split
      · exact hm.trans (capOne_se a hm.ga)
      · exact hm
    generalize sched.foldl (fun s a => if s.offender a = true then s.capOne a else s) s = m at h1 ⊢
    obtain ⟨i1, i2⟩ := slotFinish_spec m.pendingCount m h1.ga (Nat.le_refl _)
    refine ⟨h1.trans i1, ?_⟩
    rw [h1.cfg, h1.accts] at i2
    exact i2

/-- what the account loop of promoteExecutables leaves -/
structure PA (s s' : Pool) : Prop where
  ga      : GA s'
  locals  : s'.locals = s.locals
  cfg     : s'.cfg = s.cfg

theorem promoteAcct_pa {s : Pool} (a : Addr) (h : GA s) : PA s (s.promoteAcct a) :=
  have ht := promoteAcct_touch s a
  ⟨⟨promoteAcct_good a h.1, promoteAcct_allok a h.1.weakAll h.2⟩, ht.locals, ht.env.cfg⟩

theorem promoteLoop_spec : ∀ (l : List Addr) (s : Pool), GA s →
    PA s (l.foldl (fun s a => s.promoteAcct a) s) ∧
    ∀ b, b ∉ s.locals → (b ∈ l ∨ (s.queue b).items.length ≤ s.cfg.accountQueue) →
      ((l.foldl (fun s a => s.promoteAcct a) s).queue b).items.length ≤ s.cfg.accountQueue := by
  intro l
  induction l with
  | nil => intro s h; exact ⟨⟨h, rfl, rfl⟩, fun b _ hb => by rcases hb with hb | hb; cases hb; exact hb⟩
  | cons a rest ih =>
    intro s h
    have hpa := promoteAcct_pa a h
    obtain ⟨i1, i2⟩ := ih (s.promoteAcct a) hpa.ga
    simp only [List.foldl_cons]
    refine ⟨⟨i1.ga, i1.locals.trans hpa.locals, i1.cfg.trans hpa.cfg⟩, ?_⟩
    intro b hbl hb
    rw [hpa.locals, hpa.cfg] at i2
    apply i2 b hbl
    by_cases hba : b = a
    · subst hba
      right
      rw [(promote_exact b (h.1.strong b).toWeak).qitems, List.length_take, paCap_nonlocal hbl]
      exact Nat.min_le_left _ _
    · rcases hb with hb | hb
      · rcases List.mem_cons.mp hb with e | hb'
        · exact absurd e hba
        · exact Or.inl hb'
      · right
        rw [(promoteAcct_touch s a).qother b hba]; exact hb

/-- what promoteExecutables over the accounts `as` establishes in `s'` from `s`: the clauses of `Limits`, the per-account
    one for the accounts of `as` and for those whose queue was within its cap -/
structure Enforced (s : Pool) (as : List Addr) (s' : Pool) : Prop where
  acctQueue   : ∀ a, a ∉ s'.locals → (a ∈ as ∨ (s.queue a).items.length ≤ s.cfg.accountQueue) →
                  (s'.queue a).items.length ≤ s'.cfg.accountQueue
  globalQueue : sumLen s'.queue (s'.accts.filter (fun a => !s'.isLocal a)) ≤ s'.cfg.globalQueue
  globalSlots : s'.pendingCount ≤ s'.cfg.globalSlots ∨ ∀ a, a ∉ s'.locals → (s'.pending a).items.length ≤ s'.cfg.accountSlots

theorem promote_limits (s : Pool) (as slots qorder : List Addr) (h : GA s) :
    Enforced s as (((as.foldl (fun s a => s.promoteAcct a) s).slotEvict slots).queueEvict qorder) := by
  obtain ⟨p1, p2⟩ := promoteLoop_spec as s h
  generalize as.foldl (fun s a => s.promoteAcct a) s = m1 at p1 p2 ⊢
  obtain ⟨e1, e2⟩ := slotEvict_spec m1 slots p1.ga
  generalize m1.slotEvict slots = m2 at e1 e2 ⊢
  obtain ⟨q1, q2⟩ := queueEvict_spec m2 qorder e1.ga
  generalize m2.queueEvict qorder = m3 at q1 q2 ⊢
  have hloc : m3.locals = s.locals := q1.locals.trans (e1.locals.trans p1.locals)
  have hcfg : m3.cfg = s.cfg := q1.cfg.trans (e1.cfg.trans p1.cfg)
  refine ⟨?_, q2, ?_⟩
  · intro a ha hq
    rw [hloc] at ha
    rw [hcfg]
    apply Nat.le_trans (q1.qle a)
    rw [e1.queue]
    exact p2 a ha hq
  · have hpc : m3.pendingCount = m2.pendingCount := by
      unfold Pool.pendingCount; rw [q1.pending, q1.accts]
    rw [hpc, hcfg, ← p1.cfg, ← e1.cfg]
    rcases e2 with hl | hr
    · left; rw [e1.cfg]; exact hl
    · right
      intro a ha
      rw [q1.pending]
      by_cases hacc : a ∈ m1.accts
      · -- not local and no offender: within its slots
        have hnl : a ∉ m2.locals := by rw [e1.locals, p1.locals, ← hloc]; exact ha
        exact Nat.not_lt.mp fun hlt => Bool.false_ne_true ((hr a hacc).symm.trans (offender_iff.mpr ⟨hnl, hlt⟩))
      · have : a ∉ m2.accts := by rw [e1.accts]; exact hacc
        rw [e1.ga.1.weakAll.noPending this]; exact Nat.zero_le _

theorem limits_after_promote (s : Pool) (slots qorder : List Addr) (h : GA s) :
    Limits (s.promoteExecutables none slots qorder) := by
  rw [promoteExecutables_eq, Option.getD_none]
  have he := promote_limits s s.accts slots qorder h
  refine ⟨fun a ha => he.acctQueue a ha ?_, he.globalQueue, he.globalSlots⟩
  by_cases hacc : a ∈ s.accts
  · exact Or.inl hacc
  · right; rw [h.1.weakAll.noQueue hacc]; exact Nat.zero_le _

/-- the promotion that a successful, non-replacing add runs -/
theorem limits_after_promote_some (s : Pool) (as : List Addr) (slots qorder : List Addr) (h : GA s) :
    Enforced s as (s.promoteExecutables (some as) slots qorder) := by
  rw [promoteExecutables_eq, Option.getD_some]
  exact promote_limits s as slots qorder h

theorem limits_after_reset_true (s : Pool) (v : View) (oldNum newNum : Nat) (reorg : Bool) (disc inc : List Tx) (o : ResetOracle)
    (h : GA s) : Limits (s.reset true v oldNum newNum reorg disc inc o) :=
  -- after the re-injection Phase and WA; demotion and nonce update turn Phase into Good; the final promotion enforces
  reset_stages (K1 := fun m => Phase m ∧ WA m) (K2 := GA) (K3 := Limits) true
    (fun _ hm => ⟨demoteSync_good hm.1, (demoteSync_pres true (demoteAcct_wa true) (fun _ _ h => h) hm.2).2⟩)
    (fun m hm => limits_after_promote m _ _ hm)
    ⟨resetMid_phase s v oldNum newNum reorg disc inc o h.1,
      resetMid_pres addClosed_wa s v oldNum newNum reorg disc inc o ⟨h.1.weakAll, h.2⟩⟩

end Aqv.TxPool
