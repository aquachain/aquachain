/-
  Lemmas for Layer D of Aqv.Model.BlockImport (runtime caches).
-/
import Aqv.Lemmas.BlockImportChain
import Aqv.Model.BlockImportCache
namespace Aqv.BlockImport

variable {St Tx : Type}

def BodiesOk (C : ChainComp St Tx) (S : Store St Tx) : Prop :=
  ∀ h s, S.blocks h = some s → validateBodyHashes C.toComp s.block = .ok ()

/-- collision-freedom of the hashes the cache argument relies on. -/
structure CollisionFree (C : ChainComp St Tx) : Prop where
  root : ∀ s₁ s₂ : St, C.root s₁ = C.root s₂ → s₁ = s₂
  header : ∀ h₁ h₂ : Header, C.hashHeader h₁ = C.hashHeader h₂ → h₁ = h₂
  txs : ∀ a b : List Tx, C.txRoot a = C.txRoot b → a = b
  uncles : ∀ a b : List Header, C.uncleHash a = C.uncleHash b → a = b

/-- what an entry cached from `S₀` needs to stay coherent with `S'`: the block and state caches are not updated by writes. -/
def Ext (S₀ S' : Store St Tx) : Prop :=
  (∀ h s, S₀.blocks h = some s → ∃ s', S'.blocks h = some s' ∧ s'.block = s.block) ∧
  (∀ r st, S₀.states r = some st → S'.states r = some st)

theorem ext_refl (S : Store St Tx) : Ext S S := ⟨fun _ s hs => ⟨s, hs, rfl⟩, fun _ _ h => h⟩

theorem ext_blocks_upd {m₀ m : Hash → Option (Stored Tx)} {k : Hash} {new : Stored Tx}
    (he : ∀ h s, m₀ h = some s → ∃ s', m h = some s' ∧ s'.block = s.block) (hk : ∀ s, m k = some s → new.block = s.block) :
    ∀ h s, m₀ h = some s → ∃ s', upd m k (some new) h = some s' ∧ s'.block = s.block := by
  intro h s₀ hs₀
  obtain ⟨s, hs, es⟩ := he h s₀ hs₀
  by_cases e : h = k
  · subst e; exact ⟨new, upd_same .., (hk s hs).trans es⟩
  · exact ⟨s, (upd_other _ _ _ _ e).trans hs, es⟩

theorem block_eq_of_hashes (C : ChainComp St Tx) (cf : CollisionFree C) (b₁ b₂ : Block Tx)
    (hh : C.hashHeader b₁.header = C.hashHeader b₂.header)
    (v₁ : validateBodyHashes C.toComp b₁ = .ok ()) (v₂ : validateBodyHashes C.toComp b₂ = .ok ()) : b₁ = b₂ := by
  have eh := cf.header _ _ hh
  obtain ⟨u₁, t₁⟩ := (validateBodyHashes_ok_iff C.toComp b₁).1 v₁
  obtain ⟨u₂, t₂⟩ := (validateBodyHashes_ok_iff C.toComp b₂).1 v₂
  have et : b₁.txs = b₂.txs := cf.txs _ _ (by rw [t₁, t₂, eh])
  have eu : b₁.uncles = b₂.uncles := cf.uncles _ _ (by rw [u₁, u₂, eh])
  cases b₁; cases b₂
  simp only [] at eh et eu
  subst eh; subst et; subst eu; rfl

theorem same_body (C : ChainComp St Tx) (cfg : Cfg) (g : Header) (cf : CollisionFree C) (S : Store St Tx) (hI : Inv C cfg g S)
    (hB : BodiesOk C S) (b : Block Tx) (hv : validateBodyHashes C.toComp b = .ok ()) (s : Stored Tx)
    (hs : S.blocks (C.hashHeader b.header) = some s) : b = s.block :=
  block_eq_of_hashes C cf b s.block (hI.keys _ s hs).symm hv (hB _ s hs)

/-- the bundle carried through an import of the node with caches: the store invariant, matching bodies, and extension of a
    fixed earlier store. -/
theorem good_carried (C : ChainComp St Tx) (cfg : Cfg) (g : Header) (hbf : C.bodyFirst = true) (cf : CollisionFree C)
    (S₀ : Store St Tx) : Carried C cfg g (fun S => Inv C cfg g S ∧ BodiesOk C S ∧ Ext S₀ S) := by
  refine ⟨fun S h => h.1, ?_, ?_⟩
  · intro S b p coin ph pst ⟨hI, hB, hE⟩ hbg hk hst hr
    have hv := bodyGate_none C b hbf hbg
    refine ⟨write_inv C cfg g S hI b ph pst p coin hk (hI.states _ _ hst) hr, entries_upd hv hB,
      ext_blocks_upd hE.1 (same_body C cfg g cf S hI hB b hv), fun r st hs₀ => ?_⟩
    have hs := hE.2 r st hs₀
    rw [writeBlockWithState_states]
    by_cases e : r = b.header.root
    · -- the state root is collision-free: the state written under a known root is the one already there
      subst e
      rw [upd_same, cf.root p.st st ((result_root C.toComp cfg pst b p hr).trans (hI.states _ st hs).symm)]
    · rw [upd_other _ _ _ _ e]; exact hs
  · intro S b td ⟨hI, hB, hE⟩ hbg
    have hv := bodyGate_none C b hbf hbg
    exact ⟨writeSide_inv C cfg g S hI b td, entries_upd hv hB, ext_blocks_upd hE.1 (same_body C cfg g cf S hI hB b hv), hE.2⟩

structure Coh (codeDb : Hash → Option Nat) (K : Caches St Tx) (S : Store St Tx) : Prop where
  block : ∀ h b, K.block h = some b → ∃ s, S.blocks h = some s ∧ s.block = b
  td : ∀ h n, K.td h = some n → ∃ s, S.blocks h = some s ∧ s.td = n
  state : ∀ r st, K.state r = some st → S.states r = some st
  code : ∀ c n, K.codeSize c = some n → codeDb c = some n

theorem coh_empty (codeDb : Hash → Option Nat) (S : Store St Tx) : Coh codeDb (Caches.empty : Caches St Tx) S :=
  ⟨entries_none, entries_none, entries_none, entries_none⟩

theorem view_eq (codeDb : Hash → Option Nat) (K : Caches St Tx) (S : Store St Tx) (hc : Coh codeDb K S) : view K S = S := by
  have htd : ∀ h s, S.blocks h = some s → (K.td h).getD s.td = s.td := by
    intro h s hs
    cases ht : K.td h with
    | none => rfl
    | some n => obtain ⟨s', hs', et⟩ := hc.td h n ht; rw [hs] at hs'; cases hs'; exact et.symm
  have hb : readBlock K S = S.blocks := by
    funext h
    unfold readBlock
    cases hk : K.block h with
    | some b =>
      obtain ⟨s, hs, rfl⟩ := hc.block h _ hk
      simp only [hs, htd h s hs]
    | none => cases hs : S.blocks h with
      | none => rfl
      | some s => simp only [htd h s hs]
  have hs : readState K S = S.states := by
    funext r
    unfold readState
    cases hk : K.state r with
    | some st => exact (hc.state r st hk).symm
    | none => rfl
  unfold view
  rw [hb, hs]

theorem coh_ext (codeDb : Hash → Option Nat) (K : Caches St Tx) (S₀ S' : Store St Tx) (hc : Coh codeDb K S₀) (he : Ext S₀ S') :
    Coh codeDb (refreshTd K S') S' := by
  refine ⟨?_, ?_, fun r st hk => he.2 r st (hc.state r st hk), hc.code⟩
  · intro h b hk
    obtain ⟨s, hs, eb⟩ := hc.block h b hk
    obtain ⟨s', hs', eb'⟩ := he.1 h s hs
    exact ⟨s', hs', eb'.trans eb⟩
  · intro h n hk
    simp only [refreshTd] at hk
    split at hk
    · exact Option.map_eq_some_iff.1 hk
    · cases hk

structure NInv (C : ChainComp St Tx) (cfg : Cfg) (g : Header) (codeDb : Hash → Option Nat) (N : NodeK St Tx) : Prop where
  inv : Inv C cfg g N.store
  bodies : BodiesOk C N.store
  coh : Coh codeDb N.caches N.store

theorem nodeK_step (C : ChainComp St Tx) (cfg : Cfg) (g : Header) (codeDb : Hash → Option Nat) (hbf : C.bodyFirst = true)
    (cf : CollisionFree C) (N : NodeK St Tx) (hN : NInv C cfg g codeDb N) (ev : EventK St Tx) :
    (N.apply C cfg ev).store = N.store.run C cfg (stripK [ev]) ∧ NInv C cfg g codeDb (N.apply C cfg ev) := by
  obtain ⟨hI, hB, hK⟩ := hN
  cases ev with
  | chain e =>
    cases e with
    | insert batch coins =>
      obtain ⟨hI', hB', hE⟩ := insertChain_carried (good_carried C cfg g hbf cf N.store) coins N.store ⟨hI, hB, ext_refl _⟩ batch
      have e : N.apply C cfg (.chain (.insert batch coins)) =
          ⟨(insertChain C cfg coins N.store batch).2.2, refreshTd N.caches (insertChain C cfg coins N.store batch).2.2⟩ := by
        show NodeK.mk _ _ = _
        rw [view_eq codeDb N.caches N.store hK]
      rw [e]
      exact ⟨rfl, hI', hB', coh_ext codeDb N.caches N.store _ hK hE⟩
    | prune keep =>
      refine ⟨rfl, apply_inv C cfg g N.store hI (.prune keep), hB, hK.block, hK.td, fun r st hk => ?_, hK.code⟩
      have hk' : (if keep r then N.caches.state r else none) = some st := hk
      show (if keep r then N.store.states r else none) = some st
      split at hk'
      · rename_i e; rw [if_pos e]; exact hK.state r st hk'
      · cases hk'
    | restart => exact ⟨rfl, hI, hB, coh_empty codeDb N.store⟩
    | setHead keep head =>
      exact ⟨rfl, apply_inv C cfg g N.store hI (.setHead keep head), entries_filter keep hB, entries_none, entries_none, hK.state, hK.code⟩
  | evict kb kt ks kc =>
    exact ⟨rfl, hI, hB, entries_filter kb hK.block, entries_filter kt hK.td, entries_filter ks hK.state, entries_filter kc hK.code⟩
  | fill fb ft fs =>
    refine ⟨rfl, hI, hB, entries_ite fb ?_ hK.block, entries_ite ft ?_ hK.td, entries_ite fs ?_ hK.state, hK.code⟩
    · intro h b hk
      split at hk
      · rename_i s hs
        cases hk
        exact ⟨s, hs, rfl⟩
      · exact hK.block h b hk
    · intro h n hk
      split at hk
      · rename_i s hs
        cases hk
        exact ⟨s, hs, rfl⟩
      · exact hK.td h n hk
    · intro r st hk
      split at hk
      · rename_i st' hs
        cases hk
        exact hs
      · exact hK.state r st hk

theorem stripK_cons (ev : EventK St Tx) (rest : List (EventK St Tx)) : stripK (ev :: rest) = stripK [ev] ++ stripK rest := by
  cases ev <;> rfl

/-- a node whose reads all go through caches — arbitrary coherent contents, filled and evicted arbitrarily along the way —
    ends every history with exactly the store of the node without caches. -/
theorem nodeK_run (C : ChainComp St Tx) (cfg : Cfg) (g : Header) (codeDb : Hash → Option Nat) (hbf : C.bodyFirst = true)
    (cf : CollisionFree C) (evs : List (EventK St Tx)) (N : NodeK St Tx) (hN : NInv C cfg g codeDb N) :
    (N.run C cfg evs).store = N.store.run C cfg (stripK evs) ∧ NInv C cfg g codeDb (N.run C cfg evs) := by
  induction evs generalizing N with
  | nil => exact ⟨rfl, hN⟩
  | cons ev rest ih =>
    obtain ⟨h1, h2⟩ := nodeK_step C cfg g codeDb hbf cf N hN ev
    obtain ⟨h3, h4⟩ := ih (N.apply C cfg ev) h2
    refine ⟨?_, h4⟩
    show (NodeK.run C cfg (N.apply C cfg ev) rest).store = _
    rw [h3, h1, stripK_cons ev rest]
    exact (List.foldl_append ..).symm

end Aqv.BlockImport
