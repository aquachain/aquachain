/-
  Aqv.Lemmas.FeedInvA — control invariants of the Feed transition system (Aqv.Model.Feed), preserved by every step:
  the sendLock token is held by at most one goroutine (`Own`), inbox ++ sendCases has no duplicates, where a
  subscription's channel sits as a function of the program counter of its `remove` (`loc_*`), `delete(find(ch))` is
  never called with a channel that is absent (`no_panic_*`), and `len(cases) ≤ len(f.sendCases)`.
  A field guarded by `held` or `merged` (here and in InvB, InvC) can only be threatened by the step that takes a Send
  into the guard (`Step.held_of_held`, `Step.merged_of_merged`) or by one that changes what the field speaks of.
-/
import Aqv.Lemmas.FeedStep
namespace Aqv.Feed
variable {s s' : St} {a : Act}

/-- the Send call holds the sendLock token; a panic under the token does not return it, so `.panicked` counts and
    `Own.hs` stays an iff (likewise `RPc.held`, `Own.hr`) -/
def SPc.held : SPc → Bool
  | .locked | .sweep _ | .sel | .removing _ | .panicked => true
  | _ => false
/-- the Send call has merged the inbox and is inside its delivery loop -/
def SPc.merged : SPc → Bool
  | .sweep _ | .sel | .removing _ => true
  | _ => false
def RPc.held : RPc → Bool
  | .token | .deleted | .panicked => true
  | _ => false

theorem merged_held (p : SPc) : p.merged = true → p.held = true := by cases p <;> simp [SPc.merged, SPc.held]

structure Own (s : St) : Prop where
  tok : s.tokenFree = true ↔ s.holder = .none
  hs : ∀ g, (s.spc g).held = true ↔ s.holder = .sender g
  hr : ∀ c, (s.rpc c).held = true ↔ s.holder = .remover c

theorem upd_iff {α : Type} {f : Nat → α} {P : Nat → Prop} {p : α → Bool} (h : ∀ x, p (f x) = true ↔ P x) {x₀ : Nat}
    {v : α} (hv : p v = p (f x₀)) : ∀ x, p (upd f x₀ v x) = true ↔ P x := by
  intro x
  rw [upd_apply]
  split
  · next e => rw [e, hv]; exact h x₀
  · exact h x

theorem upd_imp {α : Type} {f : Nat → α} {Q : Nat → Prop} {P : α → Prop} (h : ∀ x, P (f x) → Q x) {x₀ : Nat}
    {v : α} (hv : P v → P (f x₀)) : ∀ x, P (upd f x₀ v x) → Q x := by
  intro x
  rw [upd_apply]
  split
  · next e => exact fun hp => e ▸ h x₀ (hv hp)
  · exact h x

theorem Step.held_of_held (st : Step s a s') (ha : ∀ g, a ≠ .acquire g) :
    ∀ g, (s'.spc g).held = true → (s.spc g).held = true := by
  cases st with
  | acquire => exact absurd rfl (ha _)
  | sendCall hg | merge hg | tryOk hg | tryFail hg | sendRet hg | toSelect hg | selPlace hg | selRecv hg | doRemove hg
  | sendPanic hg =>
    exact upd_imp (P := fun p : SPc => p.held = true) (fun _ h => h) (by simp [hg, SPc.held])
  | _ => exact fun _ h => h

theorem Step.merged_of_merged (st : Step s a s') (ha : ∀ g, a ≠ .merge g) :
    ∀ g, (s'.spc g).merged = true → (s.spc g).merged = true := by
  cases st with
  | merge => exact absurd rfl (ha _)
  | sendCall hg | acquire hg | tryOk hg | tryFail hg | sendRet hg | toSelect hg | selPlace hg | selRecv hg | doRemove hg
  | sendPanic hg =>
    exact upd_imp (P := fun p : SPc => p.merged = true) (fun _ h => h) (by simp [hg, SPc.merged])
  | _ => exact fun _ h => h

theorem Own.step (h : Own s) (st : Step s a s') : Own s' := by
  obtain ⟨h1, h2, h3⟩ := h
  cases st with
  | subscribe | recvBegin | recvTake => exact ⟨h1, h2, h3⟩
  | sendCall hg | merge hg | tryOk hg | tryFail hg | toSelect hg | selPlace hg | doRemove hg | sendPanic hg =>
    exact ⟨h1, upd_iff h2 (by simp [hg, SPc.held]), h3⟩
  | unsubCall _ hc | rmInbox hc | rmMiss hc | rmDelete hc | rmPanic hc =>
    exact ⟨h1, h2, upd_iff h3 (by simp [hc, RPc.held])⟩
  | selRecv hg hc => exact ⟨h1, upd_iff h2 (by simp [hg, SPc.held]), upd_iff h3 (by simp [hc, RPc.held])⟩
  | acquire | sendRet | rmToken | rmRelease => constructor <;> grind [SPc.held, RPc.held]

namespace Own

-- Whoever holds the token is `s.holder`, and `s.holder` is one value.

theorem sender_unique (h : Own s) (g g' : Sid) (hg : (s.spc g).held = true) (hg' : (s.spc g').held = true) : g = g' :=
  Holder.sender.inj (((h.hs g).mp hg).symm.trans ((h.hs g').mp hg'))

theorem remover_unique (h : Own s) (c c' : Chan) (hc : (s.rpc c).held = true) (hc' : (s.rpc c').held = true) : c = c' :=
  Holder.remover.inj (((h.hr c).mp hc).symm.trans ((h.hr c').mp hc'))

theorem sender_remover (h : Own s) (g : Sid) (c : Chan) (hg : (s.spc g).held = true) (hc : (s.rpc c).held = true) :
    False :=
  nomatch ((h.hs g).mp hg).symm.trans ((h.hr c).mp hc)

theorem sender_busy (h : Own s) (g : Sid) (hg : (s.spc g).held = true) : s.tokenFree = false :=
  Bool.eq_false_iff.mpr fun hf => nomatch ((h.hs g).mp hg).symm.trans (h.tok.mp hf)

theorem remover_busy (h : Own s) (c : Chan) (hc : (s.rpc c).held = true) : s.tokenFree = false :=
  Bool.eq_false_iff.mpr fun hf => nomatch ((h.hr c).mp hc).symm.trans (h.tok.mp hf)

theorem eq_of_held_upd (h : Own s) {g : Sid} {p : SPc} (hg : (s.spc g).held = true) {g' : Sid}
    (hh : (upd s.spc g p g').held = true) : g' = g := by
  by_cases e : g' = g
  · exact e
  · rw [upd_apply, if_neg e] at hh; exact h.sender_unique g' g hh hg

end Own

structure InvA (s : St) : Prop extends Own s where
  nodup : (s.inbox ++ s.sendCases).Nodup
  sub_mem : ∀ c, c ∈ s.inbox ∨ c ∈ s.sendCases → s.subscribed c = true
  unsub_sub : ∀ c, s.rpc c ≠ .idle → s.subscribed c = true
  loc_idle : ∀ c, s.subscribed c = true → (s.rpc c = .idle ∨ s.rpc c = .start) → c ∈ s.inbox ∨ c ∈ s.sendCases
  loc_sel : ∀ c, (s.rpc c = .sel ∨ s.rpc c = .token) → c ∈ s.sendCases
  loc_del : ∀ c, s.rpc c = .deleted → c ∉ s.inbox ∧ c ∉ s.sendCases
  -- after `selRecv`, Unsubscribe(c) has returned while `c` is still in `sendCases`, until `doRemove`
  loc_done : ∀ c, s.rpc c = .done → c ∉ s.inbox ∧ (c ∈ s.sendCases → ∃ g, s.spc g = .removing c)
  removing : ∀ g c, s.spc g = .removing c → c ∈ s.sendCases ∧ s.rpc c = .done
  no_panic_s : ∀ g, s.spc g ≠ .panicked
  no_panic_r : ∀ c, s.rpc c ≠ .panicked
  act_le : ∀ g, (s.spc g).merged = true → s.active ≤ s.sendCases.length

namespace InvA

theorem active_le (h : InvA s) {g : Sid} {p : SPc} (hg : s.spc g = p) (hp : p.merged = true) :
    s.active ≤ s.sendCases.length := h.act_le g (hg ▸ hp)

theorem getD_mem (h : InvA s) {g : Sid} {p : SPc} (hg : s.spc g = p) (hp : p.merged = true) {i : Nat}
    (hi : i < s.active) : s.sendCases.getD i 0 ∈ s.sendCases :=
  List.mem_of_mem_take (getD_mem_take _ hi (h.active_le hg hp))

theorem nodup_cases (h : InvA s) : s.sendCases.Nodup := (List.nodup_append.mp h.nodup).2.1
theorem nodup_inbox (h : InvA s) : s.inbox.Nodup := (List.nodup_append.mp h.nodup).1
theorem disjoint (h : InvA s) {c : Chan} (h1 : c ∈ s.inbox) (h2 : c ∈ s.sendCases) : False :=
  (List.nodup_append.mp h.nodup).2.2 c h1 c h2 rfl

theorem not_done_of_mem (h : InvA s) {g : Sid} (hh : (s.spc g).held = true) {c : Chan} (hc : c ∈ s.sendCases)
    (hr : s.spc g ≠ .removing c) : s.rpc c ≠ .done := by
  intro hd
  obtain ⟨g', hg'⟩ := (h.loc_done c hd).2 hc
  obtain rfl := h.sender_unique g g' hh (by rw [hg']; rfl)
  exact hr hg'

theorem not_mem_of_done (h : InvA s) (hq : s.tokenFree = true) {c : Chan} (hd : s.rpc c = .done) :
    c ∉ s.inbox ∧ c ∉ s.sendCases := by
  refine ⟨(h.loc_done c hd).1, fun hm => ?_⟩
  obtain ⟨g, hg⟩ := (h.loc_done c hd).2 hm
  simp [h.sender_busy g (by rw [hg]; rfl)] at hq

theorem act_le_step (h : InvA s) (st : Step s a s') : ∀ g, (s'.spc g).merged = true → s'.active ≤ s'.sendCases.length := by
  have h0 := h.act_le
  have hm := st.merged_of_merged
  cases st with
  | merge => exact fun _ _ => Nat.le_refl _
  | tryOk hg | selPlace hg =>
    have := h.active_le hg rfl
    exact fun _ _ => by simp only [swapAt_length]; omega
  | @doRemove g c hg hc =>
    have := h.active_le hg rfl
    have := List.idxOf_lt_length_iff.mpr hc
    exact fun _ _ => by simp only [List.length_erase_of_mem hc]; split <;> omega
  | @rmDelete c hc =>
    -- the `remove` holds the token, so no Send is in its delivery loop
    exact fun g hm => (h.sender_remover g c (merged_held _ hm) (by simp [hc, RPc.held])).elim
  | _ => exact fun g hg => h0 g (hm (by simp) g hg)

theorem sub_mem_step (h : InvA s) (st : Step s a s') : ∀ c, c ∈ s'.inbox ∨ c ∈ s'.sendCases → s'.subscribed c = true := by
  have h0 := h.sub_mem
  cases st with
  | subscribe => grind
  | merge => grind
  | tryOk hg hi | selPlace hg hi => simpa only [mem_swapAt_last _ hi (h.active_le hg rfl)] using h0
  | doRemove | rmDelete | rmInbox => grind [List.mem_of_mem_erase]
  | _ => exact h0

theorem unsub_sub_step (h : ∀ c, s.rpc c ≠ .idle → s.subscribed c = true) (st : Step s a s') :
    ∀ c, s'.rpc c ≠ .idle → s'.subscribed c = true := by
  cases st with
  | subscribe => exact fun c hc => by simp only [upd_apply]; split <;> first | rfl | exact h c hc
  | @unsubCall c₀ hsub =>
    -- `Unsubscribe` is called on a subscription
    intro c (hc : upd s.rpc c₀ .start c ≠ .idle)
    by_cases e : c = c₀
    · exact e ▸ hsub
    · rw [upd_apply, if_neg e] at hc; exact h c hc
  | rmInbox hc | rmMiss hc | rmToken hc | selRecv _ hc | rmDelete hc | rmPanic hc | rmRelease hc =>
    -- a `remove` that is past its call moves between phases other than `idle`
    exact upd_imp (P := fun p : RPc => p ≠ .idle) h fun _ => by simp [hc]
  | _ => exact h

theorem nodup_step (h : InvA s) (st : Step s a s') : (s'.inbox ++ s'.sendCases).Nodup := by
  have h0 := h.nodup
  cases st with
  | @subscribe c k hc =>
    -- the new channel is in neither list: their members are subscribed
    have hn : c ∉ s.inbox ++ s.sendCases := fun hm => by simp [h.sub_mem c (List.mem_append.mp hm)] at hc
    show (s.inbox ++ [c] ++ s.sendCases).Nodup
    rw [List.append_assoc, List.singleton_append, List.perm_middle.nodup_iff]
    exact List.nodup_cons.mpr ⟨hn, h0⟩
  | merge => exact (List.perm_append_comm.nodup_iff.mp h0 :)
  | tryOk hg hi | selPlace hg hi =>
    have hle := h.active_le hg rfl
    obtain ⟨hi', hc, hd⟩ := List.nodup_append.mp h0
    exact List.nodup_append.mpr ⟨hi', nodup_swapAt_last _ hi hle hc, fun x hx y hy => hd x hx y ((mem_swapAt_last _ hi hle y).mp hy)⟩
  | doRemove | rmDelete => exact h0.sublist (List.erase_sublist.append_left _)
  | rmInbox => exact h0.sublist (List.erase_sublist.append_right _)
  | _ => exact h0

theorem loc_idle_step (h : InvA s) (st : Step s a s') :
    ∀ c, s'.subscribed c = true → (s'.rpc c = .idle ∨ s'.rpc c = .start) → c ∈ s'.inbox ∨ c ∈ s'.sendCases := by
  have h0 := h.loc_idle
  cases st with
  | subscribe => grind
  | merge => grind
  | tryOk hg hi | selPlace hg hi => simpa only [mem_swapAt_last _ hi (h.active_le hg rfl)] using h0
  | doRemove hg => have := (h.removing _ _ hg).2; grind
  | _ => first | exact h0 | grind

theorem loc_sel_step (h : InvA s) (st : Step s a s') : ∀ c, (s'.rpc c = .sel ∨ s'.rpc c = .token) → c ∈ s'.sendCases := by
  have h0 := h.loc_sel
  cases st with
  | merge => grind
  | tryOk hg hi | selPlace hg hi => simpa only [mem_swapAt_last _ hi (h.active_le hg rfl)] using h0
  | doRemove hg => have := (h.removing _ _ hg).2; grind
  | @rmMiss c hc hn => have := h.loc_idle c (h.unsub_sub c (by simp [hc])) (.inr hc); grind
  | _ => first | exact h0 | grind

theorem loc_del_step (h : InvA s) (st : Step s a s') : ∀ c, s'.rpc c = .deleted → c ∉ s'.inbox ∧ c ∉ s'.sendCases := by
  have h0 := h.loc_del
  cases st with
  | subscribe => have := h.unsub_sub; grind
  | merge => grind
  | tryOk hg hi | selPlace hg hi => simpa only [mem_swapAt_last _ hi (h.active_le hg rfl)] using h0
  | doRemove => grind [List.mem_of_mem_erase]
  | @rmDelete c hc hm =>
    have := h.nodup_cases.mem_erase_iff (a := c) (b := c)
    have := @h.disjoint _ c
    grind [List.mem_of_mem_erase]
  | rmInbox => grind [List.mem_of_mem_erase]
  | _ => first | exact h0 | grind

theorem loc_done_step (h : InvA s) (st : Step s a s') :
    ∀ c, s'.rpc c = .done → c ∉ s'.inbox ∧ (c ∈ s'.sendCases → ∃ g, s'.spc g = .removing c) := by
  have h0 := h.loc_done
  -- a Send that is not at `removing` moves without disturbing the witnesses
  have keep : ∀ {g₀ p}, (∀ c, s.spc g₀ ≠ .removing c) → ∀ c, (∃ g, s.spc g = .removing c) →
      ∃ g, upd s.spc g₀ p g = .removing c := by
    rintro g₀ p hne c ⟨g, hg⟩
    exact ⟨g, by rw [upd_apply, if_neg (fun (e : g = g₀) => hne c (e ▸ hg))]; exact hg⟩
  cases st with
  | subscribe => have := h.unsub_sub; grind
  | sendCall hg | acquire hg | tryFail hg | sendRet hg | toSelect hg =>
    exact fun c hd => ⟨(h0 c hd).1, fun hm => keep (by simp [hg]) c ((h0 c hd).2 hm)⟩
  | merge hg =>
    refine fun c hd => ⟨List.not_mem_nil, fun hm => keep (by simp [hg]) c ((h0 c hd).2 ?_)⟩
    exact (List.mem_append.mp hm).resolve_right (h0 c hd).1
  | tryOk hg hi | selPlace hg hi =>
    exact fun c hd => ⟨(h0 c hd).1, fun hm => keep (by simp [hg]) c
      ((h0 c hd).2 ((mem_swapAt_last _ hi (h.active_le hg rfl) c).mp hm))⟩
  | @selRecv g c₀ hg hc =>
    intro c
    dsimp only
    rw [upd_apply]
    split
    · next e => exact fun _ => ⟨fun hi => h.disjoint hi (e ▸ h.loc_sel c₀ (.inl hc)), fun _ => ⟨g, by simp [e]⟩⟩
    · exact fun hd => ⟨(h0 c hd).1, fun hm => keep (by simp [hg]) c ((h0 c hd).2 hm)⟩
  | @doRemove g c₀ hg hc =>
    refine fun c hd => ⟨(h0 c hd).1, fun hm => ?_⟩
    obtain ⟨hne, hm⟩ := h.nodup_cases.mem_erase_iff.mp hm
    obtain ⟨g', hg'⟩ := (h0 c hd).2 hm
    refine ⟨g', ?_⟩
    dsimp only
    rw [upd_apply, if_neg]
    · exact hg'
    · rintro rfl
      rw [hg] at hg'
      exact hne (SPc.removing.inj hg').symm
  | sendPanic hg hn => exact absurd (h.removing _ _ hg).1 hn
  | @rmInbox c₀ hc hm =>
    have := fun c => h.nodup_inbox.mem_erase_iff (a := c) (b := c₀)
    have := @h.disjoint _ c₀
    grind
  | @rmRelease c₀ hc => have := h.loc_del c₀ hc; grind
  | rmDelete => grind [List.mem_of_mem_erase]
  | _ => first | exact h0 | grind

theorem removing_step (h : InvA s) (st : Step s a s') :
    ∀ g c, s'.spc g = .removing c → c ∈ s'.sendCases ∧ s'.rpc c = .done := by
  have h0 := h.removing
  cases st with
  | @selRecv g c₀ hg hc => have := h.loc_sel c₀ (.inl hc); grind
  | tryOk hg hi | selPlace hg hi =>
    have := mem_swapAt_last s.sendCases hi (h.active_le hg rfl)
    grind
  | @doRemove g c₀ hg hc =>
    -- another Send at `removing` would hold the token as well
    have := h.sender_unique g
    grind [SPc.held]
  | @rmDelete c₀ hc => have := fun g => h.sender_remover g c₀; grind [SPc.held, RPc.held]
  | _ => first | exact h0 | grind

theorem no_panic_s_step (h : InvA s) (st : Step s a s') : ∀ g, s'.spc g ≠ .panicked := by
  have h0 := h.no_panic_s
  cases st with
  | sendPanic hg hn => exact absurd (h.removing _ _ hg).1 hn
  | _ => first | exact h0 | grind

theorem no_panic_r_step (h : InvA s) (st : Step s a s') : ∀ c, s'.rpc c ≠ .panicked := by
  have h0 := h.no_panic_r
  cases st with
  | rmPanic hc hn => exact absurd (h.loc_sel _ (.inr hc)) hn
  | _ => first | exact h0 | grind

end InvA

theorem invA_init : InvA init := by
  apply InvA.mk (by constructor <;> simp [init, SPc.held, RPc.held]) <;> simp [init, SPc.merged]

theorem invA_step (h : InvA s) (st : Step s a s') : InvA s' where
  toOwn := h.toOwn.step st
  nodup := h.nodup_step st
  sub_mem := h.sub_mem_step st
  unsub_sub := InvA.unsub_sub_step h.unsub_sub st
  loc_idle := h.loc_idle_step st
  loc_sel := h.loc_sel_step st
  loc_del := h.loc_del_step st
  loc_done := h.loc_done_step st
  removing := h.removing_step st
  no_panic_s := h.no_panic_s_step st
  no_panic_r := h.no_panic_r_step st
  act_le := h.act_le_step st

theorem invA_reach {s : St} (h : Reach s) : InvA s := by
  induction h with
  | init => exact invA_init
  | step a _ hs ih => exact invA_step ih (.of_step hs)

end Aqv.Feed
