/- C14: the seal computation shared by miner and verifier, the decision logic of VerifySeal around it, and the invariant of the
  private-buffer sealer threads. -/
import Aqv.Model.Pow
import Aqv.Lemmas.Basic
namespace Aqv.Pow
open Aqv Aqv.Consensus

/-- the verifier's target comparison (Nat division by `difficulty.toNat`) is the statement's `H ≤ 2^256 / difficulty`. -/
theorem target_cmp (r : Nat) (m : Nat) (d : Int) (hd : 0 < d) : ¬ (r > m / d.toNat) ↔ ((r : Int) ≤ (m : Int) / d) := by
  obtain ⟨n, rfl⟩ : ∃ n : Nat, d = (n : Int) := ⟨d.toNat, by omega⟩
  simp only [Int.toNat_natCast]
  rw [← Int.natCast_ediv]
  omega

theorem versionHash_argon (Hs : Hashes) (v : Nat) (data : Bytes) (hv : v = 2 ∨ v = 3 ∨ v = 4) : versionHash Hs v data = .ok (Hs.vh v data) := by
  unfold versionHash
  rw [if_neg (by omega), if_pos hv]

theorem versionHash_bad (Hs : Hashes) (v : Nat) (data : Bytes) (h1 : v ≠ 1) (hv : ¬ (v = 2 ∨ v = 3 ∨ v = 4)) : versionHash Hs v data = .panic := by
  unfold versionHash
  rw [if_neg h1, if_neg hv]

/-- (digest, result) for a nonce. The miner tries it nonce by nonce; the verifier recomputes it for the known versions. -/
def sealOutput (Hs : Hashes) (version number : Nat) (hnn : Bytes) (nonce : Nat) : Bytes × Bytes :=
  if version = 1 then Hs.ethash number hnn nonce else (zeroDigest, Hs.vh version (sealSeed hnn nonce))

theorem mineFrom_succ (Hs : Hashes) (version number : Nat) (hnn : Bytes) (target : Int) (fuel nonce : Nat) :
    mineFrom Hs version number hnn target (fuel + 1) nonce =
      if (beNat (sealOutput Hs version number hnn nonce).2 : Int) ≤ target then some (nonce, (sealOutput Hs version number hnn nonce).1)
      else mineFrom Hs version number hnn target fuel ((nonce + 1) % two64) := rfl

theorem recompute_known (Hs : Hashes) (s : SealInput) (hv : 1 ≤ s.version ∧ s.version ≤ 4) :
    recompute Hs s = .ok (sealOutput Hs s.version s.number s.hnn s.nonce) := by
  unfold recompute sealOutput
  rw [if_neg (by omega)]
  split
  · rfl
  · rw [versionHash_argon Hs _ _ (by omega)]

theorem recompute_argon (Hs : Hashes) (s : SealInput) (hv : s.version = 2 ∨ s.version = 3 ∨ s.version = 4) :
    recompute Hs s = .ok (zeroDigest, Hs.vh s.version (sealSeed s.hnn s.nonce)) := by
  rw [recompute_known Hs s (by omega), sealOutput, if_neg (by omega)]

theorem recompute_unknown (Hs : Hashes) (s : SealInput) (hv : s.version = 0 ∨ 4 < s.version) : recompute Hs s = .panic := by
  unfold recompute
  split
  · rfl
  · rw [if_neg (by omega), versionHash_bad Hs _ _ (by omega) (by omega)]

theorem verifySeal_none_iff (Pp : PowParams) (Hs : Hashes) (s : SealInput) :
    verifySeal Pp Hs s = none ↔
      s.number % two64 / Pp.epochLength < Pp.maxEpoch ∧ 0 < s.difficulty ∧
      ∃ dr, recompute Hs s = .ok dr ∧ s.mixDigest = dr.1 ∧ (beNat dr.2 : Int) ≤ (Pp.maxUint256 : Int) / s.difficulty := by
  unfold verifySeal
  rw [ite_some_eq_none, ite_some_eq_none, Nat.not_le, Int.not_le]
  refine and_congr_right fun _ => and_congr_right fun hd => ?_
  cases recompute Hs s with
  | panic => simp
  | ok dr =>
    simp only [ite_some_eq_none, target_cmp _ _ _ hd, Out.ok.injEq, exists_eq_left', ne_eq, Decidable.not_not, and_true]

/-- the comparison is left as `VerifySeal` makes it (Nat division by `difficulty.toNat`); `target_cmp` turns it into the Spec's -/
theorem verifySeal_argon (Pp : PowParams) (Hs : Hashes) (s : SealInput) (hv : s.version = 2 ∨ s.version = 3 ∨ s.version = 4)
    (hn : s.number % two64 / Pp.epochLength < Pp.maxEpoch) (hd : 0 < s.difficulty) (hm : s.mixDigest = zeroDigest) :
    verifySeal Pp Hs s =
      if beNat (Hs.vh s.version (sealSeed s.hnn s.nonce)) > Pp.maxUint256 / s.difficulty.toNat then some .invalidPoW else none := by
  unfold verifySeal
  rw [if_neg (Nat.not_le.2 hn), if_neg (Int.not_le.2 hd), recompute_argon Hs s hv]
  exact if_neg (not_not_intro hm)

theorem mineFrom_sound (Hs : Hashes) (version number : Nat) (hnn : Bytes) (target : Int) :
    ∀ (fuel start nonce : Nat) (digest : Bytes), mineFrom Hs version number hnn target fuel start = some (nonce, digest) →
      digest = (sealOutput Hs version number hnn nonce).1 ∧ (beNat (sealOutput Hs version number hnn nonce).2 : Int) ≤ target
  | 0, _, _, _, h => by cases h
  | fuel + 1, start, nonce, digest, h => by
    rw [mineFrom_succ] at h
    split at h
    · cases h
      exact ⟨rfl, ‹_›⟩
    · exact mineFrom_sound Hs version number hnn target fuel _ nonce digest h

/-- every thread's buffer / result belongs to its own current nonce -/
structure SealInv (Hs : Hashes) (version : Nat) (hnn : Bytes) (target : Int) (st : SealState) : Prop where
  miners : ∀ m ∈ st.miners, (m.pc = .hash → m.buf = sealSeed hnn m.nonce) ∧ (m.pc = .compare → m.res = Hs.vh version (sealSeed hnn m.nonce))
  found : ∀ n d, st.found = some (n, d) → d = zeroDigest ∧ (beNat (Hs.vh version (sealSeed hnn n)) : Int) ≤ target

theorem forall_mem_set {α : Type} {P : α → Prop} {l : List α} {x : α} (hl : ∀ y ∈ l, P y) (hx : P x) (i : Nat) : ∀ y ∈ l.set i x, P y :=
  fun y hy => (List.mem_or_eq_of_mem_set hy).elim (hl y) (· ▸ hx)

theorem sealStep_inv (Hs : Hashes) (version : Nat) (hnn : Bytes) (target : Int) (st : SealState) (i : Nat)
    (h : SealInv Hs version hnn target st) : SealInv Hs version hnn target (sealStep Hs version hnn target false st i) := by
  unfold sealStep
  split
  · exact h
  split
  · exact h
  rename_i m hm
  have hmem := h.miners m (List.mem_of_getElem? hm)
  split
  · exact ⟨forall_mem_set h.miners ⟨fun _ => rfl, fun hp => (by cases hp)⟩ i, h.found⟩
  · rename_i hpc
    exact ⟨forall_mem_set h.miners ⟨fun hp => (by cases hp), fun _ => by rw [hmem.1 hpc]; rfl⟩ i, h.found⟩
  · rename_i hpc
    split
    · rename_i hle
      refine ⟨forall_mem_set h.miners ⟨fun hp => (by cases hp), fun hp => (by cases hp)⟩ i, fun n d hnd => ?_⟩
      cases hnd
      exact ⟨rfl, hmem.2 hpc ▸ hle⟩
    · exact ⟨forall_mem_set h.miners ⟨fun hp => (by cases hp), fun hp => (by cases hp)⟩ i, h.found⟩
  · exact h

theorem sealInit_inv (Hs : Hashes) (version : Nat) (hnn : Bytes) (target : Int) (starts : List Nat) :
    SealInv Hs version hnn target (sealInit starts) := by
  refine ⟨fun m hm => ?_, fun n d h => by cases h⟩
  simp only [sealInit, List.mem_map] at hm
  obtain ⟨s, _, rfl⟩ := hm
  exact ⟨fun hp => (by cases hp), fun hp => (by cases hp)⟩

theorem sealRun_inv (Hs : Hashes) (version : Nat) (hnn : Bytes) (target : Int) (schedule : List Nat) (st : SealState)
    (h : SealInv Hs version hnn target st) :
    SealInv Hs version hnn target (schedule.foldl (sealStep Hs version hnn target false) st) :=
  List.foldlRecOn schedule _ h fun st h i _ => sealStep_inv Hs version hnn target st i h

end Aqv.Pow
