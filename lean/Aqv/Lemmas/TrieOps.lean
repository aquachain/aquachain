/-
  Aqv.Lemmas.TrieOps — the Go-shaped workers agree with their functional reading on every position reachable from
  the public API (no panic, dirty flag irrelevant); `get` agrees with the denotation `lookup`; `ins`/`del` preserve the
  canonical shape and update the denotation like a finite map.  All of these go by `pos_induction`, the induction
  over the positions a terminated key visits in a canonical trie.  What a child slot of a canonical node may hold is said
  once, by `Fits` (by index) and `Slot` (whatever the index).
-/
import Aqv.Lemmas.Trie
namespace Aqv.Trie
open Aqv

theorem not_wf_nil : ¬ WF .nil := nofun
theorem not_wf_value (v : Bytes) : ¬ WF (.value v) := nofun

theorem wf_ne_nil {n : Node} (h : WF n) : n ≠ .nil := by
  rintro rfl; exact not_wf_nil h

theorem wf_short_inv {k : List Nib} {c : Node} (h : WF (.short k c)) :
    (Term k ∧ ∃ v, v ≠ [] ∧ c = .value v) ∨ (k ≠ [] ∧ Hex k ∧ ∃ cs, c = .full cs ∧ WF (.full cs)) := by
  cases h with
  | leaf _ v hk hv => exact Or.inl ⟨hk, v, hv, rfl⟩
  | ext _ cs hk hh hw => exact Or.inr ⟨hk, hh, cs, rfl, hw⟩

theorem wf_short_key_ne_nil {p : List Nib} {c : Node} (h : WF (.short p c)) : p ≠ [] := by
  rcases wf_short_inv h with ⟨hk, _⟩ | ⟨hne, _⟩
  · exact term_ne_nil hk
  · exact hne

theorem wf_full_inv {cs : Nib → Node} (h : WF (.full cs)) :
    (∀ i, i ≠ T → cs i ≠ .nil → WF (cs i)) ∧ (cs T = .nil ∨ ∃ v, v ≠ [] ∧ cs T = .value v) ∧
      (∃ i j, i ≠ j ∧ cs i ≠ .nil ∧ cs j ≠ .nil) := by
  cases h with
  | full _ h1 h2 h3 => exact ⟨h1, h2, h3⟩

def IsSF : Node → Prop
  | .short _ _ => True
  | .full _ => True
  | _ => False

theorem wf_isSF {n : Node} (h : WF n) : IsSF n := by cases h <;> trivial

def Fits (x : Nib) (n : Node) : Prop := (x = T ∧ ∃ w, w ≠ [] ∧ n = .value w) ∨ (x ≠ T ∧ WF n)

theorem Fits.value {w : Bytes} (hw : w ≠ []) : Fits T (.value w) := .inl ⟨rfl, w, hw, rfl⟩

theorem Fits.node {x : Nib} {n : Node} (hx : x ≠ T) (hw : WF n) : Fits x n := .inr ⟨hx, hw⟩

theorem Fits.ne_nil {x : Nib} {n : Node} (h : Fits x n) : n ≠ .nil := by
  rcases h with ⟨_, w, _, rfl⟩ | ⟨_, h⟩
  · simp
  · exact wf_ne_nil h

theorem wf_full_iff {cs : Nib → Node} :
    WF (.full cs) ↔ (∀ i, cs i ≠ .nil → Fits i (cs i)) ∧ ∃ i j, i ≠ j ∧ cs i ≠ .nil ∧ cs j ≠ .nil := by
  constructor
  · intro h
    obtain ⟨h1, h2, h3⟩ := wf_full_inv h
    refine ⟨fun i hi => ?_, h3⟩
    by_cases hiT : i = T
    · subst hiT
      exact .inl ⟨rfl, h2.resolve_left hi⟩
    · exact .node hiT (h1 i hiT hi)
  · rintro ⟨h, h3⟩
    refine WF.full cs (fun i hiT hi => ((h i hi).resolve_left fun e => hiT e.1).2) ?_ h3
    by_cases e : cs T = .nil
    · exact .inl e
    · exact .inr ((h T e).resolve_right fun e => e.1 rfl).2

theorem fits_setChild {cs : Nib → Node} {x : Nib} {nn : Node} (h : ∀ i, cs i ≠ .nil → Fits i (cs i))
    (hn : nn ≠ .nil → Fits x nn) : ∀ i, setChild cs x nn i ≠ .nil → Fits i (setChild cs x nn i) := by
  intro i
  by_cases hix : i = x
  · subst hix; simpa using hn
  · rw [setChild_other _ _ hix]; exact h i

/-- the root slot holds no value (`WFRoot`); in a branch `Fits` says which of the two a non-nil child is. -/
def Slot (n : Node) : Prop := n = .nil ∨ (∃ v, n = .value v) ∨ WF n

theorem slot_of_wf {t : Node} (h : WF t) : Slot t := .inr (.inr h)

theorem Fits.slot {x : Nib} {n : Node} (h : Fits x n) : Slot n := by
  rcases h with ⟨_, w, _, e⟩ | ⟨_, h⟩
  · exact .inr (.inl ⟨w, e⟩)
  · exact slot_of_wf h

theorem slot_of_wfroot {t : Node} (h : WFRoot t) : Slot t := h.imp_right Or.inr

theorem slot_short_child {p : List Nib} {c : Node} (hw : WF (.short p c)) : Slot c := by
  rcases wf_short_inv hw with ⟨_, v, _, rfl⟩ | ⟨_, _, cs, rfl, hwf⟩
  · exact Or.inr (Or.inl ⟨v, rfl⟩)
  · exact slot_of_wf hwf

theorem slot_full_child {cs : Nib → Node} (hw : WF (.full cs)) (i : Nib) : Slot (cs i) := by
  by_cases hn : cs i = .nil
  · exact Or.inl hn
  · exact ((wf_full_iff.1 hw).1 i hn).slot

theorem slot_wf_of_sf {t : Node} (hs : Slot t) (h : IsSF t) : WF t := by
  rcases hs with rfl | ⟨v, rfl⟩ | hw
  · cases h
  · cases h
  · exact hw

/-- a (sub)position reached by the workers from the public API: a canonical subtrie with a terminated key left,
    or the value slot with nothing left. -/
def Pos (n : Node) (k : List Nib) : Prop :=
  (Term k ∧ WFRoot n) ∨ (k = [] ∧ (n = .nil ∨ ∃ w, n = .value w))

theorem pos_of_wf {n : Node} {k : List Nib} (hw : WF n) (hk : Term k) : Pos n k := .inl ⟨hk, .inr hw⟩

theorem pos_of_wfroot {t : Node} (h : WFRoot t) {k : List Nib} (hk : Term k) : Pos t k := Or.inl ⟨hk, h⟩

theorem pos_sf {n : Node} {k : List Nib} (hp : Pos n k) (h : IsSF n) : Term k ∧ WF n := by
  rcases hp with ⟨hk, rfl | hw⟩ | ⟨_, rfl | ⟨w, rfl⟩⟩
  · cases h
  · exact ⟨hk, hw⟩
  · cases h
  · cases h

theorem pos_value {w : Bytes} {k : List Nib} (hp : Pos (.value w) k) : k = [] := by
  rcases hp with ⟨_, h | h⟩ | ⟨rfl, _⟩
  · cases h
  · exact absurd h (not_wf_value w)
  · rfl

theorem pos_full_child {cs : Nib → Node} {x : Nib} {r : List Nib} (hw : WF (.full cs)) (hk : Term (x :: r)) :
    Pos (cs x) r := by
  obtain ⟨h1, h2, _⟩ := wf_full_inv hw
  rcases term_cons.1 hk with ⟨rfl, rfl⟩ | ⟨_, hx, ht⟩
  · exact .inr ⟨rfl, h2.imp_right fun ⟨v, _, h⟩ => ⟨v, h⟩⟩
  · by_cases hc : cs x = .nil
    · exact .inl ⟨ht, .inl hc⟩
    · exact pos_of_wf (h1 x hx hc) ht

theorem short_hit_cases {nk r : List Nib} {c : Node} (hw : WF (.short nk c)) (hk : Term (nk ++ r)) :
    (r = [] ∧ Term nk ∧ ∃ w, w ≠ [] ∧ c = .value w) ∨
      (Term r ∧ nk ≠ [] ∧ Hex nk ∧ ∃ cs, c = .full cs ∧ WF (.full cs)) := by
  rcases wf_short_inv hw with ⟨hnk, h⟩ | ⟨hne, hh, h⟩
  · exact .inl ⟨term_prefix_eq hnk hk, hnk, h⟩
  · have hr : r ≠ [] := by
      rintro rfl
      rw [List.append_nil] at hk
      exact term_not_hex hk hh
    exact .inr ⟨((term_append hr).1 hk).2, hne, hh, h⟩

theorem pos_short_child {nk rest : List Nib} {c : Node} (hw : WF (.short nk c)) (hk : Term (nk ++ rest)) :
    Pos c rest := by
  rcases short_hit_cases hw hk with ⟨rfl, _, w, _, rfl⟩ | ⟨hr, _, _, cs, rfl, hwf⟩
  · exact .inr ⟨rfl, .inr ⟨w, rfl⟩⟩
  · exact pos_of_wf hwf hr

/-- the key cannot stop inside the node key: a leaf key has no terminated proper prefix and an extension key holds no
    terminator. -/
theorem short_key_cases {nk : List Nib} {c : Node} (hw : WF (.short nk c)) {k : List Nib} (hk : Term k) :
    (∃ r, k = nk ++ r) ∨ ∃ cp a ka b kb, a ≠ b ∧ k = cp ++ a :: ka ∧ nk = cp ++ b :: kb := by
  obtain ⟨cp, ka, kb, rfl, rfl, -, h⟩ := prefixLen_decomp k nk
  cases kb with
  | nil => exact .inl ⟨ka, by simp⟩
  | cons b kb =>
    cases ka with
    | nil =>
      rw [List.append_nil] at hk
      rcases wf_short_inv hw with ⟨hnk, _⟩ | ⟨_, hh, _⟩
      · cases term_prefix_eq hk hnk
      · exact absurd (hex_append.1 hh).1 (term_not_hex hk)
    | cons a ka => exact .inr ⟨cp, a, ka, b, kb, by simpa using h, rfl, rfl⟩

/-- At a canonical short node a terminated key either runs through the node key (`hit`) or parts ways with it
    (`split`). -/
theorem pos_induction {motive : (n : Node) → (k : List Nib) → Pos n k → Prop}
    (nil : ∀ k h, motive .nil k h)
    (value : ∀ w h, motive (.value w) [] h)
    (hit : ∀ nk c r (hw : WF (.short nk c)) (hk : Term (nk ++ r)),
      motive c r (pos_short_child hw hk) → motive (.short nk c) (nk ++ r) (pos_of_wf hw hk))
    (split : ∀ cp a ka b kb c (_ : a ≠ b) (hw : WF (.short (cp ++ b :: kb) c)) (hk : Term (cp ++ a :: ka)),
      motive (.short (cp ++ b :: kb) c) (cp ++ a :: ka) (pos_of_wf hw hk))
    (full : ∀ cs x r (hw : WF (.full cs)) (hk : Term (x :: r)),
      motive (cs x) r (pos_full_child hw hk) → motive (.full cs) (x :: r) (pos_of_wf hw hk)) :
    ∀ n k h, motive n k h := by
  intro n
  induction n with
  | nil => exact nil
  | value w =>
    intro k hp
    cases pos_value hp
    exact value w hp
  | short nk c ih =>
    intro k hp
    obtain ⟨hk, hw⟩ := pos_sf hp trivial
    rcases short_key_cases hw hk with ⟨r, rfl⟩ | ⟨cp, a, ka, b, kb, hab, rfl, rfl⟩
    · exact hit nk c r hw hk (ih r _)
    · exact split cp a ka b kb c hab hw hk
  | full cs ih =>
    intro k hp
    obtain ⟨hk, hw⟩ := pos_sf hp trivial
    obtain ⟨x, r, rfl⟩ := List.exists_cons_of_ne_nil (term_ne_nil hk)
    exact full cs x r hw hk (ih x r _)

theorem lookup_nil (k : List Nib) : lookup .nil k = none := by simp [lookup]

theorem lookup_value (v : Bytes) (k : List Nib) : lookup (.value v) k = if k = [] then some v else none := by
  simp [lookup]

theorem lookup_short (p : List Nib) (c : Node) (k : List Nib) :
    lookup (.short p c) k = if k.take p.length = p then lookup c (k.drop p.length) else none := by
  simp [lookup]

theorem lookup_short_append (p : List Nib) (c : Node) (r : List Nib) : lookup (.short p c) (p ++ r) = lookup c r := by
  simp [lookup]

theorem lookup_short_none {p : List Nib} {c : Node} {k : List Nib} (h : ¬ ∃ r, k = p ++ r) : lookup (.short p c) k = none := by
  rw [lookup_short, if_neg (mt take_eq_iff.1 h)]

theorem short_key_prefix {p : List Nib} {c : Node} {k : List Nib} (h : lookup (.short p c) k ≠ none) : ∃ r, k = p ++ r :=
  Classical.byContradiction fun hne => h (lookup_short_none hne)

theorem split_take_ne {a b : Nib} (h : a ≠ b) (cp ka kb : List Nib) :
    (cp ++ a :: ka).take (cp ++ b :: kb).length ≠ cp ++ b :: kb := by
  rw [Ne, take_eq_iff]
  simp [h]

theorem lookup_short_split {a b : Nib} (h : a ≠ b) (cp ka kb : List Nib) (c : Node) :
    lookup (.short (cp ++ b :: kb) c) (cp ++ a :: ka) = none := by
  rw [lookup_short, if_neg (split_take_ne h cp ka kb)]

theorem lookup_full_cons (cs : Nib → Node) (x : Nib) (k : List Nib) : lookup (.full cs) (x :: k) = lookup (cs x) k := by
  simp [lookup]

theorem lookup_full_nil (cs : Nib → Node) : lookup (.full cs) [] = none := by simp [lookup]

theorem get_eq_lookup (n : Node) : ∀ k, Pos n k → get n k = some (lookup n k) := by
  intro k hp
  induction n, k, hp using pos_induction with
  | nil k _ => simp [get, lookup_nil]
  | value w _ => simp [get, lookup_value]
  | hit nk c r _ _ ih => simpa [get, lookup_short_append] using ih
  | split cp a ka b kb c hab _ _ => simp only [get, lookup_short_split hab, if_neg (split_take_ne hab cp ka kb)]
  | full cs x r _ _ ih => simpa [get, lookup_full_cons] using ih

theorem ins_nil_key (n : Node) (v : Bytes) : ins n [] v = .value v := by
  cases n <;> rfl

theorem ins_short_hit {nk : List Nib} (hne : nk ≠ []) (c : Node) (r : List Nib) (v : Bytes) :
    ins (.short nk c) (nk ++ r) v = .short nk (ins c r v) := by
  obtain ⟨y, nk', rfl⟩ := List.exists_cons_of_ne_nil hne
  have hm := prefixLen_covers (y :: nk') r
  simp only [List.cons_append] at hm ⊢
  simp [ins, hm]

theorem ins_short_split {a b : Nib} (hab : a ≠ b) (cp ka kb : List Nib) (c : Node) (v : Bytes) :
    ins (.short (cp ++ b :: kb) c) (cp ++ a :: ka) v =
      insertNil cp (.full (setChild (setChild emptyCs b (insertNil kb c)) a (insertNil ka (.value v)))) := by
  have hm := prefixLen_split hab cp ka kb
  cases cp with
  | nil => simp [ins, prefixLen, hab, insertNil]
  | cons y cp =>
    simp only [List.cons_append] at hm ⊢
    simp [ins, hm, insertNil]

theorem insert_fst_false (n : Node) : ∀ (k : List Nib) (v : Bytes) (n' : Node), insert n k v = some (false, n') → n' = n := by
  intro k v
  fun_induction insert n k v <;> simp_all

theorem insert_short_split {a b : Nib} (hab : a ≠ b) (cp ka kb : List Nib) (c : Node) (v : Bytes) :
    insert (.short (cp ++ b :: kb) c) (cp ++ a :: ka) v = some (true, ins (.short (cp ++ b :: kb) c) (cp ++ a :: ka) v) := by
  have hm := prefixLen_split hab cp ka kb
  cases cp with
  | nil => simp [insert, ins, prefixLen, hab]
  | cons y cp =>
    simp only [List.cons_append] at hm ⊢
    simp [insert, ins, hm]

theorem insert_short_of {nk : List Nib} (hne : nk ≠ []) {c : Node} {r : List Nib} {v : Bytes} {d : Bool} {nn : Node}
    (h : insert c r v = some (d, nn)) : insert (.short nk c) (nk ++ r) v = some (d, .short nk nn) := by
  obtain ⟨y, nk', rfl⟩ := List.exists_cons_of_ne_nil hne
  have hm := prefixLen_covers (y :: nk') r
  simp only [List.cons_append] at hm ⊢
  cases d
  · simp [insert, hm, h, insert_fst_false _ _ _ _ h]
  · simp [insert, hm, h]

theorem insert_full_of {cs : Nib → Node} {x : Nib} {r : List Nib} {v : Bytes} {d : Bool} {nn : Node}
    (h : insert (cs x) r v = some (d, nn)) : insert (.full cs) (x :: r) v = some (d, .full (setChild cs x nn)) := by
  cases d
  · simp [insert, h, insert_fst_false _ _ _ _ h, setChild_self]
  · simp [insert, h]

theorem insert_spec (n : Node) : ∀ (k : List Nib) (v : Bytes), Pos n k → ∃ d, insert n k v = some (d, ins n k v) := by
  intro k v hp
  induction n, k, hp using pos_induction with
  | nil k _ => cases k <;> exact ⟨true, rfl⟩
  | value w _ => exact ⟨w != v, rfl⟩
  | hit nk c r hw _ ih =>
    obtain ⟨d, hd⟩ := ih
    exact ⟨d, by rw [insert_short_of (wf_short_key_ne_nil hw) hd, ins_short_hit (wf_short_key_ne_nil hw)]⟩
  | split cp a ka b kb c hab _ _ => exact ⟨true, insert_short_split hab ..⟩
  | full cs x r _ _ ih =>
    obtain ⟨d, hd⟩ := ih
    exact ⟨d, insert_full_of hd⟩

theorem delete_fst_false (n : Node) : ∀ (k : List Nib) (n' : Node), delete n k = some (false, n') → n' = n := by
  intro k
  fun_induction delete n k <;> simp_all

theorem del_short_split {a b : Nib} (hab : a ≠ b) (cp ka kb : List Nib) (c : Node) :
    del (.short (cp ++ b :: kb) c) (cp ++ a :: ka) = .short (cp ++ b :: kb) c := by
  simp [del, prefixLen_split hab]

theorem delete_short_split {a b : Nib} (hab : a ≠ b) (cp ka kb : List Nib) (c : Node) :
    delete (.short (cp ++ b :: kb) c) (cp ++ a :: ka) = some (false, .short (cp ++ b :: kb) c) := by
  simp [delete, prefixLen_split hab]

theorem del_short_hit (nk : List Nib) (c : Node) (r : List Nib) :
    del (.short nk c) (nk ++ r) = if r = [] then .nil else mergeShort nk (del c r) := by
  simp [del, prefixLen_covers]

theorem delete_short_end (nk : List Nib) (c : Node) : delete (.short nk c) nk = some (true, .nil) := by
  have := prefixLen_covers nk []
  rw [List.append_nil] at this
  simp [delete, this]

theorem delete_short_of {nk : List Nib} {c : Node} {r : List Nib} {d : Bool} {nn : Node} (hr : r ≠ [])
    (h : delete c r = some (d, nn)) :
    delete (.short nk c) (nk ++ r) = some (d, if d then mergeShort nk nn else .short nk c) := by
  cases d
  · simp [delete, prefixLen_covers, hr, h]
  · cases nn <;> simp [delete, prefixLen_covers, hr, h, mergeShort]

theorem delete_full_of {cs : Nib → Node} {x : Nib} {r : List Nib} {d : Bool} {nn : Node}
    (h : delete (cs x) r = some (d, nn)) :
    delete (.full cs) (x :: r) = some (d, if d then collapse (setChild cs x nn) else .full cs) := by
  cases d
  · simp [delete, h]
  · simp only [delete, h, collapse, Bool.not_true, Bool.false_eq_true, if_false, if_true]
    cases onlyChild (setChild cs x nn) with
    | none => rfl
    | some pos =>
      by_cases hp : pos = T
      · simp [hp]
      · simp only [ne_eq, hp, not_false_eq_true, if_true]
        cases setChild cs x nn pos <;> rfl

theorem collapse_wf_full {cs : Nib → Node} (hw : WF (.full cs)) : collapse cs = .full cs := by
  obtain ⟨_, _, i, j, hij, hi, hj⟩ := wf_full_inv hw
  simp [collapse, onlyChild_none_of_two hij hi hj]

theorem delete_spec (n : Node) : ∀ (k : List Nib), Pos n k → ∃ d, delete n k = some (d, del n k) := by
  intro k hp
  induction n, k, hp using pos_induction with
  | nil k _ => exact ⟨false, by simp [delete, del]⟩
  | value w _ => exact ⟨true, rfl⟩
  | hit nk c r hw hk ih =>
    rw [del_short_hit]
    rcases short_hit_cases hw hk with ⟨rfl, -⟩ | ⟨hr, -, -, cs, rfl, -⟩
    · exact ⟨true, by simpa using delete_short_end nk c⟩
    · obtain ⟨d, hd⟩ := ih
      rw [delete_short_of (term_ne_nil hr) hd, if_neg (term_ne_nil hr)]
      cases d
      · exact ⟨false, by rw [delete_fst_false _ _ _ hd]; rfl⟩
      · exact ⟨true, rfl⟩
  | split cp a ka b kb c hab _ _ => exact ⟨false, by rw [delete_short_split hab, del_short_split hab]⟩
  | full cs x r hw _ ih =>
    obtain ⟨d, hd⟩ := ih
    rw [delete_full_of hd]
    cases d
    · exact ⟨false, by simp [del, delete_fst_false _ _ _ hd, setChild_self, collapse_wf_full hw]⟩
    · exact ⟨true, rfl⟩

theorem lookup_short_update {nk r : List Nib} {c c' : Node} {o : Option Bytes}
    (h : ∀ d, lookup c' d = if d = r then o else lookup c d) (k' : List Nib) :
    lookup (.short nk c') k' = if k' = nk ++ r then o else lookup (.short nk c) k' := by
  by_cases ht : k'.take nk.length = nk
  · obtain ⟨d, rfl⟩ := take_eq_iff.1 ht
    simp [lookup_short_append, h]
  · have : k' ≠ nk ++ r := fun e => ht (by simp [e])
    simp [lookup_short, ht, this]

theorem leaf_lookup (k : List Nib) (v : Bytes) (k' : List Nib) :
    lookup (.short k (.value v)) k' = if k' = k then some v else none := by
  rw [lookup_short_update (c := .nil) (r := []) (o := some v) (fun d => by rw [lookup_value, lookup_nil]) k',
    List.append_nil, lookup_short, lookup_nil, ite_self]

theorem lookup_full_update {cs : Nib → Node} {x : Nib} {r : List Nib} {n' : Node} {o : Option Bytes}
    (h : ∀ d, lookup n' d = if d = r then o else lookup (cs x) d) (k' : List Nib) :
    lookup (.full (setChild cs x n')) k' = if k' = x :: r then o else lookup (.full cs) k' := by
  cases k' with
  | nil => simp [lookup_full_nil]
  | cons y d =>
    rw [lookup_full_cons, lookup_full_cons]
    by_cases hy : y = x
    · subst hy; simp [h]
    · simp [setChild_other _ _ hy, hy]

theorem lookup_insertNil (p : List Nib) (n : Node) (k : List Nib) : lookup (insertNil p n) k = lookup (.short p n) k := by
  unfold insertNil
  split
  · next h => subst h; simp [lookup_short]
  · rfl

theorem lookup_short_congr {c c' : Node} (h : ∀ d, lookup c d = lookup c' d) (p k : List Nib) :
    lookup (.short p c) k = lookup (.short p c') k := by
  simp only [lookup_short, h]

theorem lookup_short_short (nk ck : List Nib) (cv : Node) (k' : List Nib) :
    lookup (.short (nk ++ ck) cv) k' = lookup (.short nk (.short ck cv)) k' := by
  by_cases ht : k'.take nk.length = nk
  · obtain ⟨d, rfl⟩ := take_eq_iff.1 ht
    simp [lookup_short, List.take_append, List.take_of_length_le, List.drop_append, List.drop_eq_nil_of_le]
  · rw [lookup_short_none, lookup_short_none]
    · exact mt take_eq_iff.2 ht
    · rintro ⟨r, rfl⟩
      simp at ht

theorem lookup_mergeShort (nk : List Nib) (ch : Node) (k' : List Nib) :
    lookup (mergeShort nk ch) k' = lookup (.short nk ch) k' := by
  cases ch with
  | short ck cv => exact lookup_short_short ..
  | _ => rfl

theorem lookup_single {pos : Nib} {cs : Nib → Node} (h : ∀ j, cs j ≠ .nil → j = pos) (k' : List Nib) :
    lookup (.full cs) k' = lookup (.short [pos] (cs pos)) k' := by
  cases k' with
  | nil => simp [lookup_full_nil, lookup_short]
  | cons y r =>
    by_cases hy : y = pos
    · subst hy; simp [lookup_full_cons, lookup_short]
    · have : cs y = .nil := Classical.byContradiction fun hne => hy (h y hne)
      simp [lookup_full_cons, lookup_short, lookup_nil, hy, this]

theorem ins_lookup (n : Node) : ∀ k v, Pos n k → ∀ k', lookup (ins n k v) k' = if k' = k then some v else lookup n k' := by
  intro k v hp
  induction n, k, hp using pos_induction with
  | nil k _ =>
    intro k'
    cases k with
    | nil => simp [ins, lookup_value, lookup_nil]
    | cons x r => simp only [ins, leaf_lookup, lookup_nil]
  | value w _ =>
    intro k'
    simp only [ins, lookup_value]
    split <;> rfl
  | hit nk c r hw _ ih =>
    rw [ins_short_hit (wf_short_key_ne_nil hw)]
    exact lookup_short_update ih
  | split cp a ka b kb c hab _ _ =>
    intro k'
    rw [ins_short_split hab, lookup_insertNil, lookup_short_short cp (b :: kb)]
    refine lookup_short_update (fun d => ?_) k'
    -- in the new branch, slot `a` holds the new leaf and slot `b`, the only other one, what was below the old node
    rw [lookup_full_update (r := ka) (o := some v)]
    · have only : ∀ j, setChild emptyCs b (insertNil kb c) j ≠ .nil → j = b := fun j hj =>
        Decidable.byContradiction fun hjb => hj (setChild_other _ _ hjb)
      rw [lookup_single only, setChild_same, lookup_short_congr (lookup_insertNil kb c), ← lookup_short_short [b] kb]
      rfl
    · intro d
      rw [setChild_other _ _ hab, emptyCs_apply, lookup_nil, lookup_insertNil, leaf_lookup]
  | full cs x r _ _ ih => exact lookup_full_update ih

theorem collapse_eq_merge {cs' : Nib → Node} {pos : Nib} (h : onlyChild cs' = some pos) (hp : pos ≠ T) :
    collapse cs' = mergeShort [pos] (cs' pos) := by
  simp only [collapse, h, ne_eq, hp, not_false_eq_true, if_true, mergeShort]
  cases cs' pos <;> rfl

theorem lookup_collapse (cs' : Nib → Node) (k' : List Nib) : lookup (collapse cs') k' = lookup (.full cs') k' := by
  cases h : onlyChild cs' with
  | none => simp [collapse, h]
  | some pos =>
    rw [lookup_single (onlyChild_some.1 h).2]
    by_cases hp : pos = T
    · simp [collapse, h, hp]
    · rw [collapse_eq_merge h hp, lookup_mergeShort]

theorem del_lookup (n : Node) : ∀ k, Pos n k → ∀ k', lookup (del n k) k' = if k' = k then none else lookup n k' := by
  intro k hp
  induction n, k, hp using pos_induction with
  | nil k _ =>
    intro k'
    simp [del, lookup_nil]
  | value w _ =>
    intro k'
    simp only [del, lookup_nil, lookup_value]
    split <;> simp [*]
  | hit nk c r hw hk ih =>
    intro k'
    rw [del_short_hit]
    rcases short_hit_cases hw hk with ⟨rfl, -, w, -, rfl⟩ | ⟨hr, -⟩
    · simp [leaf_lookup, lookup_nil]
    · rw [if_neg (term_ne_nil hr), lookup_mergeShort]
      exact lookup_short_update ih k'
  | split cp a ka b kb c hab _ _ =>
    intro k'
    rw [del_short_split hab]
    split
    · next e => rw [e, lookup_short_split hab]
    · rfl
  | full cs x r _ _ ih =>
    intro k'
    simp only [del]
    rw [lookup_collapse]
    exact lookup_full_update ih k'

theorem wf_short_suffix {cp q : List Nib} {c : Node} (hw : WF (.short (cp ++ q) c)) (hq : q ≠ []) : WF (.short q c) := by
  rcases wf_short_inv hw with ⟨hk, v, hv, rfl⟩ | ⟨_, hh, cs, rfl, hwf⟩
  · exact WF.leaf q v ((term_append hq).1 hk).2 hv
  · exact WF.ext q cs hq (hex_append.1 hh).2 hwf

theorem wf_insertNil_full {p : List Nib} {cs : Nib → Node} (hp : Hex p) (hw : WF (.full cs)) :
    WF (insertNil p (.full cs)) := by
  unfold insertNil
  split
  · exact hw
  · next hne => exact WF.ext p cs hne hp hw

theorem fits_insertNil {x : Nib} {k : List Nib} {c : Node} (hw : WF (.short (x :: k) c)) : Fits x (insertNil k c) := by
  rcases wf_short_inv hw with ⟨hk, w, hv, rfl⟩ | ⟨_, hh, cs, rfl, hwf⟩
  · rcases term_cons.1 hk with ⟨rfl, rfl⟩ | ⟨hne, hx, ht⟩
    · exact .value hv
    · exact .node hx (by simpa [insertNil, hne] using WF.leaf k w ht hv)
  · exact .node (hex_cons.1 hh).1 (wf_insertNil_full (hex_cons.1 hh).2 hwf)

theorem ins_wf (n : Node) : ∀ k v, Term k → WFRoot n → v ≠ [] → WF (ins n k v) := by
  intro k v hk hn hv
  have hp : Pos n k := .inl ⟨hk, hn⟩
  clear hn
  induction n, k, hp using pos_induction with
  | nil k _ =>
    obtain ⟨x, r, rfl⟩ := List.exists_cons_of_ne_nil (term_ne_nil hk)
    exact WF.leaf _ v hk hv
  | value w _ => cases hk
  | hit nk c r hw _ ih =>
    rw [ins_short_hit (wf_short_key_ne_nil hw)]
    rcases short_hit_cases hw hk with ⟨rfl, hnk, -⟩ | ⟨hr, hne, hh, cs, rfl, -⟩
    · rw [ins_nil_key]; exact WF.leaf nk v hnk hv
    -- a cons key lets `ins (.full cs) _ v` unfold to a branch, as `WF.ext` wants
    · obtain ⟨y, r', rfl⟩ := List.exists_cons_of_ne_nil (term_ne_nil hr)
      exact WF.ext nk _ hne hh (ih hr)
  | split cp a ka b kb c hab hw _ =>
    rw [ins_short_split hab]
    obtain ⟨hcp, hka⟩ := (term_append (List.cons_ne_nil a ka)).1 hk
    have fa : Fits a (insertNil ka (.value v)) := fits_insertNil (.leaf _ v hka hv)
    have fb : Fits b (insertNil kb c) := fits_insertNil (wf_short_suffix hw (List.cons_ne_nil b kb))
    refine wf_insertNil_full hcp (wf_full_iff.2 ⟨?_, a, b, hab, ?_, ?_⟩)
    · exact fits_setChild (fits_setChild (fun i hi => absurd rfl hi) fun _ => fb) fun _ => fa
    · rw [setChild_same]; exact fa.ne_nil
    · rw [setChild_other _ _ hab.symm, setChild_same]; exact fb.ne_nil
  | full cs x r hw _ ih =>
    obtain ⟨hf, i, j, hij, hi, hj⟩ := wf_full_iff.1 hw
    have hx : Fits x (ins (cs x) r v) := by
      rcases term_cons.1 hk with ⟨rfl, rfl⟩ | ⟨-, hx, ht⟩
      · rw [ins_nil_key]
        exact .value hv
      · exact .node hx (ih ht)
    exact wf_full_iff.2 ⟨fits_setChild hf fun _ => hx, i, j, hij, setChild_ne_nil hx.ne_nil hi, setChild_ne_nil hx.ne_nil hj⟩

theorem wf_mergeShort {nk : List Nib} {ch : Node} (h1 : nk ≠ []) (h2 : Hex nk) (hw : WF ch) : WF (mergeShort nk ch) := by
  cases hw with
  | leaf k v hk hv => exact WF.leaf _ v ((term_append (term_ne_nil hk)).2 ⟨h2, hk⟩) hv
  | ext k cs hne hh hwf => exact WF.ext _ cs (by simp [h1]) (hex_append.2 ⟨h2, hh⟩) hwf
  | full cs c1 c2 c3 => exact WF.ext nk cs h1 h2 (.full cs c1 c2 c3)

theorem collapse_ne_nil (cs' : Nib → Node) : collapse cs' ≠ .nil := by
  unfold collapse
  split
  · split
    · split <;> simp
    · simp
  · simp

theorem collapse_wf {cs : Nib → Node} (hf : ∀ i, cs i ≠ .nil → Fits i (cs i)) (hne : ∃ i, cs i ≠ .nil) :
    WF (collapse cs) := by
  cases h : onlyChild cs with
  | none =>
    obtain ⟨i, hi⟩ := hne
    obtain ⟨j, hji, hj⟩ := two_of_onlyChild_none h hi
    simpa [collapse, h] using wf_full_iff.2 ⟨hf, i, j, Ne.symm hji, hi, hj⟩
  | some pos =>
    rcases hf pos (onlyChild_some.1 h).1 with ⟨rfl, v, hv, e⟩ | ⟨hp, hw⟩
    · simpa [collapse, h, e] using WF.leaf [T] v term_single hv
    · rw [collapse_eq_merge h hp]
      exact wf_mergeShort (by simp) (hex_cons.2 ⟨hp, hex_nil⟩) hw

theorem del_wf (n : Node) : ∀ k, Term k → WFRoot n → WFRoot (del n k) := by
  intro k hk hn
  have hp : Pos n k := .inl ⟨hk, hn⟩
  clear hn
  induction n, k, hp using pos_induction with
  | nil k _ => exact .inl (by simp [del])
  | value w _ => cases hk
  | hit nk c r hw _ ih =>
    rw [del_short_hit]
    rcases short_hit_cases hw hk with ⟨rfl, -⟩ | ⟨hr, hne, hh, cs, rfl, -⟩
    · exact .inl rfl
    -- a cons key, so that `del (.full cs) _` unfolds to `collapse _`
    · obtain ⟨y, r', rfl⟩ := List.exists_cons_of_ne_nil (term_ne_nil hr)
      rw [if_neg (List.cons_ne_nil y r')]
      exact .inr (wf_mergeShort hne hh ((ih hr).resolve_left (collapse_ne_nil _)))
  | split cp a ka b kb c hab hw _ =>
    rw [del_short_split hab]
    exact .inr hw
  | full cs x r hw _ ih =>
    obtain ⟨hf, i, j, hij, hi, hj⟩ := wf_full_iff.1 hw
    refine .inr (collapse_wf (fits_setChild hf fun hne => ?_) ?_)
    · rcases term_cons.1 hk with ⟨rfl, rfl⟩ | ⟨-, hx, ht⟩
      · rcases (wf_full_inv hw).2.1 with e | ⟨w, -, e⟩ <;> simp [e, del] at hne
      · exact .node hx ((ih ht).resolve_left hne)
    · by_cases hix : i = x
      · exact ⟨j, by rwa [setChild_other _ _ (hix ▸ hij.symm)]⟩
      · exact ⟨i, by rwa [setChild_other _ _ hix]⟩

end Aqv.Trie
