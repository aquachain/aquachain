/-
  Aqv.Lemmas.TxVm — the C06 contract `EvmOk` PROVED for the environment whose `run` is the C07 machine
  (`TxVm.vmEnv`), from what Lemmas/VmMain says of the two depth-0 wrappers (`Vm.call_good`, `Vm.create_good`, `Vm.call_db`,
  `Vm.create_db`: what C07's leftover_le_given_*, frame_failure_reverts_*, *_terminates and no_modelled_panic are read off);
  and the world invariant of `Lemmas.TxVmInv` for that machine (`machine_inv`).
-/
import Aqv.Model.TxVm
import Aqv.Lemmas.TxVmInv
import Aqv.Lemmas.VmMain
namespace Aqv.TxVm
open Aqv.Tx

variable {ρ : Type}

theorem gasOf_lt (g : Nat) : gasOf g < Vm.two64 := Nat.mod_lt _ (by decide)
theorem gasOf_le (g : Nat) : gasOf g ≤ g := Nat.mod_le _ _

theorem depth0 : ¬ (0 > Gen.VmFlags.callCreateDepth) := by decide

theorem machine_some {m : Msg} {a : Addr} (h : m.to = some a) (venv : Vm.Env) (orc : Oracle ρ) (g : Nat) (w : World ρ) :
    machine venv orc m g w = Vm.topCall venv (orc m g w) (gasOf g + 1) .call (gasOf g) (m.value != 0) ⟨w, [], 0⟩ := by
  unfold machine; rw [h]

theorem machine_none {m : Msg} (h : m.to = none) (venv : Vm.Env) (orc : Oracle ρ) (g : Nat) (w : World ρ) :
    machine venv orc m g w = Vm.topCreate venv (orc m g w) (gasOf g + 1) (gasOf g) ⟨w, [], 0⟩ := by
  unfold machine; rw [h]

/-- evm.Call at depth 0 with CanTransfer false: ErrInsufficientBalance, all gas back, nothing touched. -/
theorem topCall_cannot_transfer (venv : Vm.Env) (o : Nat → Vm.StepIn (World ρ)) (fuel gas : Nat) (v : Bool) (db : Vm.Db (World ρ))
    (h : (o 0).canTransfer = false) :
    Vm.topCall venv o fuel .call gas v db = ⟨.fail .insufficientBalance, gas, db, 1, 0, []⟩ := by
  unfold Vm.topCall Vm.callWrap
  rw [if_neg depth0]
  simp [h]

theorem topCreate_cannot_transfer (venv : Vm.Env) (o : Nat → Vm.StepIn (World ρ)) (fuel gas : Nat) (db : Vm.Db (World ρ))
    (h : (o 0).canTransfer = false) :
    Vm.topCreate venv o fuel gas db = ⟨.fail .insufficientBalance, gas, db, 1, 0, []⟩ := by
  unfold Vm.topCreate Vm.createWrap
  rw [if_neg depth0]
  simp [h]

theorem machine_cannot_transfer (venv : Vm.Env) (orc : Oracle ρ) (m : Msg) (g : Nat) (w : World ρ)
    (h : (orc m g w 0).canTransfer = false) :
    (machine venv orc m g w).out = .fail .insufficientBalance ∧ (machine venv orc m g w).db.cur = w := by
  cases hto : m.to with
  | none => rw [machine_none hto, topCreate_cannot_transfer _ _ _ _ _ h]; exact ⟨rfl, rfl⟩
  | some t => rw [machine_some hto, topCall_cannot_transfer _ _ _ _ _ _ h]; exact ⟨rfl, rfl⟩

theorem readErr_insufficient {out : Vm.Outcome} {ct : Bool} (h : readErr out ct = some .insufficientBalance) :
    out = .fail .insufficientBalance ∧ ct = false := by
  unfold readErr at h
  split at h
  · cases h
  · cases h
  · split at h
    · cases h
    · next hc => exact ⟨rfl, by simpa using hc⟩
  · cases h

theorem readErr_some {out : Vm.Outcome} {ct : Bool} {e : VmErr} (h : readErr out ct = some e) :
    out.isErr = true ∨ out = .outOfFuel ∨ out = .panic := by
  cases out with
  | ok => cases h
  | revert => exact .inl rfl
  | fail x => exact .inl rfl
  | outOfFuel => exact .inr (.inl rfl)
  | panic => exact .inr (.inr rfl)

theorem machine_inv {P : World ρ → Prop} (venv : Vm.Env) (orc : Oracle ρ) (m : Msg) (g : Nat) (w : World ρ)
    (hO : EffOk 0 P (orc m g w)) (hw : P w) : P (machine venv orc m g w).db.cur := by
  cases hto : m.to with
  | none => rw [machine_none hto]; exact (topCreate_inv venv hO _ _ (db := ⟨w, [], 0⟩) ⟨hw, nofun⟩).cur
  | some t => rw [machine_some hto]; exact (topCall_inv venv hO _ _ _ _ (db := ⟨w, [], 0⟩) ⟨hw, nofun⟩).cur

theorem vmRun_insufficient_iff (venv : Vm.Env) (orc : Oracle ρ) (m : Msg) (g : Nat) (w : World ρ) :
    (vmRun venv orc m g w).err = some .insufficientBalance ↔ (orc m g w 0).canTransfer = false := by
  show readErr (machine venv orc m g w).out (orc m g w 0).canTransfer = some .insufficientBalance ↔ _
  refine ⟨fun h => (readErr_insufficient h).2, fun h => ?_⟩
  rw [(machine_cannot_transfer venv orc m g w h).1, h]; rfl

/-- what C07 proves of the run `TransitionDb` starts: gas left ≤ gas given (`leftover_le_given_*`), neither of the two model
    artefacts as outcome (`*_terminates`, `no_modelled_panic`), and on an error outcome the state the frame was entered
    with (`frame_failure_reverts_*`; for a creation under Homestead rules, and after the creator's nonce bump, which only a
    refusal for `CanTransfer` precedes at depth 0). -/
structure MachineOk (venv : Vm.Env) (orc : Oracle ρ) (m : Msg) (g : Nat) (w : World ρ) : Prop where
  gas_le : (machine venv orc m g w).gas ≤ gasOf g
  no_fuel : (machine venv orc m g w).out ≠ .outOfFuel
  no_panic : (machine venv orc m g w).out ≠ .panic
  call_reverts : (machine venv orc m g w).out.isErr = true → m.to.isSome → (machine venv orc m g w).db.cur = w
  create_reverts : venv.homestead = true → (machine venv orc m g w).out.isErr = true → m.to = none →
    (orc m g w 0).canTransfer = true → (machine venv orc m g w).db.cur = (orc m g w 0).nonceEff w

theorem machine_c07 (venv : Vm.Env) (hE : Vm.EnvOK venv) (orc : Oracle ρ) (m : Msg) (g : Nat) (w : World ρ) :
    MachineOk venv orc m g w := by
  cases hto : m.to with
  | none =>
    have h := Vm.create_good hE (orc m g w) (gasOf g + 1) (i := orc m g w 0) (depth := 0) (ro := false)
      (db := ⟨w, [], 0⟩) (t := 1) (gasOf_lt g)
    rw [← Vm.topCreate, ← machine_none hto] at h
    refine ⟨h.gas_le, h.fuel_ok (Nat.lt_succ_self _), h.no_panic, fun _ hs => by simp [hto] at hs, fun hH he _ hct => ?_⟩
    rw [machine_none hto] at he ⊢
    exact ((Vm.create_db venv (orc m g w) _ _ 0 false _ _ 1).reverts hH he).trans (if_neg (by simp [hct]))
  | some t =>
    have h := Vm.call_good hE (orc m g w) (gasOf g + 1) (k := .call) (i := orc m g w 0) (depth := 0) (ro := false)
      (valueNZ := m.value != 0) (db := ⟨w, [], 0⟩) (t := 1) (gasOf_lt g)
    rw [← Vm.topCall, ← machine_some hto] at h
    refine ⟨h.gas_le, h.fuel_ok (Nat.lt_succ_self _), h.no_panic, fun he _ => ?_, fun _ _ hn => by simp [hto] at hn⟩
    rw [machine_some hto] at he ⊢
    exact (Vm.call_db venv (orc m g w) _ .call _ 0 false _ _ _ 1).reverts trivial he

theorem machine_isErr (venv : Vm.Env) (hE : Vm.EnvOK venv) (orc : Oracle ρ) (m : Msg) (g : Nat) (w : World ρ) {e : VmErr}
    (h : (vmRun venv orc m g w).err = some e) : (machine venv orc m g w).out.isErr = true := by
  have c := machine_c07 venv hE orc m g w
  exact (readErr_some (out := (machine venv orc m g w).out) h).resolve_right fun h' => h'.elim c.no_fuel c.no_panic

/-- **vmEnv_ok.** The contract C06 assumes of its EVM parameter holds for the C07 machine, for every oracle that answers
    `CanTransfer` truthfully at the top level and whose `Create` nonce effect is `SetNonce(caller, nonce+1)`. -/
theorem vmEnv_ok (venv : Vm.Env) (hE : Vm.EnvOK venv) (orc : Oracle ρ) (hO : OracleOk orc)
    (refund : World ρ → Nat) (fin : World ρ → World ρ) (cb : Addr) : EvmOk (vmEnv venv orc refund fin cb) := by
  constructor
  · -- gas left ≤ gas given
    exact fun m g w => Nat.le_trans (machine_c07 venv hE orc m g w).gas_le (gasOf_le g)
  · -- ErrInsufficientBalance ⇔ CanTransfer fails
    intro m g w
    show (vmRun venv orc m g w).err = _ ↔ _
    rw [vmRun_insufficient_iff, hO.canTransfer]; simp
  · -- failed call: the entry state
    exact fun m g w e hto herr _ => (machine_c07 venv hE orc m g w).call_reverts (machine_isErr venv hE orc m g w herr) hto
  · -- failed creation: the entry state plus the creator's nonce bump (the error is not the CanTransfer refusal)
    intro hH m g w e hto herr hne
    have hct : (orc m g w 0).canTransfer = true := Bool.not_eq_false _ |>.mp fun hc =>
      hne (Option.some.inj (herr.symm.trans ((vmRun_insufficient_iff venv orc m g w).mpr hc)))
    exact ((machine_c07 venv hE orc m g w).create_reverts hH (machine_isErr venv hE orc m g w herr) hto hct).trans
      (hO.nonceEff m g w w)

end Aqv.TxVm
