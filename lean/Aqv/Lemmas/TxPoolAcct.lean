/-
  Aqv.Lemmas.TxPoolAcct — the per-account bodies of promoteExecutables (`promoteAcct`) and demoteUnexecutables (`demoteAcct`)
  in named stages, and what they do to the three tiers.
-/
import Aqv.Lemmas.TxPoolInv
namespace Aqv.TxPool

/-! ## promoteAcct

  The stages are numbered by the statements of `Pool.promoteAcct`; the first two change only the list (`paQ1` after Forward,
  `paQ2` the list Filter keeps), so the first pool-level stage is the third.  `paReady`: (the run to promote, the rest). -/

def paQ1 (s : Pool) (a : Addr) : TxL := { s.queue a with items := (forward (s.cnonce a) (s.queue a).items).2 }
def paQ2 (s : Pool) (a : Addr) : TxL := ((paQ1 s a).filter (s.balance a) s.maxGas).2.2
def paReady (s : Pool) (a : Addr) : List Tx × List Tx := ready (s.pnonce a) (paQ2 s a).items
def paS3 (s : Pool) (a : Addr) : Pool :=
  ({ s with all := (s.all.filter (fun t => !decide (t ∈ (forward (s.cnonce a) (s.queue a).items).1))).filter
                    (fun t => !decide (t ∈ ((paQ1 s a).filter (s.balance a) s.maxGas).1)) } : Pool).setQ a
    { paQ2 s a with items := (paReady s a).2 }
def paS4 (s : Pool) (a : Addr) : Pool := promoteAll (paS3 s a) a (paReady s a).1
def paS5 (s : Pool) (a : Addr) : Pool :=
  let s4 := paS4 s a
  if !s4.isLocal a then
    { s4 with all := s4.all.filter (fun t => !decide (t ∈ (capL s4.cfg.accountQueue (s4.queue a).items).1)),
              queue := upd s4.queue a { (s4.queue a) with items := (capL s4.cfg.accountQueue (s4.queue a).items).2 } }
  else s4

theorem promoteAcct_eq (s : Pool) (a : Addr) :
    s.promoteAcct a = (paS5 s a).setQ a (dropIfEmpty ((paS5 s a).queue a)) := rfl

/-- the first two statements of both `promoteAcct`, on the queue, and `demoteAcct`, on the pending list -/
theorem forward_filter_kept {l : TxL} (cn bal mg : Nat) (hs : Sorted l.items) (hc : CapsOK l) :
    let k := (({ l with items := (forward cn l.items).2 } : TxL).filter bal mg).2.2
    (∀ t ∈ k.items, t ∈ l.items ∧ cn ≤ t.nonce) ∧ Sorted k.items ∧ k.strict = l.strict ∧ CapsOK k ∧
      ∀ t ∈ k.items, Payable bal mg t := by
  have h1c : CapsOK { l with items := (forward cn l.items).2 } := hc.sub (fun t ht => (mem_forward_snd.mp ht).1)
  have hfs := TxL.filter_spec { l with items := (forward cn l.items).2 } bal mg
  refine ⟨fun t ht => ?_, hfs.sorted (hs.filter _), hfs.strict, hfs.caps h1c, hfs.kept_pay h1c⟩
  exact mem_forward_snd.mp (hfs.kept_sub t ht)

/-- what `Weak` alone gives: `q2…` of the queue after Forward and Filter, `r…` of the run that Ready takes out of it, `rest…` of
    what Ready leaves -/
structure PAQ (s : Pool) (a : Addr) : Prop where
  q2sub    : ∀ t ∈ (paQ2 s a).items, t ∈ (s.queue a).items ∧ s.cnonce a ≤ t.nonce
  q2sorted : Sorted (paQ2 s a).items
  q2strict : (paQ2 s a).strict = false
  q2caps   : CapsOK (paQ2 s a)
  q2pay    : ∀ t ∈ (paQ2 s a).items, Payable (s.balance a) s.maxGas t
  rapp     : (paReady s a).1 ++ (paReady s a).2 = (paQ2 s a).items
  rsub     : ∀ t ∈ (paReady s a).1, t ∈ (paQ2 s a).items
  rsorted  : Sorted (paReady s a).1
  restsub  : ∀ t ∈ (paReady s a).2, t ∈ (paQ2 s a).items
  restsorted : Sorted (paReady s a).2
  rowner   : ∀ t ∈ (paReady s a).1, t.sender = a
  rfreeP   : ∀ t ∈ (paReady s a).1, ∀ p ∈ (s.pending a).items, p.nonce ≠ t.nonce
  rfreeQ   : ∀ t ∈ (paReady s a).1, ∀ q ∈ (paReady s a).2, q.nonce ≠ t.nonce

theorem paq (s : Pool) (a : Addr) (hw : Weak (s.pending a) (s.queue a) a) : PAQ s a := by
  obtain ⟨hq2sub, hq2s, hq2strict, hq2c, hq2pay⟩ :=
    forward_filter_kept (s.cnonce a) (s.balance a) s.maxGas hw.qsorted hw.qcaps
  have hrapp : (paReady s a).1 ++ (paReady s a).2 = (paQ2 s a).items := ready_append _ _
  have hsub1 : ∀ t ∈ (paReady s a).1, t ∈ (paQ2 s a).items := fun t ht => by rw [← hrapp]; exact List.mem_append_left _ ht
  obtain ⟨hs1, hs2, habove⟩ := sorted_append.mp (hrapp ▸ hq2s)
  exact { q2sub := hq2sub
          q2sorted := hq2s
          q2strict := hq2strict.trans hw.qstrict
          q2caps := hq2c
          q2pay := hq2pay
          rapp := hrapp
          rsub := hsub1
          rsorted := hs1
          restsub := fun t ht => by rw [← hrapp]; exact List.mem_append_right _ ht
          restsorted := hs2
          rowner := fun t ht => hw.qowner t (hq2sub t (hsub1 t ht)).1
          rfreeP := fun t ht p hp => hw.disj p hp t (hq2sub t (hsub1 t ht)).1
          rfreeQ := fun t ht q hq' => by have := habove t ht q hq'; omega }

theorem paS3_touch (s : Pool) (a : Addr) : Touch s a (paS3 s a) := Touch.setQ s a _ _

theorem paS3_queue (s : Pool) (a : Addr) : (paS3 s a).queue a = { paQ2 s a with items := (paReady s a).2 } := upd_same _ _ _
theorem paS3_pending (s : Pool) (a : Addr) : (paS3 s a).pending = s.pending := rfl
theorem paS3_accts (s : Pool) (a : Addr) : (paS3 s a).accts = s.accts := rfl

theorem paS3_weak {s : Pool} (a : Addr) (h : WeakAll s) : WeakAll (paS3 s a) := by
  have hq := paq s a (h.weak a)
  have hsub2 : ∀ t ∈ (paReady s a).2, t ∈ (s.queue a).items := fun t ht => (hq.q2sub t (hq.restsub t ht)).1
  refine h.touch_sub (paS3_touch s a) ?_ (fun t ht => ?_)
  · rw [paS3_queue, paS3_pending]
    exact (h.weak a).subQ (Q' := { paQ2 s a with items := (paReady s a).2 }) hq.q2strict hsub2 hq.restsorted
      (hq.q2caps.sub hq.restsub)
  · rw [paS3_queue, paS3_pending] at ht; exact ht.imp_right (hsub2 t)

theorem paS4_touch (s : Pool) (a : Addr) : Touch s a (paS4 s a) :=
  (paS3_touch s a).trans (promoteAll_facts _ _ _).touch

theorem paS4_weak {s : Pool} (a : Addr) (h : WeakAll s) : WeakAll (paS4 s a) := by
  have hq := paq s a (h.weak a)
  exact promoteAll_weak (paS3_weak a h) hq.rowner (by rw [paS3_queue]; exact hq.rfreeQ)

theorem paS4_queue (s : Pool) (a : Addr) : (paS4 s a).queue a = { paQ2 s a with items := (paReady s a).2 } := by
  rw [paS4, (promoteAll_facts _ _ _).queue, paS3_queue]

theorem paS5_touch (s : Pool) (a : Addr) : Touch s a (paS5 s a) := by
  unfold paS5; simp only; split
  · exact (paS4_touch s a).trans (Touch.setQ _ a _ _)
  · exact paS4_touch s a

theorem paS5_pending (s : Pool) (a : Addr) : (paS5 s a).pending = (paS4 s a).pending := by
  unfold paS5; simp only; split <;> rfl
theorem paS5_pnonce (s : Pool) (a : Addr) : (paS5 s a).pnonce = (paS4 s a).pnonce := by
  unfold paS5; simp only; split <;> rfl
theorem paS5_locals (s : Pool) (a : Addr) : (paS5 s a).locals = s.locals := (paS5_touch s a).locals

def paCap (s : Pool) (a : Addr) : Nat := if a ∈ s.locals then (paReady s a).2.length else s.cfg.accountQueue

theorem paCap_local {s : Pool} {a : Addr} (h : a ∈ s.locals) : paCap s a = (paReady s a).2.length := if_pos h

theorem paCap_nonlocal {s : Pool} {a : Addr} (h : a ∉ s.locals) : paCap s a = s.cfg.accountQueue := if_neg h

theorem paS5_cap (s : Pool) (a : Addr) :
    (paS5 s a).queue a = { paQ2 s a with items := (paReady s a).2.take (paCap s a) } ∧
    ∀ u, u ∈ (paS5 s a).all ↔ u ∈ (paS4 s a).all ∧ u ∉ (paReady s a).2.drop (paCap s a) := by
  have hloc : (paS4 s a).isLocal a = decide (a ∈ s.locals) := isLocal_congr (paS4_touch s a).locals a
  have hcfg : (paS4 s a).cfg = s.cfg := (paS4_touch s a).env.cfg
  unfold paS5 paCap
  simp only [hloc, hcfg, paS4_queue, capL]
  by_cases hl : a ∈ s.locals
  · simp [hl, paS4_queue]
  · simp [hl, List.mem_filter]

theorem promoteAcct_touch (s : Pool) (a : Addr) : Touch s a (s.promoteAcct a) :=
  (paS5_touch s a).trans (Touch.setQ _ a _ _)

-- stated on a variable: with `paS5 s a` in its place the unifier unfolds the stages before it reduces the projection
theorem setQ_pending (s : Pool) (a : Addr) (l : TxL) : (s.setQ a l).pending = s.pending ∧ (s.setQ a l).pnonce = s.pnonce :=
  ⟨rfl, rfl⟩

theorem promoteAcct_pending (s : Pool) (a : Addr) : (s.promoteAcct a).pending = (paS4 s a).pending := by
  rw [promoteAcct_eq, (setQ_pending _ _ _).1, paS5_pending]
theorem promoteAcct_pnonce (s : Pool) (a : Addr) : (s.promoteAcct a).pnonce = (paS4 s a).pnonce := by
  rw [promoteAcct_eq, (setQ_pending _ _ _).2, paS5_pnonce]
theorem promoteAcct_queue_items (s : Pool) (a : Addr) :
    ((s.promoteAcct a).queue a).items = ((paS5 s a).queue a).items := by
  rw [promoteAcct_eq]
  show (upd (paS5 s a).queue a (dropIfEmpty ((paS5 s a).queue a)) a).items = _
  rw [upd_same, dropIfEmpty_items]

structure PromoteExact (s : Pool) (a : Addr) : Prop where
  pmem   : ∀ u, u ∈ ((s.promoteAcct a).pending a).items ↔ u ∈ (paReady s a).1 ∨ u ∈ (s.pending a).items
  qitems : ((s.promoteAcct a).queue a).items = (paReady s a).2.take (paCap s a)
  pnonce : (s.promoteAcct a).pnonce a = match (paReady s a).1.getLast? with
             | some l => l.nonce + 1
             | none => s.pnonce a
  amem   : ∀ u, u ∈ (s.promoteAcct a).all ↔
             (u ∈ (paReady s a).1 ∨ (u ∈ s.all ∧ u ∉ (forward (s.cnonce a) (s.queue a).items).1 ∧
               u ∉ ((paQ1 s a).filter (s.balance a) s.maxGas).1)) ∧ u ∉ (paReady s a).2.drop (paCap s a)

theorem promote_exact {s : Pool} (a : Addr) (hw : Weak (s.pending a) (s.queue a) a) : PromoteExact s a := by
  have hq := paq s a hw
  obtain ⟨hp, hall, hn⟩ := promoteAll_free (s := paS3 s a) (a := a) hw.psorted hq.rsorted hq.rfreeP
  refine ⟨fun u => ?_, ?_, ?_, fun u => ?_⟩
  · rw [promoteAcct_pending]
    exact hp u
  · rw [promoteAcct_queue_items, (paS5_cap s a).1]
  · rw [promoteAcct_pnonce]
    exact hn
  · rw [show (s.promoteAcct a).all = (paS5 s a).all by rw [promoteAcct_eq]; rfl, (paS5_cap s a).2 u]
    refine and_congr_left fun _ => (hall u).trans (or_congr_right ?_)
    show u ∈ (s.all.filter _).filter _ ↔ _
    simp only [List.mem_filter, Bool.not_eq_true', decide_eq_false_iff_not, and_assoc]

theorem promoteAcct_weak_nonew {s : Pool} (a : Addr) (h : WeakAll s) :
    WeakAll (s.promoteAcct a) ∧ NoNew s (s.promoteAcct a) := by
  have hq := paq s a (h.weak a)
  have hx := promote_exact a (h.weak a)
  have hq5 := (paS5_cap s a).1
  have hw4 := (paS4_weak a h).weak a
  rw [paS4_queue] at hw4
  have hwq : Weak ((paS4 s a).pending a) ((paS5 s a).queue a) a := by
    rw [hq5]
    exact hw4.subQ hw4.qstrict (fun _ h => List.mem_of_mem_take h) (hw4.qsorted.take _)
      (hw4.qcaps.sub fun _ h => List.mem_of_mem_take h)
  have hsub : ∀ t, t ∈ ((s.promoteAcct a).pending a).items ∨ t ∈ ((s.promoteAcct a).queue a).items →
      t ∈ (s.pending a).items ∨ t ∈ (s.queue a).items := fun t ht => by
    rw [hx.pmem t, hx.qitems] at ht
    have hsub : ∀ u ∈ (paQ2 s a).items, u ∈ (s.queue a).items := fun u hu => (hq.q2sub u hu).1
    rcases ht with (ht | ht) | ht
    · exact Or.inr (hsub t (hq.rsub t ht))
    · exact Or.inl ht
    · exact Or.inr (hsub t (hq.restsub t (List.mem_of_mem_take ht)))
  refine ⟨h.touch_sub (promoteAcct_touch s a) ?_ hsub, NoNew.touch (promoteAcct_touch s a) hsub⟩
  rw [promoteAcct_pending, promoteAcct_eq, show (Pool.setQ _ a _).queue a = _ from upd_same _ _ _]
  exact hwq.dropIfEmptyQ

theorem promoteAcct_weak {s : Pool} (a : Addr) (h : WeakAll s) : WeakAll (s.promoteAcct a) := (promoteAcct_weak_nonew a h).1

theorem promoteAcct_nonew {s : Pool} (a : Addr) (h : WeakAll s) : NoNew s (s.promoteAcct a) := (promoteAcct_weak_nonew a h).2

theorem ready_cases (start : Nat) (l : List Tx) :
    (ready start l).1 = [] ∨ ∃ x xs, l = x :: xs ∧ x.nonce ≤ start ∧ x ∈ (ready start l).1 := by
  unfold ready
  cases l with
  | nil => left; rfl
  | cons x xs =>
    simp only
    split
    · left; rfl
    · rename_i h
      right
      exact ⟨x, xs, rfl, by omega, by simp [runFrom]⟩

theorem promoteAcct_lite {s : Pool} (a : Addr) (hw : WeakAll s) (h : LiteAll s) : LiteAll (s.promoteAcct a) := by
  have hq := paq s a (hw.weak a)
  have hx := promote_exact a (hw.weak a)
  apply h.touch (promoteAcct_touch s a)
  rw [hx.pnonce]
  rcases ready_cases (s.pnonce a) (paQ2 s a).items with he | ⟨x, xs, hl, hx', hxin⟩
  · rw [show (paReady s a).1 = [] from he]
    exact (h a).imp id fun ⟨e, hein, hen, hpay⟩ => ⟨e, (hx.pmem e).mpr (Or.inr hein), hen, hpay⟩
  · have hxq2 : x ∈ (paQ2 s a).items := by rw [hl]; exact List.mem_cons_self
    have hge := (hq.q2sub x hxq2).2
    right
    by_cases hc : x.nonce = s.cnonce a
    · exact ⟨x, (hx.pmem x).mpr (Or.inl hxin), hc, hq.q2pay x hxq2⟩
    · rcases h a with hle | ⟨e, hein, hen, hpay⟩
      · omega
      · exact ⟨e, (hx.pmem e).mpr (Or.inr hein), hen, hpay⟩

theorem promoteAcct_good {s : Pool} (a : Addr) (h : Good s) : Good (s.promoteAcct a) := by
  have hs := h.strong a
  have hwa := hs.toWeak
  have hq := paq s a hwa
  have hw' := promoteAcct_weak a h.weakAll
  have hpn := (promote_exact a hwa).pnonce
  have habove : ∀ t ∈ (paQ2 s a).items, s.cnonce a + (s.pending a).items.length ≤ t.nonce := by
    intro t ht
    have h1 := hq.q2sub t ht
    by_cases hc : t.nonce < s.cnonce a + (s.pending a).items.length
    · obtain ⟨p, hg⟩ := Option.isSome_iff_exists.mp (hs.run.getN_isSome h1.2 hc)
      exact absurd (getN_some hg).2 (hwa.disj p (getN_some hg).1 t h1.1)
    · omega
  have hrs := ready_run_above (start := s.pnonce a) hq.q2sorted (fun t ht => by have := habove t ht; have := hs.pn_le; omega)
  have hrun : IsRun (s.cnonce a + (s.pending a).items.length) (paReady s a).1 := by
    cases hr : (paReady s a).1 with
    | nil => trivial
    | cons x xs =>
      have h1 : IsRun (s.pnonce a) (x :: xs) := by rw [← hr]; exact hrs.1
      have hx := h1.1
      have := habove x (hq.rsub x (by rw [hr]; exact List.mem_cons_self))
      have := hs.pn_le
      rw [show s.cnonce a + (s.pending a).items.length = s.pnonce a by omega]
      exact h1
  have hitems : ((paS4 s a).pending a).items = (s.pending a).items ++ (paReady s a).1 :=
    promoteAll_run (s := paS3 s a) hs.run hrun
  apply h.touch (promoteAcct_touch s a) _ (hw'.2 a)
  exact { hw'.weak a with
    run := by rw [promoteAcct_pending, hitems]; exact hs.run.append hrun
    pn_le := by
      rw [promoteAcct_pending, hitems, hpn, List.length_append]
      cases hl : (paReady s a).1.getLast? with
      | none => simp only; have := hs.pn_le; omega
      | some l => simp only; have := hrun.nonce_getLast hl; omega
    afford := by
      rw [promoteAcct_pending, hitems]
      intro t ht
      rcases List.mem_append.mp ht with h1 | h1
      · exact hs.afford t h1
      · exact hq.q2pay t (hq.rsub t h1) }

/-! ## the stages of demoteAcct

  `dG`: what Filter returns on the forwarded pending list, `.1` the removed (unpayable), `.2.1` the invalidated (payable, above
  the lowest removed nonce), `.2.2` the kept list; `dKeep`: the length of the prefix the gap check keeps. -/

def dP1 (s : Pool) (a : Addr) : TxL := { s.pending a with items := (forward (s.cnonce a) (s.pending a).items).2 }
def dG (s : Pool) (a : Addr) : List Tx × List Tx × TxL := (dP1 s a).filter (s.balance a) s.maxGas
def dS3 (s : Pool) (a : Addr) : Pool :=
  ({ s with all := (s.all.filter (fun t => !decide (t ∈ (forward (s.cnonce a) (s.pending a).items).1))).filter
                    (fun t => !decide (t ∈ (dG s a).1)) } : Pool).setP a (dG s a).2.2
def dS4 (s : Pool) (a : Addr) : Pool := enqueueAll (dS3 s a) (dG s a).2.1
def dKeep (gapFix : Bool) (s : Pool) (a : Addr) : Nat :=
  let p := (dS4 s a).pending a
  if gapFix then (runFrom (s.cnonce a) p.items).1.length
  else if !p.items.isEmpty && (getN p.items (s.cnonce a)).isNone then 0 else p.items.length
def dS5 (gapFix : Bool) (s : Pool) (a : Addr) : Pool :=
  (dS4 s a).setP a { (dS4 s a).pending a with items := ((dS4 s a).pending a).items.take (dKeep gapFix s a) }
def dS6 (gapFix : Bool) (s : Pool) (a : Addr) : Pool :=
  enqueueAll (dS5 gapFix s a) (((dS4 s a).pending a).items.drop (dKeep gapFix s a))

theorem demoteAcct_eq (gapFix : Bool) (s : Pool) (a : Addr) :
    s.demoteAcct gapFix a = (dS6 gapFix s a).setP a (dropIfEmpty ((dS6 gapFix s a).pending a)) := rfl

structure DFacts (s : Pool) (a : Addr) : Prop where
  p2sub    : ∀ t ∈ (dG s a).2.2.items, t ∈ (s.pending a).items ∧ s.cnonce a ≤ t.nonce
  p2sorted : Sorted (dG s a).2.2.items
  p2strict : (dG s a).2.2.strict = true
  p2caps   : CapsOK (dG s a).2.2
  p2pay    : ∀ t ∈ (dG s a).2.2.items, Payable (s.balance a) s.maxGas t
  invsub   : ∀ t ∈ (dG s a).2.1, t ∈ (s.pending a).items
  invabove : ∀ t ∈ (dG s a).2.1, ∀ u ∈ (dG s a).2.2.items, u.nonce < t.nonce
  invsorted : Sorted (dG s a).2.1
  keepslow : ∀ e ∈ (s.pending a).items, e.nonce = s.cnonce a → Payable (s.balance a) s.maxGas e → e ∈ (dG s a).2.2.items

theorem dfacts (s : Pool) (a : Addr) (hw : Weak (s.pending a) (s.queue a) a) : DFacts s a := by
  obtain ⟨hp2sub, hp2s, hp2strict, hp2c, hp2pay⟩ :=
    forward_filter_kept (s.cnonce a) (s.balance a) s.maxGas hw.psorted hw.pcaps
  have hp1s : Sorted (dP1 s a).items := hw.psorted.filter _
  have hfs := TxL.filter_spec (dP1 s a) (s.balance a) s.maxGas
  exact { p2sub := hp2sub
          p2sorted := hp2s
          p2strict := hp2strict.trans hw.pstrict
          p2caps := hp2c
          p2pay := hp2pay
          invsub := fun t ht => (mem_forward_snd.mp (hfs.inv_sub t ht)).1
          invabove := hfs.inv_above hp1s
          invsorted := hfs.inv_sorted hp1s
          keepslow := fun e he hen hpay => by
            have he1 : e ∈ (dP1 s a).items := mem_forward_snd.mpr ⟨he, Nat.le_of_eq hen.symm⟩
            rcases hfs.cover e he1 with h | h | h
            · exact h
            · have := hfs.rem_unpay e h
              have hp := unpayable_false.mpr hpay
              rw [hp] at this; cases this
            · obtain ⟨u, hu, hlt⟩ := hfs.inv_low e h
              have := (mem_forward_snd.mp (hfs.rem_sub u hu)).2
              omega }

theorem dS3_touch (s : Pool) (a : Addr) : Touch s a (dS3 s a) := Touch.setP s a _ _

theorem dS3_pending (s : Pool) (a : Addr) : (dS3 s a).pending a = (dG s a).2.2 := upd_same _ _ _

theorem dS3_weak {s : Pool} (a : Addr) (h : WeakAll s) : WeakAll (dS3 s a) := by
  have hd := dfacts s a (h.weak a)
  have hsub : ∀ t ∈ (dG s a).2.2.items, t ∈ (s.pending a).items := fun t ht => (hd.p2sub t ht).1
  refine h.touch_sub (dS3_touch s a) ?_ (fun t ht => ?_)
  · rw [dS3_pending]; exact (h.weak a).subP hd.p2strict hsub hd.p2sorted hd.p2caps
  · rw [dS3_pending] at ht; exact ht.imp_left (hsub t)

theorem dS4_pending {s : Pool} (a : Addr) (h : WeakAll s) : (dS4 s a).pending a = (dG s a).2.2 := by
  have hown : ∀ u ∈ (dG s a).2.1, u.sender = a := fun u hu => (h.weak a).powner u ((dfacts s a (h.weak a)).invsub u hu)
  rw [dS4, (enqueueAll_facts (dS3 s a) a _ hown).pending, dS3_pending]

theorem dS4_facts {s : Pool} (a : Addr) (h : WeakAll s) :
    WeakAll (dS4 s a) ∧ Touch s a (dS4 s a) ∧ (dS4 s a).pnonce = s.pnonce ∧
    (∀ x, x ∈ ((dS4 s a).queue a).items ↔ x ∈ (dG s a).2.1 ∨ x ∈ (s.queue a).items) ∧
    (∀ x, x ∈ (dS4 s a).all ↔ x ∈ (dG s a).2.1 ∨ x ∈ (dS3 s a).all) := by
  have hwa := h.weak a
  have hd := dfacts s a hwa
  have hown : ∀ u ∈ (dG s a).2.1, u.sender = a := fun u hu => hwa.powner u (hd.invsub u hu)
  have hf := enqueueAll_facts (dS3 s a) a (dG s a).2.1 hown
  obtain ⟨hw, hq, hall⟩ := enqueueAll_spec (dS3_weak a h) hd.invsorted hown
    (fun u hu p hp => by
      rw [dS3_pending] at hp
      have := hd.invabove u hu p hp
      omega)
    (fun u hu q hq => (hwa.disj u (hd.invsub u hu) q hq).symm)
  exact ⟨hw, (dS3_touch s a).trans hf.touch, by rw [dS4, hf.pnonce]; rfl, hq, hall⟩

/-- at HEAD the gap check keeps the run from the chain nonce -/
theorem dKeep_true {s : Pool} (a : Addr) (h : WeakAll s) :
    dKeep true s a = (runFrom (s.cnonce a) (dG s a).2.2.items).1.length := by
  rw [dKeep, dS4_pending a h]; rfl

/-- before c2af732: nothing when the chain nonce is missing from a non-empty list, else everything -/
theorem dKeep_false {s : Pool} (a : Addr) (h : WeakAll s) :
    dKeep false s a = if (!(dG s a).2.2.items.isEmpty && (getN (dG s a).2.2.items (s.cnonce a)).isNone) = true then 0
      else (dG s a).2.2.items.length := by
  rw [dKeep, dS4_pending a h]; rfl

theorem dS5_pending (g : Bool) (s : Pool) (a : Addr) :
    (dS5 g s a).pending a = { (dS4 s a).pending a with items := ((dS4 s a).pending a).items.take (dKeep g s a) } := upd_same _ _ _

theorem dS5_touch (g : Bool) (s : Pool) (a : Addr) : Touch (dS4 s a) a (dS5 g s a) := Touch.setP _ a _ _

structure DemoteFacts (g : Bool) (s : Pool) (a : Addr) (s' : Pool) : Prop where
  weak   : WeakAll s'
  touch  : Touch s a s'
  pnonce : s'.pnonce = s.pnonce
  items  : (s'.pending a).items = (dG s a).2.2.items.take (dKeep g s a)

structure DemoteExact (g : Bool) (s : Pool) (a : Addr) : Prop where
  pitems : ((s.demoteAcct g a).pending a).items = (dG s a).2.2.items.take (dKeep g s a)
  qmem   : ∀ x, x ∈ ((s.demoteAcct g a).queue a).items ↔
             x ∈ (dG s a).2.2.items.drop (dKeep g s a) ∨ x ∈ (dG s a).2.1 ∨ x ∈ (s.queue a).items
  amem   : ∀ x, x ∈ (s.demoteAcct g a).all ↔
             x ∈ (dG s a).2.2.items.drop (dKeep g s a) ∨ x ∈ (dG s a).2.1 ∨
             (x ∈ s.all ∧ x ∉ (forward (s.cnonce a) (s.pending a).items).1 ∧ x ∉ (dG s a).1)

theorem demoteAcct_spec (g : Bool) {s : Pool} (a : Addr) (h : WeakAll s) :
    DemoteFacts g s a (s.demoteAcct g a) ∧ DemoteExact g s a := by
  obtain ⟨hw4, ht4, hn4, hq4, hall4⟩ := dS4_facts a h
  have hp4 := dS4_pending a h
  have hw4a := hw4.weak a
  have hsub5 : ∀ t ∈ ((dS4 s a).pending a).items.take (dKeep g s a), t ∈ ((dS4 s a).pending a).items :=
    fun t ht => List.mem_of_mem_take ht
  have hw5 : WeakAll (dS5 g s a) := by
    refine hw4.touch_sub (dS5_touch g s a) ?_ (fun t ht => ?_)
    · rw [dS5_pending]
      exact hw4a.subP hw4a.pstrict hsub5 (hw4a.psorted.take _) (hw4a.pcaps.sub hsub5)
    · rw [dS5_pending] at ht; exact ht.imp_left (hsub5 t)
  have hown : ∀ u ∈ ((dS4 s a).pending a).items.drop (dKeep g s a), u.sender = a :=
    fun u hu => hw4a.powner u (List.mem_of_mem_drop hu)
  have hf6 := enqueueAll_facts (dS5 g s a) a _ hown
  obtain ⟨hw6, hq6, hall6⟩ := enqueueAll_spec hw5 (hw4a.psorted.drop _) hown
    (fun u hu p hp => by
      rw [dS5_pending] at hp
      have := hw4a.psorted.take_lt_drop _ p hp u hu
      omega)
    (fun u hu q hq => (hw4a.disj u (List.mem_of_mem_drop hu) q hq).symm)
  have hall3 : ∀ u, u ∈ (dS3 s a).all ↔ u ∈ s.all ∧ u ∉ (forward (s.cnonce a) (s.pending a).items).1 ∧ u ∉ (dG s a).1 :=
    fun u => by
      show u ∈ (s.all.filter _).filter _ ↔ _
      simp only [List.mem_filter, Bool.not_eq_true', decide_eq_false_iff_not, and_assoc]
  have htl := Touch.setP (dS6 g s a) a (dropIfEmpty ((dS6 g s a).pending a)) (dS6 g s a).all
  have hfin : ((dS6 g s a).setP a (dropIfEmpty ((dS6 g s a).pending a))).pending a = dropIfEmpty ((dS6 g s a).pending a) :=
    upd_same _ _ _
  have hitems : (((dS6 g s a).setP a (dropIfEmpty ((dS6 g s a).pending a))).pending a).items =
      (dG s a).2.2.items.take (dKeep g s a) := by
    rw [hfin, dropIfEmpty_items, dS6, hf6.pending, dS5_pending, hp4]
  refine ⟨?_, ?_, fun x => ?_, fun x => ?_⟩ <;> rw [demoteAcct_eq]
  · refine { weak := ?_, touch := ((ht4.trans (dS5_touch g s a)).trans hf6.touch).trans htl, pnonce := ?_, items := hitems }
    · refine hw6.touch_sub htl ?_ (fun t ht => ?_)
      · rw [hfin]; exact (hw6.weak a).dropIfEmptyP
      · rw [hfin, dropIfEmpty_items] at ht; exact ht
    · show (dS6 g s a).pnonce = s.pnonce
      rw [dS6, hf6.pnonce]
      exact hn4
  · exact hitems
  · rw [← hp4]; exact (hq6 x).trans (or_congr_right (hq4 x))
  · rw [← hp4]; exact (hall6 x).trans (or_congr_right ((hall4 x).trans (or_congr_right (hall3 x))))

theorem demoteAcct_facts (g : Bool) {s : Pool} (a : Addr) (h : WeakAll s) : DemoteFacts g s a (s.demoteAcct g a) :=
  (demoteAcct_spec g a h).1

theorem demote_exact (g : Bool) {s : Pool} (a : Addr) (h : WeakAll s) : DemoteExact g s a := (demoteAcct_spec g a h).2

theorem demoteAcct_phase (g : Bool) {s : Pool} (a : Addr) (h : Phase s) : Phase (s.demoteAcct g a) := by
  have hf := demoteAcct_facts g a h.1
  have hd := dfacts s a (h.1.weak a)
  refine ⟨hf.weak, h.2.touch hf.touch ?_⟩
  rw [hf.pnonce]
  rcases h.2 a with hl | ⟨e, he, hen, hpay⟩
  · exact Or.inl hl
  · right
    have he2 := hd.keepslow e he hen hpay
    refine ⟨e, ?_, hen, hpay⟩
    rw [hf.items]
    -- e is the lowest entry and sits at the chain nonce: both variants keep it
    have hge : ∀ t ∈ (dG s a).2.2.items, s.cnonce a ≤ t.nonce := fun t ht => (hd.p2sub t ht).2
    cases g with
    | true =>
      rw [dKeep_true a h.1, take_runFrom]
      exact mem_runFrom_head hd.p2sorted hge he2 hen
    | false =>
      have hsome : (getN (dG s a).2.2.items (s.cnonce a)).isNone = false := by
        have := getN_of_mem hd.p2sorted he2
        rw [hen] at this; rw [this]; rfl
      rw [dKeep_false a h.1, hsome, Bool.and_false, if_neg Bool.false_ne_true, List.take_length]
      exact he2

/-- what demotion with `gapFix = true` leaves -/
def RunPay (s : Pool) (b : Addr) : Prop :=
  IsRun (s.cnonce b) (s.pending b).items ∧ ∀ t ∈ (s.pending b).items, Payable (s.balance b) s.maxGas t

theorem RunPay.touch {s s' : Pool} {a b : Addr} (ht : Touch s a s') (hb : b ≠ a) (h : RunPay s b) : RunPay s' b := by
  unfold RunPay at h ⊢
  rw [ht.env.cnonce, ht.env.balance, ht.env.maxGas, ht.pother b hb]; exact h

theorem demoteAcct_runpay {s : Pool} (a : Addr) (h : WeakAll s) : RunPay (s.demoteAcct true a) a := by
  have hf := demoteAcct_facts true a h
  have hd := dfacts s a (h.weak a)
  have hitems : ((s.demoteAcct true a).pending a).items = (runFrom (s.cnonce a) (dG s a).2.2.items).1 := by
    rw [hf.items, dKeep_true a h]; exact take_runFrom _ _
  unfold RunPay
  rw [hf.touch.env.cnonce, hf.touch.env.balance, hf.touch.env.maxGas, hitems]
  refine ⟨runFrom_isRun _ _, fun t ht => hd.p2pay t ?_⟩
  have := runFrom_append (s.cnonce a) (dG s a).2.2.items
  rw [← this]; exact List.mem_append_left _ ht

theorem demoteAll_spec : ∀ (l : List Addr) (s : Pool), Phase s →
    Phase (l.foldl (fun s a => s.demoteAcct true a) s) ∧
    (∀ b, (b ∈ l ∨ RunPay s b) → RunPay (l.foldl (fun s a => s.demoteAcct true a) s) b) ∧
    (l.foldl (fun s a => s.demoteAcct true a) s).pnonce = s.pnonce ∧
    SameEnv s (l.foldl (fun s a => s.demoteAcct true a) s) ∧
    (∀ b, b ∉ l → (l.foldl (fun s a => s.demoteAcct true a) s).pending b = s.pending b) := by
  intro l
  induction l with
  | nil =>
    intro s h
    exact ⟨h, fun b hb => hb.resolve_left nofun, rfl, SameEnv.refl s, fun _ _ => rfl⟩
  | cons a rest ih =>
    intro s h
    have hf := demoteAcct_facts true a h.1
    obtain ⟨ih1, ih2, ih3, ih4, ih5⟩ := ih (s.demoteAcct true a) (demoteAcct_phase true a h)
    rw [List.foldl_cons]
    refine ⟨ih1, fun b hb => ih2 b ?_, ih3.trans hf.pnonce, hf.touch.env.trans ih4, fun b hb => ?_⟩
    · by_cases hba : b = a
      · subst hba
        exact Or.inr (demoteAcct_runpay b h.1)
      · exact hb.imp (fun hb => (List.mem_cons.mp hb).resolve_left hba) (fun hb => hb.touch hf.touch hba)
    · -- `b` is neither `a` nor among the rest
      have hba : b ≠ a := fun e => hb (e ▸ List.mem_cons_self)
      rw [ih5 b (fun hc => hb (List.mem_cons_of_mem _ hc)), hf.touch.pother b hba]

theorem dKeep_agree {s : Pool} (a : Addr) (h : WeakAll s) {c : Nat} (hc : IsRun c (s.pending a).items) :
    dKeep false s a = dKeep true s a := by
  have hwa := h.weak a
  have hfs := TxL.filter_spec (dP1 s a) (s.balance a) s.maxGas
  have hrun : IsRun (max c (s.cnonce a)) (dG s a).2.2.items := by
    apply hfs.run (by show (s.pending a).strict = true; exact hwa.pstrict)
    exact hc.filter_ge (s.cnonce a)
  rw [dKeep_true a h, dKeep_false a h]
  cases hl : (dG s a).2.2.items with
  | nil => simp [runFrom]
  | cons x xs =>
    rw [hl] at hrun
    have hx := hrun.1
    by_cases hm : x.nonce = s.cnonce a
    · have hr : IsRun (s.cnonce a) (x :: xs) := by rw [← hm, hx]; exact hrun
      rw [runFrom_of_isRun hr]
      simp [getN, hm]
    · have hnone : getN (x :: xs) (s.cnonce a) = none := by
        apply getN_none.mpr
        intro t ht
        have := (hrun.bounds t ht).1
        omega
      simp [hnone, runFrom, hm]

theorem demoteAcct_agree {s : Pool} (a : Addr) (h : WeakAll s) {c : Nat} (hc : IsRun c (s.pending a).items) :
    s.demoteAcct false a = s.demoteAcct true a := by
  rw [demoteAcct_eq, demoteAcct_eq]
  unfold dS6 dS5
  rw [dKeep_agree a h hc]

def NoHole (s : Pool) : Prop := ∀ a, ∃ c, IsRun c (s.pending a).items

theorem demoteAll_agree : ∀ (l : List Addr) (s : Pool), Phase s → NoHole s →
    l.foldl (fun s a => s.demoteAcct false a) s = l.foldl (fun s a => s.demoteAcct true a) s := by
  intro l
  induction l with
  | nil => intro s _ _; rw [List.foldl_nil, List.foldl_nil]
  | cons a rest ih =>
    intro s h hn
    simp only [List.foldl_cons]
    obtain ⟨c, hc⟩ := hn a
    rw [demoteAcct_agree a h.1 hc]
    apply ih _ (demoteAcct_phase true a h)
    intro b
    by_cases hb : b = a
    · subst hb; exact ⟨_, (demoteAcct_runpay b h.1).1⟩
    · obtain ⟨cb, hcb⟩ := hn b
      have := (demoteAcct_facts true a h.1).touch.pother b hb
      exact ⟨cb, by rw [this]; exact hcb⟩

end Aqv.TxPool
