/- C07: arithmetic of the gas / memory model of Model.Vm: memory fee accounting, lower bounds of every gas function, shape of
  the CALL-family gas functions (63/64 rule). -/
import Aqv.Model.Vm
namespace Aqv.Vm
open Aqv.Gen.VmFlags

theorem memFee_mono {a b : Nat} (h : a ≤ b) : memFee a ≤ memFee b := by
  unfold memFee
  exact Nat.add_le_add (Nat.mul_le_mul_right _ h) (Nat.div_le_div_right (Nat.mul_le_mul h h))

/-- 0x7ffffffff = 0xffffffffe0 / 32, the cap in `memoryGasCost` -/
theorem memFee_lt {w : Nat} (h : w ≤ 0x7ffffffff) : memFee w < two64 := by
  have h2 : w * w ≤ 0x7ffffffff * 0x7ffffffff := Nat.mul_le_mul h h
  have h3 : w * w / 512 ≤ 0x7ffffffff * 0x7ffffffff / 512 := Nat.div_le_div_right h2
  unfold memFee two64 memoryGas quadCoeffDiv
  omega

theorem memFee_zero : memFee 0 = 0 := by decide

def MemInv (m : Mem) : Prop := m.len % 32 = 0 ∧ m.lastGasCost = memFee (m.len / 32) ∧ m.len < two64

theorem MemInv.empty : MemInv ⟨0, 0⟩ := ⟨rfl, by simp [memFee_zero], by decide⟩

theorem memorySizeOf_ok {req : Option Nat} {ms : Nat} (h : memorySizeOf req = .ok ms) :
    ms % 32 = 0 ∧ ms < two64 ∧ ∀ m, req = some m → m ≤ ms := by
  unfold memorySizeOf at h
  split at h
  · cases h; exact ⟨rfl, by decide, nofun⟩
  · next m =>
    split at h
    · cases h
    · split at h
      · cases h
      · cases h
        refine ⟨by omega, by omega, fun _ hm => ?_⟩
        cases hm
        unfold toWordSize two64 at *
        split <;> omega

theorem memorySizeOf_none : memorySizeOf none = .ok 0 := rfl

theorem memReq_none (a : List Nat) : memReq .none a = none := rfl

theorem memoryGasCost_some_bound {m : Mem} {ms : Nat} {x : Nat × Mem} (h : memoryGasCost m ms = some x) : ms ≤ 0xffffffffe0 := by
  unfold memoryGasCost at h
  split at h
  · omega
  · split at h
    · cases h
    · omega

theorem memoryGasCost_eq (m : Mem) {ms : Nat} (h : ms ≤ 0xffffffffe0) :
    memoryGasCost m ms = some (if m.len < (ms + 31) / 32 * 32
      then ((memFee ((ms + 31) / 32) + two64 - m.lastGasCost) % two64, { m with lastGasCost := memFee ((ms + 31) / 32) })
      else (0, m)) := by
  have hw : toWordSize ms = (ms + 31) / 32 := by
    unfold toWordSize two64
    split <;> omega
  unfold memoryGasCost
  rw [if_neg (Nat.not_lt.2 h), hw]
  by_cases h0 : ms = 0
  · subst h0; exact (if_pos rfl).trans (congrArg some (if_neg (Nat.not_lt_zero _)).symm)
  · rw [if_neg h0]
    simp only []
    split <;> rfl

/-- under `MemInv` the charge is the difference of the two total fees: Go's unchecked uint64 subtraction of `lastGasCost` does not
    wrap -/
theorem memoryGasCost_spec {m : Mem} {ms fee : Nat} {m' : Mem} (hm : MemInv m) (hms : ms % 32 = 0)
    (h : memoryGasCost m ms = some (fee, m')) :
    m'.len = m.len ∧ m'.lastGasCost = memFee (max m.len ms / 32) ∧ m'.lastGasCost = m.lastGasCost + fee := by
  obtain ⟨ha, hl, hb⟩ := hm
  have hle := memoryGasCost_some_bound h
  rw [memoryGasCost_eq m hle, (by omega : (ms + 31) / 32 = ms / 32)] at h
  split at h <;> cases h
  · have hmono : memFee (m.len / 32) ≤ memFee (ms / 32) := memFee_mono (by omega)
    have hlt : memFee (ms / 32) < two64 := memFee_lt (by omega)
    refine ⟨rfl, by rw [Nat.max_eq_right (by omega)], ?_⟩
    simp only
    rw [hl]
    unfold two64 at hlt ⊢
    omega
  · exact ⟨rfl, by rw [Nat.max_eq_left (by omega), hl], rfl⟩

theorem safeAdd_some {a b c : Nat} (h : safeAdd a b = some c) : c = a + b ∧ c < two64 := by
  unfold safeAdd at h
  split at h
  · cases h
  · cases h; constructor <;> omega

theorem safeMul_some {a b c : Nat} (h : safeMul a b = some c) : c = a * b := by
  unfold safeMul at h
  split at h
  · cases h
  · cases h; rfl

def ChargesMem (m : Mem) (ms : Nat) (out : GasOut) : Prop :=
  ∃ fee, memoryGasCost m ms = some (fee, out.mem) ∧ fee ≤ out.cost

theorem gasCopyLike_spec {m : Mem} {ms base len perWord : Nat} {out : GasOut}
    (h : gasCopyLike m ms base len perWord = some out) : ChargesMem m ms out ∧ base ≤ out.cost ∧ out.callGasTemp = 0 := by
  unfold gasCopyLike at h
  split at h
  · cases h
  · next g m' hmg =>
    split at h
    · cases h
    · next g1 h1 =>
      split at h
      · cases h
      · split at h
        · cases h
        · next w hw =>
          split at h
          · cases h
          · next g2 h2 =>
            cases h
            have := safeAdd_some h1
            have := safeAdd_some h2
            exact ⟨⟨g, hmg, by simp; omega⟩, by simp; omega, rfl⟩

theorem gasMemPlus_spec {m : Mem} {ms base : Nat} {out : GasOut}
    (h : gasMemPlus m ms base = some out) : ChargesMem m ms out ∧ base ≤ out.cost ∧ out.callGasTemp = 0 := by
  unfold gasMemPlus at h
  split at h
  · cases h
  · next g m' hmg =>
    split at h
    · cases h
    · next g1 h1 =>
      cases h
      have := safeAdd_some h1
      exact ⟨⟨g, hmg, by simp; omega⟩, by simp; omega, rfl⟩

theorem callGas_le {gt : GasTable} {avail base cc tmp : Nat} (hcb : gt.createBySuicide > 0) (hav : avail < two64)
    (hb : base ≤ avail) (h : callGas gt avail base cc = some tmp) : tmp ≤ (avail - base) - (avail - base) / 64 := by
  unfold callGas at h
  simp only [hcb, if_true] at h
  have hav' : (avail + two64 - base) % two64 = avail - base := by unfold two64 at *; omega
  rw [hav'] at h
  split at h
  · cases h; exact Nat.le_refl _
  · next hc =>
    cases h
    simp only [Bool.or_eq_true, decide_eq_true_eq, not_or] at hc
    omega

theorem gasCallTail_spec {gt : GasTable} {cg base cc : Nat} {m' : Mem} {out : GasOut}
    (h : gasCallTail gt cg base cc m' = some out) :
    out.mem = m' ∧ out.cost = base + out.callGasTemp ∧ callGas gt cg base cc = some out.callGasTemp := by
  unfold gasCallTail at h
  split at h
  · cases h
  · next tmp ht =>
    split at h
    · cases h
    · next g hg =>
      cases h
      have := safeAdd_some hg
      exact ⟨rfl, by simp; omega, by simpa using ht⟩

def gasFloor (gt : GasTable) (f : OpF) : Nat :=
  match f.gasFn with
  | .constGasFunc => f.constGas
  | .gasPush => f.constGas
  | .gasSwap => f.constGas
  | .gasDup => f.constGas
  | .gasCallDataCopy => gasFastestStep
  | .gasReturnDataCopy => gasFastestStep
  | .gasCodeCopy => gasFastestStep
  | .gasExtCodeCopy => gt.extcodeCopy
  | .gasSha3 => sha3Gas
  | .gasSStore => min sstoreSetGas (min sstoreClearGas sstoreResetGas)
  | .makeGasLog => logGas
  | .gasMLoad => gasFastestStep
  | .gasMStore8 => gasFastestStep
  | .gasMStore => gasFastestStep
  | .gasCreate => createGas
  | .gasBalance => gt.balance
  | .gasExtCodeSize => gt.extcodeSize
  | .gasSLoad => gt.sLoad
  | .gasExp => gasSlowStep
  | .gasCall => gt.calls
  | .gasCallCode => gt.calls
  | .gasDelegateCall => gt.calls
  | .gasStaticCall => gt.calls
  | .gasReturn => 0
  | .gasRevert => 0
  | .gasSuicide => 0

/-- all other gas functions must belong to opcodes without a memorySize function -/
def gasChargesMem : GasFn → Bool
  | .gasCallDataCopy => true
  | .gasReturnDataCopy => true
  | .gasCodeCopy => true
  | .gasExtCodeCopy => true
  | .gasSha3 => true
  | .makeGasLog => true
  | .gasMLoad => true
  | .gasMStore8 => true
  | .gasMStore => true
  | .gasCreate => true
  | .gasCall => true
  | .gasCallCode => true
  | .gasDelegateCall => true
  | .gasStaticCall => true
  | .gasReturn => true
  | .gasRevert => true
  | _ => false

/-- the table pairs it with `execKind` -/
def gasKind : GasFn → Option CallKind
  | .gasCall => some .call
  | .gasCallCode => some .callcode
  | .gasDelegateCall => some .delegate
  | .gasStaticCall => some .static
  | _ => none

theorem gasCallFamily_spec {gt : GasTable} {cg cc lo : Nat} {m : Mem} {ms : Nat} {s : Nat → Option Nat} {out : GasOut}
    (hs : ∀ mg base, s mg = some base → lo + mg ≤ base)
    (h : (match memoryGasCost m ms with
          | none => none
          | some (mg, m') => match s mg with
            | none => none
            | some base => gasCallTail gt cg base cc m') = some out) :
    ∃ fee base, memoryGasCost m ms = some (fee, out.mem) ∧ out.cost = base + out.callGasTemp ∧ lo + fee ≤ base ∧
      callGas gt cg base cc = some out.callGasTemp := by
  split at h
  · cases h
  · next mg m' hmg =>
    split at h
    · cases h
    · next base hb =>
      obtain ⟨hm', hc, hcg⟩ := gasCallTail_spec h
      exact ⟨mg, base, hm' ▸ hmg, hc, hs mg base hb, hcg⟩

variable {W : Type}

def CallCharge (env : Env) (i : StepIn W) (cg : Nat) (m : Mem) (ms : Nat) (out : GasOut) (k : CallKind) : Prop :=
  ∃ fee base, memoryGasCost m ms = some (fee, out.mem) ∧ out.cost = base + out.callGasTemp ∧
    env.gt.calls + (if ((k == .call || k == .callcode) && back i.args 2 != 0) = true then callValueTransferGas else 0) + fee ≤ base ∧
    callGas env.gt cg base (back i.args 0) = some out.callGasTemp

theorem gasCost_spec {env : Env} {f : OpF} {i : StepIn W} {cg : Nat} {m : Mem} {ms : Nat} {out : GasOut}
    (h : gasCost env f i cg m ms = some out) :
    gasFloor env.gt f ≤ out.cost ∧
    (gasChargesMem f.gasFn = true → ChargesMem m ms out) ∧
    (gasChargesMem f.gasFn = false → out.mem = m) ∧
    (gasKind f.gasFn = none → out.callGasTemp = 0) ∧
    (∀ k, gasKind f.gasFn = some k → CallCharge env i cg m ms out k) := by
  -- for a CALL-family function the last clause gives the first two
  have call (k0 : CallKind) (hc : CallCharge env i cg m ms out k0) :
      env.gt.calls ≤ out.cost ∧ (True → ChargesMem m ms out) ∧ (true = false → out.mem = m) ∧
      (some k0 = none → out.callGasTemp = 0) ∧ ∀ k, some k0 = some k → CallCharge env i cg m ms out k := by
    have ⟨fee, base, hmg, hcost, hb, _⟩ := hc
    exact ⟨by omega, fun _ => ⟨fee, hmg, by omega⟩, nofun, nofun, fun k hk => by cases hk; exact hc⟩
  -- CALL and CALLCODE: a value adds CallValueTransferGas to the base `g1`
  have value {g1 mg base : Nat} (hg1 : env.gt.calls ≤ g1)
      (hb : safeAdd (if back i.args 2 ≠ 0 then g1 + callValueTransferGas else g1) mg = some base) :
      env.gt.calls + (if back i.args 2 ≠ 0 then callValueTransferGas else 0) + mg ≤ base := by
    have hbase := (safeAdd_some hb).1
    by_cases hv : back i.args 2 ≠ 0
    · rw [if_pos hv] at hbase ⊢; omega
    · rw [if_neg hv] at hbase ⊢; omega
  unfold gasCost at h
  cases hg : f.gasFn <;> simp only [hg] at h <;> simp only [gasFloor, gasChargesMem, gasKind, hg]
  case constGasFunc | gasPush | gasSwap | gasDup | gasBalance | gasExtCodeSize | gasSLoad =>
    cases h; exact ⟨Nat.le_refl _, nofun, fun _ => rfl, fun _ => rfl, nofun⟩
  case gasCallDataCopy | gasReturnDataCopy | gasCodeCopy | gasExtCodeCopy | gasSha3 =>
    have ⟨hc, hb, ht⟩ := gasCopyLike_spec h; exact ⟨hb, fun _ => hc, nofun, fun _ => ht, nofun⟩
  case gasMLoad | gasMStore8 | gasMStore | gasCreate =>
    have ⟨hc, hb, ht⟩ := gasMemPlus_spec h; exact ⟨hb, fun _ => hc, nofun, fun _ => ht, nofun⟩
  case gasSStore =>
    split at h
    · cases h; exact ⟨by simp; omega, nofun, fun _ => rfl, fun _ => rfl, nofun⟩
    · split at h <;> (cases h; exact ⟨by simp; omega, nofun, fun _ => rfl, fun _ => rfl, nofun⟩)
  case gasExp =>
    split at h
    · cases h
    · next g hgg => cases h; exact ⟨by have := safeAdd_some hgg; simp; omega, nofun, fun _ => rfl, fun _ => rfl, nofun⟩
  case gasSuicide => split at h <;> (cases h; exact ⟨Nat.zero_le _, nofun, fun _ => rfl, fun _ => rfl, nofun⟩)
  case gasReturn | gasRevert =>
    split at h
    · cases h
    · next g m' hmg => cases h; exact ⟨Nat.zero_le _, fun _ => ⟨g, hmg, Nat.le_refl _⟩, nofun, fun _ => rfl, nofun⟩
  case makeGasLog =>
    split at h
    · cases h
    · split at h
      · cases h
      · next g m' hmg =>
        split at h
        · cases h
        · next g1 h1 =>
          split at h
          · cases h
          · next g2 h2 =>
            split at h
            · cases h
            · next d hd =>
              split at h
              · cases h
              · next g3 h3 =>
                cases h
                have := safeAdd_some h1
                have := safeAdd_some h2
                have := safeAdd_some h3
                exact ⟨by simp; omega, fun _ => ⟨g, hmg, by simp; omega⟩, nofun, fun _ => rfl, nofun⟩
  case gasCall =>
    refine call _ (gasCallFamily_spec (fun mg base hb => ?_) h)
    -- g1: gt.Calls plus the new-account surcharge, decided differently before and after EIP158
    generalize hg1 : (if env.eip158 = true then _ else _) = g1 at hb
    simpa using value (by rw [← hg1]; split <;> split <;> omega) hb
  case gasCallCode => exact call _ (gasCallFamily_spec (fun mg base hb => by simpa using value (Nat.le_refl _) hb) h)
  case gasDelegateCall | gasStaticCall =>
    exact call _ (gasCallFamily_spec (fun mg base hb => by have := (safeAdd_some hb).1; simp; omega) h)

theorem gasCost_floor {env : Env} {f : OpF} {i : StepIn W} {cg : Nat} {m : Mem} {ms : Nat} {out : GasOut}
    (h : gasCost env f i cg m ms = some out) : gasFloor env.gt f ≤ out.cost := (gasCost_spec h).1

theorem gasCost_call {env : Env} {f : OpF} {i : StepIn W} {cg : Nat} {m : Mem} {ms : Nat} {out : GasOut}
    (h : gasCost env f i cg m ms = some out) {k : CallKind} (hk : gasKind f.gasFn = some k) : CallCharge env i cg m ms out k :=
  (gasCost_spec h).2.2.2.2 k hk

end Aqv.Vm
