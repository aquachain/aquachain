/-
  Aqv.Lemmas.ChainRewind — `init`, `Stop` + reopen and `SetHead(n)`.  The last two are proved for `GInvC` (any `n`, also onto
  a block whose state is gone: the block head then falls back and lags behind the header head); `Inv` is kept when the block
  the rewind lands on still has its state.
-/
import Aqv.Lemmas.ChainOps
namespace Aqv.Chain

theorem invC_init {U : Map Blk} (g : Blk) (archive : Bool) (hgU : U g.id = some g) (hg0 : g.number = 0)
    (hgt : g.txs = []) : InvC U (init g archive) g [] := by
  refine
    { sub := ?_, headStored := by simp [init], path := .nil _, canon := ?_, lookup := ?_, canonSeen := ?_,
      seenClosed := ?_, stateSeen := fun _ hk => hk, diskState := fun _ hk => hk, seenRcpt := fun _ hk => hk,
      tdIntr := tdIntr_init hgU, storeTd := ?_, hheadEq := rfl, fheadEq := rfl, genNum := hg0, genTxs := hgt,
      genState := by simp [init], headState := by simp [init] }
  · intro k x hx
    obtain ⟨rfl, rfl⟩ := upd_empty_some.mp hx
    exact hgU
  · intro n i
    show upd (fun _ => none) 0 (some g.id) n = some i ↔ _
    rw [upd_empty_some]
    simp only [List.nil_append, List.mem_singleton]
    constructor
    · rintro ⟨rfl, rfl⟩; exact ⟨g, rfl, hg0, rfl⟩
    · rintro ⟨x, rfl, hxn, hxi⟩; exact ⟨by omega, hxi⟩
  · intro t l
    simp only [init, List.nil_append, List.mem_singleton]
    constructor
    · intro h; cases h
    · rintro ⟨x, rfl, _, _, hxt⟩
      rw [hgt] at hxt; simp at hxt
  · intro x hx
    rw [List.mem_singleton.mp hx]
    simp [init]
  · intro k x hk hxU hx0
    rw [updB_empty_true.mp hk, hgU] at hxU
    cases hxU
    exact absurd hg0 hx0
  · intro k x hx
    obtain ⟨rfl, rfl⟩ := upd_empty_some.mp hx
    simp [init]

theorem ite_updB_true {c : Prop} [Decidable c] (m : Nat → Bool) (i k : Nat) :
    (if c then updB m i true else m) k = true ↔ m k = true ∨ (c ∧ k = i) := by
  by_cases hk : k = i
  · subst hk; split <;> simp_all
  · split <;> simp [updB_other _ _ _ _ hk, hk]

/-- `Stop` + reopen of a pruning node: the states available afterwards are those on disk; `d0` is the disk once the
    head's state is flushed, and at most one more state that was in memory is added -/
theorem reopen_eq (s : St) {cb : Blk} (hcb : s.store s.head = some cb) :
    reopen s = s ∨ ∃ d0 d,
      d0 = (if (decide (cb.number > 0) && s.hasState cb.id) = true then updB s.onDisk cb.id true else s.onDisk) ∧
      reopen s = { s with onDisk := d, hasState := d } ∧ (d = d0 ∨ ∃ i, s.hasState i = true ∧ d = updB d0 i true) := by
  unfold reopen
  split
  · exact .inl rfl
  · rw [hcb]
    refine .inr ⟨_, _, rfl, rfl, ?_⟩
    split
    · split
      · split
        · exact .inr ⟨_, ‹_›, rfl⟩
        · exact .inl rfl
      · exact .inl rfl
    · exact .inl rfl

theorem reopen_frame (s : St) {cb : Blk} (hcb : s.store s.head = some cb) :
    ∃ d h, reopen s = { s with onDisk := d, hasState := h } := by
  rcases reopen_eq s hcb with he | ⟨_, d, _, he, _⟩
  · exact ⟨_, _, he.trans rfl⟩
  · exact ⟨d, d, he⟩

theorem ginvC_reopen {U : Map Blk} (W : World U) {s : St} {hh : Blk} {HC : List Blk} (hG : GInvC U s hh HC) :
    GInvC U (reopen s) hh HC := by
  have hK := hG.k
  obtain ⟨cb, hcbm, hcbid, hcbs⟩ := hG.headStored W
  rcases reopen_eq s hcbs with he | ⟨d0, d, hd0, he, hd⟩
  · rw [he]; exact hG
  · rw [he]
    have h0 : ∀ k, d0 k = true ↔ s.onDisk k = true ∨ ((decide (cb.number > 0) && s.hasState cb.id) = true ∧ k = cb.id) := by
      rw [hd0]; exact ite_updB_true _ _
    have hup : ∀ k, d0 k = true → d k = true := by
      rcases hd with rfl | ⟨i, _, rfl⟩
      · exact fun _ hk => hk
      · exact fun _ hk => updB_true_of _ _ _ hk
    -- every state that survives was available before
    have hdown : ∀ k, d k = true → s.hasState k = true := by
      have hd0s : ∀ k, d0 k = true → s.hasState k = true := by
        intro k hk
        rcases (h0 k).mp hk with hk | ⟨hc, rfl⟩
        · exact hK.diskState k hk
        · exact (Bool.and_eq_true _ _ ▸ hc).2
      rcases hd with rfl | ⟨i, hi, rfl⟩
      · exact hd0s
      · intro k hk
        by_cases hki : k = i
        · rw [hki]; exact hi
        · rw [updB_other _ _ _ _ hki] at hk; exact hd0s k hk
    refine ginvC_frame hG (hext := fun _ _ hx => hx) (hsub := hK.il.idx.sub)
      (hgen := rfl) (hcanon := fun _ => rfl) (hlookup := fun _ => rfl) (hhead := rfl) (hhh := rfl) (hfh := rfl)
      (hseen := fun _ hk => hk) (hclosed := hK.seenClosed) (hstate := fun k hk => hK.stateSeen k (hdown k hk))
      (hdisk := fun _ hk => hk) (hrcpt := hK.seenRcpt) (htd := hK.tdIntr) (hstd := hK.storeTd)
      (hgs := hup _ ((h0 _).mpr (.inl hK.genState))) (hhs := hup _ ((h0 _).mpr ?_))
    -- the block head keeps its state: it is flushed, or it is the genesis block
    by_cases hpos : cb.number > 0
    · exact .inr ⟨by rw [Bool.and_eq_true]; exact ⟨decide_eq_true hpos, by rw [← hcbid]; exact hG.headState⟩, hcbid⟩
    · have hcg : cb = s.genesis :=
        hK.il.idx.chainNumInj cb hcbm s.genesis (by simp) (by rw [hK.il.idx.genNum]; omega)
      rw [hcbid, hcg]
      exact .inl hK.genState

theorem inv_reopen {U : Map Blk} (W : World U) {s : St} (h : Inv U s) : Inv U (reopen s) := by
  obtain ⟨hb, C, h⟩ := h
  have hG := ginvC_reopen W (h.toG W)
  obtain ⟨d, hs, he⟩ := reopen_frame s h.headStored
  rw [he] at hG ⊢
  exact h.step W hG (.same rfl rfl)

theorem delCanonRange_apply (lo : Nat) : ∀ (hi : Nat) (canon : Map Nat) (k : Nat),
    delCanonRange canon lo hi k = if lo < k ∧ k ≤ hi then none else canon k := by
  intro hi
  induction hi with
  | zero => intro canon k; unfold delCanonRange; rw [if_neg (by omega)]
  | succ i ih =>
    intro canon k
    unfold delCanonRange
    split
    · rename_i hgt
      rw [ih]
      by_cases hk : k = i + 1
      · subst hk
        rw [if_neg (by omega), if_pos (by omega)]
        simp
      · rw [upd_other _ _ _ _ hk]
        by_cases h1 : lo < k ∧ k ≤ i
        · rw [if_pos h1, if_pos ⟨h1.1, by omega⟩]
        · rw [if_neg h1, if_neg (by omega)]
    · rename_i hgt
      rw [if_neg (by omega)]

theorem removed_cons {α : Type} {m m' : Map α} {a : Blk} {O : List Blk}
    (h : ∀ k, m' k = if ∃ y ∈ O, y.id = k then none else upd m a.id none k) :
    ∀ k, m' k = if ∃ y ∈ a :: O, y.id = k then none else m k := by
  intro k
  rw [h k]
  by_cases h1 : ∃ y ∈ O, y.id = k
  · obtain ⟨y, hy, hyk⟩ := h1
    rw [if_pos ⟨y, hy, hyk⟩, if_pos ⟨y, List.mem_cons_of_mem _ hy, hyk⟩]
  · rw [if_neg h1]
    by_cases h2 : k = a.id
    · rw [h2, upd_same, if_pos ⟨a, List.mem_cons_self, rfl⟩]
    · rw [upd_other _ _ _ _ h2, if_neg]
      rintro ⟨y, hy, hyk⟩
      rcases List.mem_cons.mp hy with rfl | hy
      · exact h2 hyk.symm
      · exact h1 ⟨y, hy, hyk⟩

theorem removed_td {U : Map Blk} {g : Blk} {store st : Map Blk} {td td' : Map Nat} {P : Nat → Prop} [DecidablePred P]
    (hst : ∀ k, st k = if P k then none else store k) (htd : ∀ k, td' k = if P k then none else td k)
    (hI : TdIntr U g td) (hS : ∀ k x, store k = some x → (td k).isSome = true) :
    TdIntr U g td' ∧ ∀ k x, st k = some x → (td' k).isSome = true := by
  refine ⟨fun k t hk => ?_, fun k x hx => ?_⟩
  · rw [htd k] at hk
    split at hk
    · cases hk
    · exact hI k t hk
  · rw [hst k] at hx
    rw [htd k]
    split at hx
    · cases hx
    · rename_i hP
      rw [if_neg hP]; exact hS k x hx

/-- the unwinding loop of `HeaderChain.SetHead`: exactly the blocks of `O` (those above height `n`) lose header, body and
    td, and the lookups that point at them are dropped -/
theorem unwind_spec : ∀ (O : List Blk) (s : St) (x c : Blk) (f n : Nat),
    (∀ k y, s.store k = some y → y.id = k) → s.store x.id = some x → Path s.store x O c → c.number ≤ n →
    (∀ y ∈ O, n < y.number) → O.length < f →
    ∃ lk st td, unwind f s (some x) n = ({ s with lookup := lk, store := st, td := td }, some c) ∧
      (∀ k, st k = if ∃ y ∈ O, y.id = k then none else s.store k) ∧
      (∀ k, td k = if ∃ y ∈ O, y.id = k then none else s.td k) ∧
      (∀ t, lk t = if ∃ y ∈ O, t ∈ y.txs ∧ ∃ l, s.lookup t = some l ∧ l.blk = y.id then none else s.lookup t) := by
  intro O
  induction O with
  | nil =>
    intro s x c f n _ _ hp hc _ hf
    cases hp
    cases f with
    | zero => omega
    | succ f =>
      refine ⟨s.lookup, s.store, s.td, ?_, fun _ => (if_neg (by simp)).symm, fun _ => (if_neg (by simp)).symm,
        fun _ => (if_neg (by simp)).symm⟩
      unfold unwind; rw [if_neg (by omega)]
  | cons a O ih =>
    intro s x c f n hids hx hp hc hOn hf
    obtain ⟨p, hxa, hpar, hrest⟩ := hp.cons_inv
    subst hxa
    cases f with
    | zero => omega
    | succ f =>
      obtain ⟨hps, hpn⟩ := parentOf_some hpar
      have hpid := hids _ _ hps
      -- needed because `unwind` looks the parent up after `x` is deleted
      have hpx : p.id ≠ x.id := by
        intro he
        rw [← hpid, he, hx] at hps
        cases hps
        omega
      let s1 : St := { s with
        lookup := dropLookupsOf s.lookup x x.txs
        store := upd s.store x.id none
        td := upd s.td x.id none }
      have hstep : unwind (f + 1) s (some x) n = unwind f s1 (parentOf s1.store x) n := by
        rw [unwind]
        rw [if_pos (hOn x List.mem_cons_self)]
      have hpar1 : parentOf s1.store x = some p := by
        apply parentOf_of _ hpn
        show upd s.store x.id none x.parent = some p
        rw [upd_other _ _ _ _ (by rw [← hpid]; exact hpx)]
        exact hps
      have hids1 : ∀ k y, s1.store k = some y → y.id = k := by
        intro k y hy
        by_cases hk : k = x.id
        · subst hk; simp [s1] at hy
        · have : s1.store k = s.store k := upd_other _ _ _ _ hk
          rw [this] at hy; exact hids k y hy
      have hp1 : s1.store p.id = some p := by
        show upd s.store x.id none p.id = some p
        rw [upd_other _ _ _ _ hpx, hpid]; exact hps
      have hpath1 : Path s1.store p O c := by
        apply hrest.congr
        intro z hz
        show upd s.store x.id none z.parent = s.store z.parent
        apply upd_other
        intro he
        -- z's parent would be x, but z lies below x
        have hzn := (hrest.mem_number z hz).2
        obtain ⟨q, hq⟩ := hrest.parent_stored_of_mem z hz
        obtain ⟨hq1, hq2⟩ := parentOf_some hq
        rw [he, hx] at hq1
        cases hq1
        omega
      obtain ⟨lk, st, td, hun, hst, htd, hlk⟩ := ih s1 p c f n hids1 hp1 hpath1 hc (fun y hy => hOn y (List.mem_cons_of_mem _ hy))
        (by simp at hf; omega)
      refine ⟨lk, st, td, by rw [hstep, hpar1]; exact hun, removed_cons hst, removed_cons htd, fun t => ?_⟩
      rw [hlk t]
      have hd : s1.lookup t = _ := dropLookupsOf_apply x x.txs s.lookup t
      by_cases hA : t ∈ x.txs ∧ ∃ l, s.lookup t = some l ∧ l.blk = x.id
      · -- dropped with `x`; the rest of the loop finds nothing to drop
        rw [if_pos hA] at hd
        refine Eq.trans ?_ (if_pos ⟨x, List.mem_cons_self, hA⟩).symm
        split
        · rfl
        · exact hd
      · rw [if_neg hA] at hd
        simp only [hd]
        by_cases hB : ∃ y ∈ O, t ∈ y.txs ∧ ∃ l, s.lookup t = some l ∧ l.blk = y.id
        · obtain ⟨y, hy, h⟩ := hB
          rw [if_pos ⟨y, hy, h⟩, if_pos ⟨y, List.mem_cons_of_mem _ hy, h⟩]
        · rw [if_neg hB, if_neg]
          rintro ⟨y, hy, h⟩
          rcases List.mem_cons.mp hy with rfl | hy
          · exact hA h
          · exact hB ⟨y, hy, h⟩

/-- The number index after a header rewind to height `n`: the chain `O ++ R` of `hh` is cut at its highest block `c` at or
    below `n` (`Path.splitAbove`); with the headers `O` and their number entries removed, what is left is the index of
    the chain of `c`. -/
theorem IdxC.rewind {U H H' : Map Blk} (W : World U) {g : Blk} {canon : Map Nat} {hh c : Blk} {HC O R : List Blk} {n : Nat}
    (h : IdxC U H g canon hh HC) (hsplit : HC = O ++ R) (hO : Path H hh O c) (hR : Path H c R g) (hcn : c.number ≤ n)
    (hcase : c.number = n ∨ O = [])
    (hH' : ∀ k, H' k = if ∃ y ∈ O, y.id = k then none else H k) :
    IdxC U H' g (delCanonRange canon n hh.number) c R := by
  have hOmem : ∀ y ∈ O, y ∈ HC ++ [g] := fun y hy => by rw [hsplit]; simp [hy]
  have hRmem : ∀ x ∈ R ++ [g], x ∈ HC ++ [g] := fun x hx => by
    rw [hsplit, List.append_assoc]; exact List.mem_append_right _ hx
  have hRkeep : ∀ x ∈ R ++ [g], H' x.id = some x := by
    intro x hx
    rw [hH', if_neg, h.chainStored W x (hRmem x hx)]
    rintro ⟨y, hy, hyx⟩
    have hys := h.chainStored W y (hOmem y hy)
    rw [hyx, h.chainStored W x (hRmem x hx)] at hys
    cases hys
    have := (hO.mem_number x hy).1
    have := (hR.mem_le x hx).2
    omega
  refine { sub := ?_, headStored := hRkeep c hR.head_mem, path := ?_, canon := ?_, genNum := h.genNum }
  · intro k x hx
    rw [hH' k] at hx
    split at hx
    · cases hx
    · exact h.sub k x hx
  · apply hR.congr
    intro z hz
    obtain ⟨q, hq⟩ := hR.parent_stored_of_mem z hz
    have hqs := (parentOf_some hq).1
    rw [← h.storeIds W _ _ hqs, hRkeep q (hR.parent_mem hz hq), h.storeIds W _ _ hqs, hqs]
  · refine index_switch (N := []) (x := c) (by rw [← hsplit]; exact h.canon) (fun y hy => (hO.mem_number y hy).1) hR
      (.nil c) (fun _ hy => nomatch hy) ?_ ?_
    · intro k hk
      rw [delCanonRange_apply, if_neg (by omega)]
    · intro k hk
      rw [delCanonRange_apply]
      split
      · rfl
      · refine h.canonAbove k ?_
        rcases hcase with hcn' | rfl
        · omega
        · cases hO; omega

/-- where `SetHead` puts the block head once the header head is `hcur` -/
theorem pickHead_cases {store : Map Blk} {hasState : Nat → Bool} {g hcur cb : Blk} (hc : store hcur.id = some hcur)
    (hcb : hasState cb.id = true) :
    (hcur.number < cb.number ∧ hasState hcur.id = true ∧ pickHead store hasState g hcur cb = hcur) ∨
    (hcur.number < cb.number ∧ hasState hcur.id = false ∧ pickHead store hasState g hcur cb = g) ∨
    (cb.number ≤ hcur.number ∧ pickHead store hasState g hcur cb = cb) := by
  unfold pickHead
  by_cases hA : hcur.number < cb.number
  · rw [if_pos hA, hc]
    cases hB : hasState hcur.id with
    | true => exact .inl ⟨hA, rfl, by simp [hB]⟩
    | false => exact .inr (.inl ⟨hA, rfl, by simp [hB]⟩)
  · rw [if_neg hA]
    exact .inr (.inr ⟨by omega, by simp [hcb]⟩)

theorem pickFast_cases {store : Map Blk} {g hcur fb : Blk} (hc : store hcur.id = some hcur) :
    (hcur.number < fb.number ∧ pickFast store g hcur fb = hcur) ∨
    (fb.number ≤ hcur.number ∧ pickFast store g hcur fb = fb) := by
  unfold pickFast
  by_cases hC : hcur.number < fb.number
  · rw [if_pos hC, hc]; exact .inl ⟨hC, rfl⟩
  · rw [if_neg hC]; exact .inr ⟨by omega, rfl⟩

theorem setHead_eq {s s1 : St} {hh cb fb c x : Blk} {n : Nat} (h1 : s.store s.hhead = some hh)
    (h2 : s.store s.head = some cb) (h3 : s.store s.fhead = some fb)
    (hun : unwind (hh.number + 1) s (some hh) n = (s1, some c))
    (hx : s1.store (pickHead s1.store s1.hasState s.genesis c cb).id = some x) :
    setHead s n =
      ⟨{ s1 with
         canon := delCanonRange s1.canon n hh.number, hhead := c.id
         head := (pickHead s1.store s1.hasState s.genesis c cb).id, fhead := (pickFast s1.store s.genesis c fb).id }, none⟩ := by
  unfold setHead
  rw [h1, h2, h3]
  simp only [hun, Option.getD_some, hx]

/-- In the proof the header head becomes the block `c` at height `n` of the old chain (if that is lower), and block head
    and fast head land as `pickHead_cases`, `pickFast_cases` say. -/
theorem ginvC_setHead {U : Map Blk} (W : World U) {s : St} {hh : Blk} {HC : List Blk} (hG : GInvC U s hh HC) (n : Nat) :
    ∃ hh' HC', GInvC U (setHead s n).st hh' HC' ∧
      ((∀ i, s.canon n = some i → s.hasState i = true) → HeadsFollow s (setHead s n).st hh hh') := by
  have hK := hG.k
  have hI := hK.il.idx
  have hids := hI.storeIds W
  have hhs : s.store s.hhead = some hh := by rw [hK.il.hhead]; exact hI.headStored
  obtain ⟨cb, hcbm, hcbid, hcbs⟩ := hG.headStored W
  obtain ⟨fb, hfbm, hfid⟩ := hG.fheadOn
  have hfbs : s.store s.fhead = some fb := by rw [hfid]; exact hI.chainStored W fb hfbm
  have hcbst : s.hasState cb.id = true := by rw [← hcbid]; exact hG.headState
  obtain ⟨O, R, c, hsplit, hO, hR, hOn, hcn, hcase⟩ := hI.path.splitAbove n (by rw [hI.genNum]; omega)
  obtain ⟨lk, st, td, hun, hst, htd, hlk⟩ :=
    unwind_spec O s hh c (hh.number + 1) n hids hI.headStored hO hcn hOn (by have := hO.number; omega)
  have hRmem : ∀ x ∈ R ++ [s.genesis], x ∈ HC ++ [s.genesis] := fun x hx => by
    rw [hsplit, List.append_assoc]; exact List.mem_append_right _ hx
  have hlow : ∀ x ∈ HC ++ [s.genesis], x.number ≤ n → x ∈ R ++ [s.genesis] := by
    intro x hx hxn
    rw [hsplit, List.append_assoc] at hx
    rcases List.mem_append.mp hx with hx | hx
    · have := hOn x hx; omega
    · exact hx
  have hhU : U hh.id = some hh := hI.sub _ _ hI.headStored
  have hOR : Path U hh (O ++ R) s.genesis := by rw [← hsplit]; exact hI.path.mono hI.sub
  have hlkof : LkOf s.lookup ((O ++ R) ++ [s.genesis]) := by rw [← hsplit]; exact hK.il.lookup
  have hidx : IdxC U st s.genesis (delCanonRange s.canon n hh.number) c R := hI.rewind W hsplit hO hR hcn hcase hst
  obtain ⟨htdI, hstd⟩ := removed_td hst htd hK.tdIntr hK.storeTd
  -- the database after the header rewind, read against the remaining chain, whatever the block and fast heads are
  have hK2 : ∀ a f, InvK U
      { s with
        lookup := lk, store := st, td := td, canon := delCanonRange s.canon n hh.number
        hhead := c.id, head := a, fhead := f } c R := fun a f =>
    { il :=
        { idx := hidx, hhead := rfl, genTxs := hK.il.genTxs
          lookup := by
            -- exactly the lookups into the removed blocks are gone
            refine lkOf_switch W (N := []) (x := c) hlkof hK.il.genTxs hhU hOR (hidx.sub _ _ hidx.headStored)
              (hR.mono hI.sub) (fun _ hy => nomatch hy) (fun t _ htO => ?_) (fun t _ htO => ?_)
            · show lk t = none
              rw [hlk t]
              split
              · rfl
              · rename_i hdrop
                cases hl : s.lookup t with
                | none => rfl
                | some l =>
                  obtain ⟨o, ho, hob, hto⟩ := hlkof.segment W hK.il.genTxs hhU hOR hl htO
                  exact absurd ⟨o, ho, hto, l, hl, hob.symm⟩ hdrop
            · show lk t = s.lookup t
              rw [hlk t]
              exact if_neg fun ⟨y, hy, hty, _⟩ => htO (List.mem_flatMap.mpr ⟨y, hy, hty⟩) }
      canonSeen := fun x hx => hK.canonSeen x (hRmem x hx)
      seenClosed := hK.seenClosed, stateSeen := hK.stateSeen, diskState := hK.diskState, seenRcpt := hK.seenRcpt
      tdIntr := htdI, storeTd := hstd, genState := hK.genState }
  have hRstored : ∀ x ∈ R ++ [s.genesis], st x.id = some x := hidx.chainStored W
  have hc' : st c.id = some c := hRstored c hR.head_mem
  have hcR : c ∈ R ++ [s.genesis] := hR.head_mem
  have hnb : pickHead st s.hasState s.genesis c cb ∈ R ++ [s.genesis] ∧
      s.hasState (pickHead st s.hasState s.genesis c cb).id = true := by
    rcases pickHead_cases (g := s.genesis) hc' hcbst with ⟨_, hB, e⟩ | ⟨_, _, e⟩ | ⟨hle, e⟩ <;> rw [e]
    · exact ⟨hcR, hB⟩
    · exact ⟨by simp, hK.diskState _ hK.genState⟩
    · exact ⟨hlow cb hcbm (by omega), hcbst⟩
  have hnf : pickFast st s.genesis c fb ∈ R ++ [s.genesis] := by
    rcases pickFast_cases (g := s.genesis) (fb := fb) hc' with ⟨_, e⟩ | ⟨hle, e⟩ <;> rw [e]
    · exact hcR
    · exact hlow fb hfbm (by omega)
  have heq : (∀ i, s.canon n = some i → s.hasState i = true) → s.head = hh.id → s.fhead = hh.id →
      pickHead st s.hasState s.genesis c cb = c ∧ pickFast st s.genesis c fb = c := by
    intro hst' h1 h2
    have hcbh : cb = hh := by rw [h1, ← hK.il.hhead, hhs] at hcbs; cases hcbs; rfl
    have hfbh : fb = hh := by rw [h2, ← hK.il.hhead, hhs] at hfbs; cases hfbs; rfl
    rw [hcbh] at hcbst
    rw [hcbh, hfbh]
    -- if nothing was unwound, `c` is the old head
    have hsame : hh.number ≤ c.number → hh = c := fun hle => by
      obtain rfl : O = [] := List.eq_nil_of_length_eq_zero (by have := hO.number; omega)
      cases hO; rfl
    constructor
    · rcases pickHead_cases (g := s.genesis) hc' hcbst with ⟨_, _, e⟩ | ⟨hlt, hB, _⟩ | ⟨hle, e⟩
      · exact e
      · have hcn' : c.number = n := hcase.resolve_right (by rintro rfl; cases hO; omega)
        rw [hst' _ ((hI.canon _ _).mpr ⟨c, hRmem c hcR, hcn', rfl⟩)] at hB
        cases hB
      · exact e.trans (hsame hle)
    · rcases pickFast_cases (g := s.genesis) (fb := hh) hc' with ⟨_, e⟩ | ⟨hle, e⟩
      · exact e
      · exact e.trans (hsame hle)
  rw [setHead_eq hhs hcbs hfbs hun (hRstored _ hnb.1)]
  refine ⟨c, R, ⟨hK2 _ _, ⟨_, hnb.1, rfl⟩, ⟨_, hnf, rfl⟩, hnb.2⟩, fun hst' h1 h2 => ?_⟩
  obtain ⟨e1, e2⟩ := heq hst' h1 h2
  exact ⟨congrArg Blk.id e1, congrArg Blk.id e2⟩

/-- `hst` always holds on an archive node; see `setHead_stateless_witness` for what happens without it. -/
theorem inv_setHead {U : Map Blk} (W : World U) {s : St} (h : Inv U s) (n : Nat)
    (hst : ∀ i, s.canon n = some i → s.hasState i = true) : Inv U (setHead s n).st := by
  obtain ⟨hb, C, h⟩ := h
  obtain ⟨hh', HC', hG', hheads⟩ := ginvC_setHead W (h.toG W) n
  exact h.step W hG' (hheads hst)

end Aqv.Chain
