/-
  The RLPx frame model: the reader stages on input split into its fields and the writer without slices, one frame
  written and read back, bounds on what the reader accepts and allocates; the handshake packet reader; toy primitives
  for the non-vacuity examples.
-/
import Aqv.Lemmas.Net
namespace Aqv.Net
open Aqv.Rlp

theorem xorKs_length (P : Prims) (pos : Nat) (x : Bytes) : (xorKs P pos x).length = x.length := by
  induction x generalizing pos with
  | nil => rfl
  | cons b t ih => simp [xorKs, ih]

theorem xorKs_append (P : Prims) (pos : Nat) (a b : Bytes) :
    xorKs P pos (a ++ b) = xorKs P pos a ++ xorKs P (pos + a.length) b := by
  induction a generalizing pos with
  | nil => simp [xorKs]
  | cons x t ih =>
    simp only [List.cons_append, xorKs, ih, List.length_cons]
    congr 3
    omega

theorem xorKs_invol (P : Prims) (pos : Nat) (x : Bytes) : xorKs P pos (xorKs P pos x) = x := by
  induction x generalizing pos with
  | nil => rfl
  | cons b t ih =>
    simp only [xorKs, ih]
    rw [UInt8.xor_assoc, UInt8.xor_self, UInt8.xor_zero]

theorem xorKs_take (P : Prims) (pos n : Nat) (x : Bytes) : (xorKs P pos x).take n = xorKs P pos (x.take n) := by
  induction x generalizing pos n with
  | nil => simp [xorKs]
  | cons b t ih =>
    cases n with
    | zero => simp [xorKs]
    | succ n => simp [xorKs, ih]

theorem xorKs_inj (P : Prims) (pos : Nat) (x y : Bytes) (h : xorKs P pos x = xorKs P pos y) : x = y :=
  Function.LeftInverse.injective (g := xorKs P pos) (xorKs_invol P pos) h

def zipXor : Bytes → Bytes → Bytes
  | d :: ds, s :: ss => (d ^^^ s) :: zipXor ds ss
  | _, _ => []

theorem xorInto_ok (d seed pre : Bytes) (h : d.length ≤ seed.length) :
    xorInto d (pre ++ seed) pre.length = .ok (zipXor d seed) := by
  induction d generalizing seed pre with
  | nil => simp [xorInto, zipXor]
  | cons x xs ih =>
    cases seed with
    | nil => simp at h
    | cons s ss =>
      simp only [xorInto]
      have hi : index (pre ++ s :: ss) pre.length = .ok s := by
        simp [index]
      rw [hi]
      have := ih ss (pre ++ [s]) (by simpa using h)
      simp only [List.append_assoc, List.singleton_append, List.length_append, List.length_singleton] at this
      rw [this]
      simp [zipXor]

theorem zipXor_length (d s : Bytes) (h : d.length ≤ s.length) : (zipXor d s).length = d.length := by
  induction d generalizing s with
  | nil => simp [zipXor]
  | cons x xs ih =>
    cases s with
    | nil => simp at h
    | cons y ys => simp [zipXor, ih ys (by simpa using h)]

theorem zipXor_inj (d s s' : Bytes) (h1 : s.length = d.length) (h2 : s'.length = d.length) (h : zipXor d s = zipXor d s') : s = s' := by
  induction d generalizing s s' with
  | nil =>
    have a : s = [] := List.eq_nil_of_length_eq_zero (by simpa using h1)
    have b : s' = [] := List.eq_nil_of_length_eq_zero (by simpa using h2)
    rw [a, b]
  | cons x xs ih =>
    cases s with
    | nil => simp at h1
    | cons y ys =>
      cases s' with
      | nil => simp at h2
      | cons z zs =>
        simp only [zipXor, List.cons.injEq] at h
        have := (UInt8.xor_right_inj x).mp h.1
        rw [this, ih ys zs (by simpa using h1) (by simpa using h2) h.2]

theorem zipXor_zeros (n : Nat) (s : Bytes) (h : n ≤ s.length) : zipXor (List.replicate n 0) s = s.take n := by
  induction n generalizing s with
  | zero => simp [zipXor]
  | succ n ih =>
    cases s with
    | nil => simp at h
    | cons x xs =>
      simp only [List.replicate_succ, zipXor, List.take_succ_cons, UInt8.zero_xor]
      rw [ih xs (by simpa using h)]

structure Wf (P : Prims) : Prop where
  hlen : ∀ x, (P.H x).length = 32
  elen : ∀ x, (P.E x).length = 16

/-- bytes absorbed by the MAC hash after `updateMAC(mac, seed)`. -/
def macStep (P : Prims) (mac seed : Bytes) : Bytes := mac ++ zipXor (P.E ((P.H mac).take 16)) seed
def tag (P : Prims) (mac : Bytes) : Bytes := (P.H mac).take 16

theorem updateMAC_ok (P : Prims) (hw : Wf P) (mac seed : Bytes) (hs : 16 ≤ seed.length) :
    updateMAC P mac seed = .ok (macStep P mac seed, tag P (macStep P mac seed)) := by
  unfold updateMAC
  rw [sliceTo_ok _ _ (by rw [hw.hlen]; omega)]
  simp only [Out.bind_ok]
  have := xorInto_ok (P.E (List.take 16 (P.H mac))) seed [] (by rw [hw.elen]; omega)
  simp only [List.nil_append, List.length_nil] at this
  rw [this]
  simp only [Out.bind_ok]
  rw [sliceTo_ok _ _ (by rw [hw.hlen]; omega)]
  rfl

theorem tag_length (P : Prims) (hw : Wf P) (mac : Bytes) : (tag P mac).length = 16 := by
  simp [tag, hw.hlen]

theorem macStep_inj_seed (P : Prims) (hw : Wf P) (mac s s' : Bytes) (h1 : s.length = 16) (h2 : s'.length = 16)
    (h : macStep P mac s = macStep P mac s') : s = s' := by
  unfold macStep at h
  have := List.append_cancel_left h
  exact zipXor_inj _ _ _ (by rw [hw.elen]; exact h1) (by rw [hw.elen]; exact h2) this

/-- the MAC state after the frame stage of `ReadMsg` / `WriteMsg` from state `m`: the frame `c` is absorbed, then `updateMAC`
    runs with the hash of all that as its seed. The frame MAC field on the wire is `tag P (frameMac P m c)`. -/
def frameMac (P : Prims) (m c : Bytes) : Bytes := macStep P (m ++ c) (P.H (m ++ c))

theorem frameMac_inj (P : Prims) (m c c' : Bytes) (hl : c.length = c'.length) (h : frameMac P m c = frameMac P m c') : c = c' :=
  List.append_cancel_left (List.append_inj_left h (by rw [List.length_append, List.length_append, hl]))

theorem readInt24_putInt24 (n : Nat) (rest : Bytes) (h : n < 2 ^ 24) : readInt24 (putInt24 n ++ rest) = .ok n := by
  simp only [readInt24, putInt24, index, List.cons_append, List.nil_append, List.getElem?_cons_succ, List.getElem?_cons_zero,
    Out.bind_ok]
  congr 1
  simp only [UInt8.toNat_ofNat']
  omega

theorem putInt24_length (n : Nat) : (putInt24 n).length = 3 := rfl

theorem rsizeOf_ge (n : Nat) : n ≤ rsizeOf n := by
  unfold rsizeOf; split <;> omega
theorem rsizeOf_le (n : Nat) : rsizeOf n ≤ n + 15 := by
  unfold rsizeOf; split <;> omega
theorem rsizeOf_mod (n : Nat) : rsizeOf n % 16 = 0 := by
  unfold rsizeOf; split <;> omega

def int24 (b : Bytes) : Nat := (b.getD 2 0).toNat + (b.getD 1 0).toNat * 256 + (b.getD 0 0).toNat * 65536

theorem readInt24_ok (b : Bytes) (h : 3 ≤ b.length) : readInt24 b = .ok (int24 b) := by
  match b, h with
  | b0 :: b1 :: b2 :: t, _ => simp [readInt24, int24, index]

theorem int24_lt (b : Bytes) : int24 b < 2 ^ 24 := by
  unfold int24
  have h0 := (b.getD 0 0).toNat_lt
  have h1 := (b.getD 1 0).toNat_lt
  have h2 := (b.getD 2 0).toNat_lt
  omega

theorem int24_append (a b : Bytes) (h : 3 ≤ a.length) : int24 (a ++ b) = int24 a := by
  match a, h with
  | a0 :: a1 :: a2 :: t, _ => simp [int24]

theorem int24_putInt24 (n : Nat) (rest : Bytes) (h : n < 2 ^ 24) : int24 (putInt24 n ++ rest) = n := by
  have := readInt24_putInt24 n rest h
  rw [readInt24_ok _ (by rw [List.length_append, putInt24_length]; omega)] at this
  injection this

theorem readInt24_lt (b : Bytes) (n : Nat) (h : readInt24 b = .ok n) : n < 2 ^ 24 := by
  by_cases hb : 3 ≤ b.length
  · rw [readInt24_ok b hb] at h
    cases h; exact int24_lt b
  · unfold readInt24 index at h
    rw [List.getElem?_eq_none (by omega)] at h
    cases h

theorem readFull_append (x y : Bytes) (n : Nat) (h : x.length = n) : readFull (x ++ y) n = .ok (x, y) := by
  subst h
  simp [readFull]
theorem readFull_short (conn : Bytes) (n : Nat) (h : conn.length < n) : readFull conn n = .err .eof := by
  simp [readFull, h]
theorem readFull_ok (conn : Bytes) (n : Nat) (h : n ≤ conn.length) : readFull conn n = .ok (conn.take n, conn.drop n) := by
  simp [readFull]; omega

theorem readHeader_append (P : Prims) (hw : Wf P) (d : Dir) (a b X : Bytes) (ha : a.length = 16) (hb : b.length = 16) :
    readHeader P d (a ++ b ++ X) =
      if tag P (macStep P d.mac a) ≠ b then .err .badHeaderMAC
      else .ok (macStep P d.mac a, int24 (xorKs P d.pos a), X) := by
  unfold readHeader
  rw [readFull_append (a ++ b) X 32 (by rw [List.length_append, ha, hb])]
  simp only [Out.bind_ok]
  rw [sliceTo_ok _ _ (by rw [List.length_append]; omega), List.take_left' ha,
    sliceFrom_ok _ _ (by rw [List.length_append]; omega), List.drop_left' ha]
  simp only [Out.bind_ok]
  rw [updateMAC_ok P hw _ _ (by omega)]
  simp only [Out.bind_ok]
  split
  · rfl
  · rw [readInt24_ok _ (by rw [List.length_append, xorKs_length]; omega), int24_append _ _ (by rw [xorKs_length]; omega)]
    rfl

theorem readHeader_short (P : Prims) (d : Dir) (conn : Bytes) (hl : conn.length < 32) : readHeader P d conn = .err .eof := by
  unfold readHeader
  rw [readFull_short _ _ hl]
  rfl

theorem readFrame_append (P : Prims) (hw : Wf P) (mac1 : Bytes) (pos fsize : Nat) (c e rest : Bytes)
    (hc : c.length = rsizeOf fsize) (he : e.length = 16) :
    readFrame P mac1 pos fsize (c ++ e ++ rest) =
      if tag P (frameMac P mac1 c) ≠ e then .err .badFrameMAC
      else .ok (frameMac P mac1 c, xorKs P pos c, rest) := by
  unfold readFrame
  rw [List.append_assoc, readFull_append c _ _ hc]
  simp only [Out.bind_ok]
  rw [readFull_append e rest 16 he]
  simp only [Out.bind_ok]
  rw [updateMAC_ok P hw _ _ (by rw [hw.hlen]; omega)]
  rfl

theorem readFrame_short (P : Prims) (mac1 : Bytes) (pos fsize : Nat) (conn1 : Bytes) (hl : conn1.length < rsizeOf fsize + 16) :
    readFrame P mac1 pos fsize conn1 = .err .eof := by
  unfold readFrame
  by_cases h : conn1.length < rsizeOf fsize
  · rw [readFull_short _ _ h]; rfl
  · rw [readFull_ok _ _ (by omega)]
    simp only [Out.bind_ok]
    rw [readFull_short _ _ (by rw [List.length_drop]; omega)]
    rfl

theorem readMsg_of_header_err {P : Prims} {snappy : Bool} {d : Dir} {conn : Bytes} {e : Err}
    (h : readHeader P d conn = .err e) : readMsg P snappy d conn = .err e := by
  unfold readMsg readMsgT; rw [h]

theorem readMsg_of_frame_err {P : Prims} {snappy : Bool} {d : Dir} {conn mac1 conn1 : Bytes} {fsize : Nat} {e : Err}
    (h1 : readHeader P d conn = .ok (mac1, fsize, conn1)) (h2 : readFrame P mac1 (d.pos + 16) fsize conn1 = .err e) :
    readMsg P snappy d conn = .err e := by
  unfold readMsg readMsgT; rw [h1]; simp only; rw [h2]

/-- every strict prefix of a frame whose header MAC field is right is refused with a read error. -/
theorem readMsg_take (P : Prims) (hw : Wf P) (snappy : Bool) (d : Dir) (a Y : Bytes) (ha : a.length = 16)
    (hY : Y.length = rsizeOf (int24 (xorKs P d.pos a)) + 16) (n : Nat)
    (hn : n < (a ++ tag P (macStep P d.mac a) ++ Y).length) :
    readMsg P snappy d ((a ++ tag P (macStep P d.mac a) ++ Y).take n) = .err .eof := by
  have htl := tag_length P hw (macStep P d.mac a)
  have hl : (a ++ tag P (macStep P d.mac a)).length = 32 := by rw [List.length_append, ha, htl]
  rw [List.length_append, hl] at hn
  by_cases h32 : n < 32
  · exact readMsg_of_header_err (readHeader_short P d _ (by rw [List.length_take]; omega))
  · rw [List.take_append, hl, List.take_of_length_le (by omega)]
    exact readMsg_of_frame_err (by rw [readHeader_append P hw d a _ _ ha htl, if_neg (fun h => h rfl)])
      (readFrame_short P _ _ _ _ (by rw [List.length_take]; omega))

/-- one MAC-protected field: data `x` arriving with tag field `t`, written as `x₀` with `T x₀`. If the pair was changed
    but not both halves of it, and `T` separates `x` from `x₀`, then the comparison of `T x` with `t` fails. -/
theorem tag_ne_of_changed {α : Type} (T : α → Bytes) {x x₀ : α} {t : Bytes} (hchg : x ≠ x₀ ∨ t ≠ T x₀)
    (hreg : x ≠ x₀ → t = T x₀) (hcf : x ≠ x₀ → T x ≠ T x₀) : T x ≠ t := by
  by_cases h : x = x₀
  · subst h; exact fun e => hchg.elim (fun h => h rfl) (fun h => h e.symm)
  · rw [hreg h]; exact hcf h

theorem set_ne_self (x : Bytes) (j : Nat) (v : UInt8) (h : j < x.length) (hv : x[j]? ≠ some v) : x.set j v ≠ x := by
  intro e
  have := congrArg (fun y => y[j]?) e
  simp [h] at this
  apply hv
  rw [List.getElem?_eq_getElem h, this]

theorem set_append_cases (a b : Bytes) (i : Nat) (v : UInt8) (hi : i < (a ++ b).length) (hv : (a ++ b)[i]? ≠ some v) :
    (i < a.length ∧ a[i]? ≠ some v ∧ (a ++ b).set i v = a.set i v ++ b) ∨
    (i - a.length < b.length ∧ b[i - a.length]? ≠ some v ∧ (a ++ b).set i v = a ++ b.set (i - a.length) v) := by
  rw [List.length_append] at hi
  by_cases h : i < a.length
  · rw [List.getElem?_append_left h] at hv
    exact .inl ⟨h, hv, List.set_append_left _ _ h⟩
  · rw [List.getElem?_append_right (by omega)] at hv
    exact .inr ⟨by omega, hv, List.set_append_right _ _ (by omega)⟩

def padOf (fsize : Nat) : Bytes := if fsize % 16 > 0 then List.replicate (16 - fsize % 16) (0 : UInt8) else []
def hdrPlain (fsize : Nat) : Bytes := putInt24 fsize ++ zeroHeader ++ List.replicate 10 (0 : UInt8)

theorem padOf_length (fsize : Nat) : fsize + (padOf fsize).length = rsizeOf fsize := by
  unfold padOf rsizeOf; split <;> simp

theorem hdrPlain_length (fsize : Nat) : (hdrPlain fsize).length = 16 := rfl

/-- egress state and wire bytes of `WriteMsg` for a frame body (`ptype ‖ payload`) declared as `fsize` bytes. -/
def frameWire (P : Prims) (d : Dir) (fsize : Nat) (body : Bytes) : Dir × Bytes :=
  let ench := xorKs P d.pos (hdrPlain fsize)
  let mac1 := macStep P d.mac ench
  let frame := xorKs P (d.pos + 16) (body ++ padOf fsize)
  let mac3 := frameMac P mac1 frame
  ({ mac := mac3, pos := d.pos + 16 + frame.length }, ench ++ tag P mac1 ++ frame ++ tag P mac3)

def framedPayload (P : Prims) (snappy : Bool) (m : Msg) : Nat × Bytes :=
  if snappy then ((P.snapEnc m.payload).length % 2 ^ 32, P.snapEnc m.payload) else (m.size, m.payload)

def frameBody (P : Prims) (snappy : Bool) (m : Msg) : Bytes := encUint m.code ++ (framedPayload P snappy m).2

theorem writeMsg_eq (P : Prims) (hw : Wf P) (snappy : Bool) (d : Dir) (m : Msg) :
    writeMsg P snappy d m =
      if snappy ∧ m.size > maxUint24 then .err .plainTooLarge
      else if ((encUint m.code).length + (framedPayload P snappy m).1) % 2 ^ 32 > maxUint24 then .err .sizeOverflow
      else .ok (frameWire P d (((encUint m.code).length + (framedPayload P snappy m).1) % 2 ^ 32) (frameBody P snappy m)) := by
  unfold writeMsg frameBody
  have hsp : (if snappy = true then
        if m.size > maxUint24 then Out.err Err.plainTooLarge
        else Out.ok ((P.snapEnc m.payload).length % 2 ^ 32, P.snapEnc m.payload)
      else Out.ok (m.size, m.payload))
      = if snappy ∧ m.size > maxUint24 then .err .plainTooLarge else .ok (framedPayload P snappy m) := by
    cases snappy <;> simp [framedPayload]
  simp only [hsp]
  by_cases h1 : snappy = true ∧ m.size > maxUint24
  · simp only [h1, and_self, if_true]
  simp only [h1, if_false]
  generalize framedPayload P snappy m = sp
  obtain ⟨size, payload⟩ := sp
  simp only
  generalize ((encUint m.code).length + size) % 2 ^ 32 = fsize
  split
  · rfl
  have hb : putInt24 fsize ++ zeroHeader ++ List.replicate 26 (0 : UInt8) = hdrPlain fsize ++ List.replicate 16 0 := rfl
  have hl := hdrPlain_length fsize
  rw [hb, sliceTo_ok _ _ (by rw [List.length_append]; omega), List.take_left' hl, List.drop_left' hl]
  simp only [Out.bind_ok]
  rw [updateMAC_ok P hw _ _ (by rw [xorKs_length]; omega)]
  have hc := copyAt_mid (xorKs P d.pos (hdrPlain fsize)) (List.replicate 16 (0 : UInt8)) []
    (tag P (macStep P d.mac (xorKs P d.pos (hdrPlain fsize)))) (by rw [tag_length P hw]; rfl)
  simp only [List.append_nil, xorKs_length, hl] at hc
  simp only [Out.bind_ok, hc]
  rw [updateMAC_ok P hw _ _ (by rw [hw.hlen]; omega)]
  simp only [Out.bind_ok, frameWire, frameMac, padOf, List.append_assoc]

theorem frameWire_snd (P : Prims) (d : Dir) (fsize : Nat) (body : Bytes) :
    (frameWire P d fsize body).2 =
      xorKs P d.pos (hdrPlain fsize) ++ tag P (macStep P d.mac (xorKs P d.pos (hdrPlain fsize))) ++
        xorKs P (d.pos + 16) (body ++ padOf fsize) ++
        tag P (frameMac P (macStep P d.mac (xorKs P d.pos (hdrPlain fsize))) (xorKs P (d.pos + 16) (body ++ padOf fsize))) := rfl

theorem readHeader_hdr (P : Prims) (hw : Wf P) (d : Dir) (fsize : Nat) (X : Bytes) (hf : fsize < 2 ^ 24) :
    readHeader P d (xorKs P d.pos (hdrPlain fsize) ++ tag P (macStep P d.mac (xorKs P d.pos (hdrPlain fsize))) ++ X) =
      .ok (macStep P d.mac (xorKs P d.pos (hdrPlain fsize)), fsize, X) := by
  rw [readHeader_append P hw d _ _ X (by rw [xorKs_length]; rfl) (tag_length P hw _), if_neg (fun h => h rfl), xorKs_invol,
    hdrPlain, List.append_assoc, int24_putInt24 _ _ hf]

theorem readMsgT_frameWire (P : Prims) (hw : Wf P) (snappy : Bool) (d : Dir) (body rest : Bytes) (hf : body.length < 2 ^ 24) :
    readMsgT P snappy d ((frameWire P d body.length body).2 ++ rest) =
      ([32, rsizeOf body.length] ++ (decodeContent P snappy body).1,
        match (decodeContent P snappy body).2 with
        | .ok m => .ok ((frameWire P d body.length body).1, m, rest)
        | .err e => .err e
        | .panic p => .panic p) := by
  have hfl : (xorKs P (d.pos + 16) (body ++ padOf body.length)).length = rsizeOf body.length := by
    rw [xorKs_length, List.length_append, padOf_length]
  unfold readMsgT
  rw [frameWire_snd, List.append_assoc, List.append_assoc, readHeader_hdr P hw d _ _ hf]
  simp only
  rw [← List.append_assoc, readFrame_append P hw _ _ _ _ _ rest hfl (tag_length P hw _), if_neg (fun h => h rfl), xorKs_invol]
  simp only
  rw [sliceTo_ok _ _ (by rw [List.length_append]; omega), List.take_left' rfl]
  simp only [frameWire, xorKs_length]
  rfl

theorem encUint_length_le (c : Nat) (h : c < 2 ^ 64) : (encUint c).length ≤ 9 := by
  have hl := beBytes_length_le c 8 (by simpa using h)
  unfold encUint encStr
  split
  · split <;> simp [header]
  · rw [List.length_append, header, if_pos (by omega)]
    simp only [List.length_singleton]; omega

theorem encUint_length_pos (c : Nat) : 0 < (encUint c).length :=
  List.length_pos_iff.2 (encStr_ne_nil (beBytes c))

theorem decCode_encUint (c : Nat) (payload : Bytes) (h : c < 2 ^ 64) : decCode (encUint c ++ payload) = .ok (c, payload) := by
  unfold decCode
  rw [rUint_encUint 8 c payload (by simpa using h) (by omega)]

structure SnappyOk (P : Prims) : Prop where
  len : ∀ p, P.snapLen (P.snapEnc p) = some p.length
  dec : ∀ p, P.snapDec (P.snapEnc p) = some p
  bound : ∀ p, (P.snapEnc p).length ≤ 32 + p.length + p.length / 6

/-- a message as the senders build it; `Size` fits a uint32 with room for the code. -/
def Msg.Wf (m : Msg) : Prop := m.code < 2 ^ 64 ∧ m.size = m.payload.length ∧ m.size + 9 < 2 ^ 32

/-- the uint32 sum of `WriteMsg` does not wrap, so the body has exactly the declared size. -/
theorem writeMsg_ok_frameWire (P : Prims) (hw : Wf P) (snappy : Bool) (hs : snappy = true → SnappyOk P) (d : Dir) (m : Msg)
    (hm : m.Wf) (d' : Dir) (w : Bytes) (h : writeMsg P snappy d m = .ok (d', w)) :
    (snappy = true → m.size ≤ maxUint24) ∧ (frameBody P snappy m).length < 2 ^ 24 ∧
      d' = (frameWire P d (frameBody P snappy m).length (frameBody P snappy m)).1 ∧
      w = (frameWire P d (frameBody P snappy m).length (frameBody P snappy m)).2 := by
  obtain ⟨hc, hsz, h32⟩ := hm
  have hpl := encUint_length_le m.code hc
  rw [writeMsg_eq P hw] at h
  by_cases h1 : snappy = true ∧ m.size > maxUint24
  · rw [if_pos h1] at h; cases h
  rw [if_neg h1] at h
  have hfs : ((encUint m.code).length + (framedPayload P snappy m).1) % 2 ^ 32 = (frameBody P snappy m).length := by
    cases snappy with
    | false => simp only [frameBody, framedPayload, Bool.false_eq_true, if_false, List.length_append]; omega
    | true =>
      have hb := (hs rfl).bound m.payload
      simp only [true_and, maxUint24] at h1
      simp only [frameBody, framedPayload, if_true, List.length_append]
      omega
  rw [hfs] at h
  by_cases h2 : (frameBody P snappy m).length > maxUint24
  · rw [if_pos h2] at h; cases h
  rw [if_neg h2] at h
  injection h with h
  exact ⟨fun hsn => Nat.le_of_not_lt fun hx => h1 ⟨hsn, hx⟩, by simp only [maxUint24] at h2; omega,
    (congrArg Prod.fst h).symm, (congrArg Prod.snd h).symm⟩

theorem decodeContent_frameBody (P : Prims) (snappy : Bool) (hs : snappy = true → SnappyOk P) (m : Msg) (hm : m.Wf)
    (hle : snappy = true → m.size ≤ maxUint24) : (decodeContent P snappy (frameBody P snappy m)).2 = .ok m := by
  obtain ⟨hc, hsz, h32⟩ := hm
  rw [frameBody, decodeContent, decCode_encUint _ _ hc]
  cases snappy with
  | false =>
    simp only [framedPayload, Bool.false_eq_true, if_false]
    rw [← hsz]
  | true =>
    have hle := hle rfl
    have hso := hs rfl
    simp only [framedPayload, if_true, hso.len, hso.dec]
    rw [if_neg (by omega), Nat.mod_eq_of_lt (by omega), ← hsz]

theorem frame_roundtrip_step (P : Prims) (hw : Wf P) (snappy : Bool) (hs : snappy = true → SnappyOk P) (d : Dir) (m : Msg)
    (hm : m.Wf) (d' : Dir) (w : Bytes) (h : writeMsg P snappy d m = .ok (d', w)) (rest : Bytes) :
    readMsg P snappy d (w ++ rest) = .ok (d', m, rest) := by
  obtain ⟨hle, hbl, hd', hw'⟩ := writeMsg_ok_frameWire P hw snappy hs d m hm d' w h
  rw [readMsg, hw', readMsgT_frameWire P hw snappy d _ rest hbl, decodeContent_frameBody P snappy hs m hm hle, ← hd']

theorem writeAll_cons_ok {P : Prims} {snappy : Bool} {d d' : Dir} {m : Msg} {ms : List Msg} {w : Bytes}
    (h : writeAll P snappy d (m :: ms) = .ok (d', w)) :
    ∃ d1 w1 ws, writeMsg P snappy d m = .ok (d1, w1) ∧ writeAll P snappy d1 ms = .ok (d', ws) ∧ w = w1 ++ ws := by
  rw [writeAll] at h
  split at h
  next d1 w1 hfirst =>
    split at h
    next d2 ws hlater =>
      cases h
      exact ⟨d1, w1, ws, hfirst, hlater, rfl⟩
    all_goals cases h
  all_goals cases h

theorem readHeader_fsize_lt (P : Prims) (d : Dir) (conn : Bytes) (mac1 : Bytes) (fsize : Nat) (conn1 : Bytes)
    (h : readHeader P d conn = .ok (mac1, fsize, conn1)) : fsize < 2 ^ 24 := by
  unfold readHeader at h
  obtain ⟨⟨hb, c1⟩, _, h⟩ := Out.bind_eq_ok _ _ _ h
  obtain ⟨h16, _, h⟩ := Out.bind_eq_ok _ _ _ h
  obtain ⟨⟨m1, sh⟩, _, h⟩ := Out.bind_eq_ok _ _ _ h
  obtain ⟨got, _, h⟩ := Out.bind_eq_ok _ _ _ h
  split at h
  · cases h
  · obtain ⟨fs, hfs, h⟩ := Out.bind_eq_ok _ _ _ h
    cases h
    exact readInt24_lt _ _ hfs

theorem decCode_rest_le {content : Bytes} {code : Nat} {payload : Bytes} (h : decCode content = .ok (code, payload)) :
    payload.length ≤ content.length := by
  unfold decCode at h
  split at h
  · cases h; exact rUint_rest_le ‹_›
  · cases h

theorem decodeContent_allocs (P : Prims) (snappy : Bool) (content : Bytes) :
    ∀ a ∈ (decodeContent P snappy content).1, a ≤ max content.length maxUint24 := by
  unfold decodeContent
  cases hdc : decCode content with
  | err e => simp
  | panic p => simp
  | ok r =>
    obtain ⟨code, payload⟩ := r
    have hpl := decCode_rest_le hdc
    cases snappy with
    | false => simp
    | true =>
      simp only [if_true]
      cases hl : P.snapLen payload with
      | none => simp; omega
      | some size =>
        simp only
        by_cases hs : size > maxUint24
        · simp [hs]; omega
        · simp only [hs, if_false]
          cases P.snapDec payload <;> simp <;> omega

/-- with snappy `Size` is the declared decompressed length, checked against 2^24 - 1; without, it is the number of
    payload bytes left in the frame. -/
theorem decodeContent_size (P : Prims) (snappy : Bool) (content : Bytes) (m : Msg) (h : (decodeContent P snappy content).2 = .ok m) :
    (snappy = true → m.size ≤ maxUint24) ∧ (snappy = false → m.size = m.payload.length ∧ m.size ≤ content.length) := by
  unfold decodeContent at h
  cases hdc : decCode content with
  | err e => rw [hdc] at h; cases h
  | panic p => rw [hdc] at h; cases h
  | ok r =>
    obtain ⟨code, payload⟩ := r
    have hpl := decCode_rest_le hdc
    rw [hdc] at h
    cases snappy with
    | false =>
      simp only [Bool.false_eq_true, if_false] at h
      cases h
      exact ⟨nofun, fun _ => ⟨rfl, hpl⟩⟩
    | true =>
      refine ⟨fun _ => ?_, nofun⟩
      simp only [if_true] at h
      split at h
      · cases h
      split at h
      · cases h
      split at h
      · cases h
      · cases h
        simp only [maxUint24] at *
        omega

theorem readMsgT_stages (P : Prims) (snappy : Bool) (d : Dir) (conn : Bytes) :
    ∃ fsize content, fsize < 2 ^ 24 ∧ content.length ≤ fsize ∧
      (∀ a ∈ (readMsgT P snappy d conn).1, a = 32 ∨ a = rsizeOf fsize ∨ a ∈ (decodeContent P snappy content).1) ∧
      ∀ r, (readMsgT P snappy d conn).2 = .ok r → (decodeContent P snappy content).2 = .ok r.2.1 := by
  unfold readMsgT
  cases hh : readHeader P d conn with
  | err _ | panic _ => exact ⟨0, [], by decide, Nat.le_refl _, by simp, nofun⟩
  | ok r =>
    obtain ⟨mac1, fsize, conn1⟩ := r
    have hf := readHeader_fsize_lt P d conn mac1 fsize conn1 hh
    simp only
    cases readFrame P mac1 (d.pos + 16) fsize conn1 with
    | err _ | panic _ => exact ⟨fsize, [], hf, Nat.zero_le _, by simp, nofun⟩
    | ok r2 =>
      obtain ⟨mac3, plain, conn3⟩ := r2
      simp only
      cases hsl : sliceTo plain fsize with
      | err _ | panic _ => exact ⟨fsize, [], hf, Nat.zero_le _, by simp, nofun⟩
      | ok content =>
        refine ⟨fsize, content, hf, sliceTo_length_le hsl, by simp, fun r hr => ?_⟩
        simp only at hr
        split at hr
        · cases hr; assumption
        · cases hr
        · cases hr

theorem decodePlainAuth_ok (input : Bytes) (h : 97 ≤ input.length) : decodePlainAuth input = .ok () := by
  simp only [decodePlainAuth]
  rw [sliceFrom_ok _ _ (by omega)]
  simp only [Out.bind_ok]
  rw [sliceFrom_ok _ _ (by rw [List.length_drop]; omega)]
  rfl

theorem decodePlainResp_ok (input : Bytes) : decodePlainResp input = .ok () := by
  simp only [decodePlainResp]
  rw [sliceFrom_ok _ _ (Nat.min_le_right _ _)]
  rfl

/-- the initial packet size leaves room for the size prefix (`h2`), fits the prefix's 16 bits (`h16`) and, for the auth
    packet, lets the pre-EIP-8 plaintext reach its fixed-offset fields (`hauth`). -/
theorem readHandshakeMsg_total (P : HsPrims) (isAuth : Bool) (ps : Nat) (conn : Bytes)
    (hdec : ∀ c s m, P.decrypt c s = some m → m.length + eciesOverhead = c.length)
    (h2 : 2 ≤ ps) (h16 : ps < 65536) (hauth : isAuth = true → 210 ≤ ps) :
    (readHandshakeMsg P isAuth ps conn).2.isPanic = false ∧ ∀ a ∈ (readHandshakeMsg P isAuth ps conn).1, a ≤ 65535 + 2 := by
  generalize hr : readHandshakeMsg P isAuth ps conn = r
  have hps : ∀ a ∈ [ps], a ≤ 65535 + 2 := fun a ha => by rw [List.mem_singleton] at ha; omega
  unfold readHandshakeMsg at hr
  by_cases hc : conn.length < ps
  · rw [readFull_short _ _ hc] at hr
    subst hr; exact ⟨rfl, hps⟩
  rw [readFull_ok _ _ (by omega)] at hr
  have hbl : (conn.take ps).length = ps := by rw [List.length_take]; omega
  generalize conn.take ps = buf at hbl hr
  generalize conn.drop ps = conn1 at hr
  -- `-zeta`: with the model's `have`s (`size`, `extra`, `buf2`) substituted into the remaining branches the kernel
  -- takes seconds to check the step
  cases hd1 : P.decrypt buf [] with
  | some dec =>
    have hl := hdec _ _ _ hd1
    have hok : (if isAuth = true then decodePlainAuth dec else decodePlainResp dec) = .ok () := by
      cases isAuth
      · exact decodePlainResp_ok dec
      · exact decodePlainAuth_ok dec (by have := hauth rfl; simp only [eciesOverhead] at hl; omega)
    simp -zeta only [hd1, hok] at hr
    subst hr; exact ⟨rfl, hps⟩
  | none =>
    simp -zeta only [hd1] at hr
    rw [sliceTo_ok _ _ (by omega)] at hr
    simp -zeta only at hr
    extract_lets size extra at hr
    have hsz : size < 65536 := by
      have := beNat_lt (List.take 2 buf)
      rwa [List.length_take, Nat.min_eq_left (by omega)] at this
    split at hr
    · subst hr; exact ⟨rfl, hps⟩
    -- uint16 arithmetic: the bytes still to read complete the announced size
    have hpe : ∀ a ∈ [ps, ps + extra], a ≤ 65535 + 2 := fun a ha => by
      simp only [List.mem_cons, List.mem_nil_iff, or_false] at ha; omega
    by_cases hc2 : conn1.length < extra
    · rw [readFull_short _ _ hc2] at hr
      subst hr; exact ⟨rfl, hpe⟩
    rw [readFull_ok _ _ (by omega)] at hr
    simp only at hr
    rw [sliceFrom_ok _ _ (by rw [List.length_append]; omega)] at hr
    simp only at hr
    split at hr
    · subst hr; exact ⟨rfl, hpe⟩
    · subst hr; exact ⟨by split <;> rfl, hpe⟩

def H0 (x : Bytes) : Bytes := (x.reverse ++ List.replicate 32 0).take 32
def P0 : Prims :=
  { H := H0, E := fun x => (x ++ List.replicate 16 0).take 16, ks := fun n => UInt8.ofNat (7 * n + 3),
    snapEnc := id, snapLen := fun p => some p.length, snapDec := fun p => some p }

theorem P0_wf : Wf P0 := by
  constructor
  · intro x; simp [P0, H0]
  · intro x; simp [P0]

theorem P0_snappy : SnappyOk P0 := by
  constructor
  · intro p; rfl
  · intro p; rfl
  · intro p; simp [P0]; omega

def d0 : Dir := { mac := [1, 2, 3], pos := 5 }
def ms0 : List Msg := [{ code := 3, size := 2, payload := [0xAA, 0xBB] }, { code := 300, size := 0, payload := [] }]

theorem ms0_wf : ∀ m ∈ ms0, m.Wf := by
  intro m hm
  simp only [ms0, List.mem_cons, List.mem_nil_iff, or_false] at hm
  rcases hm with rfl | rfl <;> simp [Msg.Wf]

def m0 : Msg := { code := 3, size := 2, payload := [0xAA, 0xBB] }
theorem m0_wf : m0.Wf := by simp [Msg.Wf, m0]
def w0 : Bytes := (frameWire P0 d0 3 [3, 0xAA, 0xBB]).2
def d0' : Dir := (frameWire P0 d0 3 [3, 0xAA, 0xBB]).1

theorem writeMsg_m0 : writeMsg P0 false d0 m0 = .ok (d0', w0) := by
  rw [writeMsg_eq P0 P0_wf]
  rfl

theorem readMsg_w0 : readMsg P0 false d0 w0 = .ok (d0', m0, []) := by
  have := frame_roundtrip_step P0 P0_wf false nofun d0 m0 m0_wf d0' w0 writeMsg_m0 []
  rwa [List.append_nil] at this

/-- the MAC tag of `P1` is injective on headers and on 16-byte frames: the block cipher is constant zero and the
    "hash" exposes bytes 16..31. -/
def H1 (y : Bytes) : Bytes := ((y.drop 16).take 16 ++ y.take 16 ++ List.replicate 32 0).take 32
def P1 : Prims :=
  { H := H1, E := fun _ => List.replicate 16 0, ks := fun n => UInt8.ofNat (5 * n + 1),
    snapEnc := id, snapLen := fun p => some p.length, snapDec := fun p => some p }

theorem P1_wf : Wf P1 := by
  constructor
  · intro x; simp [P1, H1]; omega
  · intro x; simp [P1]

theorem P1_macStep (m s : Bytes) (h : 16 ≤ s.length) : macStep P1 m s = m ++ s.take 16 := by
  simp only [macStep, P1]
  rw [zipXor_zeros 16 s h]

theorem P1_tag_hdr (a : Bytes) (h : a.length = 16) : tag P1 (macStep P1 [] a) = a := by
  rw [P1_macStep [] a (by omega)]
  simp only [List.nil_append, tag, P1, H1]
  rw [List.take_of_length_le (by omega : a.length ≤ 16)]
  simp only [List.drop_of_length_le (by omega : a.length ≤ 16), List.take_nil, List.nil_append]
  rw [List.take_take, List.take_of_length_le (by omega : a.length ≤ 16), List.take_left' (by simp [h])]

theorem P1_tag_frame (hdr c : Bytes) (hh : hdr.length = 16) (hc : c.length = 16) :
    tag P1 (macStep P1 (hdr ++ c) (P1.H (hdr ++ c))) = c := by
  have hH : P1.H (hdr ++ c) = c ++ hdr := by
    simp only [P1, H1]
    rw [List.drop_left' hh, List.take_left' hh, List.take_of_length_le (by omega : c.length ≤ 16)]
    rw [List.append_assoc, ← List.append_assoc c hdr, List.take_left' (by simp [hh, hc])]
  rw [P1_macStep _ _ (by rw [hH]; simp [hh, hc])]
  rw [hH, List.take_left' hc]
  simp only [tag, P1, H1]
  rw [List.append_assoc hdr c c, List.drop_left' hh, List.take_left' hc, List.take_left' hh]
  rw [List.take_take, List.append_assoc, List.take_left' (by simp [hc])]

end Aqv.Net
