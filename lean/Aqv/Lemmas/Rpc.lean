/-
  Aqv.Lemmas.Rpc — table-independent facts about the model of the RPC signing lock-down (C18).
  Everything here holds for every `Params` / every method; the generated table enters only in Aqv.Props.C18.
-/
import Aqv.Model.Rpc
namespace Aqv.Lemmas.Rpc
open Aqv.Model.Rpc

theorem allowed_eq_optedIn (P : Params) (hf : ∀ t, P.flagOf t = some (designated t)) (env : Env) (t : Transport) :
    allowed P env t = optedIn env t := by
  simp only [allowed, optedIn, hf t]

theorem allowed_of_exposed_protected (P : Params) (k : Kind) (cfg : Cfg) (env : Env) (t : Transport) (m : Method)
    (hx : exposed P k cfg env t m = true) (hs : m.isSub = false) (hp : isProtected P m.goName = true) :
    allowed P env t = true := by
  simp only [exposed, passesFilter, hs, hp, Bool.and_eq_true, Bool.not_true, Bool.false_or, Bool.not_eq_true'] at hx
  exact hx.2.2

theorem Env.get_set (e : Env) (v w : EnvVar) (b : Bool) : (e.set v b).get w = if w = v then b else e.get w := by
  cases v <;> cases w <;> rfl

theorem designated_inj {t t' : Transport} (h : designated t = designated t') : t = t' := by
  cases t <;> cases t' <;> first | rfl | cases h

/-- no transport is governed by UNSAFE_RPC_SIGNING. -/
theorem designated_ne_rpcSigning (t : Transport) : designated t ≠ .rpcSigning := by
  cases t <;> nofun

/-- what a transport exposes depends on the environment only through the variable its flag table entry names. -/
theorem exposed_set_other (P : Params) (k : Kind) (cfg : Cfg) (env : Env) (t : Transport) (m : Method) (v : EnvVar) (b : Bool)
    (hv : P.flagOf t ≠ some v) : exposed P k cfg (env.set v b) t m = exposed P k cfg env t m := by
  have ha : allowed P (env.set v b) t = allowed P env t := by
    unfold allowed
    cases hft : P.flagOf t with
    | none => rfl
    | some w => exact (Env.get_set env v w b).trans (if_neg fun h => hv (hft.trans (congrArg some h)))
  simp only [exposed, passesFilter, ha]

theorem exposed_of_optedIn (P : Params) (hf : ∀ t, P.flagOf t = some (designated t))
    (k : Kind) (cfg : Cfg) (env : Env) (t : Transport) (m : Method)
    (ho : optedIn env t = true) (hb : m.builtin = false) (hm : moduleAllowed cfg t m = true) (hp : present k m = true) :
    exposed P k cfg env t m = true := by
  simp [exposed, passesFilter, allowed_eq_optedIn P hf, ho, hb, hm, hp]

/-- sense.EnvBool is the documented reading, for every value. -/
theorem envBool_eq_envOn (v : Option String) : envBool v = envOn v := by
  cases v with
  | none => rfl
  | some x =>
    have disj : ∀ w ∈ truthyWords, w ∉ falsyWords := by decide
    simp only [envBool, envOn, boolString]
    generalize x.toLower = l
    by_cases h0 : l = ""
    · simp [h0]
    · by_cases ht : l ∈ truthyWords
      · simp [h0, ht, disj l ht]
      · by_cases hf : l ∈ falsyWords <;> simp [h0, ht, hf]

theorem optedIn_read (r : RawEnv) (t : Transport) : optedIn r.read t = optedInRaw r t := by
  cases t <;> simp [optedIn, optedInRaw, designated, RawEnv.read, RawEnv.get, Env.get, envBool_eq_envOn]

end Aqv.Lemmas.Rpc
