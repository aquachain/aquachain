/-
  The header layer of RLP: `readHead` by the numeric value of the tag byte, and reading back what `header` wrote; the
  fuel measure `weight`.
-/
import Aqv.Model.Rlp
import Aqv.Lemmas.Bytes
namespace Aqv.Rlp
open Aqv

theorem u8_toNat_ofNat (k : Nat) (h : k < 256) : (UInt8.ofNat k).toNat = k := by
  simp [UInt8.toNat_ofNat', Nat.mod_eq_of_lt h]

theorem lt_pow_of_beBytes_length_le (n k : Nat) (h : (beBytes n).length ≤ k) : n < 256 ^ k := by
  have h1 := beNat_lt (beBytes n)
  rw [beNat_beBytes] at h1
  exact Nat.lt_of_lt_of_le h1 (Nat.pow_le_pow_right (by omega) h)

theorem beBytes_len_bounds (n : Nat) (h56 : 56 ≤ n) (h : n < 2 ^ 64) :
    1 ≤ (beBytes n).length ∧ (beBytes n).length ≤ 8 :=
  ⟨List.length_pos_iff.2 (beBytes_ne_nil n (by omega)), beBytes_length_le n 8 (by simpa using h)⟩

theorem header_short (base : Nat) {n : Nat} (h : n < 56) : header base n = [UInt8.ofNat (base + n)] := by
  simp [header, h]

theorem header_long (base : Nat) {n : Nat} (h : 56 ≤ n) :
    header base n = UInt8.ofNat (base + 55 + (beBytes n).length) :: beBytes n := by
  simp [header, Nat.not_lt.2 h]

theorem header_ne_nil (base n : Nat) : header base n ≠ [] := by
  unfold header; split <;> simp

theorem header_length_pos (base n : Nat) : 0 < (header base n).length :=
  List.length_pos_iff.2 (header_ne_nil base n)

theorem header_length_le (base n : Nat) (h : n < 2 ^ 64) : (header base n).length ≤ 9 := by
  unfold header
  split
  · exact Nat.le_add_left 1 8
  · have := beBytes_length_le n 8 (by simpa using h)
    rw [List.length_cons]; omega

theorem readHead_cons (c : UInt8) (rest : Bytes) :
    readHead (c :: rest) =
      if c.toNat < 0x80 then .ok (.byte c rest)
      else if c.toNat < 0xB8 then .ok (.str (c.toNat - 0x80) rest)
      else if c.toNat < 0xC0 then
        match readSize (c.toNat - 0xB7) rest with
        | .ok (n, r) => .ok (.str n r)
        | .error e => .error e
      else if c.toNat < 0xF8 then .ok (.list (c.toNat - 0xC0) rest)
      else
        match readSize (c.toNat - 0xF7) rest with
        | .ok (n, r) => .ok (.list n r)
        | .error e => .error e := by
  have lt (k : UInt8) : (c < k) = (c.toNat < k.toNat) := propext UInt8.lt_iff_toNat_lt
  simp only [readHead]
  refine ite_congr (lt _) (fun _ => rfl) fun _ => ite_congr (lt _) (fun _ => rfl) fun _ =>
    ite_congr (lt _) (fun _ => ?_) fun _ => ite_congr (lt _) (fun _ => rfl) fun _ => ?_
  all_goals generalize readSize _ rest = x; rcases x with e | ⟨n, r⟩ <;> rfl

theorem readSize_beBytes (n : Nat) (h56 : 56 ≤ n) (rest : Bytes) :
    readSize (beBytes n).length (beBytes n ++ rest) = .ok (n, rest) := by
  unfold readSize
  simp only [List.length_append, List.take_left', List.drop_left']
  rw [if_neg (by omega)]
  cases hb : beBytes n with
  | nil => exact absurd hb (beBytes_ne_nil n (by omega))
  | cons b0 t =>
    simp only [beBytes_head_ne_zero n b0 t hb, if_false]
    rw [← hb, beNat_beBytes, if_neg (by omega)]

theorem readHead_header_str (n : Nat) (h : n < 2 ^ 64) (rest : Bytes) :
    readHead (header 0x80 n ++ rest) = .ok (.str n rest) := by
  by_cases hn : n < 56
  · rw [header_short _ hn, List.singleton_append, readHead_cons, u8_toNat_ofNat _ (by omega),
      if_neg (by omega), if_pos (by omega), Nat.add_sub_cancel_left]
  · obtain ⟨hl1, hl8⟩ := beBytes_len_bounds n (by omega) h
    rw [header_long _ (by omega), List.cons_append, readHead_cons, u8_toNat_ofNat _ (by omega),
      if_neg (by omega), if_neg (by omega), if_pos (by omega),
      show 0x80 + 55 + (beBytes n).length - 0xB7 = (beBytes n).length by omega, readSize_beBytes n (by omega)]

theorem readHead_header_list (n : Nat) (h : n < 2 ^ 64) (rest : Bytes) :
    readHead (header 0xC0 n ++ rest) = .ok (.list n rest) := by
  by_cases hn : n < 56
  · rw [header_short _ hn, List.singleton_append, readHead_cons, u8_toNat_ofNat _ (by omega),
      if_neg (by omega), if_neg (by omega), if_neg (by omega), if_pos (by omega), Nat.add_sub_cancel_left]
  · obtain ⟨hl1, hl8⟩ := beBytes_len_bounds n (by omega) h
    rw [header_long _ (by omega), List.cons_append, readHead_cons, u8_toNat_ofNat _ (by omega),
      if_neg (by omega), if_neg (by omega), if_neg (by omega), if_neg (by omega),
      show 0xC0 + 55 + (beBytes n).length - 0xF7 = (beBytes n).length by omega, readSize_beBytes n (by omega)]

theorem encStr_of_lt {x : UInt8} (h : x < 0x80) : encStr [x] = [x] := by
  simp [encStr, h]

theorem encStr_of_not_lt {b : Bytes} (h : ∀ x, b = [x] → ¬ x < 0x80) : encStr b = header 0x80 b.length ++ b := by
  unfold encStr
  split
  · rw [if_neg (h _ rfl)]; rfl
  · rfl

theorem encStr_ne_nil (b : Bytes) : encStr b ≠ [] := by
  unfold encStr
  split
  · split <;> simp [header]
  · simp [header_ne_nil]

theorem encStr_length_ge (b : Bytes) : b.length ≤ (encStr b).length := by
  unfold encStr
  split
  · split <;> simp
  · simp

theorem enc_ne_nil (it : Item) : enc it ≠ [] := by
  cases it with
  | str b => simp only [enc]; exact encStr_ne_nil b
  | list xs => simp [enc, header_ne_nil]

theorem enc_length_pos (it : Item) : 0 < (enc it).length :=
  List.length_pos_iff.2 (enc_ne_nil it)

mutual
  def weight : Item → Nat
    | .str _ => 1
    | .list xs => 1 + weightList xs
  def weightList : List Item → Nat
    | [] => 1
    | x :: xs => 1 + weight x + weightList xs
end

mutual
  theorem weight_le (it : Item) : weight it + 1 ≤ 3 * (enc it).length := by
    cases it with
    | str b =>
      have := enc_length_pos (.str b)
      simp only [weight]; omega
    | list xs =>
      have := weightList_le xs
      have := header_length_pos 0xC0 (encList xs).length
      simp only [weight, enc, List.length_append]
      omega
  theorem weightList_le (xs : List Item) : weightList xs ≤ 3 * (encList xs).length + 1 := by
    cases xs with
    | nil => simp [weightList, encList]
    | cons x xs =>
      have := weight_le x
      have := weightList_le xs
      simp only [weightList, encList, List.length_append]
      omega
end

end Aqv.Rlp
