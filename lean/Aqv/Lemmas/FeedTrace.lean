/-
  Aqv.Lemmas.FeedTrace — `Before` and the projections of a history under appending one event, and how the projections
  relate to each other; used to restate the state invariants of the Feed model on the history alone.
-/
import Aqv.Lemmas.FeedList
namespace Aqv.Feed

theorem before_snoc {tr : List Ev} {a b e : Ev} : Before (tr ++ [e]) a b ↔ Before tr a b ∨ (a ∈ tr ∧ b = e) :=
  sub2_snoc ..

theorem before_snoc_self {tr : List Ev} {a b : Ev} : Before (tr ++ [b]) a b ↔ a ∈ tr := by
  simp only [before_snoc, and_true]
  exact ⟨fun h => h.elim (fun h => (sub2_mem h).1) id, Or.inr⟩

theorem placesOf_snoc (tr : List Ev) (e : Ev) :
    placesOf (tr ++ [e]) = placesOf tr ++ (match e with | .place c g => [(c, g)] | _ => []) := by
  simp only [placesOf, List.filterMap_append]; cases e <;> rfl

theorem recvsOf_snoc (c : Chan) (tr : List Ev) (e : Ev) :
    recvsOf c (tr ++ [e]) = recvsOf c tr ++ (match e with | .recv c' g => if c' = c then [g] else [] | _ => []) := by
  simp only [recvsOf, List.filterMap_append]
  cases e <;> simp only [List.filterMap_cons, List.filterMap_nil]
  split <;> simp_all

theorem mem_placesOf (tr : List Ev) (c : Chan) (g : Sid) : (c, g) ∈ placesOf tr ↔ Ev.place c g ∈ tr := by
  simp only [placesOf, List.mem_filterMap]
  constructor
  · rintro ⟨e, he, h⟩; cases e <;> simp_all
  · exact fun h => ⟨_, h, rfl⟩

theorem count_placesOf (tr : List Ev) (c : Chan) (g : Sid) : (placesOf tr).count (c, g) = tr.count (Ev.place c g) := by
  rw [placesOf, List.count_filterMap, List.count_eq_countP]
  congr; funext e; cases e <;> exact Bool.eq_iff_iff.mpr (by simp)

theorem placesBy_eq (tr : List Ev) (g : Sid) : placesBy g tr = (placesOf tr).countP (fun p => p.2 == g) := by
  rw [placesOf, placesBy, List.countP_filterMap]
  congr; funext e; cases e <;> rfl

theorem placesOn_eq (tr : List Ev) (c : Chan) :
    placesOn c tr = ((placesOf tr).filter (fun p => p.1 == c)).map (·.2) := by
  rw [placesOf, placesOn, List.filter_filterMap, List.map_filterMap]
  congr; funext e; cases e <;> simp [Option.filter]

theorem before_place (tr : List Ev) (c c' : Chan) (g g' : Sid) (h : Before tr (.place c g) (.place c' g')) :
    List.Sublist [(c, g), (c', g')] (placesOf tr) :=
  show List.Sublist (placesOf [.place c g, .place c' g']) (placesOf tr) from List.Sublist.filterMap _ h

end Aqv.Feed
