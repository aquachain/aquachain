/-
  Aqv.Lemmas.FeedExec — a finite schedule followed by stuttering is a fair execution if it ends quiescent with every
  subscribed channel able to accept a value: the fairness assumptions of the liveness theorems are satisfiable.
-/
import Aqv.Lemmas.FeedLive
namespace Aqv.Feed

theorem run_take_succ : ∀ (as : List Act) (s F : St) (n : Nat) (hn : n < as.length), run s as = some F →
    ∃ s1 s2, run s (as.take n) = some s1 ∧ step s1 as[n] = some s2 ∧ run s (as.take (n + 1)) = some s2 := by
  intro as
  induction as with
  | nil => intro s F n hn; simp at hn
  | cons a rest ih =>
    intro s F n hn hrun
    simp only [run] at hrun
    cases hst : step s a with
    | none => simp [hst] at hrun
    | some s' =>
      simp only [hst] at hrun
      cases n with
      | zero => exact ⟨s, s', by simp [run], by simpa using hst, by simp [run, hst]⟩
      | succ k =>
        obtain ⟨s1, s2, h1, h2, h3⟩ := ih s' F k (by simpa using hn) hrun
        exact ⟨s1, s2, by simpa [run, hst] using h1, by simpa using h2, by simpa [run, hst] using h3⟩

def Exec.ofSchedule (as : List Act) (F : St) (h : run Feed.init as = some F) : Exec where
  σ n := (run Feed.init (as.take n)).getD Feed.init
  a n := as[n]?
  init := by simp [run]; exact Reach.init
  next n := by
    by_cases hn : n < as.length
    · left
      obtain ⟨s1, s2, h1, h2, h3⟩ := run_take_succ as Feed.init F n hn h
      exact ⟨as[n], by simp [hn], by simp only [h1, h3, Option.getD_some]; exact h2⟩
    · right
      have h1 : as.take n = as := List.take_of_length_le (by omega)
      have h2 : as.take (n + 1) = as := List.take_of_length_le (by omega)
      exact ⟨by simp; omega, by simp only [h1, h2]⟩

theorem Exec.ofSchedule_tail (as : List Act) (F : St) (h : run Feed.init as = some F) (m : Nat) (hm : as.length ≤ m) :
    (Exec.ofSchedule as F h).σ m = F := by
  simp only [Exec.ofSchedule, List.take_of_length_le hm, h, Option.getD_some]

theorem sendEnabled_held {s : St} {g : Sid} (h : SendEnabled s g) : (s.spc g).held = true := by
  obtain ⟨x, hx, hen⟩ := h
  obtain ⟨s', hs⟩ := Option.isSome_iff_exists.mp hen
  exact (Step.of_step hs).sender_held hx

theorem remEnabled_phase {s : St} {c : Chan} (h : RemEnabled s c) : soloPhase (s.rpc c) := by
  obtain ⟨x, hx, hen⟩ := h
  obtain ⟨s', hs⟩ := Option.isSome_iff_exists.mp hen
  exact ((Step.of_step hs).remover_phase hx).imp And.right (.imp And.right And.right)

theorem fair_of_quiescent_tail (as : List Act) (F : St) (h : run init as = some F)
    (htok : F.tokenFree = true) (hs : ∀ g, F.spc g ≠ .start) (hr : ∀ c, F.rpc c ≠ .start ∧ F.rpc c ≠ .sel)
    (hrecv : ∀ c ∈ F.sendCases, canPlace F c = true) : Fair (Exec.ofSchedule as F h) := by
  have ha := invA_reach (reach_run Reach.init h)
  have late : ∀ n, ∃ m, n ≤ m ∧ (Exec.ofSchedule as F h).σ m = F := fun n =>
    ⟨max n as.length, Nat.le_max_left _ _, Exec.ofSchedule_tail as F h _ (Nat.le_max_right _ _)⟩
  constructor
  · intro g n hen
    obtain ⟨m, hm, e⟩ := late n
    have := ha.sender_busy g (e ▸ sendEnabled_held (hen m hm))
    simp [htok] at this
  · intro c n hen
    obtain ⟨m, hm, e⟩ := late n
    rcases e ▸ remEnabled_phase (hen m hm) with h0 | h0 | h0
    · exact absurd h0 (hr c).1
    · have := ha.remover_busy c (by rw [h0]; rfl); simp [htok] at this
    · have := ha.remover_busy c (by rw [h0]; rfl); simp [htok] at this
  · intro c n
    obtain ⟨m, hm, e⟩ := late n
    refine ⟨m, hm, ?_⟩
    rw [e]
    exact (Classical.em (c ∈ F.sendCases)).imp (hrecv c) id
  · intro g n hall _
    obtain ⟨m, hm, e⟩ := late n
    exact hs g (e ▸ hall m hm)
  · intro c n hall _
    obtain ⟨m, hm, e⟩ := late n
    exact (hr c).2 (e ▸ hall m hm)

end Aqv.Feed
