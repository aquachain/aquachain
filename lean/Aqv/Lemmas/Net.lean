/-
  The discovery part of the C17 network model: slice-free readings of decodePacket and encodePacket, what decodePacket
  delivers and exactly when, round trips of the typed readers, the one step of the bond state that creates a bond.
-/
import Aqv.Model.Net
import Aqv.Lemmas.RlpTypedPrim
namespace Aqv.Net
open Aqv.Rlp

@[simp] theorem Out.bind_ok {α β : Type} (a : α) (f : α → Out β) : (Out.ok a >>= f) = f a := rfl
@[simp] theorem Out.bind_err {α β : Type} (e : Err) (f : α → Out β) : (Out.err e >>= f) = Out.err e := rfl
@[simp] theorem Out.bind_panic {α β : Type} (p : Panic) (f : α → Out β) : (Out.panic p >>= f) = Out.panic p := rfl

theorem Out.bind_eq_ok {α β : Type} (x : Out α) (f : α → Out β) (b : β) (h : (x >>= f) = .ok b) :
    ∃ a, x = .ok a ∧ f a = .ok b := by
  cases x with
  | ok a => exact ⟨a, rfl, h⟩
  | err e => cases h
  | panic p => cases h

theorem sliceTo_ok (b : Bytes) (hi : Nat) (h : hi ≤ b.length) : sliceTo b hi = .ok (b.take hi) := by
  simp [sliceTo, h]
theorem sliceFrom_ok (b : Bytes) (lo : Nat) (h : lo ≤ b.length) : sliceFrom b lo = .ok (b.drop lo) := by
  simp [sliceFrom, h]
theorem sliceFrom_panic (b : Bytes) (lo : Nat) (h : b.length < lo) :
    sliceFrom b lo = .panic (.sliceBounds lo b.length b.length) := by
  simp [sliceFrom, h]
theorem slice_ok (b : Bytes) (lo hi : Nat) (h1 : lo ≤ hi) (h2 : hi ≤ b.length) : slice b lo hi = .ok ((b.take hi).drop lo) := by
  simp [slice, h1, h2]
theorem index_ok (b : Bytes) (i : Nat) (h : i < b.length) : index b i = .ok b[i] := by
  simp [index, h]
theorem index_zero (b : Bytes) (h : b.length ≠ 0) : index b 0 = .ok (b.headD 0) := by
  cases b with
  | nil => exact absurd rfl h
  | cons a t => rfl

theorem sliceTo_length_le {b c : Bytes} {n : Nat} (h : sliceTo b n = .ok c) : c.length ≤ n := by
  unfold sliceTo at h
  split at h
  · cases h; exact List.length_take_le _ _
  · cases h

/-! ### the typed readers

`rBytes`, `rList`, `rRaw`, `rUint` of Model/Net re-implement `readBytes`, `readList`, `readRaw`, `readUint` of Model/RlpTyped
with the error forgotten (`rBytes_eq` … `rUint_eq`): a fact about them is stated about the typed primitive (RlpTypedPrim) and
carried over. `rArray` has no such bridge: its lemmas go through `readHead`. (About the model, not proved here: `rArray len`
computes what `readByteArray len` does only for `len ≥ 2`; the model calls it with 64.) -/

theorem toOption_eq_some {ε α : Type} {x : Except ε α} {a : α} (h : x.toOption = some a) : x = .ok a := by
  cases x <;> cases h; rfl

theorem rBytes_eq (bs : Bytes) : rBytes bs = (readBytes bs).toOption := by
  unfold rBytes readBytes
  rcases readHead bs with _ | (_ | _ | _) <;> try rfl
  dsimp only
  split
  · rfl
  rcases List.take _ _ with _ | ⟨x, _ | _⟩ <;> try rfl
  dsimp only; split <;> rfl

theorem rList_eq (bs : Bytes) : rList bs = (readList bs).toOption := by
  unfold rList readList
  rcases readHead bs with _ | (_ | _ | _) <;> try rfl
  dsimp only; split <;> rfl

theorem rRaw_eq (bs : Bytes) : rRaw bs = (readRaw bs).toOption := by
  unfold rRaw readRaw
  rcases readHead bs with _ | (_ | _ | _) <;> try rfl
  all_goals dsimp only; split <;> rfl

theorem rUint_eq (k : Nat) (bs : Bytes) : rUint k bs = (Rlp.readUint k bs).toOption := by
  unfold rUint Rlp.readUint
  rcases readHead bs with _ | (⟨b, r⟩ | ⟨n, r⟩ | _) <;> try rfl
  · dsimp only; split <;> rfl
  · dsimp only
    -- the two size tests come in the other order; a single byte `x` is rejected below 0x80, which covers `x = 0`
    by_cases h1 : k < n <;> by_cases h2 : r.length < n <;> simp only [h1, h2, if_true, if_false] <;> try rfl
    rcases List.take n r with _ | ⟨x, _ | ⟨y, t⟩⟩
    · rfl
    · by_cases hx : x < 0x80
      · by_cases h0 : x = 0 <;> simp [hx, h0, Except.toOption]
      · have h0 : x ≠ 0 := by rintro rfl; exact hx (by decide)
        simp [hx, h0, Except.toOption, beNat_singleton]
    · by_cases h0 : x = 0 <;> simp [h0, Except.toOption]

theorem rBytes_length {bs v rest : Bytes} (h : rBytes bs = some (v, rest)) : v.length + rest.length ≤ bs.length := by
  have := encStr_length_ge v
  rw [(readBytes_ok bs v rest (toOption_eq_some (rBytes_eq bs ▸ h))).1, List.length_append]; omega

theorem rList_length {bs pl rest : Bytes} (h : rList bs = some (pl, rest)) : pl.length + rest.length ≤ bs.length := by
  rw [(readList_ok bs pl rest (toOption_eq_some (rList_eq bs ▸ h))).1]; simp only [List.length_append]; omega

theorem rRaw_length {bs r rest : Bytes} (h : rRaw bs = some (r, rest)) : r.length + rest.length ≤ bs.length := by
  rw [(readRaw_ok bs r rest (toOption_eq_some (rRaw_eq bs ▸ h))).1, List.length_append]; exact Nat.le_refl _

theorem rUint_rest_le {k : Nat} {bs : Bytes} {n : Nat} {rest : Bytes} (h : rUint k bs = some (n, rest)) : rest.length ≤ bs.length :=
  Nat.le_of_lt (readUint_consumes _ _ _ _ (toOption_eq_some (rUint_eq k bs ▸ h)))

theorem rArray_length {k : Nat} {bs v rest : Bytes} (h : rArray k bs = some (v, rest)) : v.length + rest.length ≤ bs.length := by
  unfold rArray at h
  split at h
  · have := readHead_consumes _ _ ‹_›
    dsimp only at this
    split at h
    · cases h
    split at h
    · cases h
    · cases h; simp only [List.length_take, List.length_drop]; omega
  · cases h

theorem rBytesAlloc_le (bs : Bytes) : rBytesAlloc bs ≤ bs.length := by
  unfold rBytesAlloc
  split
  · have := readHead_consumes _ _ ‹_›
    dsimp only at this
    split <;> omega
  · exact Nat.zero_le _

theorem rRawAlloc_le (bs : Bytes) : rRawAlloc bs ≤ bs.length := by
  unfold rRawAlloc
  split
  · rw [(readHead_ok bs (.str _ _) ‹_›).1, List.length_append]
    split <;> omega
  · rw [(readHead_ok bs (.list _ _) ‹_›).1, List.length_append]
    split <;> omega
  · exact Nat.zero_le _

/-- `decodePacketG` without slices, on inputs of at least headSize+1 bytes. -/
def decodeCore (g : Bool) (P : DiscPrims) (nc : Bool) (buf : Bytes) : Out Decoded :=
  let sigdata := buf.drop headSize
  if buf.take macSize ≠ P.H (buf.drop macSize) then .err .badHash
  else
    match P.recover (P.H sigdata) ((buf.take headSize).drop macSize) with
    | none => .err .badSig
    | some fromID =>
      let t0 := sigdata.headD 0
      let t : UInt8 := if nc ∧ t0 < 133 then t0 + 133 else t0
      match kindOfType t with
      | none => .err .unknownType
      | some k =>
        let x : Nat := if nc then 0 else 4
        if sigdata.length < 1 + x then (if g then .err .tooSmall else .panic (.sliceBounds (1 + x) sigdata.length sigdata.length))
        else
          match decodeBody k (sigdata.drop (1 + x)) with
          | none => .err .rlp
          | some p => .ok { pkt := p, from_ := fromID, hash := buf.take macSize }

theorem decodePacketG_eq (g : Bool) (P : DiscPrims) (nc : Bool) (buf : Bytes) (hl : headSize + 1 ≤ buf.length) :
    decodePacketG g P nc buf = decodeCore g P nc buf := by
  have hm : macSize = 32 := rfl
  have hh : headSize = 97 := rfl
  unfold decodePacketG decodeCore
  rw [if_neg (by omega), sliceTo_ok _ _ (by omega), slice_ok _ _ _ (by omega) (by omega), sliceFrom_ok _ _ (by omega),
    sliceFrom_ok buf macSize (by omega)]
  have hsd : (buf.drop headSize).length ≠ 0 := by rw [List.length_drop]; omega
  simp only [Out.bind_ok, hsd, if_false]
  rw [index_zero _ hsd]
  generalize List.drop headSize buf = sd
  generalize (1 + if nc = true then 0 else 4) = x
  simp only [Out.bind_ok]
  -- the two sides now differ only in the compiled `match`es, hence the closing `rfl`s
  by_cases hs : sd.length < x
  · rw [sliceFrom_panic _ _ hs]
    cases g <;> simp only [hs, Out.bind_panic, if_true, false_and, and_self, Bool.false_eq_true, if_false] <;> rfl
  · rw [sliceFrom_ok _ _ (by omega)]
    simp only [hs, and_false, if_false, Out.bind_ok]
    rfl

theorem decodePacketG_short (g : Bool) (P : DiscPrims) (nc : Bool) (buf : Bytes) (hl : buf.length < headSize + 1) :
    decodePacketG g P nc buf = .err .tooSmall := by
  simp [decodePacketG, hl]

theorem decodePacketG_badHash (g : Bool) (P : DiscPrims) (nc : Bool) (buf : Bytes) (hl : headSize + 1 ≤ buf.length)
    (h : buf.take macSize ≠ P.H (buf.drop macSize)) : decodePacketG g P nc buf = .err .badHash := by
  rw [decodePacketG_eq _ _ _ _ hl, decodeCore, if_pos h]

/-! ### typed reader round trips

The size hypotheses say that the lengths fit the 64-bit length fields of RLP; for every part of a body they follow from
the bound on the whole. -/

theorem encListOf_length (pl : Bytes) : pl.length ≤ (encListOf pl).length := by
  simp [encListOf]

theorem rBytes_encStr (b rest : Bytes) (hb : b.length < 2 ^ 64) : rBytes (encStr b ++ rest) = some (b, rest) := by
  rw [rBytes_eq, readBytes_encStr b hb]; rfl

theorem rArray_encStr (n : Nat) (b rest : Bytes) (hn : b.length = n) (h2 : 2 ≤ n) (hb : n < 2 ^ 64) :
    rArray n (encStr b ++ rest) = some (b, rest) := by
  unfold encStr
  split
  · simp at hn; omega
  · simp only [rArray]
    rw [List.append_assoc, readHead_header_str _ (by omega)]
    simp only [List.length_append, List.take_left', List.drop_left']
    simp [hn]

theorem rList_encListOf (pl rest : Bytes) (h : pl.length < 2 ^ 64) : rList (encListOf pl ++ rest) = some (pl, rest) := by
  rw [rList_eq, encListOf, readList_enc pl h]; rfl

theorem rUint_encUint (k n : Nat) (rest : Bytes) (hn : n < 256 ^ k) (hk : k ≤ 8) :
    rUint k (encUint n ++ rest) = some (n, rest) := by
  cases k with
  | zero =>
    obtain rfl : n = 0 := by simpa using hn
    show rUint 0 (header 0x80 0 ++ [] ++ rest) = _
    rw [List.append_nil, rUint, readHead_header_str 0 (by omega)]
    rfl
  | succ k =>
    have := beBytes_length_le n _ hn
    rw [rUint_eq, encUint, readUint_enc _ (Nat.succ_pos k) n hn (by omega)]; rfl

/-- a raw RLP value as `Stream.Raw` returns it. -/
def RawOk (r : Bytes) : Prop := ∀ rest, rRaw (r ++ rest) = some (r, rest)

theorem RawOk.ne_nil {r : Bytes} (h : RawOk r) : r ≠ [] := by
  intro hr
  have := h []
  simp [hr, rRaw, readHead] at this

def Endpoint.Wf (e : Endpoint) : Prop := e.udp < 65536 ∧ e.tcp < 65536
def RpcNode.Wf (n : RpcNode) : Prop := n.udp < 65536 ∧ n.tcp < 65536 ∧ n.id.length = 64

theorem rEndpoint_enc (e : Endpoint) (rest : Bytes) (hw : e.Wf) (hl : (encEndpoint e).length < 2 ^ 64) :
    rEndpoint (encEndpoint e ++ rest) = some (e, rest) := by
  obtain ⟨hu, ht⟩ := hw
  rw [encEndpoint] at hl ⊢
  have hpl := Nat.lt_of_le_of_lt (encListOf_length _) hl
  rw [rEndpoint, rList_encListOf _ _ hpl]
  simp only [List.length_append] at hpl
  have := encStr_length_ge e.ip
  rw [← List.append_nil (encUint e.tcp)]
  simp (disch := first | assumption | omega) only [List.append_assoc, rBytes_encStr, rUint_encUint]
  rfl

theorem rNode_enc (n : RpcNode) (rest : Bytes) (hw : n.Wf) (hl : (encNode n).length < 2 ^ 64) :
    rNode (encNode n ++ rest) = some (n, rest) := by
  obtain ⟨hu, ht, hid⟩ := hw
  rw [encNode] at hl ⊢
  have hpl := Nat.lt_of_le_of_lt (encListOf_length _) hl
  rw [rNode, rList_encListOf _ _ hpl]
  simp only [List.length_append] at hpl
  have := encStr_length_ge n.ip
  rw [← List.append_nil (encStr n.id)]
  simp (disch := first | assumption | omega) only [List.append_assoc, rBytes_encStr, rUint_encUint, rArray_encStr]
  rfl

theorem encNode_ne_nil (n : RpcNode) : encNode n ≠ [] := by
  unfold encNode encListOf
  intro h
  simp at h
  exact header_ne_nil _ _ h.1

theorem rNodes_enc (ns : List RpcNode) (f : Nat) (hw : ∀ n ∈ ns, n.Wf) (hl : (encNodes ns).length < 2 ^ 64)
    (hf : (encNodes ns).length ≤ f) : rNodes f (encNodes ns) = some ns := by
  induction ns generalizing f with
  | nil => cases f <;> rfl
  | cons n ns ih =>
    simp only [encNodes, List.length_append] at hl hf ⊢
    cases hen : encNode n with
    | nil => exact absurd hen (encNode_ne_nil n)
    | cons b bs =>
      have hpos : 0 < (encNode n).length := by rw [hen]; exact Nat.succ_pos _
      obtain ⟨g, rfl⟩ : ∃ g, f = g + 1 := ⟨f - 1, by omega⟩
      rw [List.cons_append, rNodes, ← List.cons_append, ← hen, rNode_enc n _ (hw n (by simp)) (by omega)]
      simp only
      rw [ih g (fun m hm => hw m (by simp [hm])) (by omega) (by omega)]

theorem rRawAll_concat (rs : List Bytes) (f : Nat) (hw : ∀ r ∈ rs, RawOk r) (hf : (concatRaw rs).length ≤ f) :
    rRawAll f (concatRaw rs) = some rs := by
  induction rs generalizing f with
  | nil => cases f <;> rfl
  | cons r rs ih =>
    have hr := hw r (by simp)
    simp only [concatRaw, List.length_append] at hf ⊢
    cases hrr : r with
    | nil => exact absurd hrr hr.ne_nil
    | cons b bs =>
      have hpos : 0 < r.length := by rw [hrr]; exact Nat.succ_pos _
      obtain ⟨g, rfl⟩ : ∃ g, f = g + 1 := ⟨f - 1, by omega⟩
      rw [List.cons_append, rRawAll, ← List.cons_append, ← hrr, hr (concatRaw rs)]
      simp only
      rw [ih g (fun m hm => hw m (by simp [hm])) (by omega)]

def Packet.Wf : Packet → Prop
  | .ping v s d e rest => v < 2 ^ 64 ∧ s.Wf ∧ d.Wf ∧ e < 2 ^ 64 ∧ ∀ r ∈ rest, RawOk r
  | .pong d _ e rest => d.Wf ∧ e < 2 ^ 64 ∧ ∀ r ∈ rest, RawOk r
  | .findnode t e rest => t.length = 64 ∧ e < 2 ^ 64 ∧ ∀ r ∈ rest, RawOk r
  | .neighbors ns e rest => (∀ n ∈ ns, n.Wf) ∧ e < 2 ^ 64 ∧ ∀ r ∈ rest, RawOk r

theorem decodeBody_encodeBody (p : Packet) (trailing : Bytes) (hw : p.Wf) (hl : (encodeBody p).length < 2 ^ 64) :
    decodeBody p.kind (encodeBody p ++ trailing) = some p := by
  rw [decodeBody]
  -- in each case the list header, then the fields in order, each within the bound `hpl` on the payload
  cases p with
  | ping v s d e rest =>
    obtain ⟨hv, hs, hd, he, hr⟩ := hw
    rw [encodeBody] at hl ⊢
    have hpl := Nat.lt_of_le_of_lt (encListOf_length _) hl
    rw [rList_encListOf _ _ hpl]
    simp only [List.length_append] at hpl
    simp (disch := first | assumption | omega) only [Packet.kind, List.append_assoc, rUint_encUint, rEndpoint_enc, rRawAll_concat]
  | pong d tok e rest =>
    obtain ⟨hd, he, hr⟩ := hw
    rw [encodeBody] at hl ⊢
    have hpl := Nat.lt_of_le_of_lt (encListOf_length _) hl
    rw [rList_encListOf _ _ hpl]
    simp only [List.length_append] at hpl
    have := encStr_length_ge tok
    simp (disch := first | assumption | omega) only [Packet.kind, List.append_assoc, rUint_encUint, rEndpoint_enc, rBytes_encStr,
      rRawAll_concat]
  | findnode t e rest =>
    obtain ⟨ht, he, hr⟩ := hw
    rw [encodeBody] at hl ⊢
    have hpl := Nat.lt_of_le_of_lt (encListOf_length _) hl
    rw [rList_encListOf _ _ hpl]
    simp only [List.length_append] at hpl
    simp (disch := first | assumption | omega) only [Packet.kind, List.append_assoc, rUint_encUint, rArray_encStr, rRawAll_concat]
  | neighbors ns e rest =>
    obtain ⟨hn, he, hr⟩ := hw
    rw [encodeBody] at hl ⊢
    have hpl := Nat.lt_of_le_of_lt (encListOf_length _) hl
    rw [rList_encListOf _ _ hpl]
    simp only [List.length_append] at hpl
    have hns := encListOf_length (encNodes ns)
    simp (disch := first | assumption | omega) only [Packet.kind, List.append_assoc, rUint_encUint, rList_encListOf, rNodes_enc,
      rRawAll_concat]

theorem copyAt_mid (a b c src : Bytes) (h : src.length = b.length) :
    copyAt (a ++ b ++ c) a.length src = .ok (a ++ src ++ c) := by
  unfold copyAt
  rw [sliceFrom_ok _ _ (by simp)]
  simp only [List.append_assoc, List.drop_left', List.take_left']
  have h1 : List.take (b ++ c).length src = src := by
    apply List.take_of_length_le; simp; omega
  have h2 : List.drop src.length (b ++ c) = c := by rw [h]; simp
  rw [h1, h2]

def sigdataOf (nc : Bool) (ptype : UInt8) (p : Packet) : Bytes :=
  [ptype] ++ (if nc then [] else aquaTag) ++ encodeBody p

theorem encodePacket_eq (H : Bytes → Bytes) (sign : Bytes → Bytes) (nc : Bool) (ptype : UInt8) (p : Packet)
    (hH : ∀ x, (H x).length = 32) (hsig : ∀ h, (sign h).length = 65) :
    encodePacket H sign nc ptype p =
      .ok (H (sign (H (sigdataOf nc ptype p)) ++ sigdataOf nc ptype p) ++ sign (H (sigdataOf nc ptype p)) ++ sigdataOf nc ptype p,
           H (sign (H (sigdataOf nc ptype p)) ++ sigdataOf nc ptype p)) := by
  unfold encodePacket
  have hsd : List.replicate headSize (0 : UInt8) ++ [ptype] ++ (if nc = true then [] else aquaTag) ++ encodeBody p
      = List.replicate macSize (0 : UInt8) ++ List.replicate sigSize (0 : UInt8) ++ sigdataOf nc ptype p := by
    simp [sigdataOf, headSize, List.replicate_append_replicate]
  simp only [hsd]
  generalize sigdataOf nc ptype p = sd
  generalize hsg : sign (H sd) = sig
  have hsl : sig.length = sigSize := by rw [← hsg]; exact hsig _
  have hm : (List.replicate macSize (0 : UInt8)).length = macSize := List.length_replicate
  have hs : (List.replicate sigSize (0 : UInt8)).length = sigSize := List.length_replicate
  -- each slice starts where a zero block ends, each `copy` overwrites one
  rw [sliceFrom_ok _ _ (by simp [headSize]), List.drop_left' (by rw [List.length_append, hm, hs]; rfl)]
  simp only [Out.bind_ok, hsg]
  have hc1 := copyAt_mid (List.replicate macSize (0 : UInt8)) (List.replicate sigSize (0 : UInt8)) sd sig (by rw [hsl, hs])
  rw [hm] at hc1
  rw [hc1]
  simp only [Out.bind_ok]
  rw [List.append_assoc, sliceFrom_ok _ _ (by simp), List.drop_left' hm]
  simp only [Out.bind_ok]
  have hc2 := copyAt_mid [] (List.replicate macSize (0 : UInt8)) (sig ++ sd) (H (sig ++ sd)) (by rw [hH, hm]; rfl)
  simp only [List.nil_append, List.length_nil] at hc2
  rw [hc2]
  simp [List.append_assoc]

theorem decodePacketG_eq_ok_iff (g : Bool) (P : DiscPrims) (nc : Bool) (buf : Bytes) (d : Decoded) :
    decodePacketG g P nc buf = .ok d ↔
      headSize + 1 ≤ buf.length ∧ d.hash = buf.take macSize ∧ d.hash = P.H (buf.drop macSize) ∧
      P.recover (P.H (buf.drop headSize)) ((buf.take headSize).drop macSize) = some d.from_ ∧
      ∃ k, kindOfType (if nc = true ∧ (buf.drop headSize).headD 0 < 133 then (buf.drop headSize).headD 0 + 133
                        else (buf.drop headSize).headD 0) = some k ∧
        1 + (if nc = true then 0 else 4) ≤ (buf.drop headSize).length ∧
        decodeBody k ((buf.drop headSize).drop (1 + if nc = true then 0 else 4)) = some d.pkt := by
  by_cases hl : buf.length < headSize + 1
  · rw [decodePacketG_short _ _ _ _ hl]
    exact ⟨nofun, fun h => absurd h.1 (by omega)⟩
  rw [decodePacketG_eq _ _ _ _ (by omega), decodeCore]
  dsimp only
  generalize List.drop headSize buf = sd
  generalize (if nc = true ∧ sd.headD 0 < 133 then sd.headD 0 + 133 else sd.headD 0) = t
  generalize (1 + if nc = true then 0 else 4) = x
  constructor
  · intro h
    -- hash, signature, type byte, length, body: each test that fails ends in an error (unguarded, the fourth in the panic)
    split at h
    · cases h
    rename_i hhash
    split at h
    · cases h
    rename_i nid hrec
    split at h
    · cases h
    rename_i k hk
    split at h
    · cases g <;> cases h
    rename_i hlen
    split at h
    · cases h
    rename_i p hbody
    cases h
    exact ⟨by omega, rfl, Classical.not_not.1 hhash, hrec, k, hk, by omega, hbody⟩
  · rintro ⟨_, h1, h2, h3, k, hk, hlen, hb⟩
    simp only [← h1, h2, h3, hk, hb, ne_eq, not_true_eq_false, if_false]
    rw [if_neg (by omega), ← h2]

/-- on a datagram split into `hash ‖ signature ‖ signed data` the takes and drops are the fields. -/
theorem decodePacketG_fields (g : Bool) (P : DiscPrims) (nc : Bool) (h s sd id : Bytes) (k : Kind) (p : Packet)
    (hh : h.length = macSize) (hs : s.length = sigSize) (hhash : h = P.H (s ++ sd)) (hrec : P.recover (P.H sd) s = some id)
    (hk : kindOfType (if nc = true ∧ sd.headD 0 < 133 then sd.headD 0 + 133 else sd.headD 0) = some k)
    (hlen : 1 + (if nc = true then 0 else 4) ≤ sd.length)
    (hbody : decodeBody k (sd.drop (1 + if nc = true then 0 else 4)) = some p) :
    decodePacketG g P nc (h ++ s ++ sd) = .ok { pkt := p, from_ := id, hash := h } := by
  have hhs : (h ++ s).length = headSize := by rw [List.length_append, hh, hs]; rfl
  have hl : headSize + 1 ≤ (h ++ s ++ sd).length := by rw [List.length_append, hhs]; omega
  rw [decodePacketG_eq_ok_iff, List.drop_left' hhs, List.take_left' hhs, List.drop_left' hh, List.append_assoc, List.take_left' hh,
    List.drop_left' hh]
  exact ⟨List.append_assoc h s sd ▸ hl, rfl, hhash, hrec, k, hk, hlen, hbody⟩

theorem kindOfType_typeByte (nc : Bool) (k : Kind) :
    kindOfType (if nc = true ∧ typeByte nc k < 133 then typeByte nc k + 133 else typeByte nc k) = some k := by
  cases nc <;> cases k <;> decide

theorem bondStep_served (s : BondSt) (e : DEv) (id : Bytes) (h : findnodeServed (bondStep s e) id = true) :
    findnodeServed s id = true ∨ ∃ tok, e = .pongRecv id tok ∧ s.pending.contains (id, tok) = true := by
  cases e with
  | pingSent _ _ | pingTimeout _ | pingRecv _ | findnode _ => exact .inl h
  | pongRecv i t =>
    by_cases hc : s.pending.contains (i, t) = true
    · simp only [bondStep, hc, if_true, findnodeServed, List.contains_cons, Bool.or_eq_true] at h
      rcases h with h | h
      · have hi : id = i := by simpa using h
        exact .inr ⟨t, by rw [hi], by rw [hi]; exact hc⟩
      · exact .inl h
    · simp only [bondStep, hc] at h
      exact .inl h

end Aqv.Net
