/-
  Aqv.Lemmas.ChainWriterTrace — every event the model of the writers emits preserves `Inv`; hence every prefix of the
  write log is an image that satisfies the discipline (C04).
-/
import Aqv.Lemmas.ChainWriter
namespace Aqv.ChainDb

@[simp] theorem emit_db (s : Em) (e : Event) : (s.emit e).db = apply s.db e := rfl
@[simp] theorem emit_head (s : Em) (e : Event) : (s.emit e).head = s.head := rfl
@[simp] theorem emitHead_db (s : Em) (e : Event) (h : Hash) : (s.emitHead e h).db = apply s.db e := rfl
@[simp] theorem emitHead_head (s : Em) (e : Event) (h : Hash) : (s.emitHead e h).head = h := rfl

@[simp] theorem emitAll_head (s : Em) (es : List Event) : (s.emitAll es).head = s.head := by
  induction es generalizing s with
  | nil => rfl
  | cons e rest ih => exact ih (s.emit e)

structure Good (ar : Bool) (V : Hash → Hdr → Prop) (db₀ : Db) (g₀ : Hash) (s : Em) : Prop where
  all : ∀ p, p <+: s.log → Inv ar V (applyAll db₀ (p.map (·.1))) (ghostAt g₀ p)
  dbEq : s.db = applyAll db₀ (s.log.map (·.1))
  ghost : ghostAt g₀ s.log = s.head

variable {ar : Bool} {V : Hash → Hdr → Prop} {db₀ : Db} {g₀ : Hash}

theorem Good.inv {s : Em} (hg : Good ar V db₀ g₀ s) : Inv ar V s.db s.head := by
  rw [hg.dbEq, ← hg.ghost]
  exact hg.all _ (List.prefix_refl _)

theorem Good.trace {s : Em} (hg : Good ar V db₀ g₀ s) : TraceOK ar db₀ g₀ s.log = true :=
  (traceOK_iff_prefixes _ _ _).mpr fun p hp => imageOK_of_inv (hg.all p hp)

theorem good_emitHead {s : Em} (hg : Good ar V db₀ g₀ s) (e : Event) (h : Hash) (hi : Inv ar V (apply s.db e) h) :
    Good ar V db₀ g₀ (s.emitHead e h) := by
  have hdb : apply s.db e = applyAll db₀ ((s.log ++ [(e, h)]).map (·.1)) := by
    rw [List.map_append, List.map_singleton, applyAll_snoc, ← hg.dbEq]
  refine ⟨fun p hp => ?_, hdb, ghostAt_snoc _ _ _ _⟩
  rcases List.prefix_concat_iff.mp hp with rfl | hp'
  · rw [← hdb, ghostAt_snoc]; exact hi
  · exact hg.all p hp'

theorem good_emit {s : Em} (hg : Good ar V db₀ g₀ s) (e : Event) (hi : Inv ar V (apply s.db e) s.head) :
    Good ar V db₀ g₀ (s.emit e) := good_emitHead hg e s.head hi

theorem good_hhdr {s : Em} (hg : Good ar V db₀ g₀ s) (h : Hash) : Good ar V db₀ g₀ { s with hhdr := h } :=
  ⟨hg.all, hg.dbEq, hg.ghost⟩

theorem good_emit_irrelevant {s : Em} (hg : Good ar V db₀ g₀ s) (e : Event) (he : e.writesOnly irrelevant) :
    Good ar V db₀ g₀ (s.emit e) :=
  good_emit hg e (inv_of_same hg.inv (touchesOnly_apply he _))

theorem good_emitAll_irrelevant : ∀ (es : List Event) {s : Em}, Good ar V db₀ g₀ s →
    (∀ e ∈ es, e.writesOnly irrelevant) →
    Good ar V db₀ g₀ (s.emitAll es) ∧ TouchesOnly irrelevant s.db (s.emitAll es).db := by
  intro es
  induction es with
  | nil => exact fun hg _ => ⟨hg, .refl _ _⟩
  | cons e rest ih =>
    intro s hg hall
    have he := hall e (by simp)
    obtain ⟨r1, r2⟩ := ih (good_emit_irrelevant hg e he) fun e' he' => hall e' (List.mem_cons_of_mem _ he')
    exact ⟨r1, (touchesOnly_apply he _).trans r2⟩

/-- the batches flushed by one or more `trie.Database.Commit` calls, each children-first relative to the store so far -/
def FlushOK (db : Db) : List Writes → Prop
  | [] => True
  | ws :: rest => trieWritesOK db ws = true ∧ FlushOK (apply db (.batch ws)) rest

instance FlushOK.dec : (db : Db) → (flush : List Writes) → Decidable (FlushOK db flush)
  | _, [] => isTrue trivial
  | db, ws :: rest => by
    unfold FlushOK
    exact @instDecidableAnd _ _ _ (FlushOK.dec _ rest)

instance (db : Db) (b : Blk) : Decidable (FreshOrSame db b) := by unfold FreshOrSame; infer_instance

theorem good_flush : ∀ (flush : List Writes) {s : Em}, Good ar V db₀ g₀ s → FlushOK s.db flush →
    Good ar V db₀ g₀ (s.emitAll (flushEventsOf flush)) ∧
      TouchesOnly isTrieKey s.db (s.emitAll (flushEventsOf flush)).db ∧
      (∀ c, (get s.db (.node c)).isSome = true → (get (s.emitAll (flushEventsOf flush)).db (.node c)).isSome = true) := by
  intro flush
  induction flush with
  | nil => exact fun hg _ => ⟨hg, .refl _ _, fun _ h => h⟩
  | cons ws rest ih =>
    intro s hg hok
    obtain ⟨i, t⟩ := inv_trie_batch hg.inv ws hok.1
    have h2 := (trie_batch_spec s.db ws s.db (fun _ h => h) hg.inv.closed hok.1).2.1
    obtain ⟨r1, r2, r3⟩ := ih (good_emit hg (.batch ws) i) hok.2
    exact ⟨r1, t.trans r2, fun c hc => r3 c (h2 c hc)⟩

/-- the keys the clean-up part of `insert` (3f14ce8) writes -/
def CleanKeys (lo : Nat) (ws : Writes) : Prop :=
  ∀ w ∈ ws, (∃ t, w.1 = Key.lookup t) ∨ (∃ i, lo ≤ i ∧ w.1 = Key.canon i)

theorem CleanKeys.loose {lo : Nat} {ws : Writes} (h : CleanKeys lo ws) : ∀ w ∈ ws, loose lo w.1 = true := by
  intro w hw
  rcases h w hw with ⟨t, e⟩ | ⟨i, hi, e⟩ <;> rw [e]
  · rfl
  · exact loose_canon.mpr hi

theorem cleanKeys_drop (db : Db) (h : Hash) (lo : Nat) : CleanKeys lo (dropLookupsW db h) := by
  intro w hw
  simp only [dropLookupsW, List.mem_map] at hw
  obtain ⟨t, _, rfl⟩ := hw
  exact .inl ⟨t, rfl⟩

theorem CleanKeys.append {lo : Nat} {a b : Writes} (ha : CleanKeys lo a) (hb : CleanKeys lo b) : CleanKeys lo (a ++ b) := by
  intro w hw
  rcases List.mem_append.mp hw with h | h
  · exact ha w h
  · exact hb w h

theorem CleanKeys.mono {lo lo' : Nat} {a : Writes} (h : CleanKeys lo a) (hle : lo' ≤ lo) : CleanKeys lo' a := by
  intro w hw
  rcases h w hw with h1 | ⟨i, hi, h2⟩
  · exact .inl h1
  · exact .inr ⟨i, by omega, h2⟩

theorem cleanKeys_above (db : Db) : ∀ (fuel i : Nat), CleanKeys i (cleanAboveW db fuel i) := by
  intro fuel
  induction fuel with
  | zero => intro i w hw; cases hw
  | succ f ih =>
    intro i
    unfold cleanAboveW
    split
    · intro w hw; cases hw
    · refine ((cleanKeys_drop db _ i).append ?_).append ((ih (i + 1)).mono (by omega))
      intro w hw
      obtain rfl := List.mem_singleton.mp hw
      exact .inr ⟨i, Nat.le_refl _, rfl⟩

/-- when the parent is canonical the "re-point below" loop of `insert` writes nothing -/
theorem insertClean_keys (db : Db) (parent : Option Hash) (m : Nat) (fuel : Nat) {p : Hash}
    (hpar : ∀ q, parent = some q → q = p) (hcan : canonHash db m = some p) :
    CleanKeys (m + 2) (insertCleanW db parent (m + 1) fuel) := by
  unfold insertCleanW
  refine (CleanKeys.append ?_ (cleanKeys_above db fuel (m + 1 + 1))).append ?_
  · split
    · exact cleanKeys_drop db _ _
    · intro w hw; cases hw
  · intro w hw
    cases parent with
    | none => cases hw
    | some q =>
      cases hpar q rfl
      simp [repointBelowW, hcan] at hw

/-- `hna`: with separate puts (before deec78d) the number entry is written while the old head is still in place, so the
    old head must lie below it -/
theorem good_insertW (v : Variant) {s : Em} (hg : Good ar V db₀ g₀ s) {B : Hash} {m : Nat} {hdB : Hdr}
    (hB : getBlock s.db B (m + 1) = some hdB) (hP : CanonAgrees s.db hdB.parent m)
    (hna : v.atomicInsert = false → ∃ n, blockNumber s.db s.head = some n ∧ n < m + 1)
    (parent : Option Hash) (aboveFuel : Nat) (hpar : ∀ q, parent = some q → q = hdB.parent) :
    Good ar V db₀ g₀ (insertW v s B (m + 1) parent aboveFuel) ∧ (insertW v s B (m + 1) parent aboveFuel).head = B ∧
      TouchesOnly (headKeys (m + 1)) s.db (insertW v s B (m + 1) parent aboveFuel).db := by
  unfold insertW
  cases hat : v.atomicInsert with
  | false =>
    obtain ⟨n, hn, hlt⟩ := hna hat
    simp only [Bool.not_false, if_true]
    have t1 : TouchesOnly (loose (m + 1)) s.db (s.emit (.put (.canon (m + 1)) (.ref B))).db :=
      touchesOnly_put _ _ (loose_canon.mpr (Nat.le_refl _))
    have g1 := good_emit hg (.put (.canon (m + 1)) (.ref B)) (inv_canon_above hg.inv hn (t1.mono (loose_mono hlt)))
    have i2 : Inv ar V (apply (s.emit (.put (.canon (m + 1)) (.ref B))).db (.put .lastBlock (.ref B))) B :=
      inv_new_head g1.inv (by rw [getBlock_congr (t1 _ rfl) (t1 _ rfl)]; exact hB) (canonAgrees_loose t1 hP)
        (by simp [apply, get_put]) (get_put_same _ _ _) (touchesOnly_put _ _ rfl)
    have g2 := good_emitHead g1 (.put .lastBlock (.ref B)) B i2
    have t2 : TouchesOnly (headKeys (m + 1)) s.db
        ((s.emit (.put (.canon (m + 1)) (.ref B))).emitHead (.put .lastBlock (.ref B)) B).db :=
      (t1.mono headKeys_of_loose).trans (touchesOnly_put _ _ rfl)
    split
    · have g3 := good_hhdr (good_emit_irrelevant g2 (.put .lastHeader (.ref B)) rfl) B
      exact ⟨good_emit_irrelevant g3 (.put .lastFast (.ref B)) rfl, rfl,
        (t2.trans (touchesOnly_put _ _ rfl)).trans (touchesOnly_put _ _ rfl)⟩
    · exact ⟨g2, rfl, t2⟩
  | true =>
    simp only [Bool.not_true, Bool.false_eq_true, if_false]
    split
    · refine (inv_insert_batch hg.inv hB hP _ fun w hw => ?_).elim fun i1 t => ⟨good_hhdr (good_emitHead hg _ B i1) B, rfl, t⟩
      rcases List.mem_append.mp hw with h1 | h1
      · split at h1
        · exact (insertClean_keys s.db parent m aboveFuel hpar (canonAgrees_canon hP)).loose w h1
        · cases h1
      · simp only [List.mem_cons, List.not_mem_nil, or_false] at h1
        rcases h1 with rfl | rfl <;> rfl
    · exact (inv_insert_batch hg.inv hB hP [] nofun).elim fun i1 t => ⟨good_emitHead hg _ B i1, rfl, t⟩

@[simp] theorem delCanonAbove_head : ∀ (fuel : Nat) (s : Em) (i : Nat), (delCanonAbove fuel s i).head = s.head := by
  intro fuel
  induction fuel with
  | zero => exact fun _ _ => rfl
  | succ fuel ih =>
    intro s i
    unfold delCanonAbove
    split
    · rfl
    · rw [ih, emit_head]

theorem good_delCanonAbove : ∀ (fuel : Nat) {s : Em} (i : Nat) {n : Nat}, Good ar V db₀ g₀ s →
    blockNumber s.db s.head = some n → n < i →
    Good ar V db₀ g₀ (delCanonAbove fuel s i) ∧ TouchesOnly (loose (n + 1)) s.db (delCanonAbove fuel s i).db := by
  intro fuel
  induction fuel with
  | zero => exact fun _ _ hg _ _ => ⟨hg, .refl _ _⟩
  | succ fuel ih =>
    intro s i n hg hn hlt
    unfold delCanonAbove
    split
    · exact ⟨hg, .refl _ _⟩
    · have t1 : TouchesOnly (loose (n + 1)) s.db (s.emit (.del (.canon i))).db :=
        touchesOnly_del _ (loose_canon.mpr hlt)
      obtain ⟨r1, r2⟩ := ih (i + 1) (good_emit hg (.del (.canon i)) (inv_canon_above hg.inv hn t1))
        (by rw [emit_head, blockNumber_congr (t1 _ rfl)]; exact hn) (Nat.lt_succ_of_lt hlt)
      exact ⟨r1, t1.trans r2⟩

theorem lookupWrites_irrelevant (h : Hash) (txs : List Nat) : ∀ w ∈ lookupWrites h txs, irrelevant w.1 = true := by
  intro w hw
  obtain ⟨t, _, rfl⟩ := List.mem_map.mp hw
  rfl

theorem good_reinsertAll (v : Variant) (hat : v.atomicInsert = true) (xTxs : Hash → Option (List Nat)) (af : Nat) :
    ∀ (chain : List (Hash × Hdr)) {s : Em} (P : Hash) (m : Nat), Good ar V db₀ g₀ s →
    Linked s.db P m chain → CanonAgrees s.db P m →
    Good ar V db₀ g₀ (reinsertAll v xTxs af chain s) ∧ (reinsertAll v xTxs af chain s).head = chainEnd s.head chain ∧
      TouchesOnly (headKeys (m + 1)) s.db (reinsertAll v xTxs af chain s).db := by
  intro chain
  induction chain with
  | nil => exact fun _ _ hg _ _ => ⟨hg, rfl, .refl _ _⟩
  | cons x rest ih =>
    intro s P m hg hl hc
    obtain ⟨h, hd⟩ := x
    cases hl with
    | cons hb hp hrest =>
      unfold reinsertAll
      simp only
      rw [getBlock_num hb]
      obtain ⟨g1, h1, t1⟩ := good_insertW v hg hb (hp ▸ hc) (by rw [hat]; nofun) (some hd.parent) af
        (fun _ hq => (Option.some.inj hq).symm)
      obtain ⟨g2, t2⟩ := good_emitAll_irrelevant
        ((lookupWrites h ((xTxs h).getD (bodyTxs (insertW v s h (m + 1) (some hd.parent) af).db h))).map
          fun w => Event.put w.1 (Val.ref h)) g1
        (fun e he => by
          obtain ⟨w, hw, rfl⟩ := List.mem_map.mp he
          exact lookupWrites_irrelevant _ _ w hw)
      have t12 := t1.trans (t2.mono fun k hk => headKeys_of_loose k (loose_of_irrelevant k hk))
      have hblk : ∀ x n hd', getBlock s.db x n = some hd' → getBlock _ x n = some hd' :=
        fun x n hd' hb' => by rw [getBlock_congr (t12 _ rfl) (t12 _ rfl)]; exact hb'
      -- `h` is the head now: the invariant gives its chain
      have i2 := g2.inv
      rw [emitAll_head, h1] at i2
      obtain ⟨r1, r2, r3⟩ := ih h (m + 1) g2 (linked_mono hblk hrest) (i2.chainAt (hblk _ _ _ hb))
      exact ⟨r1, by rw [r2, emitAll_head, h1]; rfl, t12.trans (r3.mono (headKeys_mono (Nat.le_succ _)))⟩

theorem chainEnd_nonempty (P Q : Hash) : ∀ {chain : List (Hash × Hdr)}, chain ≠ [] → chainEnd P chain = chainEnd Q chain
  | [], h => absurd rfl h
  | _ :: _, _ => rfl

/-- `reorg` with an atomic `insert`, the incoming block already stored (`hX`) -/
theorem good_reorgW (v : Variant) (hat : v.atomicInsert = true) {s s' : Em} (hg : Good ar V db₀ g₀ s) {chd : Hdr} {cn : Nat}
    (b : Blk) (hcur : getBlock s.db s.head cn = some chd)
    (hX : getBlock s.db b.hash b.num = some ⟨b.parent, b.num, b.root⟩)
    (h : reorgW v s (s.head, chd) b = some s') :
    Good ar V db₀ g₀ s' ∧ CanonAgrees s'.db b.hash b.num ∧
      (∀ x n, getBlock s'.db x n = getBlock s.db x n) := by
  unfold reorgW at h
  split at h
  · cases h
  · rename_i oc nc hrc
    have hchdnum := getBlock_num hcur
    obtain ⟨C, c, hC, hL, hE⟩ := reorgChains_spec _ _ _ _ _ _ _ _ _ hrc (by rw [hchdnum]; exact hcur)
      (by rw [hchdnum]; exact hg.inv.chainAt hcur) hX (Linked.nil _ _)
    simp only [List.reverse_nil, chainEnd] at hE
    injection h with h
    dsimp only at h
    -- `s1`: the state after the re-pointing loop
    generalize hs1 : reinsertAll v _ _ nc.reverse s = s1 at h
    obtain ⟨g1, h1, t1⟩ : Good ar V db₀ g₀ s1 ∧ s1.head = chainEnd s.head nc.reverse ∧
        TouchesOnly (headKeys (c + 1)) s.db s1.db := hs1 ▸ good_reinsertAll v hat _ _ nc.reverse C c hg hL hC
    have e1 : ∀ x n, getBlock s1.db x n = getBlock s.db x n := fun x n => getBlock_congr (t1 _ rfl) (t1 _ rfl) n
    have hhead : nc ≠ [] → s1.head = b.hash :=
      fun hne => by rw [h1, chainEnd_nonempty s.head C (by simpa using hne), hE]
    have c1 : CanonAgrees s1.db b.hash b.num := by
      cases nc with
      | nil =>
        obtain rfl : C = b.hash := hE
        obtain ⟨hd', hb'⟩ := canonAgrees_block hC
        obtain rfl := getBlock_num_unique hb' hX
        subst hs1
        exact hC
      | cons x rest =>
        have i1 := g1.inv
        rw [hhead (by simp)] at i1
        exact i1.chainAt (by rw [e1]; exact hX)
    -- the lookups of the dropped transactions go last
    have tail : ∀ s2 : Em, Good ar V db₀ g₀ s2 → CanonAgrees s2.db b.hash b.num →
        (∀ x n, getBlock s2.db x n = getBlock s.db x n) → ∀ ts : List Nat,
        s2.emitAll (ts.map fun t => Event.del (.lookup t)) = s' →
        Good ar V db₀ g₀ s' ∧ CanonAgrees s'.db b.hash b.num ∧ (∀ x n, getBlock s'.db x n = getBlock s.db x n) := by
      rintro s2 g2 c2 e2 ts rfl
      obtain ⟨g3, t3⟩ := good_emitAll_irrelevant (ts.map fun t => Event.del (.lookup t)) g2
        (fun e he => by obtain ⟨t, _, rfl⟩ := List.mem_map.mp he; rfl)
      exact ⟨g3, canonAgrees_loose (t3.mono loose_of_irrelevant) c2,
        fun x n => by rw [getBlock_congr (t3 _ rfl) (t3 _ rfl), e2]⟩
    split at h
    · exact tail _ g1 c1 e1 _ h
    · -- before 3f14ce8: the clean-up above the new head
      rename_i hif
      have hne : nc ≠ [] := by rintro rfl; simp at hif
      obtain ⟨g2, t2⟩ := good_delCanonAbove (chd.num + 2) (b.num + 1) g1
        (by rw [hhead hne]; exact g1.inv.hnum _ _ _ (getBlock_header (by rw [e1]; exact hX))) (Nat.lt_succ_self _)
      exact tail _ g2 (canonAgrees_loose t2 c1)
        (fun x n => by rw [getBlock_congr (t2 _ rfl) (t2 _ rfl), e1]) _ h

/-- what the importer guarantees about a block it hands to `WriteBlockWithState` and about the tries flushed meanwhile -/
structure ImportOK (ar : Bool) (V : Hash → Hdr → Prop) (s : Em) (b : Blk) (flush : List Writes) : Prop where
  flushOK : FlushOK (apply s.db (.put (.td b.hash) .blob)) flush
  fresh : FreshOrSame s.db b
  state : ar = true → hasState ((s.emit (.put (.td b.hash) .blob)).emitAll (flushEventsOf flush)).db b.root = true
  pos : 0 < b.num
  link : ∀ n, blockNumber s.db b.parent = some n → b.num = n + 1
  valid : V b.hash ⟨b.parent, b.num, b.root⟩
  /-- insertChain: ErrUnknownAncestor otherwise -/
  parent : ∀ m, b.num = m + 1 → ∃ hd', getBlock s.db b.parent m = some hd'

/-- `hv`: `reorg` is covered only with `atomicInsert` and `batchFirst`; the other variants are restricted to head extensions -/
theorem good_writeBlock (v : Variant) {s : Em} (hg : Good ar V db₀ g₀ s) (b : Blk) (canon : Bool) (flush : List Writes)
    (hok : ImportOK ar V s b flush)
    (hv : (v.atomicInsert = true ∧ v.batchFirst = true) ∨ (canon = true → b.parent = s.head)) :
    Good ar V db₀ g₀ (writeBlock v s b canon flush) := by
  unfold writeBlock
  simp only
  -- the total-difficulty record and the trie flushes: the block records are still those of `s`
  have t1 : TouchesOnly isTd s.db (s.emit (.put (.td b.hash) .blob)).db := touchesOnly_put _ _ rfl
  obtain ⟨g2, t2, _⟩ := good_flush flush (good_emit hg (.put (.td b.hash) .blob) (inv_put_td hg.inv _ _)) hok.flushOK
  have hst := hok.state
  have hhead2 : ((s.emit (.put (.td b.hash) .blob)).emitAll (flushEventsOf flush)).head = s.head := by simp
  have htd2 : (get ((s.emit (.put (.td b.hash) .blob)).emitAll (flushEventsOf flush)).db (.td b.hash)).isSome = true := by
    rw [t2 _ rfl]; simp [apply, get_put]
  generalize (s.emit (.put (.td b.hash) .blob)).emitAll (flushEventsOf flush) = s2 at g2 t2 hst hhead2 htd2 ⊢
  have same2 : ∀ k, isTd k = false → isTrieKey k = false → get s2.db k = get s.db k :=
    fun k h1 h2 => (t2 k h2).trans (t1 k h1)
  have hblk2 : ∀ x n, getBlock s2.db x n = getBlock s.db x n :=
    fun x n => getBlock_congr (same2 _ rfl rfl) (same2 _ rfl rfl) n
  have hnum2 : ∀ x, blockNumber s2.db x = blockNumber s.db x := fun x => blockNumber_congr (same2 _ rfl rfl)
  have hfresh2 : FreshOrSame s2.db b := by
    unfold FreshOrSame
    rw [same2 _ rfl rfl, same2 _ rfl rfl]
    exact hok.fresh
  have hpar2 : ∀ m, b.num = m + 1 → ∃ hd', getBlock s2.db b.parent m = some hd' :=
    fun m hm => by rw [hblk2]; exact hok.parent m hm
  obtain ⟨m, hm⟩ : ∃ m, b.num = m + 1 := ⟨b.num - 1, by have := hok.pos; omega⟩
  -- the block batch without the lookup entries (side block; block flushed before `reorg`)
  have side := inv_block_batch g2.inv b [] (List.forall_mem_nil _) hfresh2 hst hok.valid hpar2 htd2
  rw [List.append_nil] at side
  cases canon with
  | false => exact good_emit g2 _ side.1
  | true =>
    simp only [Bool.not_true, Bool.false_eq_true, if_false]
    split
    · -- the block extends the head
      rename_i hpar
      obtain ⟨i3, hX3, hblk3, hnum3⟩ := inv_block_batch g2.inv b (lookupWrites b.hash b.txs)
        (lookupWrites_irrelevant _ _) hfresh2 hst hok.valid hpar2 htd2
      have g3 := good_emit g2 _ i3
      obtain ⟨n, hn, hc⟩ := hg.inv.chain
      obtain rfl : m = n := by have := hok.link n (by rw [hpar, hhead2]; exact hn); omega
      obtain ⟨hdh, hbh⟩ := canonAgrees_block hc
      have hc3 := g3.inv.chainAt (n := m) (hd := hdh)
        (by rw [emit_head, hhead2]; exact hblk3 _ _ _ (by rw [hblk2]; exact hbh))
      rw [hm] at hX3 ⊢
      exact (good_insertW v g3 hX3 (by rw [emit_head, ← hpar] at hc3; exact hc3)
        (fun _ => ⟨m, by rw [emit_head, hhead2]; exact hnum3 _ _ (by rw [hnum2]; exact hn), Nat.lt_succ_self _⟩)
        (some b.parent) (m + 1 + 2) (fun _ hq => (Option.some.inj hq).symm)).1
    · -- the block belongs to another branch: reorg
      rename_i hpar
      rcases hv with ⟨hat, hbf⟩ | hno
      · split
        · exact g2
        · split
          · exact g2
          · rename_i chd hcur
            simp only [hbf, Bool.not_true, Bool.false_eq_true, if_false]
            obtain ⟨i3, hX3, hblk3, _⟩ := side
            have g3 := good_emit g2 (.batch (blockData b)) i3
            split
            · exact g3
            · rename_i s4 hre
              obtain ⟨g4, c4, e4⟩ := good_reorgW v hat g3 b (hblk3 _ _ _ hcur) hX3 hre
              have he : Event.writesOnly irrelevant (.batch (lookupWrites b.hash b.txs)) := lookupWrites_irrelevant _ _
              have t5 := touchesOnly_apply he s4.db
              have hX5 : getBlock (s4.emit (.batch (lookupWrites b.hash b.txs))).db b.hash (m + 1) =
                  some ⟨b.parent, b.num, b.root⟩ := by
                rw [emit_db, getBlock_congr (t5 _ rfl) (t5 _ rfl), e4, ← hm]; exact hX3
              rw [hm]
              exact (good_insertW v (good_emit_irrelevant g4 _ he) hX5
                (canonAgrees_parent (canonAgrees_loose (t5.mono loose_of_irrelevant) (hm ▸ c4)) hX5) (by rw [hat]; nofun)
                (some b.parent) (m + 1 + 2) (fun _ hq => (Option.some.inj hq).symm)).1
      · exact absurd (by rw [hhead2]; exact hno rfl) hpar

/-! ### WriteBlockWithoutState: body, hash→number, header as three separate puts (pruning nodes only) -/

theorem good_sideNoState (v : Variant) {s : Em} (hg : Good false V db₀ g₀ s) (b : Blk) (hf : FreshOrSame s.db b)
    (hV : V b.hash ⟨b.parent, b.num, b.root⟩)
    (hpar : ∀ m, b.num = m + 1 → ∃ hd', getBlock s.db b.parent m = some hd') :
    Good false V db₀ g₀ (step v s (.sideNoState b)) := by
  have g1 := good_emit hg (.put (.td b.hash) .blob) (inv_put_td hg.inv _ _)
  have t1 : TouchesOnly isTd s.db (put s.db (.td b.hash) .blob) := touchesOnly_put _ _ rfl
  have hf1 : FreshOrSame (s.emit (.put (.td b.hash) .blob)).db b := by
    unfold FreshOrSame
    rw [emit_db, apply, t1 _ rfl, t1 _ rfl]
    exact hf
  have hp1 : ∀ m, b.num = m + 1 → ∃ hd', getBlock (s.emit (.put (.td b.hash) .blob)).db b.parent m = some hd' :=
    fun m hm => by rw [emit_db, apply, getBlock_congr (t1 _ rfl) (t1 _ rfl)]; exact hpar m hm
  have ht1 : (get (s.emit (.put (.td b.hash) .blob)).db (.td b.hash)).isSome = true := by simp [apply, get_put]
  -- each of the three images is the image after the td put with some of `b`'s records written: `.inl` = the record is as
  -- it was, `.inr` = it has been written
  have g2 := good_emit g1 (.put (.body b.hash) (.txs b.txs)) (inv_block_keys g1.inv b hf1
    (hrest := fun k h1 _ _ _ => by simp [apply, get_put, h1.symm]) (hbody := fun _ => by simp [apply, get_put])
    (hnumber := .inl (by simp [apply, get_put])) (hheader := .inl (by simp [apply, get_put])) nofun hV hp1 ht1).1
  have g3 := good_emit g2 (.put (.hashNum b.hash) (.num b.num)) (inv_block_keys g1.inv b hf1
    (hrest := fun k h1 h2 _ _ => by simp [apply, get_put, h1.symm, h2.symm]) (hbody := fun _ => by simp [apply, get_put])
    (hnumber := .inr (by simp [apply, get_put])) (hheader := .inl (by simp [apply, get_put])) nofun hV hp1 ht1).1
  exact good_emit g3 (.put (.header b.hash) (.hdr b.parent b.num b.root)) (inv_block_keys g1.inv b hf1
    (hrest := fun k h1 h2 h3 _ => by simp [apply, get_put, h1.symm, h2.symm, h3.symm])
    (hbody := fun _ => by simp [apply, get_put]) (hnumber := .inr (by simp [apply, get_put]))
    (hheader := .inr ⟨by simp [apply, get_put], by simp [apply, get_put]⟩) nofun hV hp1 ht1).1

/-- validity of a step in the current state (what `insertChain` guarantees before it calls the writers) -/
def StepOK (ar : Bool) (V : Hash → Hdr → Prop) (v : Variant) (s : Em) : Step → Prop
  | .importBlock b canon flush =>
    ImportOK ar V s b flush ∧ ((v.atomicInsert = true ∧ v.batchFirst = true) ∨ (canon = true → b.parent = s.head))
  | .sideNoState b => ar = false ∧ FreshOrSame s.db b ∧ V b.hash ⟨b.parent, b.num, b.root⟩ ∧
      (∀ m, b.num = m + 1 → ∃ hd', getBlock s.db b.parent m = some hd')
  | .stop flush => FlushOK s.db flush
  | .setHead _ => False          -- outside the property's quantifier (import, reorganisation, shutdown)
  | .opened => True

def StepsOK (ar : Bool) (V : Hash → Hdr → Prop) (v : Variant) : Em → List Step → Prop
  | _, [] => True
  | s, st :: rest => StepOK ar V v s st ∧ StepsOK ar V v (step v s st) rest

theorem good_step (v : Variant) {s : Em} (hg : Good ar V db₀ g₀ s) (st : Step) (hok : StepOK ar V v s st) :
    Good ar V db₀ g₀ (step v s st) := by
  cases st with
  | importBlock b canon flush => exact good_writeBlock v hg b canon flush hok.1 hok.2
  | sideNoState b =>
    obtain ⟨rfl, hf, hV, hp⟩ := hok
    exact good_sideNoState v hg b hf hV hp
  | stop flush => exact (good_flush flush hg hok).1
  | setHead n => exact hok.elim
  | opened => exact good_hhdr (good_emit_irrelevant hg (.put .lastHeader _) rfl) _

theorem good_steps (v : Variant) : ∀ (steps : List Step) {s : Em}, Good ar V db₀ g₀ s → StepsOK ar V v s steps →
    Good ar V db₀ g₀ (steps.foldl (step v) s) := by
  intro steps
  induction steps with
  | nil => exact fun hg _ => hg
  | cons st rest ih => exact fun hg hok => ih (good_step v hg st hok.1) hok.2

theorem good_init {db : Db} {g : Hash} (hi : Inv ar V db g) : Good ar V db g { db := db, head := g, hhdr := g } :=
  ⟨fun p hp => by obtain rfl := List.prefix_nil.mp hp; exact hi, rfl, rfl⟩

theorem writeLog_allInv (v : Variant) {db : Db} {g : Hash} (hi : Inv ar V db g) (steps : List Step)
    (hok : StepsOK ar V v { db := db, head := g, hhdr := g } steps) :
    ∀ p, p <+: writeLog v db g steps → Inv ar V (applyAll db (p.map (·.1))) (ghostAt g p) :=
  (good_steps v steps (good_init hi) hok).all

theorem writeLog_traceOK (v : Variant) {db : Db} {g : Hash} (hi : Inv ar V db g) (steps : List Step)
    (hok : StepsOK ar V v { db := db, head := g, hhdr := g } steps) : TraceOK ar db g (writeLog v db g steps) = true :=
  (good_steps v steps (good_init hi) hok).trace

/-! ### a decidable sufficient check for `Inv` (used for concrete instances) -/

def invB (ar : Bool) (db : Db) (g : Hash) : Bool :=
  (headPtr db == some g) &&
  (match blockNumber db g with | some n => chainOK db (n + 1) g n | none => false) &&
  closedB db &&
  (match canonHash db 0 with
    | some g0 => (match getBlock db g0 0 with | some hd0 => hasState db hd0.root | none => false)
    | none => false) &&
  db.all fun e =>
    match e.1 with
    | .header h =>
      match get db (.header h) with
      | some (.hdr p n r) => (blockNumber db h == some n) && (!ar || !(get db (.body h)).isSome || hasState db r) &&
          (!(get db (.body h)).isSome ||
            ((get db (.td h)).isSome && (n == 0 || (getBlock db p (n - 1)).isSome)))
      | _ => true
    | _ => true

theorem invB_sound {ar : Bool} {db : Db} {g : Hash} (h : invB ar db g = true) : Inv ar (fun _ _ => True) db g := by
  unfold invB at h
  simp only [Bool.and_eq_true, beq_iff_eq] at h
  obtain ⟨⟨⟨⟨h1, h2⟩, h3⟩, h4⟩, h5⟩ := h
  -- what the sweep over the stored headers says about a header, and about a block
  have hdr : ∀ x n hd, getHeader db x n = some hd → blockNumber db x = some n ∧
      ((get db (.body x)).isSome = true → (ar = true → hasState db hd.root = true) ∧ (get db (.td x)).isSome = true ∧
        (n = 0 ∨ (getBlock db hd.parent (n - 1)).isSome = true)) := by
    intro x n hd hh
    obtain ⟨hg, rfl⟩ := getHeader_eq_some.mp hh
    obtain ⟨v', hv'⟩ := mem_keys_of_get hg
    have := (List.all_eq_true.mp h5) _ hv'
    simp only [hg, Bool.and_eq_true, beq_iff_eq, Bool.or_eq_true, Bool.not_eq_true'] at this
    refine ⟨this.1.1, fun hb => ?_⟩
    simp only [hb, Bool.true_eq_false, false_or, or_false] at this
    exact ⟨fun har => this.1.2.resolve_left (by simp [har]), this.2⟩
  have blk := fun x n hd (hb : getBlock db x n = some hd) =>
    (hdr x n hd (getBlock_header hb)).2 (getBlock_eq_some.mp hb).2
  refine ⟨⟨fun _ _ _ _ => trivial, ?_, fun x n hd hb => (blk x n hd hb).2.1⟩, h1, ?_, (closedB_iff db).mp h3, ?_,
    fun har x n hd hb => (blk x n hd hb).1 har, fun x n hd hh => (hdr x n hd hh).1⟩
  · intro x n hd hb
    exact Option.isSome_iff_exists.mp ((blk x (n + 1) hd hb).2.2.resolve_left (Nat.succ_ne_zero n))
  · split at h2
    · rename_i n hn; exact ⟨n, hn, canonAgrees_of_chainOK _ _ _ h2⟩
    · cases h2
  · split at h4
    · rename_i g0 hc0
      split at h4
      · rename_i hd0 hb0; exact ⟨g0, hd0, hc0, hb0, h4⟩
      · cases h4
    · cases h4

end Aqv.ChainDb
