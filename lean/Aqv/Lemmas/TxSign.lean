/-
  Facts about the transaction-signing model (C12): injectivity of the signed payload's fields, typed RLP round trip of
  txdata, hexutil quantity / data round trips, what recoverPlain accepts, the V arithmetic of EIP-155, and `Sender` itself:
  `senderOf_ok_iff` says when it accepts, over the signer whose rules apply (`Signer.applied`), and `Sender` after
  `WithSignature` is its reverse direction.
-/
import Aqv.Model.TxSign
import Aqv.Lemmas.Keystore
namespace Aqv.TxSign
open Aqv Aqv.Rlp
open Aqv.Keystore (hexEncode hexDecode nibVal hexNib ascii nibVal_hexNib hexDecode_hexEncode ascii_0x)

/-- core has no `DecidableEq (Except ε α)`; the examples of Props/C12 decide equations between results of `Sender`. -/
instance instDecEqExcept {ε α : Type} [DecidableEq ε] [DecidableEq α] : DecidableEq (Except ε α) := fun a b =>
  match a, b with
  | .ok x, .ok y => if h : x = y then isTrue (by rw [h]) else isFalse (by intro h'; injection h' with h'; exact h h')
  | .error x, .error y => if h : x = y then isTrue (by rw [h]) else isFalse (by intro h'; injection h' with h'; exact h h')
  | .ok _, .error _ => isFalse (by intro h; cases h)
  | .error _, .ok _ => isFalse (by intro h; cases h)

theorem decTo_toBytes (to : Option Bytes) (h : ∀ a, to = some a → a.length = 20) : decTo (toBytes to) = some to := by
  cases to with
  | none => simp [decTo, toBytes]
  | some a =>
    have hl := h a rfl
    have hne : a ≠ [] := by intro h0; subst h0; simp at hl
    simp [decTo, toBytes, hne, hl]

theorem toBytes_inj {a b : Option Bytes} (ha : ∀ x, a = some x → x.length = 20) (hb : ∀ x, b = some x → x.length = 20)
    (h : toBytes a = toBytes b) : a = b :=
  Option.some.inj (by rw [← decTo_toBytes a ha, h, decTo_toBytes b hb])

/-- the recipient clause of `Tx.WF`, on the signed part alone: `t.WF.2.2 : t.signed.WF`. -/
def Signed.WF (t : Signed) : Prop := ∀ a, t.to = some a → a.length = 20

theorem baseFields_inj {a b : Signed} (ha : a.WF) (hb : b.WF) (h : baseFields a = baseFields b) : a = b := by
  simp only [baseFields, List.cons.injEq, Item.str.injEq, and_true] at h
  obtain ⟨h1, h2, h3, h4, h5, h6⟩ := h
  cases a; cases b
  simp only at h1 h2 h3 h4 h5 h6 ha hb
  have := beBytes_inj h1
  have := beBytes_inj h2
  have := beBytes_inj h3
  have := toBytes_inj ha hb h4
  have := beBytes_inj h5
  subst_vars
  rfl

theorem canonInt_beBytes (n : Nat) : canonInt (beBytes n) = true := by
  unfold canonInt
  cases h : beBytes n with
  | nil => rfl
  | cons b r =>
    have := beBytes_head_ne_zero n b r h
    simp [this]

theorem decUint64_beBytes (n : Nat) (h : n < 2 ^ 64) : decUint64 (beBytes n) = some n := by
  have hl := beBytes_length_le n 8 (by simpa using h)
  simp [decUint64, canonInt_beBytes, hl, beNat_beBytes]

theorem decBig_beBytes (n : Nat) : decBig (beBytes n) = some n := by
  simp [decBig, canonInt_beBytes, beNat_beBytes]

theorem txOfItem_itemOfTx (t : Tx) (h : t.WF) : txOfItem (itemOfTx t) = some t := by
  obtain ⟨hn, hg, hto⟩ := h
  simp only [itemOfTx, baseFields, Tx.signed, List.cons_append, List.nil_append]
  unfold txOfItem
  dsimp only
  rw [decUint64_beBytes _ hn, decUint64_beBytes _ hg, decBig_beBytes, decBig_beBytes, decBig_beBytes, decBig_beBytes,
    decBig_beBytes, decTo_toBytes _ hto]

theorem canonInt_beBytes_beNat (b : Bytes) (h : canonInt b = true) : beBytes (beNat b) = b := by
  apply beBytes_beNat
  intro x rest hb
  subst hb
  intro h0
  subst h0
  simp [canonInt] at h

theorem decUint64_some {b : Bytes} {n : Nat} (h : decUint64 b = some n) : beBytes n = b ∧ n < 2 ^ 64 := by
  unfold decUint64 at h
  split at h
  · rename_i hc
    simp only [Bool.and_eq_true, decide_eq_true_eq] at hc
    injection h with h
    subst h
    refine ⟨canonInt_beBytes_beNat b hc.1, ?_⟩
    have := beNat_lt b
    have h2 : 256 ^ b.length ≤ 256 ^ 8 := Nat.pow_le_pow_right (by omega) hc.2
    have : (256 : Nat) ^ 8 = 2 ^ 64 := by decide
    omega
  · cases h

theorem decBig_some {b : Bytes} {n : Nat} (h : decBig b = some n) : beBytes n = b := by
  unfold decBig at h
  split at h
  · rename_i hc
    injection h with h
    subst h
    exact canonInt_beBytes_beNat b hc
  · cases h

theorem decTo_some {b : Bytes} {to : Option Bytes} (h : decTo b = some to) : toBytes to = b ∧ ∀ a, to = some a → a.length = 20 := by
  unfold decTo at h
  split at h
  · rename_i h0
    injection h with h
    subst h; subst h0
    exact ⟨rfl, by intro a ha; cases ha⟩
  · split at h
    · rename_i hl
      injection h with h
      subst h
      exact ⟨rfl, by intro a ha; injection ha with ha; subst ha; exact hl⟩
    · cases h

theorem txOfItem_some {it : Item} {t : Tx} (h : txOfItem it = some t) : itemOfTx t = it ∧ t.WF := by
  unfold txOfItem at h
  split at h
  · rename_i n p g to val d v r s
    split at h
    · rename_i n' p' g' to' val' v' r' s' h1 h2 h3 h4 h5 h6 h7 h8
      injection h with h
      subst h
      obtain ⟨e1, w1⟩ := decUint64_some h1
      obtain ⟨e3, w3⟩ := decUint64_some h3
      obtain ⟨e4, w4⟩ := decTo_some h4
      have e2 := decBig_some h2
      have e5 := decBig_some h5
      have e6 := decBig_some h6
      have e7 := decBig_some h7
      have e8 := decBig_some h8
      refine ⟨?_, w1, w3, w4⟩
      simp only [itemOfTx, baseFields, Tx.signed, List.cons_append, List.nil_append, e1, e2, e3, e4, e5, e6, e7, e8]
    · cases h
  · cases h

theorem ofDigits_append_singleton (ds : List Nat) (d : Nat) : ofDigits (ds ++ [d]) = ofDigits ds * 16 + d := by
  simp [ofDigits, List.foldl_append]

theorem ofDigits_hexDigitsF (f n : Nat) (h : n ≤ f) : ofDigits (hexDigitsF f n) = n := by
  induction f generalizing n with
  | zero => have : n = 0 := by omega
            subst this; rfl
  | succ f ih =>
    unfold hexDigitsF
    by_cases hn : n = 0
    · simp [hn, ofDigits]
    · simp only [hn, if_false]
      rw [ofDigits_append_singleton, ih (n / 16) (by omega)]
      omega

theorem hexDigitsF_lt (f n : Nat) : ∀ d ∈ hexDigitsF f n, d < 16 := by
  induction f generalizing n with
  | zero => intro d hd; simp [hexDigitsF] at hd
  | succ f ih =>
    intro d hd
    unfold hexDigitsF at hd
    by_cases hn : n = 0
    · simp [hn] at hd
    · simp only [hn, if_false, List.mem_append, List.mem_singleton] at hd
      rcases hd with h | h
      · exact ih _ d h
      · omega

theorem hexDigitsF_ne_nil (f n : Nat) (hn : n ≠ 0) (h : n ≤ f) : hexDigitsF f n ≠ [] := by
  intro h0
  have := ofDigits_hexDigitsF f n h
  rw [h0] at this
  simp [ofDigits] at this
  omega

theorem hexDigitsF_head_ne_zero (f n : Nat) (h : n ≤ f) (d : Nat) (rest : List Nat) (hd : hexDigitsF f n = d :: rest) : d ≠ 0 := by
  induction f generalizing n d rest with
  | zero => simp [hexDigitsF] at hd
  | succ f ih =>
    unfold hexDigitsF at hd
    by_cases hn : n = 0
    · simp [hn] at hd
    · simp only [hn, if_false] at hd
      cases hq : hexDigitsF f (n / 16) with
      | nil =>
        rw [hq] at hd
        simp at hd
        have hz : n / 16 = 0 := Decidable.by_contra fun h0 => hexDigitsF_ne_nil f (n / 16) h0 (by omega) hq
        omega
      | cons x xs =>
        rw [hq] at hd
        simp at hd
        have := ih (n / 16) (by omega) x xs hq
        omega

theorem hexDigitsF_length_le (f n k : Nat) (h : n < 16 ^ k) : (hexDigitsF f n).length ≤ k := by
  induction f generalizing n k with
  | zero => simp [hexDigitsF]
  | succ f ih =>
    unfold hexDigitsF
    by_cases hn : n = 0
    · simp [hn]
    · simp only [hn, if_false, List.length_append, List.length_singleton]
      cases k with
      | zero => simp at h; omega
      | succ k =>
        have : n / 16 < 16 ^ k := by
          rw [Nat.pow_succ] at h
          omega
        have := ih (n / 16) k this
        omega

theorem digitsOf_map_hexNib (ds : List Nat) (h : ∀ d ∈ ds, d < 16) : digitsOf (ds.map hexNib) = some ds := by
  induction ds with
  | nil => rfl
  | cons d r ih =>
    simp only [List.map_cons, digitsOf]
    rw [nibVal_hexNib d (h d (by simp)), ih (fun x hx => h x (by simp [hx]))]

theorem hexNib_zero : hexNib 0 = 48 := by decide

theorem hexNib_eq_48 (d : Nat) (h : d < 16) (h0 : hexNib d = 48) : d = 0 := by
  have := nibVal_hexNib d h
  rw [h0] at this
  have h48 : nibVal 48 = some 0 := by decide
  rw [h48] at this
  injection this with this
  exact this.symm

theorem decQuantity_0x (m : Nat) (rest : Bytes) : decQuantity m (ascii "0x" ++ rest) =
    if rest = [] then none else if rest.length > 1 ∧ rest.head? = some 48 then none
    else if rest.length > m then none else (digitsOf rest).map ofDigits := by
  rw [ascii_0x]
  simp only [List.cons_append, List.nil_append, decQuantity]
  exact if_neg (by decide)

theorem decData_0x (rest : Bytes) : decData (ascii "0x" ++ rest) = hexDecode rest := by
  rw [ascii_0x]
  simp only [List.cons_append, List.nil_append, decData]
  exact if_neg (by decide)

/-- `m` is the digit limit of the target type. -/
theorem decQuantity_encQuantity (m n : Nat) (hm : 1 ≤ m) (h : n < 16 ^ m) : decQuantity m (encQuantity n) = some n := by
  rw [encQuantity, decQuantity_0x]
  by_cases hn : n = 0
  · subst hn
    have h1 : digitsOf [48] = some [0] := by decide
    simp [h1, ofDigits]
    omega
  · simp only [hn, if_false]
    have hne := hexDigitsF_ne_nil n n hn (Nat.le_refl n)
    have hlt := hexDigitsF_lt n n
    have hlen := hexDigitsF_length_le n n m h
    have hmapne : (hexDigitsF n n).map hexNib ≠ [] := by simpa using hne
    rw [if_neg hmapne]
    have hlead : ¬ (((hexDigitsF n n).map hexNib).length > 1 ∧ ((hexDigitsF n n).map hexNib).head? = some 48) := by
      intro ⟨_, hh⟩
      cases hq : hexDigitsF n n with
      | nil => exact hne hq
      | cons d rest =>
        rw [hq] at hh
        simp at hh
        have hd := hexDigitsF_head_ne_zero n n (Nat.le_refl n) d rest hq
        exact hd (hexNib_eq_48 d (hlt d (by rw [hq]; simp)) hh)
    rw [if_neg hlead]
    have hl2 : ¬ ((hexDigitsF n n).map hexNib).length > m := by simp; omega
    rw [if_neg hl2, digitsOf_map_hexNib _ hlt]
    simp [ofDigits_hexDigitsF n n (Nat.le_refl n)]

theorem decData_encData (b : Bytes) : decData (encData b) = some b := by
  rw [encData, decData_0x, hexDecode_hexEncode]

theorem halfN_lt : secpHalfN < secpN := by decide
theorem N_odd : secpN = 2 * secpHalfN + 1 := by decide

theorem validate_iff (v r s : Nat) (hs : Bool) :
    validateSignatureValues v r s hs = true ↔
      v ≤ 1 ∧ 1 ≤ r ∧ r < secpN ∧ 1 ≤ s ∧ s < secpN ∧ (hs = true → s ≤ secpHalfN) := by
  cases hs <;> simp [validateSignatureValues] <;> omega

theorem validate_rid {v r s : Nat} {hs : Bool} (h : validateSignatureValues v r s hs = true) : v ≤ 1 :=
  ((validate_iff ..).1 h).1

theorem validate_low_s {v r s : Nat} {hs : Bool} (h : validateSignatureValues v r s hs = true) (hh : hs = true) : s ≤ secpHalfN :=
  ((validate_iff ..).1 h).2.2.2.2.2 hh

theorem recoverPlain_ok_iff {E : Ecdsa} {h : Bytes} {r s : Nat} {vb : Int} {hs : Bool} {a : Bytes} :
    recoverPlain E h r s vb hs = .ok a ↔
      ∃ rid, vb.natAbs = rid + 27 ∧ validateSignatureValues rid r s hs = true ∧ E.recover h r s rid = some a := by
  unfold recoverPlain
  constructor
  · intro hr
    split at hr
    · cases hr
    simp only at hr
    split at hr
    · cases hr
    rename_i h2
    split at hr
    · rename_i a' h3
      injection hr with hr
      subst hr
      have h2 : validateSignatureValues ((vb.natAbs + 229) % 256) r s hs = true := by simpa using h2
      have := validate_rid h2
      exact ⟨_, by omega, h2, h3⟩
    · cases hr
  · rintro ⟨rid, hn, hval, hrec⟩
    have := validate_rid hval
    have e : (rid + 27 + 229) % 256 = rid := by omega
    simp only [hn, e, hval, hrec]
    rw [if_neg (by omega)]
    rfl

theorem recoverPlain_invalid {E : Ecdsa} {h : Bytes} {r s : Nat} {vb : Int} {hs : Bool}
    (hbad : vb.natAbs ≥ 256 ∨ validateSignatureValues ((vb.natAbs + 229) % 256) r s hs = false) :
    recoverPlain E h r s vb hs = .error .invalidSig := by
  unfold recoverPlain
  split
  · rfl
  · next hb => simp only [hbad.resolve_left hb]; rfl

theorem recoverPlain_nat_invalid {E : Ecdsa} {h : Bytes} {r s v : Nat} {hs : Bool}
    (hbad : (v ≠ 27 ∧ v ≠ 28) ∨ (hs = true ∧ s > secpHalfN)) : recoverPlain E h r s (v : Int) hs = .error .invalidSig := by
  apply recoverPlain_invalid
  rw [Int.natAbs_natCast]
  by_cases hb : v ≥ 256
  · exact .inl hb
  · refine .inr (Bool.eq_false_iff.2 fun hvv => ?_)
    rcases hbad with h1 | ⟨h2, h3⟩
    · have := validate_rid hvv
      omega
    · have := validate_low_s hvv h2
      omega

theorem isProtectedV_plain {rid : Nat} (h : rid ≤ 1) : isProtectedV (rid + 27) = false := by
  have : rid = 0 ∨ rid = 1 := by omega
  rcases this with h | h <;> subst h <;> rfl

theorem isProtectedV_155 (rid c : Nat) : isProtectedV (rid + 35 + 2 * c) = true := by
  unfold isProtectedV
  split
  · simp only [Bool.and_eq_true, bne_iff_ne, ne_eq]; omega
  · rfl

theorem deriveChainId_155 {rid : Nat} (c : Nat) (h : rid ≤ 1) : deriveChainId (rid + 35 + 2 * c) = c := by
  unfold deriveChainId
  split
  · rw [if_neg (by omega)]; omega
  · omega

/-- the chain-id equation excludes the negative branch of the subtraction `V - 2c - 8`. -/
theorem v_of_protected {v c rid : Nat} (hd : deriveChainId v = c) (hr : rid ≤ 1)
    (hn : ((v : Int) - 2 * (c : Int) - 8).natAbs = rid + 27) : v = rid + 35 + 2 * c := by
  unfold deriveChainId at hd
  split at hd
  · split at hd
    · omega
    · omega
  · omega

theorem jsonRecId_plain {rid : Nat} (h : rid ≤ 1) : jsonRecId (rid + 27) = rid := by
  unfold jsonRecId
  rw [isProtectedV_plain h]
  simp only [Bool.false_eq_true, if_false]
  omega

theorem jsonRecId_155 {rid : Nat} (c : Nat) (h : rid ≤ 1) : jsonRecId (rid + 35 + 2 * c) = rid := by
  unfold jsonRecId
  rw [isProtectedV_155 rid c, deriveChainId_155 c h]
  simp only [if_true]
  omega

theorem senderOf_eip155_unprotected (E : Ecdsa) (H : Bytes → Bytes) (c : Nat) {t : Tx} (h : isProtectedV t.v = false) :
    senderOf E H (.eip155 c) t = senderOf E H .homestead t := by
  simp only [senderOf, h, Bool.not_false, if_true]

theorem senderOf_eip155_protected (E : Ecdsa) (H : Bytes → Bytes) (c : Nat) {t : Tx} (h : isProtectedV t.v = true) :
    senderOf E H (.eip155 c) t = if deriveChainId t.v ≠ c then .error .invalidChainId
      else recoverPlain E (sigHash H (.eip155 c) t) t.r t.s ((t.v : Int) - 2 * (c : Int) - 8) false := by
  simp only [senderOf, h, Bool.not_true, Bool.false_eq_true, if_false]

theorem withSignature_signed (sg : Signer) (t : Tx) (r s rid : Nat) : (withSignature sg t r s rid).signed = t.signed := by
  unfold withSignature signatureValues
  cases sg
  · rfl
  · rfl
  · dsimp only
    split <;> rfl

/-- the signer whose rules `Sender` applies: the EIP-155 signer treats an unprotected V as the Homestead signer does. -/
def Signer.applied : Signer → Nat → Signer
  | .eip155 c, v => if isProtectedV v then .eip155 c else .homestead
  | sg, _ => sg

/-- the V in which a signer's rules carry the recovery id. -/
def Signer.vOf : Signer → Nat → Nat
  | .eip155 c, rid => rid + 35 + 2 * c
  | _, rid => rid + 27

theorem Signer.applied_protected (c : Nat) {v : Nat} (h : isProtectedV v = true) : (Signer.eip155 c).applied v = .eip155 c := by
  simp only [Signer.applied, h, if_true]

theorem Signer.applied_unprotected (c : Nat) {v : Nat} (h : isProtectedV v = false) : (Signer.eip155 c).applied v = .homestead := by
  simp only [Signer.applied, h, Bool.false_eq_true, if_false]

theorem recoverPlain_nat_ok_iff {E : Ecdsa} {h : Bytes} {r s v : Nat} {hs : Bool} {a : Bytes} :
    recoverPlain E h r s (v : Int) hs = .ok a ↔
      ∃ rid, v = rid + 27 ∧ validateSignatureValues rid r s hs = true ∧ E.recover h r s rid = some a := by
  simp only [recoverPlain_ok_iff, Int.natAbs_natCast]

/-- `Sender` accepts exactly when V carries a recovery id in the form of the rules that apply, (rid, R, S) pass those rules'
    range check, and Ecrecover answers on the hash those rules sign. -/
theorem senderOf_ok_iff {E : Ecdsa} {H : Bytes → Bytes} {sg : Signer} {t : Tx} {a : Bytes} :
    senderOf E H sg t = .ok a ↔ ∃ rid, t.v = (sg.applied t.v).vOf rid ∧
      validateSignatureValues rid t.r t.s ((sg.applied t.v).equal .homestead) = true ∧
      E.recover (sigHash H (sg.applied t.v) t) t.r t.s rid = some a := by
  cases sg with
  | frontier => exact recoverPlain_nat_ok_iff
  | homestead => exact recoverPlain_nat_ok_iff
  | eip155 c =>
    by_cases hp : isProtectedV t.v = true
    · rw [senderOf_eip155_protected E H c hp, Signer.applied_protected c hp]
      constructor
      · intro h
        split at h
        · cases h
        rename_i hd
        obtain ⟨rid, hn, hval, hrec⟩ := recoverPlain_ok_iff.1 h
        exact ⟨rid, v_of_protected (Decidable.not_not.1 hd) (validate_rid hval) hn, hval, hrec⟩
      · rintro ⟨rid, hv, hval, hrec⟩
        have hv : t.v = rid + 35 + 2 * c := hv
        have hr := validate_rid hval
        rw [hv, deriveChainId_155 c hr, if_neg (not_not_intro rfl)]
        exact recoverPlain_ok_iff.2 ⟨rid, by omega, hval, hrec⟩
    · have hp : isProtectedV t.v = false := by simpa using hp
      rw [senderOf_eip155_unprotected E H c hp, Signer.applied_unprotected c hp]
      exact recoverPlain_nat_ok_iff

theorem Signer.applied_eq_or (sg : Signer) (v : Nat) : sg.applied v = sg ∨ ∃ c, sg = .eip155 c ∧ isProtectedV v = false := by
  cases sg with
  | frontier => exact Or.inl rfl
  | homestead => exact Or.inl rfl
  | eip155 c =>
    cases hp : isProtectedV v
    · exact Or.inr ⟨c, rfl, rfl⟩
    · exact Or.inl (Signer.applied_protected c hp)

theorem Signer.applied_vOf (sg : Signer) (rid : Nat) : sg.applied (sg.vOf rid) = sg := by
  cases sg with
  | frontier => rfl
  | homestead => rfl
  | eip155 c => exact Signer.applied_protected c (isProtectedV_155 rid c)

theorem jsonRecId_vOf (sg : Signer) {rid : Nat} (h : rid ≤ 1) : jsonRecId (sg.vOf rid) = rid := by
  cases sg with
  | frontier => exact jsonRecId_plain h
  | homestead => exact jsonRecId_plain h
  | eip155 c => exact jsonRecId_155 c h

theorem validate_weaken {v r s : Nat} {hs : Bool} (h : validateSignatureValues v r s hs = true) :
    validateSignatureValues v r s false = true := by
  obtain ⟨h1, h2, h3, h4, h5, -⟩ := (validate_iff ..).1 h
  exact (validate_iff ..).2 ⟨h1, h2, h3, h4, h5, nofun⟩

theorem withSignature_eq {sg : Signer} (t : Tx) (r s : Nat) {rid : Nat} (hsg : sg ≠ .eip155 0) (hrid : rid ≤ 1) :
    withSignature sg t r s rid = { t with v := sg.vOf rid, r := r, s := s } := by
  have e27 : (rid + 27) % 256 = rid + 27 := by omega
  have e35 : (rid + 35) % 256 = rid + 35 := by omega
  cases sg with
  | frontier => simp only [withSignature, signatureValues, Signer.vOf, e27]
  | homestead => simp only [withSignature, signatureValues, Signer.vOf, e27]
  | eip155 c =>
    have hc : c ≠ 0 := fun h0 => hsg (h0 ▸ rfl)
    simp only [withSignature, signatureValues, Signer.vOf, hc, ne_eq, not_false_eq_true, if_true, e35]

theorem withSignature_chain0 (t : Tx) (r s : Nat) {rid : Nat} (hrid : rid ≤ 1) :
    withSignature (.eip155 0) t r s rid = { t with v := rid + 27, r := r, s := s } := by
  have e27 : (rid + 27) % 256 = rid + 27 := by omega
  simp only [withSignature, signatureValues, ne_eq, not_true_eq_false, if_false, e27]

/-- `Sender` reads back the recovery id `SignatureValues` wrote into V (chain id 0 excepted, which is written as 27/28), over the
    hash that was signed. -/
theorem senderOf_withSignature {E : Ecdsa} {H : Bytes → Bytes} {sg : Signer} {t : Tx} {r s rid : Nat} {a : Bytes}
    (hsg : sg ≠ .eip155 0) (hrid : rid ≤ 1) (hval : ∀ hs, validateSignatureValues rid r s hs = true)
    (hrec : E.recover (sigHash H sg t) r s rid = some a) : senderOf E H sg (withSignature sg t r s rid) = .ok a := by
  rw [withSignature_eq t r s hsg hrid]
  refine senderOf_ok_iff.2 ⟨rid, ?_⟩
  simp only [sg.applied_vOf, true_and]
  exact ⟨hval _, hrec⟩

theorem isForked_some (s h : Nat) : isForked (some s) (some h) = decide (s ≤ h) := rfl

theorem isForked_none_left (h : Option Nat) : isForked none h = false := rfl

theorem isForked_none (s : Option Nat) : isForked s none = false := by
  cases s <;> rfl

/-- `none` for the Frontier/Homestead payload, `some chainId` for the EIP-155 payload. -/
def Signer.domain : Signer → Option Nat
  | .frontier => none
  | .homestead => none
  | .eip155 c => some c

def domainFields : Option Nat → List Item
  | none => []
  | some c => [.str (beBytes c), .str [], .str []]

theorem Signer.payload_eq (sg : Signer) (t : Signed) : sg.payload t = .list (baseFields t ++ domainFields sg.domain) := by
  cases sg
  · exact congrArg Item.list (List.append_nil _).symm
  · exact congrArg Item.list (List.append_nil _).symm
  · rfl

theorem domainFields_inj {a b : Option Nat} (h : domainFields a = domainFields b) : a = b := by
  cases a <;> cases b
  · rfl
  · cases h
  · cases h
  · injection h with h
    injection h with h
    rw [beBytes_inj h]

end Aqv.TxSign
