/- C13: fork predicates by threshold; `calcDifficultyHFX` as a switch over the era constants of the Spec (every fork map) and its
  agreement with `difficultySpec` on schedules with an unambiguous era reading. -/
import Aqv.Model.Consensus
import Aqv.Lemmas.Basic
namespace Aqv.Consensus

theorem subU64_of_le (a k : Nat) (h1 : k ≤ a) (h2 : a < two64) : subU64 a k = a - k := by
  unfold subU64; unfold two64 at *; omega

theorem isHF_eq_of_getHF {c : Config} {i s : Nat} (h : c.getHF i = some s) (n : Nat) : c.isHF i n = decide (s ≤ n) := by
  unfold Config.isHF; rw [h]

theorem isHF_eq_false_of_getHF {c : Config} {i : Nat} (h : c.getHF i = none) (n : Nat) : c.isHF i n = false := by
  unfold Config.isHF; rw [h]

theorem isHF_of_getHF {c : Config} {i n : Nat} (h : c.getHF i = some n) : c.isHF i n = true := by
  simp [isHF_eq_of_getHF h]

theorem isHF_mono {c : Config} {i n m : Nat} (hle : n ≤ m) (h : c.isHF i n = true) : c.isHF i m = true := by
  unfold Config.isHF at h ⊢
  split at h
  · cases h
  · simp only [decide_eq_true_eq] at h ⊢; omega

theorem isForkBlock_eq (c : Config) (i next : Nat) : c.isForkBlock i next = decide (c.getHF i = some next) := by
  unfold Config.isForkBlock Config.isHF
  cases c.getHF i with
  | none => rfl
  | some s => by_cases hs : s = next <;> simp [hs]

theorem resetValue_eq_none_iff (S : DiffParams) (c : Config) (next : Nat) :
    resetValue S c next = none ↔
      c.getHF 8 ≠ some next ∧ c.getHF 5 ≠ some next ∧ c.getHF 3 ≠ some next ∧ c.getHF 1 ≠ some next := by
  simp only [resetValue, ite_some_eq_none, and_true, ne_eq]

/-- `resetValue` tests HF8, HF5, HF3, HF1 in this order: one equation per activation block, the earlier tests having failed -/
theorem resetValue_hf8 (S : DiffParams) {c : Config} {next : Nat} (e8 : c.getHF 8 = some next) : resetValue S c next = some S.minHF5 := by
  unfold resetValue; rw [if_pos e8]

theorem resetValue_hf5 (S : DiffParams) {c : Config} {next : Nat} (n8 : c.getHF 8 ≠ some next) (e5 : c.getHF 5 = some next) :
    resetValue S c next = some S.minHF5 := by
  unfold resetValue; rw [if_neg n8, if_pos e5]

theorem resetValue_hf3 (S : DiffParams) {c : Config} {next : Nat} (n8 : c.getHF 8 ≠ some next) (n5 : c.getHF 5 ≠ some next)
    (e3 : c.getHF 3 = some next) : resetValue S c next = some S.minHF3 := by
  unfold resetValue; rw [if_neg n8, if_neg n5, if_pos e3]

theorem resetValue_hf1 (S : DiffParams) {c : Config} {next : Nat} (n8 : c.getHF 8 ≠ some next) (n5 : c.getHF 5 ≠ some next)
    (n3 : c.getHF 3 ≠ some next) (e1 : c.getHF 1 = some next) : resetValue S c next = some S.minHF1 := by
  unfold resetValue; rw [if_neg n8, if_neg n5, if_neg n3, if_pos e1]

/-- the Go switch for every fork map: the constants it selects step by step are the era's -/
theorem calcDifficultyHFX_eq_switch (P : DiffParams) (cfg : Config) (time : Nat) (parent : Header) (grand : Option Header) :
    calcDifficultyHFX P cfg time parent grand =
      (let next := parent.number + 1
       let common : DiffOut :=
         .val (simpleAdjust time parent (parent.difficulty / eraDivisor P cfg next) (eraMin P cfg next) (eraLimit P cfg next))
       if cfg.isHF 10 next then calcDifficultyGrandparent P parent grand cfg
       else if cfg.getHF 8 = some next then .val P.minHF5
       else if cfg.getHF 6 = some next then common
       else if cfg.getHF 7 = some next then common
       else if cfg.getHF 5 = some next then .val P.minHF5
       else if cfg.getHF 3 = some next then .val P.minHF3
       else if cfg.getHF 2 = some next then common
       else if cfg.isHF 2 next then common
       else if cfg.getHF 1 = some next then .val P.minHF1
       else if cfg.isHF 1 next then .val (calcDifficultyHF1 P time parent cfg.chainId)
       else .val (calcDifficultyStarting P time parent cfg.chainId)) := by
  unfold calcDifficultyHFX eraMin eraDivisor eraLimit
  simp only [isForkBlock_eq, decide_eq_true_eq, apply_ite Prod.fst, apply_ite Prod.snd, apply_ite (HDiv.hDiv parent.difficulty), ite_self]

theorem ordered_facts (c : Config) (h : c.ordered = true) :
    c.getHF 10 = none ∧
    (∀ i a, i = 6 ∨ i = 7 → c.getHF i = some a →
      a = 0 ∨ (c.isHF 2 a = true ∧ c.getHF 1 ≠ some a ∧ c.getHF 3 ≠ some a ∧ c.getHF 5 ≠ some a)) ∧
    (∀ a, c.getHF 1 = some a → a = 0 ∨ c.isHF 2 a = false ∨ c.getHF 3 = some a ∨ c.getHF 5 = some a ∨ c.getHF 8 = some a) := by
  unfold Config.ordered at h
  simp only [Bool.and_eq_true, List.all_eq_true, List.mem_cons, List.not_mem_nil, or_false] at h
  obtain ⟨⟨h10, h67⟩, h1⟩ := h
  refine ⟨by simpa using h10, fun i a hi ha => ?_, fun a ha => ?_⟩
  · have := h67 i hi
    rw [ha] at this
    simpa [and_assoc] using this
  · rw [ha] at h1
    simpa [or_assoc] using h1

theorem le_simpleAdjust (time : Nat) (parent : Header) (adjust min limit : Int) : min ≤ simpleAdjust time parent adjust min limit := by
  unfold simpleAdjust
  simp only
  split <;> omega

theorem difficultySpec_of_reset {S : DiffParams} {cfg : Config} {parent : Header} {v : Int}
    (h : resetValue S cfg (parent.number + 1) = some v) (time : Nat) : difficultySpec S cfg time parent = v := by
  unfold difficultySpec; rw [h]

theorem difficultySpec_of_hf2 {S : DiffParams} {cfg : Config} {parent : Header}
    (hr : resetValue S cfg (parent.number + 1) = none) (h2 : cfg.isHF 2 (parent.number + 1) = true) (time : Nat) :
    difficultySpec S cfg time parent =
      simpleAdjust time parent (parent.difficulty / eraDivisor S cfg (parent.number + 1)) (eraMin S cfg (parent.number + 1))
        (eraLimit S cfg (parent.number + 1)) := by
  unfold difficultySpec eraFormula simpleAdjust
  simp only [hr, h2, if_true]

/-- the switch tests the fork blocks in the order 8, 6, 7, 5, 3, 2, 1 while the Spec looks at the resets first; `ordered` is
    what makes the two orders agree (HF6 / HF7 never on a reset block or before HF2, HF1 never inside the HF2 era). -/
theorem calcDifficultyHFX_eq_spec (P : DiffParams) (cfg : Config) (hord : cfg.ordered = true) (time : Nat) (parent : Header) (grand : Option Header) :
    calcDifficultyHFX P cfg time parent grand = .val (difficultySpec P cfg time parent) := by
  obtain ⟨h10, h67, h1⟩ := ordered_facts cfg hord
  rw [calcDifficultyHFX_eq_switch]
  simp only [isHF_eq_false_of_getHF h10, Bool.false_eq_true, if_false]
  by_cases e8 : cfg.getHF 8 = some (parent.number + 1)
  · rw [if_pos e8, difficultySpec_of_reset (resetValue_hf8 P e8)]
  rw [if_neg e8]
  -- an HF6 / HF7 activation block is an ordinary block of its era
  have h67' : ∀ i, i = 6 ∨ i = 7 → cfg.getHF i = some (parent.number + 1) →
      difficultySpec P cfg time parent = simpleAdjust time parent (parent.difficulty / eraDivisor P cfg (parent.number + 1))
        (eraMin P cfg (parent.number + 1)) (eraLimit P cfg (parent.number + 1)) := by
    intro i hi e
    rcases h67 i _ hi e with h | ⟨h2, n1, n3, n5⟩
    · omega
    · exact difficultySpec_of_hf2 ((resetValue_eq_none_iff _ _ _).2 ⟨e8, n5, n3, n1⟩) h2 time
  by_cases e6 : cfg.getHF 6 = some (parent.number + 1)
  · rw [if_pos e6, h67' 6 (Or.inl rfl) e6]
  rw [if_neg e6]
  by_cases e7 : cfg.getHF 7 = some (parent.number + 1)
  · rw [if_pos e7, h67' 7 (Or.inr rfl) e7]
  rw [if_neg e7]
  by_cases e5 : cfg.getHF 5 = some (parent.number + 1)
  · rw [if_pos e5, difficultySpec_of_reset (resetValue_hf5 P e8 e5)]
  rw [if_neg e5]
  by_cases e3 : cfg.getHF 3 = some (parent.number + 1)
  · rw [if_pos e3, difficultySpec_of_reset (resetValue_hf3 P e8 e5 e3)]
  rw [if_neg e3]
  by_cases h2 : cfg.isHF 2 (parent.number + 1) = true
  · have n1 : cfg.getHF 1 ≠ some (parent.number + 1) := by
      intro e1
      rcases h1 _ e1 with h | h | h | h | h
      · omega
      · rw [h2] at h; cases h
      · exact e3 h
      · exact e5 h
      · exact e8 h
    simp only [h2, if_true, ite_self]
    rw [difficultySpec_of_hf2 ((resetValue_eq_none_iff _ _ _).2 ⟨e8, e5, e3, n1⟩) h2]
  have e2 : cfg.getHF 2 ≠ some (parent.number + 1) := fun e => h2 (isHF_of_getHF e)
  rw [if_neg e2, if_neg h2]
  by_cases e1 : cfg.getHF 1 = some (parent.number + 1)
  · rw [if_pos e1, difficultySpec_of_reset (resetValue_hf1 P e8 e5 e3 e1)]
  rw [if_neg e1]
  unfold difficultySpec eraFormula calcDifficultyHF1 calcDifficultyStarting bigMax
  simp only [(resetValue_eq_none_iff _ _ _).2 ⟨e8, e5, e3, e1⟩, h2]
  by_cases b1 : cfg.isHF 1 (parent.number + 1) = true <;> simp [b1]

end Aqv.Consensus
