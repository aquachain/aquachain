/- C07: the StateDB revision stack of Model.Vm: extension order (`Ext`) and exact revert. `Db.WF` is the hypothesis the C07
  statements carry about the StateDB they start from; the proofs rest on `Ext` alone. -/
import Aqv.Model.Vm
namespace Aqv.Vm

variable {W : Type}

def Db.WF (d : Db W) : Prop := ∀ p ∈ d.revs, p.1 < d.next

/-- `d'` was reached from `d` by snapshots, mutations and reverts to revisions taken after `d` -/
def Ext (d d' : Db W) : Prop :=
  d.next ≤ d'.next ∧ ∃ extra, d'.revs = extra ++ d.revs ∧ ∀ p ∈ extra, d.next ≤ p.1 ∧ p.1 < d'.next

theorem Ext.refl (d : Db W) : Ext d d := ⟨Nat.le_refl _, [], rfl, by simp⟩

theorem Ext.trans {a b c : Db W} (h1 : Ext a b) (h2 : Ext b c) : Ext a c := by
  obtain ⟨n1, e1, he1, hp1⟩ := h1
  obtain ⟨n2, e2, he2, hp2⟩ := h2
  refine ⟨Nat.le_trans n1 n2, e2 ++ e1, ?_, ?_⟩
  · rw [he2, he1, List.append_assoc]
  · intro p hp
    rcases List.mem_append.mp hp with h | h
    · have := hp2 p h; omega
    · have := hp1 p h; omega

theorem Ext.app (d : Db W) (f : W → W) : Ext d (d.app f) := ⟨Nat.le_refl _, [], rfl, by simp⟩

theorem Ext.wf {d d' : Db W} (hw : d.WF) (h : Ext d d') : d'.WF := by
  obtain ⟨n, e, he, hp⟩ := h
  intro p hp'
  rw [he] at hp'
  rcases List.mem_append.mp hp' with h | h
  · exact (hp p h).2
  · have := hw p h; omega

theorem Db.WF.app {d : Db W} (hw : d.WF) (f : W → W) : (d.app f).WF := hw

theorem Ext.snapshot (d : Db W) : Ext d d.snapshot.2 :=
  ⟨by simp [Db.snapshot], [(d.next, d.cur)], by simp [Db.snapshot], by simp [Db.snapshot]⟩

@[simp] theorem Db.snapshot_fst (d : Db W) : d.snapshot.1 = d.next := rfl
@[simp] theorem Db.snapshot_cur (d : Db W) : d.snapshot.2.cur = d.cur := rfl
@[simp] theorem Db.app_next (d : Db W) (f : W → W) : (d.app f).next = d.next := rfl
@[simp] theorem Db.app_revs (d : Db W) (f : W → W) : (d.app f).revs = d.revs := rfl
@[simp] theorem Db.app_cur (d : Db W) (f : W → W) : (d.app f).cur = f d.cur := rfl

theorem dropTo_skip (id : Nat) (w : W) (rest : List (Nat × W)) :
    ∀ extra : List (Nat × W), (∀ p ∈ extra, id < p.1) → dropTo id (extra ++ (id, w) :: rest) = some (w, rest)
  | [], _ => by simp [dropTo]
  | (i, v) :: ps, h => by
    have hi : id < i := h (i, v) (by simp)
    simp only [List.cons_append, dropTo, if_neg (Nat.ne_of_gt hi), if_pos hi]
    exact dropTo_skip id w rest ps (fun q hq => h q (by simp [hq]))

/-- RevertToSnapshot of an id obtained from `Snapshot()` cannot hit the "revision id cannot be reverted" panic after well-nested activity -/
theorem revert_of_ext {d d' : Db W} (h : Ext d.snapshot.2 d') :
    d'.revert d.next = some ⟨d.cur, d.revs, d'.next⟩ ∧ Ext d (⟨d.cur, d.revs, d'.next⟩ : Db W) := by
  obtain ⟨n, e, he, hp⟩ := h
  have hn : d.next + 1 ≤ d'.next := n
  have hd : dropTo d.next d'.revs = some (d.cur, d.revs) := by
    rw [he]
    exact dropTo_skip _ _ _ e fun p hp' => (hp p hp').1
  exact ⟨by simp [Db.revert, hd], by simp; omega, [], by simp, by simp⟩

end Aqv.Vm
