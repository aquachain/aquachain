/- C07 / C05 / C06: what a run of Model.Vm does to the StateDB, as one relation between the StateDB before and after.
  `Reach R d d'`: `d'` extends `d` by well-nested snapshots (`Ext`), and its current world and every snapshot taken since are
  `R`-related to the current world of `d`. For a preorder `R` that contains the oracle's effects this is kept by everything the
  wrappers and the loop do (effects, Snapshot, RevertToSnapshot of an id taken since), so it holds of every run (`run_reach`), for
  any rule set, frame and gas. `R := fun _ _ => True` gives `Ext`, that no revert panics and that a failing frame leaves the world
  as it was (Lemmas/VmMain); `R w w' := P w → P w'` carries a world predicate (Lemmas/TxVmInv); `R w w' := view w' = view w`,
  in a read-only subtree, is the world-level `static_no_write` (`Vm.call_view`). -/
import Aqv.Lemmas.VmStep
namespace Aqv.Vm
open Aqv.Gen.VmFlags
variable {W : Type}

/-- `Q` of each of the six effect functions an oracle entry supplies -/
structure AllEff (Q : (W → W) → Prop) (i : StepIn W) : Prop where
  eff : Q i.eff
  gasEff : Q i.gasEff
  neutral : Q i.neutralEff
  xfer : Q i.xferEff
  nonce : Q i.nonceEff
  setCode : Q i.setCodeEff

/-- C05's oracle disciplines (`AlphabetOracle`, `AlphabetOracleNoSuicide`, `FlatOracle`) and C06's `CodeDiscipline.keepsCodeless`
    write the six clauses out in this order (`CodeDiscipline.keepsNonce` in another: Lemmas/TxVmNonce `CodeDiscipline.others`) -/
theorem allEff_iff {Q : (W → W) → Prop} {i : StepIn W} :
    AllEff Q i ↔ Q i.eff ∧ Q i.gasEff ∧ Q i.neutralEff ∧ Q i.xferEff ∧ Q i.nonceEff ∧ Q i.setCodeEff :=
  ⟨fun h => ⟨h.eff, h.gasEff, h.neutral, h.xfer, h.nonce, h.setCode⟩, fun ⟨a, b, c, d, e, f⟩ => ⟨a, b, c, d, e, f⟩⟩

theorem AllEff.imp {Q R : (W → W) → Prop} {i : StepIn W} (h : ∀ f, Q f → R f) (hi : AllEff Q i) : AllEff R i :=
  ⟨h _ hi.eff, h _ hi.gasEff, h _ hi.neutral, h _ hi.xfer, h _ hi.nonce, h _ hi.setCode⟩

def Reach (R : W → W → Prop) (d d' : Db W) : Prop :=
  d.next ≤ d'.next ∧ R d.cur d'.cur ∧
    ∃ extra, d'.revs = extra ++ d.revs ∧ ∀ p ∈ extra, d.next ≤ p.1 ∧ p.1 < d'.next ∧ R d.cur p.2

structure PreOrd (R : W → W → Prop) : Prop where
  refl : ∀ w, R w w
  trans : ∀ {a b c}, R a b → R b c → R a c

namespace Reach
variable {R : W → W → Prop}

theorem ext {d d' : Db W} (h : Reach R d d') : Ext d d' :=
  have ⟨n, _, e, he, hp⟩ := h
  ⟨n, e, he, fun p hp' => ⟨(hp p hp').1, (hp p hp').2.1⟩⟩

theorem cur {d d' : Db W} (h : Reach R d d') : R d.cur d'.cur := h.2.1

theorem refl (hR : PreOrd R) (d : Db W) : Reach R d d := ⟨Nat.le_refl _, hR.refl _, [], rfl, nofun⟩

theorem app (d : Db W) {f : W → W} (hf : ∀ w, R w (f w)) : Reach R d (d.app f) :=
  ⟨Nat.le_refl _, hf _, [], rfl, nofun⟩

/-- the shape in which `pre` and `execLocal` say what became of the StateDB -/
theorem of_eq_or_app (hR : PreOrd R) {d d' : Db W} {c : Prop} {f : W → W} (h : d' = d ∨ c ∧ d' = d.app f)
    (hf : c → ∀ w, R w (f w)) : Reach R d d' := by
  rcases h with rfl | ⟨hc, rfl⟩
  · exact .refl hR _
  · exact .app _ (hf hc)

theorem snapshot (hR : PreOrd R) (d : Db W) : Reach R d d.snapshot.2 :=
  ⟨by simp [Db.snapshot], hR.refl _, [(d.next, d.cur)], by simp [Db.snapshot], by simp [Db.snapshot, hR.refl]⟩

theorem trans (hR : PreOrd R) {a b c : Db W} (h1 : Reach R a b) (h2 : Reach R b c) : Reach R a c := by
  obtain ⟨n1, r1, e1, he1, hp1⟩ := h1
  obtain ⟨n2, r2, e2, he2, hp2⟩ := h2
  refine ⟨Nat.le_trans n1 n2, hR.trans r1 r2, e2 ++ e1, by rw [he2, he1, List.append_assoc], fun p hp => ?_⟩
  rcases List.mem_append.mp hp with h | h
  · have := hp2 p h; exact ⟨by omega, this.2.1, hR.trans r1 this.2.2⟩
  · have := hp1 p h; exact ⟨this.1, by omega, this.2.2⟩

/-- RevertToSnapshot of an id obtained from `Snapshot()`, after activity that reached `d'`: no panic, and the StateDB is `d`
    again but for the id counter -/
theorem revert (hR : PreOrd R) {d d' : Db W} (h : Reach R d.snapshot.2 d') :
    d'.revert d.next = some ⟨d.cur, d.revs, d'.next⟩ ∧ Reach R d (⟨d.cur, d.revs, d'.next⟩ : Db W) :=
  have ⟨hr, he⟩ := revert_of_ext h.ext
  ⟨hr, he.1, hR.refl _, [], rfl, nofun⟩

end Reach

variable {R : W → W → Prop} {n : Nat} {env : Env}

structure ResReach (R : W → W → Prop) (n : Nat) (db : Db W) (r : Res W) : Prop where
  reach : Reach R db r.db
  no_panic : r.out ≠ .panic
  tick : n ≤ r.tick

/-- the contract of a frame; `s`: the subtree is read-only -/
def ChildReach (R : W → W → Prop) (n : Nat) (s : Bool) (runChild : Frame → Db W → Nat → Res W) : Prop :=
  ∀ fr db t, (s = true → fr.ro = true) → n ≤ t → ResReach R n db (runChild fr db t)

theorem ResReach.leaf (hR : PreOrd R) {out : Outcome} {g t k : Nat} {db : Db W} (ht : n ≤ t) (hp : out ≠ .panic := by nofun) :
    ResReach R n db ⟨out, g, db, t, k, []⟩ := ⟨.refl hR _, hp, ht⟩

theorem ResReach.after (hR : PreOrd R) {db0 db : Db W} {r : Res W} (h : ResReach R n db r) (h0 : Reach R db0 db) :
    ResReach R n db0 r := ⟨h0.trans hR h.reach, h.no_panic, h.tick⟩

theorem ResReach.setTrace {db : Db W} {r : Res W} (h : ResReach R n db r) (tr : List Event) :
    ResReach R n db { r with trace := tr } := ⟨h.reach, h.no_panic, h.tick⟩

theorem _root_.Aqv.Vm.Ended.reach (hR : PreOrd R) {r : Res W} {g t : Nat} {tr : List Event} {db : Db W} {c : Prop} {f : W → W}
    (h : Ended r g t tr db c f) (hf : c → ∀ w, R w (f w)) (ht : n ≤ t + 1) : ResReach R n db r :=
  ⟨.of_eq_or_app hR h.db hf, h.no_panic, h.tick ▸ ht⟩

theorem runCode_reach (hR : PreOrd R) {s : Bool} {runChild : Frame → Db W → Nat → Res W} (hc : ChildReach R n s runChild)
    (i : StepIn W) (gas depth : Nat) {ro : Bool} (hro : s = true → ro = true) {db : Db W} {t : Nat} (ht : n ≤ t) :
    ResReach R n db (runCode runChild i gas depth ro db t) := by
  unfold runCode
  split
  · split
    · exact .leaf hR ht
    · split <;> exact .leaf hR ht
  · split
    · exact .leaf hR ht
    · exact hc _ _ _ hro ht

/-- the callee ran from the snapshot of `db`: on an error the wrapper returns the world of `db`, otherwise the callee's -/
theorem finishCall_reach (hR : PreOrd R) {db : Db W} {r : Res W} (h : ResReach R n db.snapshot.2 r) :
    ResReach R n db (finishCall r db.next) ∧
    ((finishCall r db.next).out.isErr = true → (finishCall r db.next).db.cur = db.cur) := by
  obtain ⟨hrev, hre⟩ := Reach.revert hR h.reach
  have hok : ResReach R n db r := h.after hR (.snapshot hR db)
  unfold finishCall
  cases ho : r.out with
  | ok => simpa [Outcome.isErr, ho] using hok
  | outOfFuel => simpa [Outcome.isErr, ho] using hok
  | panic => exact absurd ho h.no_panic
  | revert => simp only [hrev]; exact ⟨⟨hre, by simp, h.tick⟩, fun _ => trivial⟩
  | fail e => simp only [hrev]; exact ⟨⟨hre, by simp, h.tick⟩, fun _ => trivial⟩

theorem callWrap_reach (hR : PreOrd R) {s : Bool} {runChild : Frame → Db W → Nat → Res W} (hc : ChildReach R n s runChild)
    (k : CallKind) {i : StepIn W} {valueNZ : Bool} (hx : k = .call → valueNZ = true → ∀ w, R w (i.xferEff w)) (hn : ∀ w, R w (i.neutralEff w))
    (depth : Nat) {ro : Bool} (hro : s = true → (ro || k == .static) = true) (gas : Nat) {db : Db W} {t : Nat} (ht : n ≤ t) :
    ResReach R n db (callWrap env runChild k i depth ro gas valueNZ db t) ∧
    ((callWrap env runChild k i depth ro gas valueNZ db t).out.isErr = true →
      (callWrap env runChild k i depth ro gas valueNZ db t).db.cur = db.cur) := by
  unfold callWrap
  split
  · exact ⟨.leaf hR ht, fun _ => rfl⟩
  · split
    · exact ⟨.leaf hR ht, fun _ => rfl⟩
    · simp only []
      split
      · exact ⟨⟨.snapshot hR db, nofun, ht⟩, nofun⟩
      · refine finishCall_reach hR ((runCode_reach hR hc i gas depth hro ht).after hR ?_)
        split
        · next hk =>
          split
          · next hv => exact .app _ (hx (by simpa using hk) hv)
          · exact .app _ hn
        · exact .refl hR _

theorem createStore_reach (hR : PreOrd R) {i : StepIn W} (hs : ∀ w, R w (i.setCodeEff w)) {db0 : Db W} {r : Res W}
    (h : ResReach R n db0 r) : ResReach R n db0 (createStore env i r) := by
  unfold createStore
  split
  · split
    · exact ⟨h.reach, nofun, h.tick⟩
    · exact ⟨h.reach.trans hR (.app _ hs), h.no_panic, h.tick⟩
  · exact h

theorem ResReach.ite_out {db : Db W} {r : Res W} (h : ResReach R n db r) (c : Prop) [Decidable c] (o : Outcome)
    (ho : o ≠ .panic := by nofun) : ResReach R n db (if c then { r with out := o } else r) := by
  split
  · exact ⟨h.reach, ho, h.tick⟩
  · exact h

/-- the callee ran from the snapshot of `db0`. Either Create reverts (code too large, or an error that the rules revert): then the
    StateDB is `db0` again whatever the outcome becomes; or it keeps the callee's StateDB, and under Homestead rules that is not
    an error outcome. -/
theorem createFinish_reach (hR : PreOrd R) (mx : Bool) {db0 : Db W} {r1 : Res W} (h : ResReach R n db0.snapshot.2 r1) :
    ResReach R n db0 (createFinish env db0.next mx r1) ∧
    (env.homestead = true → (createFinish env db0.next mx r1).out.isErr = true →
      (createFinish env db0.next mx r1).db.cur = db0.cur) := by
  obtain ⟨hrev, hre⟩ := Reach.revert hR h.reach
  unfold createFinish
  simp only [hrev]
  split
  · refine ⟨.ite_out ?_ _ _, fun _ _ => ?_⟩
    · split <;> exact ⟨hre, h.no_panic, h.tick⟩
    · split <;> split <;> rfl
  · next hm =>
    simp only [Bool.or_eq_true, not_or, Bool.not_eq_true] at hm
    simp only [hm.1, Bool.false_and, Bool.false_eq_true, if_false]
    refine ⟨h.after hR (.snapshot hR db0), fun hH he => ?_⟩
    simp [he, hH] at hm

/-- `evm.Create` runs from `db` after the creator's nonce bump, unless it is refused (depth, CanTransfer) before the bump -/
theorem createWrap_reach (hR : PreOrd R) {s : Bool} {runChild : Frame → Db W → Nat → Res W} (hc : ChildReach R n s runChild)
    {i : StepIn W} (hx : ∀ w, R w (i.xferEff w)) (hs : ∀ w, R w (i.setCodeEff w))
    (depth : Nat) {ro : Bool} (hro : s = true → ro = true) (gas : Nat) {db : Db W} {t : Nat} (ht : n ≤ t) :
    ResReach R n (if depth > callCreateDepth ∨ i.canTransfer = false then db else db.app i.nonceEff)
      (createWrap env runChild i depth ro gas db t) ∧
    (env.homestead = true → (createWrap env runChild i depth ro gas db t).out.isErr = true →
      (createWrap env runChild i depth ro gas db t).db.cur =
        (if depth > callCreateDepth ∨ i.canTransfer = false then db.cur else i.nonceEff db.cur)) := by
  by_cases hc0 : depth > callCreateDepth ∨ i.canTransfer = false
  · simp only [if_pos hc0]
    unfold createWrap
    split
    · exact ⟨.leaf hR ht, fun _ _ => rfl⟩
    · next hd =>
      split
      · exact ⟨.leaf hR ht, fun _ _ => rfl⟩
      · next hct => exact absurd hc0 (by simpa [hd] using hct)
  · simp only [if_neg hc0]
    obtain ⟨hd, hct⟩ := not_or.mp hc0
    unfold createWrap
    rw [if_neg hd, if_neg (by simpa using hct)]
    simp only []
    split
    · exact ⟨.leaf hR ht, fun _ _ => rfl⟩
    · -- `r0`: the init code run (nothing for empty code) on the StateDB after nonce bump, snapshot and transfer
      generalize hr0 : (if i.codeEmpty = true then _ else _) = r0
      have h0 : ResReach R n (db.app i.nonceEff).snapshot.2 r0 := by
        rw [← hr0]
        refine ResReach.after hR ?_ (.app _ hx)
        split
        · exact .leaf hR ht
        · exact hc _ _ _ hro ht
      split
      · next hab =>
        refine ⟨h0.after hR (.snapshot hR _), fun _ he => ?_⟩
        cases ho : r0.out <;> simp [ho, Outcome.abnormal, Outcome.isErr] at hab he
      · exact createFinish_reach hR _ (createStore_reach hR hs h0)

theorem ResReach.resume (hR : PreOrd R) {s : Bool} {db : Db W} {r : Res W} (h : ResReach R n db r)
    {rec : Frame → Db W → Nat → Res W} (ih : ChildReach R n s rec) {fr : Frame} (hro : s = true → fr.ro = true)
    (fr' : Frame) (ev : Event) (hfr : fr'.ro = fr.ro := by rfl) :
    ResReach R n db (if r.out.abnormal then { r with trace := ev :: r.trace }
      else { rec fr' r.db r.tick with trace := ev :: (r.trace ++ (rec fr' r.db r.tick).trace) }) := by
  split
  · exact h.setTrace _
  · exact ((ih _ _ _ (hfr ▸ hro) h.tick).after hR h.reach).setTrace _

theorem stepWith_reach (hR : PreOrd R) {s : Bool} {o : Nat → StepIn W}
    (hO : ∀ t, n ≤ t → (∀ w, R w ((o t).neutralEff w)) ∧ (s = false → AllEff (fun f => ∀ w, R w (f w)) (o t)))
    (hb : s = true → env.byzantium = true) {rec : Frame → Db W → Nat → Res W} (ih : ChildReach R n s rec)
    {fr : Frame} (hro : s = true → fr.ro = true) {db : Db W} {t : Nat} (ht : n ≤ t) :
    ResReach R n db (stepWith env o rec fr db t) := by
  obtain ⟨en, eall⟩ := hO t ht
  have ht1 : n ≤ t + 1 := Nat.le_succ_of_le ht
  -- in a read-only subtree a step that got past enforceRestrictions applies none of the other effects
  have ro {f : OpF} (hl : lookup env.ep (o t).op = some f) (hre : restricted env fr f (o t) = false) (hs : s = true) :=
    unrestricted_static hl hre (hb hs) (hro hs)
  have all (hs : s ≠ true) := eall (by simpa using hs)
  unfold stepWith
  simp only
  cases hpre : pre env (o t) fr db t with
  | stop r =>
    exact (pre_stop hpre).reach hR
      (fun ⟨f, hl, hre, hgt⟩ => (all fun hs => by rw [(ro hl hre hs).no_refund] at hgt; cases hgt).gasEff) ht1
  | go f g ms db1 =>
    simp only
    obtain ⟨hl, _, hre, _, _, _, hdb1⟩ := pre_go hpre
    have h1 : Reach R db db1 := by
      rw [hdb1]; split
      · next hgt => exact .app _ ((all fun hs => by rw [(ro hl hre hs).no_refund] at hgt; cases hgt).gasEff)
      · exact .refl hR _
    refine ResReach.after hR ?_ h1
    have loc (hw : execWrites f.execFn = true) : ∀ w, R w ((o t).eff w) :=
      (all fun hs => by rw [(ro hl hre hs).no_write] at hw; cases hw).eff
    by_cases hcr : f.execFn = .opCreate
    · simp only [hcr, if_true]
      have e := all fun hs => (ro hl hre hs).no_create hcr
      have hn : Reach R db1 (if fr.depth > callCreateDepth ∨ (o t).canTransfer = false then db1 else db1.app (o t).nonceEff) := by
        split
        · exact .refl hR _
        · exact .app _ e.nonce
      exact (((createWrap_reach hR ih e.xfer e.setCode fr.depth hro _ ht1).1).after hR hn).resume hR ih hro _ _
    · simp only [hcr, if_false]
      cases hk : execKind f.execFn with
      | some k =>
        exact ((callWrap_reach hR ih k (fun hkc hv => (all fun hs => by
          subst hkc; simp [(ro hl hre hs).no_value hk] at hv).xfer) en fr.depth (fun hs => by simp [hro hs]) _ ht1).1).resume hR ih hro _ _
      | none =>
        simp only
        cases hx : execLocal f (o t) (paidFrame fr f g ms) db1 t (eventOf fr (o t) f g ms) with
        | inl r =>
          exact (execLocal_inl hx).reach hR loc ht1
        | inr db2 =>
          exact ((ih (paidFrame fr f g ms) _ _ hro ht1).after hR (.of_eq_or_app hR (execLocal_inr hx).2.2 loc)).setTrace _

/-- One theorem about the StateDB for every run: no `EnvOK`, no `FrameInv`, no bound on the gas. `s`: the subtree is read-only
    under Byzantium rules, and then only the zero-value `Call` plumbing has to be in `R`, not all six effects of an oracle entry. -/
theorem run_reach (hR : PreOrd R) (env : Env) {s : Bool} {o : Nat → StepIn W}
    (hO : ∀ t, n ≤ t → (∀ w, R w ((o t).neutralEff w)) ∧ (s = false → AllEff (fun f => ∀ w, R w (f w)) (o t)))
    (hb : s = true → env.byzantium = true) : ∀ fuel, ChildReach R n s (run env o fuel)
  | 0 => fun _ _ _ _ ht => .leaf hR ht
  | fuel + 1 => fun _ _ _ hro ht => stepWith_reach hR hO hb (run_reach hR env hO hb fuel) hro ht

end Aqv.Vm
