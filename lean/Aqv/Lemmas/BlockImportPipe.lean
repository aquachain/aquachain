/-
  Lemmas for Layer B of Aqv.Model.BlockImport (validation ⇔ commitments, builder ⇒ importer, the miner's loop with skipped
  candidates).
-/
import Aqv.Lemmas.BlockImport
namespace Aqv.BlockImport

variable {St Tx : Type}

/-- one link of a validator's chain of checks. -/
theorem check_ok_iff {ε : Type} {p : Prop} [Decidable p] (e : ε) (x : Except ε Unit) :
    (if ¬p then .error e else x) = .ok () ↔ p ∧ x = .ok () := by
  by_cases h : p <;> simp [h]

theorem validateBodyHashes_ok_iff (C : Comp St Tx) (b : Block Tx) :
    validateBodyHashes C b = .ok () ↔ (C.uncleHash b.uncles = b.header.uncleHash ∧ C.txRoot b.txs = b.header.txHash) := by
  simp only [validateBodyHashes, ne_eq, check_ok_iff, and_true]

theorem validateState_ok_iff (C : Comp St Tx) (cfg : Cfg) (b : Block Tx) (st : St) (rcs : List Receipt) (used : Nat) :
    validateState C cfg b st rcs used = .ok () ↔
      (b.header.gasUsed = used ∧ createBloom C rcs = b.header.bloom ∧ C.receiptRoot rcs = b.header.receiptHash ∧
        (C.interRoot (isForked cfg.eip158 b.header.number) st).2 = b.header.root) := by
  simp only [validateState, ne_eq, check_ok_iff, and_true]

theorem result_ok_iff (C : Comp St Tx) (cfg : Cfg) (pst : St) (b : Block Tx) (q : Processed St) :
    result C cfg pst b = .ok q ↔
      ∃ p, process C cfg pst b = .ok p ∧ validateState C cfg b p.st p.receipts p.gasUsed = .ok () ∧
        q = { p with st := C.finalise (isForked cfg.eip158 b.header.number) p.st } := by
  unfold result
  cases process C cfg pst b with
  | error e => simp
  | ok p => cases hv : validateState C cfg b p.st p.receipts p.gasUsed <;> simp [hv, eq_comm]

theorem validateAll_ok_iff (C : Comp St Tx) (cfg : Cfg) (pst : St) (b : Block Tx) (q : Processed St) :
    validateAll C cfg pst b = .ok q ↔ validateBodyHashes C b = .ok () ∧ result C cfg pst b = .ok q := by
  unfold validateAll
  cases validateBodyHashes C b <;> simp

theorem applyTransaction_congr (C : Comp St Tx) (cfg : Cfg) (h h' : Header) (a a' : Option Addr)
    (hc : ctxOf h a = ctxOf h' a') (st : St) (pool used : Nat) (tx : Tx) :
    applyTransaction C cfg h a st pool used tx = applyTransaction C cfg h' a' st pool used tx := by
  have hn : h.number = h'.number := congrArg EvmCtx.number hc
  unfold applyTransaction
  rw [hc, hn]

theorem applyTxs_congr (C : Comp St Tx) (cfg : Cfg) (h h' : Header) (a a' : Option Addr)
    (hc : ctxOf h a = ctxOf h' a') (st : St) (pool used : Nat) (txs : List Tx) :
    applyTxs C cfg h a st pool used txs = applyTxs C cfg h' a' st pool used txs := by
  induction txs generalizing st pool used with
  | nil => rfl
  | cons tx rest ih =>
    simp only [applyTxs]
    rw [applyTransaction_congr C cfg h h' a a' hc]
    cases applyTransaction C cfg h' a' st pool used tx with
    | error e => rfl
    | ok r => obtain ⟨st1, rc, pool1, used1⟩ := r; simp only []; rw [ih]

theorem accumulateRewards_congr (C : Comp St Tx) (st : St) (h h' : Header) (uncles : List Header)
    (hn : h.number = h'.number) (hcb : h.coinbase = h'.coinbase) :
    accumulateRewards C st h uncles = accumulateRewards C st h' uncles := by
  unfold accumulateRewards
  rw [hn, hcb]

theorem finalizeState_congr (C : Comp St Tx) (cfg : Cfg) (st : St) (h h' : Header) (uncles : List Header)
    (hn : h.number = h'.number) (hcb : h.coinbase = h'.coinbase) :
    finalizeState C cfg st h uncles = finalizeState C cfg st h' uncles := by
  unfold finalizeState
  rw [accumulateRewards_congr C st h h' uncles hn hcb, hn]

theorem createBloom_nil (C : Comp St Tx) : createBloom C [] = 0 := rfl

/-- `NewBlock` special-cases empty lists with constants; `h1`–`h3` say these are what the functions return. -/
theorem newBlock_eq (C : Comp St Tx) (eR eU : Hash) (h1 : C.txRoot [] = eR) (h2 : C.receiptRoot [] = eR) (h3 : C.uncleHash [] = eU)
    (h : Header) (hb : h.bloom = 0) (txs : List Tx) (uncles : List Header) (rcs : List Receipt) :
    newBlock C eR eU h txs uncles rcs =
      { header := { h with txHash := C.txRoot txs, uncleHash := C.uncleHash uncles, receiptHash := C.receiptRoot rcs,
                           bloom := createBloom C rcs },
        txs := txs, uncles := uncles } := by
  unfold newBlock
  cases txs <;> cases uncles <;> cases rcs <;> simp [h1, h2, h3, hb, createBloom_nil]

theorem process_buildBlock (C : Comp St Tx) (cfg : Cfg) (eR eU : Hash)
    (h1 : C.txRoot [] = eR) (h2 : C.receiptRoot [] = eR) (h3 : C.uncleHash [] = eU)
    (idem : ∀ d st, C.root (C.finalise d (C.finalise d st)) = C.root (C.finalise d st))
    (parent : Header) (pst : St) (cb : Addr) (time extra : Nat) (txs : List Tx) (uncles : List Header) (B : Built St Tx)
    (hB : buildBlock C cfg eR eU parent pst cb time extra txs uncles = .ok B) :
    process C cfg pst B.block =
      .ok { st := B.st, receipts := B.receipts, logs := B.receipts.flatMap (·.logs), gasUsed := B.block.header.gasUsed } ∧
    C.root B.st = B.block.header.root ∧ validateBodyHashes C B.block = .ok () ∧
    validateState C cfg B.block B.st B.receipts B.block.header.gasUsed = .ok () := by
  unfold buildBlock at hB
  simp only [] at hB
  generalize hh0 : makeHeader C parent cb time extra = h0 at hB
  have g0 : h0.gasUsed = 0 := by rw [← hh0]; rfl
  have b0 : h0.bloom = 0 := by rw [← hh0]; rfl
  rw [g0] at hB
  cases ha : applyTxs C cfg h0 (some h0.coinbase) (forkEdits C cfg h0.number pst) h0.gasLimit 0 txs with
  | error e => rw [ha] at hB; cases hB
  | ok r =>
    obtain ⟨st, rcs, pool, used⟩ := r
    rw [ha] at hB
    simp only [Except.ok.injEq] at hB
    generalize hfs : finalizeState C cfg st { h0 with gasUsed := used } uncles = fs at hB
    rw [newBlock_eq C eR eU h1 h2 h3 { h0 with gasUsed := used, root := fs.2 } b0] at hB
    subst hB
    -- the sealed header is now explicit: its commitments are the recomputed values, the other fields are those of `h0`
    have hroot : C.root fs.1 = fs.2 := by rw [← hfs]; rfl
    refine ⟨?_, hroot, (validateBodyHashes_ok_iff _ _).2 ⟨rfl, rfl⟩, (validateState_ok_iff ..).2 ⟨rfl, rfl, rfl, ?_⟩⟩
    · unfold process
      simp only []
      rw [applyTxs_congr C cfg _ h0 _ (some h0.coinbase) ?hctx, ha]
      case hctx =>
        -- the importer's transaction loop sees the same context: `ctxOf` does not read the commitments
        show ctxOf _ none = ctxOf h0 (some h0.coinbase)
        rfl
      simp only []
      rw [finalizeState_congr C cfg st _ { h0 with gasUsed := used } uncles ?_ ?_, hfs]
      all_goals rfl
    · show C.root (C.finalise (isForked cfg.eip158 h0.number) fs.1) = fs.2
      rw [← hfs]
      exact idem _ _

/-- the gas pool only has to be large enough: with more gas in the pool a message that could be applied is applied with the
    same effects, and the surplus stays in the pool (`GasPool.SubGas` is the only reader). -/
def PoolMono (C : Comp St Tx) : Prop :=
  ∀ cfg ctx st p p' tx r, C.applyMsg cfg ctx st p tx = .ok r → p ≤ p' →
    C.applyMsg cfg ctx st p' tx = .ok { r with pool := r.pool + (p' - p) }

theorem applyTransaction_poolMono (C : Comp St Tx) (hm : PoolMono C) (cfg : Cfg) (h : Header) (a : Option Addr) (st : St)
    (p p' used : Nat) (tx : Tx) (st1 : St) (rc : Receipt) (p1 used1 : Nat) (hp : p ≤ p')
    (ha : applyTransaction C cfg h a st p used tx = .ok (st1, rc, p1, used1)) :
    applyTransaction C cfg h a st p' used tx = .ok (st1, rc, p1 + (p' - p), used1) := by
  unfold applyTransaction at ha ⊢
  cases hr : C.applyMsg cfg (ctxOf h a) st p tx with
  | error e => rw [hr] at ha; cases ha
  | ok r =>
    rw [hr] at ha
    rw [hm cfg _ st p p' tx r hr hp]
    simp only [Except.ok.injEq, Prod.mk.injEq] at ha ⊢
    obtain ⟨e1, e2, e3, e4⟩ := ha
    exact ⟨e1, e2, by rw [e3], e4⟩

/-- the importer's pool is at least as large: it never attempted the skipped candidates. -/
theorem commitTxs_replay (C : Comp St Tx) (hm : PoolMono C) (cfg : Cfg) (h : Header) (a : Option Addr) (skipPool : Nat → Tx → Nat)
    (hs : ∀ p tx, skipPool p tx ≤ p) (cands : List Tx) (st : St) (p p' used : Nat) (hp : p ≤ p') :
    ∃ pf, applyTxs C cfg h a st p' used (commitTxs C cfg h a skipPool st p used cands).included =
      .ok ((commitTxs C cfg h a skipPool st p used cands).st, (commitTxs C cfg h a skipPool st p used cands).receipts, pf,
           (commitTxs C cfg h a skipPool st p used cands).used) := by
  induction cands generalizing st p p' used with
  | nil => exact ⟨p', rfl⟩
  | cons tx rest ih =>
    simp only [commitTxs]
    cases ha : applyTransaction C cfg h a st p used tx with
    | error e =>
      simp only []
      exact ih st (skipPool p tx) p' used (Nat.le_trans (hs p tx) hp)
    | ok r =>
      obtain ⟨st1, rc, p1, used1⟩ := r
      simp only []
      have ha' := applyTransaction_poolMono C hm cfg h a st p p' used tx st1 rc p1 used1 hp ha
      obtain ⟨pf, hpf⟩ := ih st1 p1 (p1 + (p' - p)) used1 (Nat.le_add_right _ _)
      refine ⟨pf, ?_⟩
      simp only [applyTxs, ha', hpf]

end Aqv.BlockImport
