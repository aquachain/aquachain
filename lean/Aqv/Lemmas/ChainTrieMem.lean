/-
  Aqv.Lemmas.ChainTrieMem — the memory layer of trie.Database across commits that may fail (C04): the disk stays
  closed and the memory layer stays closed relative to the disk, whatever flush fails, as long as a failed `Commit` leaves
  the memory layer untouched.
-/
import Aqv.Lemmas.ChainDb
namespace Aqv.ChainDb

theorem MemClosed.mono {m : Mem} {db db' : Db} (h : MemClosed m db)
    (hm : ∀ c, (get db (.node c)).isSome = true → (get db' (.node c)).isSome = true) : MemClosed m db' :=
  fun x cs hx c hc => (h x cs hx c hc).imp_right (hm c)

theorem present_of_mem_puts : ∀ (ps : List (Hash × List Hash)) (db : Db) (p : Hash × List Hash), p ∈ ps →
    (get (ps.foldl putNode db) (.node p.1)).isSome = true := by
  intro ps
  induction ps with
  | nil => intro db p hp; cases hp
  | cons q rest ih =>
    intro db p hp
    rcases List.mem_cons.mp hp with rfl | hp
    · exact present_foldl_putNode rest (by simp [get_putNode])
    · exact ih _ p hp

theorem commitMem_mem (m : Mem) : ∀ (fuel : Nat) (h : Hash) (p : Hash × List Hash), p ∈ commitMem m fuel h →
    memGet m p.1 = some p.2 := by
  intro fuel
  induction fuel with
  | zero => intro h p hp; cases hp
  | succ f ih =>
    intro h p hp
    unfold commitMem at hp
    split at hp
    · cases hp
    · rename_i cs hcs
      rcases List.mem_append.mp hp with h1 | h1
      · obtain ⟨c, _, hc⟩ := List.mem_flatMap.mp h1
        exact ih c p hc
      · obtain rfl := List.mem_singleton.mp h1
        exact hcs

theorem commitMem_spec (m : Mem) : ∀ (fuel : Nat) (h : Hash) (db : Db), MemClosed m db → commitFuelOK m fuel h = true →
    childrenFirstB db (commitMem m fuel h) = true ∧
    ((memGet m h).isSome = true → (get ((commitMem m fuel h).foldl putNode db) (.node h)).isSome = true) := by
  intro fuel
  induction fuel with
  | zero =>
    intro h db _ hf
    simp only [commitFuelOK, Option.isNone_iff_eq_none] at hf
    exact ⟨rfl, fun hs => by rw [hf] at hs; cases hs⟩
  | succ f ih =>
    intro h db hmc hf
    unfold commitMem
    unfold commitFuelOK at hf
    cases hcs : memGet m h with
    | none => exact ⟨rfl, nofun⟩
    | some cs =>
      rw [hcs] at hf
      have hlist : ∀ (l : List Hash) (db : Db), MemClosed m db → (∀ c ∈ l, commitFuelOK m f c = true) →
          childrenFirstB db (l.flatMap (commitMem m f)) = true ∧
          ∀ c ∈ l, (memGet m c).isSome = true → (get ((l.flatMap (commitMem m f)).foldl putNode db) (.node c)).isSome = true := by
        intro l
        induction l with
        | nil => exact fun _ _ _ => ⟨rfl, nofun⟩
        | cons c rest ihl =>
          intro db hmc hall
          obtain ⟨h1, h2⟩ := ih c db hmc (hall c (by simp))
          obtain ⟨h3, h4⟩ := ihl ((commitMem m f c).foldl putNode db) (hmc.mono fun x hx => present_foldl_putNode _ hx)
            fun c' hc' => hall c' (List.mem_cons_of_mem _ hc')
          rw [List.flatMap_cons, childrenFirstB_append, List.foldl_append]
          refine ⟨by simp [h1, h3], fun c' hc' hs => ?_⟩
          rcases List.mem_cons.mp hc' with rfl | hc'
          · exact present_foldl_putNode _ (h2 hs)
          · exact h4 c' hc' hs
      obtain ⟨hA, hB⟩ := hlist cs db hmc (List.all_eq_true.mp hf)
      simp only
      rw [childrenFirstB_append, List.foldl_append, hA, Bool.true_and, childrenFirstB_cons]
      refine ⟨⟨fun c hc => ?_, rfl⟩, fun _ => by simp [get_putNode]⟩
      rcases hmc h cs hcs c hc with h1 | h1
      · exact hB c hc h1
      · exact present_foldl_putNode _ h1

theorem memGet_filter (q : Hash → Bool) : ∀ (m : Mem) (h : Hash),
    memGet (m.filter fun e => q e.1) h = if q h = true then memGet m h else none := by
  intro m
  induction m with
  | nil => intro h; simp [memGet]
  | cons e rest ih =>
    intro h
    obtain ⟨k, cs⟩ := e
    by_cases hq : q k = true
    · rw [List.filter_cons_of_pos (by exact hq), memGet, memGet, ih]
      by_cases hk : k = h
      · subst hk; simp [hq]
      · simp [hk]
    · rw [List.filter_cons_of_neg (by exact hq), ih]
      by_cases hk : k = h
      · subst hk; simp [hq]
      · simp [memGet, hk]

def TrieInv (md : Mem × Db) : Prop := Closed md.2 ∧ MemClosed md.1 md.2

/-- one `Commit`, succeeding or failing at any flush (code as written: a failed `Commit` does not uncache) -/
theorem trieInv_commitStep (fuel : Nat) (md : Mem × Db) (root : Hash) (okPrefix : Option Nat) (hi : TrieInv md)
    (hf : commitFuelOK md.1 fuel root = true) : TrieInv (commitStep true fuel md root okPrefix) := by
  obtain ⟨m, db⟩ := md
  obtain ⟨hc, hmc⟩ := hi
  obtain ⟨hcf, _⟩ := commitMem_spec m fuel root db hmc hf
  unfold commitStep
  cases okPrefix with
  | some k =>
    exact ⟨closed_foldl_putNode hc _ (childrenFirstB_prefix (List.take_prefix _ _) hcf),
      hmc.mono fun x hx => present_foldl_putNode _ hx⟩
  | none =>
    refine ⟨closed_foldl_putNode hc _ hcf, fun h cs hg c hcm => ?_⟩
    -- a reference of a node that stays dirty is still dirty, or has just been written, or was on disk
    simp only [uncache, memGet_filter (fun x => !((commitMem m fuel root).map (·.1)).contains x)] at hg ⊢
    split at hg
    · rcases hmc h cs hg c hcm with h1 | h1
      · cases hin : ((commitMem m fuel root).map (·.1)).contains c with
        | true =>
          obtain ⟨p, hp, rfl⟩ := List.mem_map.mp (List.contains_iff_mem.mp hin)
          exact .inr (present_of_mem_puts _ db p hp)
        | false => exact .inl (by simpa using h1)
      · exact .inr (present_foldl_putNode _ h1)
    · cases hg

/-- a history of commits: (root, depth bound, outcome) -/
def commitRunMem (keep : Bool) : Mem × Db → List (Hash × Nat × Option Nat) → Mem × Db
  | md, [] => md
  | md, (r, f, o) :: rest => commitRunMem keep (commitStep keep f md r o) rest

def FuelOKAll (keep : Bool) : Mem × Db → List (Hash × Nat × Option Nat) → Prop
  | _, [] => True
  | md, (r, f, o) :: rest => commitFuelOK md.1 f r = true ∧ FuelOKAll keep (commitStep keep f md r o) rest

theorem trieInv_run : ∀ (hist : List (Hash × Nat × Option Nat)) (md : Mem × Db), TrieInv md → FuelOKAll true md hist →
    TrieInv (commitRunMem true md hist) := by
  intro hist
  induction hist with
  | nil => exact fun _ hi _ => hi
  | cons x rest ih =>
    obtain ⟨r, f, o⟩ := x
    exact fun md hi hf => ih _ (trieInv_commitStep f md r o hi hf.1) hf.2

theorem root_on_disk_after_commit (fuel : Nat) (md : Mem × Db) (root : Hash) (hi : TrieInv md)
    (hf : commitFuelOK md.1 fuel root = true) (hr : (memGet md.1 root).isSome = true) :
    hasState (commitStep true fuel md root none).2 root = true :=
  (commitMem_spec md.1 fuel root md.2 hi.2 hf).2 hr

end Aqv.ChainDb
