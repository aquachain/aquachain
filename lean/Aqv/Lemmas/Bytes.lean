/-
  `beNat` is positional (so injective on strings of one length), and `beNat`/`beBytes` are inverse on strings without a leading zero.  `beBytes` is reasoned about
  through its recursion equation `beBytes_of_ne_zero` only; the fuel of `beBytesF` does not appear after it.
-/
import Aqv.Base.Bytes
namespace Aqv

theorem beNat_nil : beNat [] = 0 := rfl

theorem beNat_singleton (x : UInt8) : beNat [x] = x.toNat := by simp [beNat]

theorem beNat_foldl (acc : Nat) (bs : Bytes) :
    bs.foldl (fun a (b : UInt8) => a * 256 + b.toNat) acc = acc * 256 ^ bs.length + beNat bs := by
  induction bs generalizing acc with
  | nil => simp [beNat]
  | cons x t ih =>
    simp only [beNat, List.foldl_cons, List.length_cons]
    rw [ih, ih (0 * 256 + x.toNat), Nat.pow_succ]
    simp only [Nat.zero_mul, Nat.zero_add]
    rw [Nat.add_mul, Nat.mul_assoc, Nat.mul_comm 256, Nat.add_assoc]

theorem beNat_append (xs ys : Bytes) : beNat (xs ++ ys) = beNat xs * 256 ^ ys.length + beNat ys := by
  unfold beNat
  rw [List.foldl_append, beNat_foldl]
  rfl

theorem beNat_cons (x : UInt8) (xs : Bytes) : beNat (x :: xs) = x.toNat * 256 ^ xs.length + beNat xs := by
  rw [← List.singleton_append, beNat_append, beNat_singleton]

theorem beNat_append_singleton (xs : Bytes) (b : UInt8) : beNat (xs ++ [b]) = beNat xs * 256 + b.toNat := by
  rw [beNat_append, beNat_singleton]; rfl

theorem beNat_replicate_zero (n : Nat) : beNat (List.replicate n (0 : UInt8)) = 0 := by
  induction n with
  | zero => rfl
  | succ n ih => rw [List.replicate_succ, beNat_cons, ih]; exact Nat.zero_mul _

theorem beNat_replicate_zero_append (k : Nat) (bs : Bytes) : beNat (List.replicate k 0 ++ bs) = beNat bs := by
  rw [beNat_append, beNat_replicate_zero, Nat.zero_mul, Nat.zero_add]

theorem UInt8.toNat_ofNat_mod (n : Nat) : (UInt8.ofNat (n % 256)).toNat = n % 256 := by
  simp [UInt8.toNat_ofNat']

theorem beNat_lt (bs : Bytes) : beNat bs < 256 ^ bs.length := by
  rcases List.eq_nil_or_concat bs with h | ⟨xs, b, h⟩
  · subst h; simp [beNat]
  · subst h
    have ih := beNat_lt xs
    rw [List.concat_eq_append, beNat_append_singleton]
    simp only [List.length_append, List.length_singleton, Nat.pow_succ]
    have := b.toNat_lt
    omega
termination_by bs.length
decreasing_by subst h; simp

theorem beNat_lt_256 (bs : Bytes) (h : bs.length ≤ 32) : beNat bs < 2 ^ 256 := by
  have h1 := beNat_lt bs
  have h2 : 256 ^ bs.length ≤ 256 ^ 32 := Nat.pow_le_pow_right (by decide) h
  have h3 : (256 : Nat) ^ 32 = 2 ^ 256 := by decide
  omega

theorem beNat_inj_of_length (a b : Bytes) (hl : a.length = b.length) (h : beNat a = beNat b) : a = b := by
  induction a generalizing b with
  | nil => cases b with
    | nil => rfl
    | cons _ _ => simp at hl
  | cons x xs ih =>
    cases b with
    | nil => simp at hl
    | cons y ys =>
      simp only [List.length_cons, Nat.add_right_cancel_iff] at hl
      rw [beNat_cons, beNat_cons, hl] at h
      have h1 := beNat_lt xs
      have h2 := beNat_lt ys
      rw [hl] at h1
      have hp : 0 < 256 ^ ys.length := Nat.pow_pos (by decide)
      have hx : x.toNat = y.toNat := by
        have e1 : (x.toNat * 256 ^ ys.length + beNat xs) / 256 ^ ys.length = x.toNat := by
          rw [Nat.mul_comm, Nat.mul_add_div hp, Nat.div_eq_of_lt h1]; rfl
        have e2 : (y.toNat * 256 ^ ys.length + beNat ys) / 256 ^ ys.length = y.toNat := by
          rw [Nat.mul_comm, Nat.mul_add_div hp, Nat.div_eq_of_lt h2]; rfl
        rw [← e1, ← e2, h]
      have hxy : x = y := UInt8.toNat_inj.1 hx
      subst hxy
      have hb : beNat xs = beNat ys := by omega
      rw [ih ys hl hb]

theorem beBytes_zero : beBytes 0 = [] := rfl

theorem beBytesF_fuel (f g n : Nat) (hf : n ≤ f) (hg : n ≤ g) : beBytesF f n = beBytesF g n := by
  induction f generalizing n g with
  | zero => cases g <;> simp [show n = 0 by omega, beBytesF]
  | succ f ih =>
    cases g with
    | zero => simp [show n = 0 by omega, beBytesF]
    | succ g =>
      unfold beBytesF
      split
      · rfl
      · rw [ih g (n / 256) (by omega) (by omega)]

theorem beBytes_of_ne_zero {n : Nat} (h : n ≠ 0) :
    beBytes n = beBytes (n / 256) ++ [UInt8.ofNat (n % 256)] := by
  obtain ⟨m, rfl⟩ : ∃ m, n = m + 1 := ⟨n - 1, by omega⟩
  simp only [beBytes, beBytesF, h, if_false]
  rw [beBytesF_fuel m ((m + 1) / 256) _ (by omega) (Nat.le_refl _)]

theorem beBytes_ne_nil (n : Nat) (h : n ≠ 0) : beBytes n ≠ [] := by
  rw [beBytes_of_ne_zero h]; simp

theorem beNat_beBytes (n : Nat) : beNat (beBytes n) = n := by
  induction n using Nat.strongRecOn with
  | _ n ih =>
    by_cases h : n = 0
    · subst h; rfl
    · rw [beBytes_of_ne_zero h, beNat_append_singleton, ih (n / 256) (by omega), UInt8.toNat_ofNat_mod]
      omega

theorem beBytes_inj {a b : Nat} (h : beBytes a = beBytes b) : a = b :=
  Function.LeftInverse.injective beNat_beBytes h

theorem beBytes_head_ne_zero (n : Nat) (b : UInt8) (rest : Bytes) (hb : beBytes n = b :: rest) : b ≠ 0 := by
  induction n using Nat.strongRecOn generalizing rest with
  | _ n ih =>
    have h : n ≠ 0 := by rintro rfl; simp [beBytes_zero] at hb
    rw [beBytes_of_ne_zero h] at hb
    cases hq : beBytes (n / 256) with
    | nil =>
      have hq0 : n / 256 = 0 := by rw [← beNat_beBytes (n / 256), hq]; rfl
      rw [hq, List.nil_append, List.cons.injEq] at hb
      rintro rfl
      have := UInt8.toNat_ofNat_mod n
      rw [hb.1] at this
      have : (0 : UInt8).toNat = 0 := rfl
      omega
    | cons c cs =>
      rw [hq, List.cons_append, List.cons.injEq] at hb
      obtain ⟨rfl, _⟩ := hb
      exact ih (n / 256) (by omega) cs hq

theorem beBytes_length_le (n k : Nat) (h : n < 256 ^ k) : (beBytes n).length ≤ k := by
  induction k generalizing n with
  | zero => simp [show n = 0 by simpa using h, beBytes_zero]
  | succ k ih =>
    by_cases hn : n = 0
    · simp [hn, beBytes_zero]
    · rw [beBytes_of_ne_zero hn, List.length_append, List.length_singleton]
      exact Nat.succ_le_succ (ih _ (Nat.div_lt_of_lt_mul (by rw [Nat.mul_comm, ← Nat.pow_succ]; exact h)))

/-- "no leading zero", in the form `beBytes_beNat` takes it, for a non-empty string. -/
theorem head_ne_zero_cons (x : UInt8) (t : Bytes) : (∀ b t', x :: t = b :: t' → b ≠ 0) ↔ x ≠ 0 :=
  ⟨fun h => h x t rfl, fun h _ _ e => (List.cons.inj e).1 ▸ h⟩

theorem beBytes_beNat (bs : Bytes) (h : ∀ b rest, bs = b :: rest → b ≠ 0) : beBytes (beNat bs) = bs := by
  rcases List.eq_nil_or_concat bs with hnil | ⟨xs, b, hc⟩
  · subst hnil; rfl
  · subst hc
    rw [List.concat_eq_append] at *
    have ih := beBytes_beNat xs fun c rest hx => h c (rest ++ [b]) (by simp [hx])
    have hblt := b.toNat_lt
    -- the value is not 0: either `xs` is empty and `b` is the leading byte, or `beNat xs ≠ 0` as `xs ≠ []`
    have hv : beNat xs * 256 + b.toNat ≠ 0 := by
      intro hz
      cases xs with
      | nil =>
        have hb0 : b.toNat = 0 := by rw [beNat_nil] at hz; omega
        exact h b [] rfl (UInt8.toNat_inj.mp hb0)
      | cons c cs =>
        rw [show beNat (c :: cs) = 0 by omega] at ih
        simp [beBytes_zero] at ih
    rw [beNat_append_singleton, beBytes_of_ne_zero hv,
      show (beNat xs * 256 + b.toNat) / 256 = beNat xs by omega,
      show (beNat xs * 256 + b.toNat) % 256 = b.toNat by omega, ih]
    simp
termination_by bs.length
decreasing_by subst hc; simp

end Aqv
