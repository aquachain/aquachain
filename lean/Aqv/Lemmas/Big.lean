/- The math/big fragment of Base.Big: the sign-magnitude `And` with a mask (`natAndNot` for a negative operand), hence U256 =
  reduction mod 2^256 also for negative numbers; BitLen and Uint64 of a non-negative number. -/
import Aqv.Base.Big
namespace Aqv.Big

theorem natAndNot_testBit (x y i : Nat) : (natAndNot x y).testBit i = (x.testBit i && !y.testBit i) := by
  unfold natAndNot
  rw [Nat.testBit_bitwise (by rfl)]

theorem natAndNot_mask (n a : Nat) : natAndNot (2 ^ n - 1) a = 2 ^ n - 1 - a % 2 ^ n := by
  apply Nat.eq_of_testBit_eq
  intro i
  rw [natAndNot_testBit, Nat.testBit_two_pow_sub_one]
  have h : a % 2 ^ n < 2 ^ n := Nat.mod_lt _ (Nat.two_pow_pos n)
  have : 2 ^ n - 1 - a % 2 ^ n = 2 ^ n - (a % 2 ^ n + 1) := by omega
  rw [this, Nat.testBit_two_pow_sub_succ h, Nat.testBit_mod_two_pow]
  cases decide (i < n) <;> simp

theorem tt256m1_eq : tt256m1 = Int.ofNat (2 ^ 256 - 1) := by decide
theorem tt256_eq : tt256 = 2 ^ 256 := rfl
theorem tt255_eq : tt255 = 2 ^ 255 := rfl

/-- U256 is `x.And(x, 2^256−1)` on a sign-magnitude big.Int; this holds for negative x too -/
theorem u256_eq_emod (x : Int) : u256 x = x % 2 ^ 256 := by
  unfold u256
  rw [tt256m1_eq]
  cases x with
  | ofNat a =>
    simp only [and]
    rw [Nat.and_two_pow_sub_one_eq_mod]
    rfl
  | negSucc a =>
    simp only [and]
    rw [natAndNot_mask]
    rw [Int.negSucc_emod _ (by decide)]
    have h : a % 2 ^ 256 < 2 ^ 256 := Nat.mod_lt _ (by decide)
    show ((2 ^ 256 - 1 - a % 2 ^ 256 : Nat) : Int) = _
    omega

theorem u256_natCast (n : Nat) : u256 (n : Int) = ((n % 2 ^ 256 : Nat) : Int) := by
  rw [u256_eq_emod]; omega

theorem u256_of_lt (n : Nat) (h : n < 2 ^ 256) : u256 (n : Int) = (n : Int) := by
  rw [u256_eq_emod]; omega

theorem natBitLen_gt_iff (n k : Nat) : natBitLen n > k ↔ n ≥ 2 ^ k := by
  unfold natBitLen
  by_cases h : n = 0
  · subst h; simp
  · rw [if_neg h]
    have := @Nat.log2_lt n k h
    omega

theorem lt_two_pow_natBitLen (n : Nat) : n < 2 ^ natBitLen n :=
  Nat.lt_of_not_le fun h => Nat.lt_irrefl _ ((natBitLen_gt_iff n _).2 h)

theorem bitLen_natCast_gt (n k : Nat) : bitLen (n : Int) > k ↔ n ≥ 2 ^ k :=
  natBitLen_gt_iff n k

theorem uint64_natCast (n : Nat) : uint64 (n : Int) = n % 2 ^ 64 := rfl

theorem uint64_of_lt (n : Nat) (h : n < 2 ^ 64) : uint64 (n : Int) = n :=
  Nat.mod_eq_of_lt h

end Aqv.Big
