/-
  Aqv.Lemmas.ChainWriter — the invariant `Inv` the writers of the chain database maintain at EVERY write boundary (C04), and
  the writes that preserve it.  Preservation walks the fields of `Inv` in one place, `Inv.step`: what a write that only adds
  data must show of the readers.  Its two cases: writes that store no block data (`inv_sameBlocks`) and writes that store
  a block (`inv_block_keys`).  What the two loops of `reorg` collect (`reorgChains_spec`).
-/
import Aqv.Model.ChainWriter
import Aqv.Lemmas.ChainDb
namespace Aqv.ChainDb

variable {V : Hash → Hdr → Prop}

/-- `V` is any predicate the importer guarantees for the headers it hands to the writers (e.g. "this is block `h` of the
    universe").  The three fields are only carried along here; `ChainBridge` reads them. -/
structure Ext (V : Hash → Hdr → Prop) (db : Db) : Prop where
  valid : ∀ h n hd, getHeader db h n = some hd → V h hd
  pclosed : ∀ h n hd, getBlock db h (n + 1) = some hd → ∃ hd', getBlock db hd.parent n = some hd'
  storedTd : ∀ h n hd, getBlock db h n = some hd → (get db (.td h)).isSome = true

/-- holds of every image between two writes of a writer; `g` is the in-memory head block.  `gstate` is what makes a pruned
    store repairable: `repairable_of_canonAgrees` falls back on the genesis state. -/
structure Inv (ar : Bool) (V : Hash → Hdr → Prop) (db : Db) (g : Hash) : Prop where
  ext : Ext V db
  head : headPtr db = some g
  chain : ∃ n, blockNumber db g = some n ∧ CanonAgrees db g n
  closed : Closed db
  gstate : ∃ g0 hd0, canonHash db 0 = some g0 ∧ getBlock db g0 0 = some hd0 ∧ hasState db hd0.root = true
  arch : ar = true → ∀ h n hd, getBlock db h n = some hd → hasState db hd.root = true
  hnum : ∀ h n hd, getHeader db h n = some hd → blockNumber db h = some n

theorem imageOK_of_inv {ar : Bool} {db : Db} {g : Hash} (hi : Inv ar V db g) : imageOK ar db g = true := by
  obtain ⟨n, hn, hc⟩ := hi.chain
  unfold imageOK LocalOK
  simp only [hi.head, hn, chainOK_of_canonAgrees hc, repairable_of_canonAgrees hc hi.gstate,
    (closedB_iff db).mpr hi.closed, Bool.true_and, Bool.and_eq_true, beq_self_eq_true, and_true]
  cases ar with
  | false => rfl
  | true =>
    obtain ⟨hd, hb⟩ := canonAgrees_block hc
    simp [hb, hi.arch rfl _ _ _ hb]

theorem Inv.chainAt {ar : Bool} {db : Db} {g : Hash} {n : Nat} {hd : Hdr} (hi : Inv ar V db g)
    (hb : getBlock db g n = some hd) : CanonAgrees db g n := by
  obtain ⟨n', hn', hc⟩ := hi.chain
  have := hi.hnum g n hd (getBlock_header hb)
  rw [hn'] at this; cases this
  exact hc

/-- keys the discipline does not read -/
def irrelevant : Key → Bool
  | .receipts _ | .lookup _ | .lastHeader | .lastFast | .preimage _ | .other => true
  | _ => false

/-- keys the discipline does not read while every block of the head's chain has a number below `lo` -/
def loose (lo : Nat) : Key → Bool
  | .canon i => decide (lo ≤ i)
  | k => irrelevant k

/-- what `insert` may write when it makes a block of number `lo` the head -/
def headKeys (lo : Nat) : Key → Bool
  | .lastBlock => true
  | k => loose lo k

def isTrieKey : Key → Bool
  | .node _ | .preimage _ => true
  | _ => false

def isTd : Key → Bool
  | .td _ => true
  | _ => false

theorem loose_of_irrelevant {lo : Nat} (k : Key) (h : irrelevant k = true) : loose lo k = true := by
  cases k with
  | canon i => cases h
  | _ => exact h

theorem loose_canon {lo i : Nat} : loose lo (.canon i) = true ↔ lo ≤ i := decide_eq_true_iff

theorem loose_mono {lo lo' : Nat} (hle : lo ≤ lo') (k : Key) (h : loose lo' k = true) : loose lo k = true := by
  cases k with
  | canon i => exact loose_canon.mpr (Nat.le_trans hle (loose_canon.mp h))
  | _ => exact h

theorem headKeys_of_loose {lo : Nat} (k : Key) (h : loose lo k = true) : headKeys lo k = true := by
  cases k with
  | lastBlock => rfl
  | _ => exact h

theorem headKeys_mono {lo lo' : Nat} (hle : lo ≤ lo') (k : Key) (h : headKeys lo' k = true) : headKeys lo k = true := by
  cases k with
  | canon i => exact loose_mono hle (.canon i) h
  | _ => exact h

/-- a write of `insert` leaves the number entries below its block alone -/
theorem TouchesOnly.canon_lt {lo k : Nat} {db db' : Db} (t : TouchesOnly (headKeys lo) db db') (h : k < lo) :
    get db' (.canon k) = get db (.canon k) :=
  t _ (Bool.eq_false_iff.mpr fun e => Nat.not_le.mpr h (loose_canon.mp e))

theorem TouchesOnly.sameBlocks_headKeys {lo : Nat} {db db' : Db} (t : TouchesOnly (headKeys lo) db db') :
    SameBlocks db db' :=
  t.sameBlocks fun _ => ⟨rfl, rfl, rfl⟩

/-- One write, seen through the readers.  What was stored stays stored (`fwd*`); a header or block the new image holds was
    held before or comes with what `Inv` asks of it (`newH`, `newB`); the head clauses hold in the new image. -/
theorem Inv.step {ar : Bool} {db db' : Db} {g g' : Hash} {n : Nat} (hi : Inv ar V db g)
    (fwdB : ∀ h n hd, getBlock db h n = some hd → getBlock db' h n = some hd)
    (fwdN : ∀ h n, blockNumber db h = some n → blockNumber db' h = some n)
    (fwdT : ∀ h, (get db (.td h)).isSome = true → (get db' (.td h)).isSome = true)
    (fwdS : ∀ c, (get db (.node c)).isSome = true → (get db' (.node c)).isSome = true)
    (newH : ∀ h n hd, getHeader db' h n = some hd → getHeader db h n = some hd ∨ V h hd ∧ blockNumber db' h = some n)
    (newB : ∀ h n hd, getBlock db' h n = some hd → getBlock db h n = some hd ∨
      (∀ m, n = m + 1 → ∃ hd', getBlock db hd.parent m = some hd') ∧ (get db' (.td h)).isSome = true ∧
        (ar = true → hasState db' hd.root = true))
    (hclosed : Closed db') (hc0 : canonHash db' 0 = canonHash db 0) (hhead : headPtr db' = some g')
    (hnum : blockNumber db' g' = some n) (hchain : CanonAgrees db' g' n) : Inv ar V db' g' := by
  obtain ⟨g0, hd0, hg0, hb0, hs0⟩ := hi.gstate
  refine ⟨⟨fun h m hd hh => ?_, fun h m hd hb => ?_, fun h m hd hb => ?_⟩, hhead, ⟨n, hnum, hchain⟩, hclosed,
    ⟨g0, hd0, hc0 ▸ hg0, fwdB _ _ _ hb0, fwdS _ hs0⟩, fun har h m hd hb => ?_, fun h m hd hh => ?_⟩
  · exact (newH h m hd hh).elim (hi.ext.valid h m hd) And.left
  · obtain ⟨hd', h'⟩ : ∃ hd', getBlock db hd.parent m = some hd' :=
      (newB h (m + 1) hd hb).elim (hi.ext.pclosed h m hd) fun hn => hn.1 m rfl
    exact ⟨hd', fwdB _ _ _ h'⟩
  · exact (newB h m hd hb).elim (fun hb' => fwdT h (hi.ext.storedTd h m hd hb')) fun hn => hn.2.1
  · exact (newB h m hd hb).elim (fun hb' => fwdS _ (hi.arch har h m hd hb')) fun hn => hn.2.2 har
  · exact (newH h m hd hh).elim (fun hh' => fwdN h m (hi.hnum h m hd hh')) And.right

theorem inv_sameBlocks {ar : Bool} {db db' : Db} {g g' : Hash} {n : Nat} (hi : Inv ar V db g) (hs : SameBlocks db db')
    (htd : ∀ h, (get db (.td h)).isSome = true → (get db' (.td h)).isSome = true)
    (hnode : ∀ c, (get db (.node c)).isSome = true → (get db' (.node c)).isSome = true) (hclosed : Closed db')
    (hc0 : get db' (.canon 0) = get db (.canon 0)) (hhead : get db' .lastBlock = some (.ref g'))
    (hnum : blockNumber db g' = some n) (hchain : CanonAgrees db' g' n) : Inv ar V db' g' :=
  hi.step (fun h n hd hb => by rw [hs.block]; exact hb) (fun h n hn => by rw [hs.number]; exact hn) htd hnode
    (fun h n hd hh => .inl (by rw [← hs.header]; exact hh)) (fun h n hd hb => .inl (by rw [← hs.block]; exact hb)) hclosed
    (canonHash_congr hc0) (headPtr_eq_some.mpr hhead) (by rw [hs.number]; exact hnum) hchain

theorem inv_keepHead {ar : Bool} {db db' : Db} {g : Hash} {n : Nat} (hi : Inv ar V db g) (hn : blockNumber db g = some n)
    (hs : SameBlocks db db') (htd : ∀ h, (get db (.td h)).isSome = true → (get db' (.td h)).isSome = true)
    (hnode : ∀ c, (get db (.node c)).isSome = true → (get db' (.node c)).isSome = true) (hclosed : Closed db')
    (hcan : ∀ k, k ≤ n → get db' (.canon k) = get db (.canon k)) (hlb : get db' .lastBlock = get db .lastBlock) :
    Inv ar V db' g := by
  obtain ⟨n', hn', hc⟩ := hi.chain
  rw [hn] at hn'; cases hn'
  exact inv_sameBlocks hi hs htd hnode hclosed (hcan 0 (Nat.zero_le _)) (by rw [hlb]; exact headPtr_eq_some.mp hi.head) hn
    (canonAgrees_mono (fun h m hd hb => by rw [hs.block]; exact hb) hc fun k hk => canonHash_congr (hcan k hk))

theorem inv_canon_above {ar : Bool} {db db' : Db} {g : Hash} {n : Nat} (hi : Inv ar V db g)
    (hn : blockNumber db g = some n) (t : TouchesOnly (loose (n + 1)) db db') : Inv ar V db' g := by
  have t' : TouchesOnly (headKeys (n + 1)) db db' := t.mono headKeys_of_loose
  exact inv_keepHead hi hn t'.sameBlocks_headKeys (fun _ h => by rw [t _ rfl]; exact h)
    (fun _ h => by rw [t _ rfl]; exact h) (closed_congr (fun _ => t _ rfl) hi.closed)
    (fun k hk => t'.canon_lt (Nat.lt_succ_of_le hk)) (t _ rfl)

theorem inv_of_same {ar : Bool} {db db' : Db} {g : Hash} (hi : Inv ar V db g) (t : TouchesOnly irrelevant db db') :
    Inv ar V db' g := by
  obtain ⟨n, hn, _⟩ := hi.chain
  exact inv_canon_above hi hn (t.mono loose_of_irrelevant)

theorem canonAgrees_loose {db db' : Db} {h : Hash} {n : Nat} (t : TouchesOnly (loose (n + 1)) db db')
    (hc : CanonAgrees db h n) : CanonAgrees db' h n := by
  have t' : TouchesOnly (headKeys (n + 1)) db db' := t.mono headKeys_of_loose
  exact canonAgrees_mono (fun x m hd hb => by rw [t'.sameBlocks_headKeys.block]; exact hb) hc
    fun k hk => canonHash_congr (t'.canon_lt (Nat.lt_succ_of_le hk))

/-- hc.WriteTd: only the record's presence matters -/
theorem inv_put_td {ar : Bool} {db : Db} {g : Hash} (hi : Inv ar V db g) (x : Hash) (v : Val) :
    Inv ar V (put db (.td x) v) g := by
  have t : TouchesOnly isTd db (put db (.td x) v) := touchesOnly_put db v rfl
  obtain ⟨n, hn, _⟩ := hi.chain
  refine inv_keepHead hi hn (t.sameBlocks fun _ => ⟨rfl, rfl, rfl⟩) (fun h hh => ?_)
    (fun _ h => by rw [t _ rfl]; exact h) (closed_congr (fun _ => t _ rfl) hi.closed) (fun _ _ => t _ rfl) (t _ rfl)
  rw [get_put]; split
  · rfl
  · exact hh

/-- a trie batch: preimages and children-first node puts -/
def trieWritesOK (db : Db) : Writes → Bool
  | [] => true
  | (.preimage _, some _) :: rest => trieWritesOK db rest
  | (.node h, some (.node cs)) :: rest =>
    (cs.all fun c => (get db (.node c)).isSome) && trieWritesOK (put db (.node h) (.node cs)) rest
  | _ => false

theorem trie_batch_spec (d : Db) (ws : Writes) : ∀ (db : Db),
    (∀ c, (get d (.node c)).isSome = true → (get db (.node c)).isSome = true) → Closed db → trieWritesOK d ws = true →
    Closed (ws.foldl applyW db) ∧
    (∀ c, (get db (.node c)).isSome = true → (get (ws.foldl applyW db) (.node c)).isSome = true) ∧
    TouchesOnly isTrieKey db (ws.foldl applyW db) := by
  fun_induction trieWritesOK d ws with
  | case1 d => exact fun db _ hc _ => ⟨hc, fun _ h => h, .refl _ _⟩
  | case2 d h v rest ih =>
    intro db hm hc hok
    have e : ∀ c, get (put db (.preimage h) v) (.node c) = get db (.node c) := fun c => get_put_ne db v nofun
    obtain ⟨h1, h2, h3⟩ := ih _ (fun c hd => by rw [e]; exact hm c hd) (closed_congr e hc) hok
    exact ⟨h1, fun c hcp => h2 c (by rw [e]; exact hcp), (touchesOnly_put db v rfl).trans h3⟩
  | case3 d h cs rest ih =>
    intro db hm hc hok
    rw [Bool.and_eq_true, List.all_eq_true] at hok
    obtain ⟨h1, h2, h3⟩ := ih (putNode db (h, cs))
      (fun c => by
        rw [get_putNode, get_put]
        split
        · exact id
        · exact hm c)
      (closed_putNode hc (h, cs) fun c hcm => hm c (hok.1 c hcm)) hok.2
    exact ⟨h1, fun c hcp => h2 c (present_putNode (h, cs) hcp), (touchesOnly_put db _ rfl).trans h3⟩
  | case4 => exact fun _ _ _ hok => nomatch hok

theorem inv_trie_batch {ar : Bool} {db : Db} {g : Hash} (hi : Inv ar V db g) (ws : Writes)
    (hok : trieWritesOK db ws = true) :
    Inv ar V (apply db (.batch ws)) g ∧ TouchesOnly isTrieKey db (apply db (.batch ws)) := by
  obtain ⟨h1, h2, t⟩ : Closed (apply db (.batch ws)) ∧ _ ∧ TouchesOnly isTrieKey db (apply db (.batch ws)) :=
    trie_batch_spec db ws db (fun _ h => h) hi.closed hok
  obtain ⟨n, hn, _⟩ := hi.chain
  exact ⟨inv_keepHead hi hn (t.sameBlocks fun _ => ⟨rfl, rfl, rfl⟩) (fun _ h => by rw [t _ rfl]; exact h) h2 h1
    (fun _ _ => t _ rfl) (t _ rfl), t⟩

/-- the head moves to a stored block `B` whose parent lies on the current head's chain; canonical numbers ABOVE `m+1` may
    change arbitrarily (with 3f14ce8 `insert` deletes them in the same batch) -/
theorem inv_new_head {ar : Bool} {db db₁ : Db} {g B : Hash} {m : Nat} {hdB : Hdr} (hi : Inv ar V db g)
    (hB : getBlock db B (m + 1) = some hdB) (hP : CanonAgrees db hdB.parent m)
    (hc : get db₁ (.canon (m + 1)) = some (.ref B)) (hl : get db₁ .lastBlock = some (.ref B))
    (t : TouchesOnly (headKeys (m + 1)) db db₁) : Inv ar V db₁ B := by
  have hs : SameBlocks db db₁ := t.sameBlocks_headKeys
  have hBk : ∀ h n hd, getBlock db h n = some hd → getBlock db₁ h n = some hd :=
    fun h n hd hb => by rw [hs.block]; exact hb
  have hC : ∀ k, k ≤ m → canonHash db₁ k = canonHash db k :=
    fun k hk => canonHash_congr (t.canon_lt (Nat.lt_succ_of_le hk))
  exact inv_sameBlocks hi hs (fun _ h => by rw [t _ rfl]; exact h) (fun _ h => by rw [t _ rfl]; exact h)
    (closed_congr (fun _ => t _ rfl) hi.closed) (t.canon_lt (Nat.succ_pos m)) hl
    (hi.hnum B (m + 1) hdB (getBlock_header hB))
    (.succ (hBk _ _ _ hB) (canonHash_eq_some.mpr hc) (canonAgrees_mono hBk hP hC))

/-- the batch of the atomic `insert`: the number entry and LastBlock, followed by writes that touch neither -/
theorem inv_insert_batch {ar : Bool} {db : Db} {g B : Hash} {m : Nat} {hdB : Hdr} (hi : Inv ar V db g)
    (hB : getBlock db B (m + 1) = some hdB) (hP : CanonAgrees db hdB.parent m) (rest : Writes)
    (hrest : ∀ w ∈ rest, loose (m + 2) w.1 = true) :
    Inv ar V (apply db (.batch ([(.canon (m + 1), some (.ref B)), (.lastBlock, some (.ref B))] ++ rest))) B ∧
      TouchesOnly (headKeys (m + 1)) db
        (apply db (.batch ([(.canon (m + 1), some (.ref B)), (.lastBlock, some (.ref B))] ++ rest))) := by
  have t2 : TouchesOnly (loose (m + 2)) (put (put db (.canon (m + 1)) (.ref B)) .lastBlock (.ref B))
      (apply db (.batch ([(.canon (m + 1), some (.ref B)), (.lastBlock, some (.ref B))] ++ rest))) :=
    touchesOnly_batch rest _ hrest
  have t : TouchesOnly (headKeys (m + 1)) db
      (apply db (.batch ([(.canon (m + 1), some (.ref B)), (.lastBlock, some (.ref B))] ++ rest))) :=
    ((touchesOnly_put _ _ (headKeys_of_loose _ (loose_canon.mpr (Nat.le_refl _)))).trans (touchesOnly_put _ _ rfl)).trans
      (t2.mono fun k h => headKeys_of_loose k (loose_mono (Nat.le_succ _) k h))
  exact ⟨inv_new_head hi hB hP (by rw [(t2.mono headKeys_of_loose).canon_lt (Nat.lt_succ_self _)]; simp [get_put])
    (by rw [t2 _ rfl]; simp [get_put]) t, t⟩

/-- the block was not stored yet, or is stored with exactly this content (a hash names one content) -/
def FreshOrSame (db : Db) (b : Blk) : Prop :=
  (get db (.header b.hash) = none ∨ get db (.header b.hash) = some (.hdr b.parent b.num b.root)) ∧
  (get db (.hashNum b.hash) = none ∨ get db (.hashNum b.hash) = some (.num b.num))

/-- the records of block `b` change towards "stored" (never away from it, never to another content), one at a time or
    together -/
theorem inv_block_keys {ar : Bool} {db db' : Db} {g : Hash} (hi : Inv ar V db g) (b : Blk) (hf : FreshOrSame db b)
    (hrest : ∀ k, k ≠ .body b.hash → k ≠ .hashNum b.hash → k ≠ .header b.hash → irrelevant k = false → get db' k = get db k)
    (hbody : (get db (.body b.hash)).isSome = true → (get db' (.body b.hash)).isSome = true)
    (hnumber : get db' (.hashNum b.hash) = get db (.hashNum b.hash) ∨ get db' (.hashNum b.hash) = some (.num b.num))
    (hheader : get db' (.header b.hash) = get db (.header b.hash) ∨
      (get db' (.header b.hash) = some (.hdr b.parent b.num b.root) ∧ get db' (.hashNum b.hash) = some (.num b.num)))
    (hst : ar = true → hasState db b.root = true)
    (hV : V b.hash ⟨b.parent, b.num, b.root⟩)
    (hpar : ∀ m, b.num = m + 1 → ∃ hd', getBlock db b.parent m = some hd')
    (htdX : (get db (.td b.hash)).isSome = true) :
    Inv ar V db' g ∧ (∀ h n hd, getBlock db h n = some hd → getBlock db' h n = some hd) ∧
      (∀ h n, blockNumber db h = some n → blockNumber db' h = some n) := by
  have gHdr : ∀ h, h ≠ b.hash → get db' (.header h) = get db (.header h) := fun h e =>
    hrest _ nofun nofun (by simpa using e) rfl
  have gBody : ∀ h, h ≠ b.hash → get db' (.body h) = get db (.body h) := fun h e =>
    hrest _ (by simpa using e) nofun nofun rfl
  have gNum : ∀ h, h ≠ b.hash → get db' (.hashNum h) = get db (.hashNum h) := fun h e =>
    hrest _ nofun (by simpa using e) nofun rfl
  have gCanon : ∀ k, canonHash db' k = canonHash db k := fun k => canonHash_congr (hrest _ nofun nofun nofun rfl)
  have gNode : ∀ c, get db' (.node c) = get db (.node c) := fun c => hrest _ nofun nofun nofun rfl
  have gTd : ∀ h, get db' (.td h) = get db (.td h) := fun h => hrest _ nofun nofun nofun rfl
  -- a stored header or number record keeps its value (for `b` this is content addressing)
  have keep : ∀ {a a' : Option Val} {x v : Val}, (a' = a ∨ a' = some x) → (a = none ∨ a = some x) → a = some v → a' = some v := by
    rintro a a' x v (rfl | rfl) h0 hv
    · exact hv
    · rcases h0 with rfl | rfl
      · cases hv
      · exact hv
  have kHdr : ∀ h v, get db (.header h) = some v → get db' (.header h) = some v := by
    intro h v hg
    by_cases e : h = b.hash
    · subst e; exact keep (hheader.imp_right And.left) hf.1 hg
    · rw [gHdr h e]; exact hg
  have kNum : ∀ h v, get db (.hashNum h) = some v → get db' (.hashNum h) = some v := by
    intro h v hg
    by_cases e : h = b.hash
    · subst e; exact keep hnumber hf.2 hg
    · rw [gNum h e]; exact hg
  have hNum : ∀ h n, blockNumber db h = some n → blockNumber db' h = some n :=
    fun h n hn => blockNumber_eq_some.mpr (kNum _ _ (blockNumber_eq_some.mp hn))
  have hHdr : ∀ h n hd', getHeader db h n = some hd' → getHeader db' h n = some hd' := fun h n hd' hh =>
    have ⟨hg, hm⟩ := getHeader_eq_some.mp hh
    getHeader_eq_some.mpr ⟨kHdr _ _ hg, hm⟩
  have hBlk : ∀ h n hd', getBlock db h n = some hd' → getBlock db' h n = some hd' := by
    intro h n hd' hbk
    obtain ⟨hh, hbody'⟩ := getBlock_eq_some.mp hbk
    refine getBlock_eq_some.mpr ⟨hHdr h n hd' hh, ?_⟩
    by_cases e : h = b.hash
    · subst e; exact hbody hbody'
    · rw [gBody h e]; exact hbody'
  -- conversely, what the new image stores under `b`'s hash is `b`
  have hX : ∀ m hd', getHeader db' b.hash m = some hd' →
      hd' = ⟨b.parent, b.num, b.root⟩ ∧ b.num = m ∧ blockNumber db' b.hash = some m := by
    intro m hd' hh
    obtain ⟨hg, hm⟩ := getHeader_eq_some.mp hh
    rcases hheader with h0 | ⟨h0, h1⟩
    · rw [h0] at hg
      obtain ⟨p, n', r⟩ := hd'
      rcases hf.1 with h2 | h2
      · rw [h2] at hg
        cases hg
      · rw [h2] at hg
        cases hg
        exact ⟨rfl, hm, hNum _ _ (hi.hnum _ m _ (by rw [← getHeader_congr h0]; exact hh))⟩
    · rw [h0] at hg
      obtain ⟨p, n', r⟩ := hd'
      cases hg
      exact ⟨rfl, hm, blockNumber_eq_some.mpr (hm ▸ h1)⟩
  obtain ⟨n, hn, hcn⟩ := hi.chain
  refine ⟨hi.step hBlk hNum (fun h hh => by rw [gTd]; exact hh) (fun c hc => by rw [gNode]; exact hc)
    (fun h m hd' hh => ?_) (fun h m hd' hbk => ?_) (closed_congr gNode hi.closed) (gCanon 0)
    (by rw [headPtr_congr (hrest _ nofun nofun nofun rfl)]; exact hi.head) (hNum _ _ hn)
    (canonAgrees_mono hBlk hcn fun k _ => gCanon k), hBlk, hNum⟩
  · by_cases e : h = b.hash
    · subst e
      obtain ⟨rfl, _, hm⟩ := hX m hd' hh
      exact .inr ⟨hV, hm⟩
    · exact .inl (by rw [← getHeader_congr (gHdr h e)]; exact hh)
  · by_cases e : h = b.hash
    · subst e
      obtain ⟨rfl, rfl, _⟩ := hX m hd' (getBlock_header hbk)
      exact .inr ⟨hpar, by rw [gTd]; exact htdX, fun har => by unfold hasState; rw [gNode]; exact hst har⟩
    · exact .inl (by rw [← getBlock_congr (gHdr h e) (gBody h e)]; exact hbk)

theorem blockData_foldl (db : Db) (b : Blk) :
    (blockData b).foldl applyW db =
      put (put (put (put db (.body b.hash) (.txs b.txs)) (.hashNum b.hash) (.num b.num))
        (.header b.hash) (.hdr b.parent b.num b.root)) (.receipts b.hash) .blob := rfl

/-- the block batch of `WriteBlockWithState`, with or without the lookup entries behind the block data -/
theorem inv_block_batch {ar : Bool} {db : Db} {g : Hash} (hi : Inv ar V db g) (b : Blk) (extra : Writes)
    (hx : ∀ w ∈ extra, irrelevant w.1 = true) (hf : FreshOrSame db b)
    (hst : ar = true → hasState db b.root = true)
    (hV : V b.hash ⟨b.parent, b.num, b.root⟩)
    (hpar : ∀ m, b.num = m + 1 → ∃ hd', getBlock db b.parent m = some hd')
    (htdX : (get db (.td b.hash)).isSome = true) :
    Inv ar V (apply db (.batch (blockData b ++ extra))) g ∧
      getBlock (apply db (.batch (blockData b ++ extra))) b.hash b.num = some ⟨b.parent, b.num, b.root⟩ ∧
      (∀ h n hd, getBlock db h n = some hd → getBlock (apply db (.batch (blockData b ++ extra))) h n = some hd) ∧
      (∀ h n, blockNumber db h = some n → blockNumber (apply db (.batch (blockData b ++ extra))) h = some n) := by
  -- on the keys the discipline reads the batch is the three puts body, number, header
  have G : ∀ k, irrelevant k = false → get (apply db (.batch (blockData b ++ extra))) k =
      get (put (put (put db (.body b.hash) (.txs b.txs)) (.hashNum b.hash) (.num b.num))
        (.header b.hash) (.hdr b.parent b.num b.root)) k := by
    intro k hk
    rw [show apply db (.batch (blockData b ++ extra)) = apply ((blockData b).foldl applyW db) (.batch extra) from
      List.foldl_append, touchesOnly_batch extra _ hx k hk, blockData_foldl]
    exact get_put_ne _ _ (by rintro rfl; cases hk)
  have gH : get (apply db (.batch (blockData b ++ extra))) (.header b.hash) = some (.hdr b.parent b.num b.root) := by
    rw [G _ rfl]; simp [get_put]
  have gN : get (apply db (.batch (blockData b ++ extra))) (.hashNum b.hash) = some (.num b.num) := by
    rw [G _ rfl]; simp [get_put]
  have gB : get (apply db (.batch (blockData b ++ extra))) (.body b.hash) = some (.txs b.txs) := by
    rw [G _ rfl]; simp [get_put]
  obtain ⟨i, hblk, hnum⟩ := inv_block_keys hi b hf
    (fun k h1 h2 h3 h4 => by rw [G k h4, get_put_ne _ _ h3.symm, get_put_ne _ _ h2.symm, get_put_ne _ _ h1.symm])
    (fun _ => by rw [gB]; rfl) (.inr gN) (.inr ⟨gH, gN⟩) hst hV hpar htdX
  exact ⟨i, getBlock_eq_some.mpr ⟨getHeader_eq_some.mpr ⟨gH, rfl⟩, by rw [gB]; rfl⟩, hblk, hnum⟩

/-- `chain`, OLDEST block first, hangs off block `P` of number `m` by parent links (`reorgChains` collects youngest first,
    hence the `.reverse` at every use); `chainEnd P chain` is its youngest block -/
inductive Linked (db : Db) : Hash → Nat → List (Hash × Hdr) → Prop
  | nil (P : Hash) (m : Nat) : Linked db P m []
  | cons {P h : Hash} {m : Nat} {hd : Hdr} {rest : List (Hash × Hdr)} : getBlock db h (m + 1) = some hd → hd.parent = P →
      Linked db h (m + 1) rest → Linked db P m ((h, hd) :: rest)

def chainEnd (P : Hash) : List (Hash × Hdr) → Hash
  | [] => P
  | (h, _) :: rest => chainEnd h rest

theorem linked_snoc {db : Db} {P : Hash} {m : Nat} : ∀ {chain : List (Hash × Hdr)}, Linked db P m chain →
    ∀ {h : Hash} {hd : Hdr}, getBlock db h (m + chain.length + 1) = some hd → hd.parent = chainEnd P chain →
    Linked db P m (chain ++ [(h, hd)]) := by
  intro chain hl
  induction hl with
  | nil P m => intro h hd hb hp; exact Linked.cons (by simpa using hb) (by simpa [chainEnd] using hp) (Linked.nil _ _)
  | cons hb' hp' _ ih =>
    intro h hd hb hp
    refine Linked.cons hb' hp' (ih ?_ ?_)
    · simpa [Nat.add_assoc, Nat.add_comm, Nat.add_left_comm] using hb
    · simpa [chainEnd] using hp

theorem linked_mono {db db' : Db} (hb : ∀ h n hd, getBlock db h n = some hd → getBlock db' h n = some hd) :
    ∀ {P : Hash} {m : Nat} {chain : List (Hash × Hdr)}, Linked db P m chain → Linked db' P m chain := by
  intro P m chain hl
  induction hl with
  | nil => exact Linked.nil _ _
  | cons h1 h2 _ ih => exact Linked.cons (hb _ _ _ h1) h2 ih

/-- what `reorg` collects: the new chain (oldest first) hangs off a block `C` that lies on the OLD head's chain, and ends
    in the incoming block -/
theorem reorgChains_spec {db : Db} : ∀ (fuel : Nat) (o : Hash) (ho : Hdr) (n : Hash) (hn : Hdr)
    (oa na oc nc : List (Hash × Hdr)),
    reorgChains db fuel (o, ho) (n, hn) oa na = some (oc, nc) →
    getBlock db o ho.num = some ho → CanonAgrees db o ho.num →
    getBlock db n hn.num = some hn → Linked db n hn.num na.reverse →
    ∃ C c, CanonAgrees db C c ∧ Linked db C c nc.reverse ∧ chainEnd C nc.reverse = chainEnd n na.reverse := by
  intro fuel
  induction fuel with
  | zero => intro o ho n hn oa na oc nc h; cases h
  | succ fuel ih =>
    intro o ho n hn oa na oc nc h hbo hco hbn hln
    unfold reorgChains at h
    -- stepping the new cursor: the collected chain grows at its old end
    have stepNew : ∀ hn', getBlock db hn.parent (hn.num - 1) = some hn' → hn.num ≠ 0 →
        getBlock db hn.parent hn'.num = some hn' ∧ Linked db hn.parent hn'.num (na ++ [(n, hn)]).reverse ∧
        chainEnd hn.parent (na ++ [(n, hn)]).reverse = chainEnd n na.reverse := by
      intro hn' hb' hne
      obtain ⟨k, hk⟩ : ∃ k, hn.num = k + 1 := ⟨hn.num - 1, by omega⟩
      rw [hk, Nat.add_sub_cancel] at hb'
      rw [hk] at hbn hln
      rw [getBlock_num hb', List.reverse_append]
      exact ⟨hb', .cons hbn rfl hln, rfl⟩
    have stepOld : ∀ ho', getBlock db ho.parent (ho.num - 1) = some ho' → ho.num ≠ 0 →
        getBlock db ho.parent ho'.num = some ho' ∧ CanonAgrees db ho.parent ho'.num := by
      intro ho' hb' hne
      obtain ⟨k, hk⟩ : ∃ k, ho.num = k + 1 := ⟨ho.num - 1, by omega⟩
      rw [hk, Nat.add_sub_cancel] at hb'
      rw [hk] at hco hbo
      rw [getBlock_num hb']
      exact ⟨hb', canonAgrees_parent hco hbo⟩
    split at h
    · -- old side higher
      rename_i hgt
      split at h
      · cases h
      · rename_i ho' hb'
        obtain ⟨h1, h2⟩ := stepOld ho' hb' (by omega)
        exact ih _ _ _ _ _ _ _ _ h h1 h2 hbn hln
    · split at h
      · rename_i hgt
        split at h
        · cases h
        · rename_i hn' hb'
          obtain ⟨h1, h2, h3⟩ := stepNew hn' hb' (by omega)
          obtain ⟨C, c, r1, r2, r3⟩ := ih _ _ _ _ _ _ _ _ h hbo hco h1 h2
          exact ⟨C, c, r1, r2, by rw [r3, h3]⟩
      · rename_i hle1 hle2
        have heq : ho.num = hn.num := by omega
        split at h
        · rename_i hon
          cases h; subst hon
          exact ⟨o, ho.num, hco, heq ▸ hln, rfl⟩
        · split at h
          · cases h
          · rename_i hne0
            split at h
            · rename_i ho' hn' hb1 hb2
              obtain ⟨a1, a2⟩ := stepOld ho' hb1 hne0
              obtain ⟨b1, b2, b3⟩ := stepNew hn' hb2 (by omega)
              obtain ⟨C, c, r1, r2, r3⟩ := ih _ _ _ _ _ _ _ _ h a1 a2 b1 b2
              exact ⟨C, c, r1, r2, by rw [r3, b3]⟩
            · cases h

end Aqv.ChainDb
