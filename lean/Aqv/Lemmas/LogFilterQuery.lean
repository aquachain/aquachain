/-
  Aqv.Lemmas.LogFilterQuery — `Filter.Logs` (C16): `indexedLogs` over a transposed index and `unindexedLogs` are scans of block
  ranges answering `filterLogs` per block; together they equal one scan of `[begin, min(end, head)]`, which is the brute-force Spec.
-/
import Aqv.Lemmas.LogFilterMatcher
namespace Aqv.LogFilter

theorem checkMatches_eq (c : Criteria) (blk : Block) : checkMatches c blk = filterLogs blk.logs c := by
  unfold checkMatches
  simp only
  split
  · rename_i h; rw [h]
  · rename_i l ls h
    split
    · rfl
    · rw [h]

/-- header bloom of block `n` (all-zero-length default beyond the head; never consulted there). -/
def bloomAt (chain : List Block) (n : Nat) : Bytes := (chain.getD n default).bloom

def blockAnswer (chain : List Block) (c : Criteria) (n : Nat) : List Log := filterLogs (chain.getD n default).logs c

theorem blockAnswer_eq_spec (chain : List Block) (c : Criteria) :
    blockAnswer chain c = fun n => ((chain.getD n default).logs).filter (Spec.logMatches c) := by
  funext n
  unfold blockAnswer filterLogs
  congr 1
  funext log
  exact logMatches_eq_spec c log

/-- every canonical block satisfies `header.Bloom = CreateBloom(receipts)` (ValidateState). -/
def ChainValid (H : HashFn) (chain : List Block) : Prop := ∀ blk ∈ chain, blk.valid H

theorem block_bloom_has_logs (H : HashFn) (blk : Block) (hv : blk.valid H) : ∀ log ∈ blk.logs, BloomHasLog H blk.bloom log := by
  intro log hlog
  obtain ⟨r, hr, hlr⟩ := List.mem_flatten.mp hlog
  rw [show blk.bloom = createBloom H blk.receipts from hv]
  exact createBloom_hasLog H blk.receipts r hr log hlr

/-- `bloomFilter_sound` per block number. -/
theorem blockAnswer_eq_nil (H : HashFn) (chain : List Block) (hv : ChainValid H chain) (c : Criteria) {n : Nat} (hn : n < chain.length)
    (hf : bloomFilter H (bloomAt chain n) c = false) : blockAnswer chain c n = [] :=
  filterLogs_nil_of_bloomFilter_false H _ c _ (block_bloom_has_logs H _ (hv _ (getD_mem default hn))) hf

theorem indexedLoop_spec (chain : List Block) (c : Criteria) (endNext : Nat) (ms : List Nat) (h : ∀ n ∈ ms, n < chain.length) :
    indexedLoop chain c endNext ms = (ms.flatMap (blockAnswer chain c), endNext) := by
  induction ms with
  | nil => rfl
  | cons n rest ih =>
    have hn := h n (by simp)
    unfold indexedLoop
    rw [List.getElem?_eq_getElem hn]
    simp only
    rw [ih (fun m hm => h m (by simp [hm])), checkMatches_eq, List.flatMap_cons, blockAnswer, getD_of_lt default hn]

theorem unindexedLogs_spec (H : HashFn) (chain : List Block) (hv : ChainValid H chain) (c : Criteria) (e fuel b : Nat)
    (hf : e + 1 - b ≤ fuel) :
    unindexedLogs H chain c e fuel b = (List.range' b (min (e + 1) chain.length - b)).flatMap (blockAnswer chain c) := by
  induction fuel generalizing b with
  | zero => rw [show min (e + 1) chain.length - b = 0 by omega]; rfl
  | succ fuel ih =>
    unfold unindexedLogs
    by_cases hgt : b > e
    · rw [show min (e + 1) chain.length - b = 0 by omega]; simp [hgt]
    · simp only [hgt, if_false]
      by_cases hb : b < chain.length
      · have hblk : blockAnswer chain c b = filterLogs chain[b].logs c := by rw [blockAnswer, getD_of_lt default hb]
        have hbloom : bloomAt chain b = chain[b].bloom := by rw [bloomAt, getD_of_lt default hb]
        rw [List.getElem?_eq_getElem hb]
        simp only
        rw [show min (e + 1) chain.length - b = (min (e + 1) chain.length - (b + 1)) + 1 by omega, List.range'_succ,
          List.flatMap_cons, ih (b + 1) (by omega), checkMatches_eq, ← hblk, ← hbloom]
        congr 1
        split
        · rfl
        · rename_i hf
          exact (blockAnswer_eq_nil H chain hv c hb (by simpa using hf)).symm
      · rw [List.getElem?_eq_none (by omega), show min (e + 1) chain.length - b = 0 by omega]; rfl

theorem flatMap_filter_guard {α β : Type} (p : α → Bool) (f : α → List β) (l : List α) (h : ∀ a ∈ l, p a = false → f a = []) :
    (l.filter p).flatMap f = l.flatMap f := by
  induction l with
  | nil => rfl
  | cons a as ih =>
    rw [List.filter_cons, List.flatMap_cons]
    have ih' := ih (fun x hx => h x (by simp [hx]))
    cases hp : p a
    · simp only [Bool.false_eq_true, if_false]
      rw [ih', h a (by simp) hp, List.nil_append]
    · simp only [if_true, List.flatMap_cons, ih']

theorem range_filter_interval (len b e : Nat) :
    (List.range len).filter (fun n => decide (b ≤ n) && decide (n ≤ e)) = List.range' b (min (e + 1) len - b) := by
  induction len with
  | zero => simp
  | succ n ih =>
    rw [List.range_succ, List.filter_append, ih]
    by_cases h : b ≤ n ∧ n ≤ e
    · rw [show min (e + 1) n - b = n - b by omega, show min (e + 1) (n + 1) - b = (n - b) + 1 by omega, List.range'_concat,
        show b + 1 * (n - b) = n by omega]
      simp [h.1, h.2]
    · rw [show min (e + 1) (n + 1) - b = min (e + 1) n - b by omega]
      have : (decide (b ≤ n) && decide (n ≤ e)) = false := by
        rw [Bool.and_eq_false_iff]; simp only [decide_eq_false_iff_not]; omega
      simp [this]

theorem matcherRun_chain (H : HashFn) (chain : List Block) (hv : ChainValid H chain) (size : Nat) (index : List (List Bytes))
    (hT : Transposed size (chain.map (·.bloom)) index) (c : Criteria) (b e : Nat) (he : e < index.length * size) :
    matcherRun index size (newMatcherFilters H (flattenCriteria c)) b e =
      (List.range' b (e + 1 - b)).filter (fun n => bloomFilter H (bloomAt chain n) c) := by
  rw [matcherRun_transposed H size _ index hT (fun x hx => by
    obtain ⟨blk, hblk, rfl⟩ := List.mem_map.mp hx
    rw [show blk.bloom = createBloom H blk.receipts from hv blk hblk]
    exact createBloom_length H _) c b e he]
  apply List.filter_congr
  intro n hn
  have hnl : n < chain.length := by
    have := hT.fits
    rw [List.mem_range'_1] at hn
    rw [List.length_map] at this
    omega
  rw [bloomAt, getD_of_lt [] (by simpa using hnl), getD_of_lt default hnl, List.getElem_map]

theorem indexed_part (H : HashFn) (chain : List Block) (hv : ChainValid H chain) (size : Nat) (index : List (List Bytes))
    (hT : Transposed size (chain.map (·.bloom)) index) (c : Criteria) (b e' : Nat) (he' : e' < index.length * size) :
    indexedLogs H index chain size c b e' = ((List.range' b (e' + 1 - b)).flatMap (blockAnswer chain c), e' + 1) := by
  have hidx : index.length * size ≤ chain.length := by simpa using hT.fits
  unfold indexedLogs
  rw [matcherRun_chain H chain hv size index hT c b e' he',
    indexedLoop_spec _ _ _ _ (fun n hn => by rw [List.mem_filter, List.mem_range'_1] at hn; omega)]
  congr 1
  apply flatMap_filter_guard
  intro n hn hp
  rw [List.mem_range'_1] at hn
  exact blockAnswer_eq_nil H chain hv c (by omega) hp

/-- an end of the range of `Filter.Logs`: −1 stands for the head. -/
def rangeEnd (chain : List Block) (x : Int) : Nat := if x == -1 then chain.length - 1 else x.toNat

theorem bruteForce_eq (chain : List Block) (c : Criteria) (begin_ end_ : Int) :
    Spec.bruteForce chain c begin_ end_ =
      (List.range' (rangeEnd chain begin_) (min (rangeEnd chain end_ + 1) chain.length - rangeEnd chain begin_)).flatMap
        (blockAnswer chain c) := by
  unfold Spec.bruteForce
  simp only
  rw [range_filter_interval, ← blockAnswer_eq_spec]
  rfl

theorem query_core (H : HashFn) (chain : List Block) (hv : ChainValid H chain) (size : Nat) (index : List (List Bytes))
    (hT : Transposed size (chain.map (·.bloom)) index) (c : Criteria) (begin_ end_ : Int) :
    filterLogsQuery H index chain size c begin_ end_ =
      (List.range' (rangeEnd chain begin_) (min (rangeEnd chain end_ + 1) chain.length - rangeEnd chain begin_)).flatMap
        (blockAnswer chain c) := by
  cases chain with
  | nil => simp [filterLogsQuery]
  | cons blk rest =>
    have hidx : index.length * size ≤ (blk :: rest).length := by simpa using hT.fits
    unfold filterLogsQuery rangeEnd
    simp only
    generalize (if (begin_ == -1) = true then (blk :: rest).length - 1 else begin_.toNat) = b
    generalize (if (end_ == -1) = true then (blk :: rest).length - 1 else end_.toNat) = e
    generalize blk :: rest = chain at *
    by_cases hgt : index.length * size > b
    · by_cases hge : index.length * size > e
      · simp only [if_pos hgt, if_pos hge, indexed_part H chain hv size index hT c b e hge]
        rw [unindexedLogs_spec H chain hv c e _ _ (Nat.le_refl _), show min (e + 1) chain.length - (e + 1) = 0 by omega,
          show min (e + 1) chain.length - b = e + 1 - b by omega]
        simp
      · -- the range straddles the indexed boundary
        simp only [if_pos hgt, if_neg hge, indexed_part H chain hv size index hT c b (index.length * size - 1) (by omega)]
        have := @List.range'_append_1 b (index.length * size - b) (min (e + 1) chain.length - index.length * size)
        rw [show b + (index.length * size - b) = index.length * size by omega,
          show index.length * size - b + (min (e + 1) chain.length - index.length * size) = min (e + 1) chain.length - b by omega] at this
        rw [unindexedLogs_spec H chain hv c e _ _ (Nat.le_refl _), ← List.flatMap_append,
          show index.length * size - 1 + 1 = index.length * size by omega, this]
    · simp only [if_neg hgt, List.nil_append]
      rw [unindexedLogs_spec H chain hv c e _ _ (Nat.le_refl _)]

end Aqv.LogFilter
