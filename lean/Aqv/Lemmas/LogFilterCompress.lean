/-
  Aqv.Lemmas.LogFilterCompress — the sparse bitset codec of common/bitutil round-trips: `DecompressBytes(CompressBytes(v), len v) = v`
  for every byte vector (C16: the stored section bit vectors are read back unchanged).
-/
import Aqv.Lemmas.LogFilterBits
namespace Aqv.LogFilter

theorem bitsOf_packBits (l : List Bool) :
    bitsOf (packBits l) = l ++ List.replicate (8 * ((l.length + 7) / 8) - l.length) false := by
  apply List.ext_getElem
  · simp [bitsOf, packBits_length]; omega
  · intro i h1 h2
    simp only [bitsOf, List.getElem_map, List.getElem_range]
    rw [vecBit_packBits]
    by_cases hi : i < l.length
    · rw [List.getElem_append_left hi, getD_of_lt false hi]
    · rw [List.getElem_append_right (by omega), List.getElem_replicate, getD_of_le false (by omega)]

theorem distribute_pad (target pad i : Nat) (rest : Bytes) (hi : target ≤ i) :
    distribute target (List.replicate pad false) i rest = .ok ([], 0) := by
  induction pad generalizing i with
  | zero => simp [distribute, show target - i = 0 by omega]
  | succ p ih =>
    rw [List.replicate_succ]
    simp only [distribute, Bool.false_eq_true, if_false]
    rw [ih (i + 1) (by omega)]
    simp [show ¬ i < target by omega]

theorem distribute_spec (target : Nat) (data : Bytes) (i pad : Nat) (extra : Bytes) (hi : i + data.length = target) :
    distribute target (data.map (fun b => b != 0) ++ List.replicate pad false) i (data.filter (fun b => b != 0) ++ extra) =
      .ok (data, (data.filter (fun b => b != 0)).length) := by
  induction data generalizing i with
  | nil => exact distribute_pad target pad i extra (by simp at hi; omega)
  | cons d ds ih =>
    simp only [List.length_cons] at hi
    have ih' := ih (i + 1) (by omega)
    by_cases hd : d = 0
    · subst hd
      simp only [List.map_cons, List.cons_append, List.filter_cons, bne_self_eq_false, Bool.false_eq_true, if_false, distribute]
      rw [ih']
      simp [show i < target by omega]
    · have hb : (d != 0) = true := by simpa using hd
      have h2 : (d == 0) = false := by simpa using hd
      simp only [List.map_cons, List.cons_append, List.filter_cons, hb, if_true, distribute, List.length_cons,
        show ¬ (i ≥ target) by omega, if_false, h2, Bool.false_eq_true]
      rw [ih']

theorem filter_ne_zero_length (data : Bytes) : (data.filter (fun b => b != 0)).length = 0 ↔ ∀ b ∈ data, b = 0 := by
  simp [List.filter_eq_nil_iff]

theorem packBits_has_nonzero (data : Bytes) (h : ∃ b ∈ data, b ≠ 0) : ∃ b ∈ packBits (data.map (fun b => b != 0)), b ≠ 0 := by
  obtain ⟨b, hb, hne⟩ := h
  obtain ⟨i, hi, rfl⟩ := List.getElem_of_mem hb
  have hbit : vecBit (packBits (data.map (fun b => b != 0))) i = true := by
    rw [vecBit_packBits, getD_of_lt false (by simpa using hi)]
    simpa using hne
  refine ⟨_, getD_mem 0 (n := i / 8) (by rw [packBits_length, List.length_map]; omega), fun hz => ?_⟩
  rw [vecBit_of_byte_zero _ _ hz] at hbit
  cases hbit

/-- stated with input that follows (`extra`) because the recursion on the bitset needs it; then the vector must not be
    all-zero. -/
theorem decodePartial_encode (n : Nat) (data extra : Bytes) (hn : data.length ≤ n)
    (h : (∃ b ∈ data, b ≠ 0) ∨ extra = []) :
    bitsetDecodePartialF n (bitsetEncodeF n data ++ extra) data.length = .ok (data, (bitsetEncodeF n data).length) := by
  induction n generalizing data extra with
  | zero =>
    obtain rfl : data = [] := List.eq_nil_of_length_eq_zero (by omega)
    rfl
  | succ n ih =>
    unfold bitsetEncodeF
    by_cases h0 : data.length = 0
    · obtain rfl : data = [] := List.eq_nil_of_length_eq_zero h0
      simp [bitsetDecodePartialF]
    by_cases h1 : data.length = 1
    · obtain ⟨b, rfl⟩ : ∃ b, data = [b] := List.length_eq_one_iff.mp h1
      by_cases hz : b = 0
      · subst hz
        obtain rfl : extra = [] := h.resolve_left (by simp)
        simp [bitsetDecodePartialF]
      · simp [bitsetDecodePartialF, hz]
    simp only [h0, h1, if_false]
    by_cases hex : ∃ b ∈ data, b ≠ 0
    · have hnz : (data.filter (fun b => b != 0)).length ≠ 0 := fun hz =>
        hex.elim fun b ⟨hb, hne⟩ => hne ((filter_ne_zero_length data).mp hz b hb)
      have hbl : (packBits (data.map (fun b => b != 0))).length = (data.length + 7) / 8 := by
        rw [packBits_length, List.length_map]
      have ihb := ih (packBits (data.map (fun b => b != 0))) (data.filter (fun b => b != 0) ++ extra) (by omega)
        (Or.inl (packBits_has_nonzero data hex))
      rw [hbl] at ihb
      have hne : (bitsetEncodeF n (packBits (data.map (fun b => b != 0))) ++ (data.filter (fun b => b != 0) ++ extra)).length ≠ 0 := by
        simp only [List.length_append]; omega
      simp only [beq_iff_eq, hnz, if_false, List.append_assoc]
      unfold bitsetDecodePartialF
      simp only [h0, if_false, hne, h1]
      rw [ihb]
      simp only
      rw [List.drop_left, bitsOf_packBits, distribute_spec data.length data 0 _ extra (by omega)]
      simp [List.length_append]
    · -- all zero: nothing is emitted, nothing may follow
      have hall : ∀ b ∈ data, b = 0 := fun b hb => Decidable.not_not.mp fun hne => hex ⟨b, hb, hne⟩
      have hnz := (filter_ne_zero_length data).mpr hall
      obtain rfl : extra = [] := h.resolve_left hex
      simp only [hnz, beq_self_eq_true, if_true, List.append_nil, List.length_nil]
      unfold bitsetDecodePartialF
      simp only [h0, if_false, List.length_nil, if_true]
      rw [← List.eq_replicate_iff.mpr ⟨rfl, hall⟩]

theorem decompress_compress_all (v : Bytes) : decompressBytes (compressBytes v) v.length = .ok v := by
  unfold compressBytes
  simp only
  split
  · rename_i hlt
    unfold decompressBytes
    rw [if_neg (by omega), if_neg (by omega)]
    have := decodePartial_encode v.length v [] (Nat.le_refl _) (Or.inr rfl)
    rw [List.append_nil] at this
    unfold bitsetEncodeBytes
    rw [this]
    simp
  · unfold decompressBytes
    simp

end Aqv.LogFilter
