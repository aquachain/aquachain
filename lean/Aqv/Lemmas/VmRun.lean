/- C07: gas, fuel and the per-step checks of Model.Vm.  First the notions the C07 statements are written in: `EnvOK` (the gas
  table is a generated one), `FrameInv` (what a frame satisfies while it runs), `EvOK` (the three Spec checks of a step record)
  and `Good`, the record Lemmas/VmMain concludes at its three entry points; its `static` is only ever concluded for the trivial
  `view` there, the read-only clause for a real one being `Vm.call_view`.  Then `Sound`, the one predicate threaded through the
  induction on the call tree: it composes along the shapes a result is built in (`cons`, `seq`, `weaken`, `lift`, `mono`), so
  the wrappers and the loop are assembled from the soundness of their parts; `Child` is the induction hypothesis. -/
import Aqv.Lemmas.VmDb
import Aqv.Lemmas.VmTable
namespace Aqv.Vm
open Aqv.Gen.VmFlags

variable {W V : Type}

def EnvOK (env : Env) : Prop := env.gt ∈ gasTables

/-- `fr.gas + lastGasCost ≤ given` is what `memory_paid` rests on; `given` is a ghost field (contract.Gas when Run started) -/
def FrameInv (fr : Frame) : Prop :=
  fr.gas < two64 ∧ fr.given < two64 ∧ fr.gas + fr.mem.lastGasCost ≤ fr.given ∧ MemInv fr.mem ∧ fr.depth ≤ callCreateDepth + 1

def EvOK (env : Env) (e : Event) : Prop :=
  Spec.memoryPaid e = true ∧ Spec.depthOk e = true ∧ Spec.staticOk env e = true

structure Good (env : Env) (view : W → V) (fuel gas : Nat) (st : Bool) (db : Db W) (r : Res W) : Prop where
  ext : Ext db r.db
  gas_le : r.gas ≤ gas
  no_panic : r.out ≠ .panic
  fuel_ok : gas < fuel → r.out ≠ .outOfFuel
  events : ∀ e ∈ r.trace, EvOK env e
  static : env.byzantium = true → st = true → view r.db.cur = view db.cur

/-- What of a result rests on the frame invariant and the gas arithmetic: the gas left, the fuel, the per-step checks; and that
    the read-only flag is inherited (below a read-only frame or wrapper every step ran read-only, in particular everything
    below a STATICCALL, through any mix of calls and creates). What happens to the StateDB is `Reach` (Lemmas/VmReach). -/
structure Sound (env : Env) (fuel gas : Nat) (ro : Bool) (r : Res W) : Prop where
  gas_le : r.gas ≤ gas
  fuel_ok : gas < fuel → r.out ≠ .outOfFuel
  events : ∀ e ∈ r.trace, EvOK env e
  ro_events : ro = true → ∀ e ∈ r.trace, e.ro = true

/-- `r'` is `r` after what a wrapper does to a callee's result once it returned (revert, charge the code deposit, replace the
    error) -/
structure Below (r' r : Res W) : Prop where
  gas_le : r'.gas ≤ r.gas
  fuel : r'.out = .outOfFuel → r.out = .outOfFuel
  trace : r'.trace = r.trace
  tick : r'.tick = r.tick

theorem Below.refl (r : Res W) : Below r r := ⟨Nat.le_refl _, fun h => h, rfl, rfl⟩

theorem Below.ite_out {r' r : Res W} (h : Below r' r) (c : Prop) [Decidable c] (o : Outcome) (ho : o ≠ .outOfFuel := by nofun) :
    Below (if c then { r' with out := o } else r') r := by
  split
  · exact ⟨h.gas_le, fun e => absurd e ho, h.trace, h.tick⟩
  · exact h

namespace Sound
variable {env : Env} {fuel gas : Nat} {ro : Bool} {r : Res W}

theorem leaf {out : Outcome} {g : Nat} {db : Db W} {t n : Nat} (hg : g ≤ gas) (hf : out ≠ .outOfFuel := by nofun) :
    Sound env fuel gas ro ⟨out, g, db, t, n, []⟩ :=
  ⟨hg, fun _ => hf, nofun, fun _ => nofun⟩

theorem cons (h : Sound env fuel gas ro r) {ev : Event} (hev : EvOK env ev) (hro : ro = true → ev.ro = true) :
    Sound env fuel gas ro { r with trace := ev :: r.trace } :=
  ⟨h.gas_le, h.fuel_ok, fun e he => (List.mem_cons.mp he).elim (· ▸ hev) (h.events e),
   fun hr e he => (List.mem_cons.mp he).elim (· ▸ hro hr) (h.ro_events hr e)⟩

theorem seq {r' : Res W} (h : Sound env fuel gas ro r) (h' : Sound env fuel gas ro r') :
    Sound env fuel gas ro { r' with trace := r.trace ++ r'.trace } :=
  ⟨h'.gas_le, h'.fuel_ok, fun e he => (List.mem_append.mp he).elim (h.events e) (h'.events e),
   fun hr e he => (List.mem_append.mp he).elim (h.ro_events hr e) (h'.ro_events hr e)⟩

theorem weaken {ro' : Bool} (h : Sound env fuel gas ro' r) (hro : ro = true → ro' = true) : Sound env fuel gas ro r :=
  ⟨h.gas_le, h.fuel_ok, h.events, fun hr => h.ro_events (hro hr)⟩

theorem lift {g : Nat} (h : Sound env fuel g ro r) (hg : g < gas) : Sound env (fuel + 1) gas ro r :=
  ⟨Nat.le_trans h.gas_le (Nat.le_of_lt hg), fun hf => h.fuel_ok (by omega), h.events, h.ro_events⟩

theorem mono {r' : Res W} (h : Sound env fuel gas ro r) (h' : Below r' r) : Sound env fuel gas ro r' :=
  ⟨Nat.le_trans h'.gas_le h.gas_le, fun hf ho => h.fuel_ok hf (h'.fuel ho), h'.trace ▸ h.events, h'.trace ▸ h.ro_events⟩

/-- the shape in which `stepWith` continues after a callee -/
theorem resume {r r' : Res W} {ev : Event} (hev : EvOK env ev) (hro : ro = true → ev.ro = true)
    (h : Sound env fuel gas ro r) (h' : r.out.abnormal = false → Sound env fuel gas ro r') :
    Sound env fuel gas ro
      (if r.out.abnormal then { r with trace := ev :: r.trace } else { r' with trace := ev :: (r.trace ++ r'.trace) }) := by
  split
  · exact h.cons hev hro
  · next hab => exact (h.seq (h' (by simpa using hab))).cons hev hro

end Sound

def Child (env : Env) (fuel : Nat) (runChild : Frame → Db W → Nat → Res W) : Prop :=
  ∀ fr db t, FrameInv fr → Sound env fuel fr.gas fr.ro (runChild fr db t)

theorem FrameInv.new {gas depth : Nat} {ro : Bool} (hg : gas < two64) (hd : depth ≤ callCreateDepth + 1) :
    FrameInv (newFrame gas depth ro) :=
  ⟨hg, hg, by simp [newFrame], MemInv.empty, hd⟩

theorem runCode_sound {env : Env} {fuel : Nat} {runChild : Frame → Db W → Nat → Res W}
    (hc : Child env fuel runChild) {i : StepIn W} {gas depth : Nat} {ro : Bool} {db : Db W} {t : Nat}
    (hg : gas < two64) (hd : depth ≤ callCreateDepth) :
    Sound env fuel gas ro (runCode runChild i gas depth ro db t) := by
  unfold runCode
  split
  · split
    · exact .leaf (Nat.le_refl _)
    · split <;> exact .leaf (Nat.sub_le _ _)
  · split
    · exact .leaf (Nat.le_refl _)
    · exact hc (newFrame gas (depth + 1) ro) db t (FrameInv.new hg (by omega))

theorem finishCall_below (r : Res W) (id : Nat) : Below (finishCall r id) r := by
  unfold finishCall
  split
  · split
    · exact ⟨Nat.le_refl _, nofun, rfl, rfl⟩
    · exact ⟨Nat.le_refl _, fun h => h, rfl, rfl⟩
  · split
    · exact ⟨Nat.le_refl _, nofun, rfl, rfl⟩
    · exact ⟨Nat.zero_le _, fun h => h, rfl, rfl⟩
  · exact .refl r

theorem finishCall_tick (r : Res W) (id : Nat) : (finishCall r id).tick = r.tick := (finishCall_below r id).tick

/-- what `finishCall` does after a callee that ran from the snapshot of `db` (`he`: well-nested activity since): the outcome
    stays, since the revert finds its id; without an error the StateDB is the callee's; a failed call, unlike a reverted one, burns
    the gas it was given. Gas, trace and tick in general are `finishCall_below`; that an error gives the world of `db` back is
    Lemmas/VmReach `finishCall_reach`. -/
theorem finishCall_spec {db : Db W} {r : Res W} (he : Ext db.snapshot.2 r.db) :
    (finishCall r db.next).out = r.out ∧ (r.out.isErr = false → (finishCall r db.next).db = r.db) ∧
    (∀ e, r.out = .fail e → (finishCall r db.next).gas = 0) := by
  have hrev := (revert_of_ext he).1
  unfold finishCall
  cases ho : r.out with
  | ok | outOfFuel | panic =>
    simp [Outcome.isErr]
    exact ho
  | revert => simp [hrev, Outcome.isErr]
  | fail e => simp [hrev, Outcome.isErr]

theorem callWrap_sound {env : Env} {fuel : Nat} {runChild : Frame → Db W → Nat → Res W}
    (hc : Child env fuel runChild) {k : CallKind} {i : StepIn W} {depth : Nat} {ro : Bool} {gas : Nat} {valueNZ : Bool}
    {db : Db W} {t : Nat} (hg : gas < two64) :
    Sound env fuel gas (ro || k == .static) (callWrap env runChild k i depth ro gas valueNZ db t) := by
  unfold callWrap
  split
  · exact .leaf (Nat.le_refl _)
  · next hdep =>
    split
    · exact .leaf (Nat.le_refl _)
    · simp only []
      split
      · exact .leaf (Nat.le_refl _)
      · exact (runCode_sound hc hg (by omega)).mono (finishCall_below _ _)

end Aqv.Vm
