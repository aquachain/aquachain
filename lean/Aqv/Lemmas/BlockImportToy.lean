/-
  A small concrete instance of the abstract components of Aqv.Model.BlockImport, used for the non-vacuity examples and
  for the concrete witnesses of property C01 (no theorem about the real code depends on it).
    state      = a single number (think: the sum of all balances touched)
    transaction = a number added to the state; every transaction costs 1 gas and emits no logs
    txRoot     = an ORDER-SENSITIVE digest of the list (as DeriveSha is), receiptRoot/uncleHash = list lengths
-/
import Aqv.Lemmas.BlockImportChain
import Aqv.Lemmas.BlockImportCache
import Aqv.Lemmas.BlockImportRoot
namespace Aqv.BlockImport.Toy

open Aqv.BlockImport

def comp : Comp Nat Nat :=
  { applyMsg := fun _ _ st pool tx => if pool = 0 then .error 1 else .ok { st := st + tx, gas := 1, failed := false, logs := [], pool := pool - 1 },
    finalise := fun _ st => st,
    root := fun st => st,
    hf4Edit := fun st => st + 1000,
    hf5Edit := fun st => st,
    addBalance := fun st _ v => st + v.toNat,
    txRoot := fun txs => txs.foldl (fun acc t => acc * 10 + t) 7,
    uncleHash := fun us => us.length,
    receiptRoot := fun rs => rs.length,
    logBloom := fun _ => 0,
    hashHeader := fun h => h.number * 1000 + h.extra,
    blockReward := 0,
    maxMoney := 100,
    calcGasLimit := fun _ => 50,
    calcDifficulty := fun _ _ => 1 }

def chain (bodyFirst : Bool) : ChainComp Nat Nat :=
  { comp with verifyHeader := fun _ _ => true, verifyUncles := fun _ _ => true, blacklisted := fun _ => false,
              bodyFirst := bodyFirst }

def cfg : Cfg := { hf4 := some 4, hf5 := some 5, byzantium := some 0, eip158 := some 0 }

def hdr (number extra parent difficulty root txHash receiptHash gasUsed : Nat) : Header :=
  { parentHash := parent, number := number, coinbase := 9, gasLimit := 50, time := number * 10, difficulty := difficulty,
    extra := extra, uncleHash := 0, root := root, txHash := txHash, receiptHash := receiptHash, bloom := 0, gasUsed := gasUsed }

/-- genesis: hash 0, state 0, difficulty 10. -/
def g : Header := hdr 0 0 0 10 0 7 0 0
/-- A1: a heavy empty block on genesis (hash 1001). -/
def a1 : Block Nat := { header := hdr 1 1 0 10 0 7 0 0, txs := [], uncles := [] }
/-- B1, B2: a longer but lighter branch (hashes 1002, 2002); B2 carries the transactions 1 and 2. -/
def b1 : Block Nat := { header := hdr 1 2 0 1 0 7 0 0, txs := [], uncles := [] }
def b2 : Block Nat := { header := hdr 2 2 1002 1 3 712 2 2, txs := [1, 2], uncles := [] }
/-- B2 with its two transactions swapped: same header (same hash), same receipts/root/gas, but tx root 721 ≠ 712. -/
def b2swapped : Block Nat := { b2 with txs := [2, 1] }
def b2badRoot : Block Nat := { b2 with header := { b2.header with root := 4 } }

def noCoin : Nat → Bool := fun _ => false

/-- the store after importing A1, then [B1, B2]: head = A1 (height 1, td 20), B2 known with state at height 2 (td 12). -/
def forked (k : Bool) : Store Nat Nat :=
  (genesisStore comp g 0).run (chain k) cfg [.insert [a1] noCoin, .insert [b1, b2] noCoin]


/-! a toy byte codec for Layer A′: keys in unary (injective, invertible), one-byte values. -/

def unary (n : Nat) : Bytes := List.replicate n 1
def unaryInv (bs : Bytes) : Option Nat := if bs.all (· == 1) then some bs.length else none

theorem unaryInv_unary (n : Nat) : unaryInv (unary n) = some n := by
  unfold unaryInv unary
  simp

theorem unary_of_inv (bs : Bytes) (n : Nat) (h : unaryInv bs = some n) : unary n = bs := by
  unfold unaryInv at h
  split at h
  · rename_i ha
    cases h
    unfold unary
    induction bs with
    | nil => rfl
    | cons x rest ih =>
      simp only [List.all_cons, Bool.and_eq_true, beq_iff_eq] at ha
      simp only [List.length_cons, List.replicate_succ]
      rw [ih ha.2, ha.1]
  · cases h

def codec : Codec :=
  { slotKey := unary, slotInv := unaryInv, wordVal := fun v => [UInt8.ofNat v], addrKey := unary, addrInv := unaryInv,
    leafVal := fun l => [UInt8.ofNat l.nonce, UInt8.ofNat l.balance, UInt8.ofNat l.sroot] }

theorem codec_ok : codec.Ok :=
  { slot_inv := unaryInv_unary, slot_key := unary_of_inv, word_ne := fun _ _ => by simp [codec],
    addr_inv := unaryInv_unary, addr_key := unary_of_inv, leaf_ne := fun _ => by simp [codec] }

def csdb : CSDB :=
  { base := { trie := fun _ => none,
              objs := upd (upd (fun _ => none) 1 (some { nonce := 1, balance := 5, codeHash := 0, sroot := 0, storage := fun _ => 0,
                                                           dirty := upd (upd (fun _ => none) 5 (some 7)) 6 (some 3), suicided := false, deleted := false }))
                          2 (some { nonce := 0, balance := 9, codeHash := 0, sroot := 0, storage := fun _ => 0,
                                    dirty := fun _ => none, suicided := false, deleted := false }),
              dirty := fun a => a == 1 || a == 2, fault := false },
    hists := fun _ => [], acct := [] }

end Aqv.BlockImport.Toy
