/- C07: facts about the generated instruction tables (Gen.VmFlags). The checks themselves (`table_ok`, `gasTables_ok`,
  `consts_ok`) are by `decide`, so they are re-established against whatever core/vm/jump_table.go says on every run. -/
import Aqv.Lemmas.VmGas
namespace Aqv.Vm
open Aqv.Gen.VmFlags

def opOK (f : OpF) : Bool :=
  -- run dispatches on the execute function, the forwarded gas comes from the gas function; enforceRestrictions tests the
  -- opcode number 0xf1
  gasKind f.gasFn == execKind f.execFn &&
  (f.execFn != .opCall || f.op == 0xf1) &&
  (f.execFn != .opCreate || f.gasFn == .gasCreate) &&
  -- an opcode that may resize memory has a gas function that charges for it
  (gasChargesMem f.gasFn || f.memFn == .none) &&
  -- an opcode after which the loop continues costs at least 1 gas under every gas table
  (f.halts || f.reverts || gasTables.all (fun gt => decide (1 ≤ gasFloor gt f))) &&
  -- CALL-family and CREATE do not end the frame
  (((execKind f.execFn).isNone && f.execFn != .opCreate) || (!f.halts && !f.reverts)) &&
  -- stack reads (depths derived from the source by vmaccess) stay below the height validateStack guarantees
  decide (f.memReads ≤ f.pops ∧ f.gasReads ≤ f.pops ∧ f.execReads ≤ f.pops) &&
  -- hand classification "modifies state directly" ⊆ writes flag
  (!(execWrites f.execFn || f.execFn == .opCreate || gasTouchesState f.gasFn) || f.writes) &&
  -- the ranges the execute body dereferences (vmaccess) are among those the memory-size function takes the maximum of
  f.execRanges.all (fun r => (memFnRanges f.memFn).contains r)

theorem table_ok : ∀ ep : Epoch, (table ep).all opOK = true := by
  intro ep
  cases ep <;> decide

structure OpOK (f : OpF) : Prop where
  kind : gasKind f.gasFn = execKind f.execFn
  callOp : f.execFn = .opCall → f.op = 0xf1
  create : f.execFn = .opCreate → f.gasFn = .gasCreate
  chargesMem : f.memFn ≠ .none → gasChargesMem f.gasFn = true
  floor : f.halts = false → f.reverts = false → ∀ gt ∈ gasTables, 1 ≤ gasFloor gt f
  reads : f.memReads ≤ f.pops ∧ f.gasReads ≤ f.pops ∧ f.execReads ≤ f.pops
  writes : (execWrites f.execFn || f.execFn == .opCreate || gasTouchesState f.gasFn) = true → f.writes = true
  ranges : ∀ r ∈ f.execRanges, r ∈ memFnRanges f.memFn

theorem opOK_spec {f : OpF} (h : opOK f = true) : OpOK f := by
  simp only [opOK, Bool.and_eq_true, Bool.or_eq_true, beq_iff_eq, bne_iff_ne, decide_eq_true_eq, List.all_eq_true,
    List.contains_iff_mem, Bool.not_eq_true'] at h
  obtain ⟨⟨⟨⟨⟨⟨⟨⟨h1, h2⟩, h3⟩, h4⟩, h5⟩, _⟩, h6⟩, h7⟩, h8⟩ := h
  exact ⟨h1, fun e => h2.resolve_left (absurd e), fun e => h3.resolve_left (absurd e),
    fun e => h4.resolve_right e, fun hh hr => (h5.resolve_left (by simp [hh, hr])), h6,
    fun e => h7.resolve_left (by simp [e]), h8⟩

theorem table_opOK {ep : Epoch} {f : OpF} (hf : f ∈ table ep) : OpOK f :=
  opOK_spec (List.all_eq_true.mp (table_ok ep) f hf)

theorem lookup_mem {ep : Epoch} {op : Nat} {f : OpF} (h : lookup ep op = some f) : f ∈ table ep ∧ f.op = op := by
  unfold lookup at h
  exact ⟨List.mem_of_find?_eq_some h, by simpa using List.find?_some h⟩

theorem lookup_ok {ep : Epoch} {op : Nat} {f : OpF} (h : lookup ep op = some f) : OpOK f :=
  table_opOK (lookup_mem h).1

theorem gasTables_ok : ∀ gt ∈ gasTables, gt.createBySuicide > 0 ∧ 1 ≤ gt.calls := by decide

/-- the generated protocol constants the proofs lean on -/
structure ConstsOK : Prop where
  stipend : callStipend ≤ callValueTransferGas
  createGas : 1 ≤ createGas
  depth : callCreateDepth = 1024
  stack : stackLimit = 1024

theorem consts_ok : ConstsOK := by constructor <;> decide

end Aqv.Vm
