/- C08, one executed instruction: the Go data movement (`implExec`, with its Uint64() truncations) equals the Yellow-Paper
  definitions (`specExec`) on every machine whose memory already spans the touched range, which the prologue guarantees; in
  particular none of the Go slice operations can panic. -/
import Aqv.Lemmas.EvmBitmap
import Aqv.Lemmas.EvmData
import Aqv.Lemmas.EvmAlu
namespace Aqv.Evm
open Aqv Aqv.Big Aqv.Gen.VmTable

theorem uint64_zero : uint64 0 = 0 := by decide

theorem uint64_inRange {v : Int} (h : InRange v) (hlt : v.toNat < 2 ^ 64) : uint64 v = v.toNat := by
  have := uint64_of_lt v.toNat hlt
  rwa [h.cast_toNat] at this

theorem eq_zero_of_toNat {v : Int} (h : InRange v) (hz : v.toNat = 0) : v = 0 := by
  have := h.cast_toNat; omega

/-- the memory spans the range, so Uint64() truncates neither offset nor size -/
theorem memGet_u64 (mem : Bytes) {b0 b1 : Int} (h0 : InRange b0) (h1 : InRange b1)
    (hcov : b1.toNat ≠ 0 → b0.toNat + b1.toNat ≤ mem.length) (hmem : mem.length < 2 ^ 64) :
    memGet mem (uint64 b0) (uint64 b1) = some (specRead mem b0.toNat b1.toNat) := by
  by_cases hz : b1.toNat = 0
  · rw [eq_zero_of_toNat h1 hz]
    exact congrArg some (specRead_zero mem _).symm
  · have hc := hcov hz
    rw [uint64_inRange h0 (by omega), uint64_inRange h1 (by omega)]
    exact memGet_spec mem _ _ fun _ => hc

theorem memSet_u64 (mem : Bytes) {b0 bl : Int} (h0 : InRange b0) (hl : InRange bl) (value : Bytes)
    (hv : value.length = bl.toNat) (hcov : bl.toNat ≠ 0 → b0.toNat + bl.toNat ≤ mem.length) (hmem : mem.length < 2 ^ 64) :
    memSet mem (uint64 b0) (uint64 bl) value = some (specWrite mem b0.toNat value) := by
  by_cases hz : bl.toNat = 0
  · rw [eq_zero_of_toNat hl hz, List.eq_nil_of_length_eq_zero (hv.trans hz), specWrite_nil]
    exact if_neg (Nat.not_lt_zero _)
  · have hc := hcov hz
    rw [uint64_inRange h0 (by omega), uint64_inRange hl (by omega)]
    exact memSet_spec mem _ _ value hv fun _ => hc

theorem copy_agree (mem data : Bytes) {b0 b1 b2 : Int} (h0 : InRange b0) (h2 : InRange b2)
    (hcov : b2.toNat ≠ 0 → b0.toNat + b2.toNat ≤ mem.length) (hmem : mem.length < 2 ^ 64) :
    memSet mem (uint64 b0) (uint64 b2) (getDataBig data b1.toNat b2.toNat)
      = some (specWrite mem b0.toNat (specRead data b1.toNat b2.toNat)) := by
  have hlt : b2.toNat < 2 ^ 64 := by
    by_cases hz : b2.toNat = 0
    · omega
    · have := hcov hz; omega
  rw [getDataBig_spec _ _ _ hlt]
  exact memSet_u64 mem h0 h2 _ (specRead_length ..) hcov hmem

theorem returnDataCopy_oob_iff (rdLen doff len : Nat) (hrd : rdLen < 2 ^ 64) :
    (bitLen ((doff : Int) + (len : Int)) > 64 ∨ rdLen < uint64 ((doff : Int) + (len : Int))) ↔ doff + len > rdLen := by
  rw [← Int.natCast_add, bitLen_natCast_gt, uint64_natCast]
  omega

theorem returnData_slice (rd : Bytes) (doff len : Nat) (hrd : rd.length < 2 ^ 64) (hin : doff + len ≤ rd.length) :
    (rd.drop (uint64 (doff : Int))).take (uint64 ((doff : Int) + (len : Int)) - uint64 (doff : Int)) = specRead rd doff len := by
  rw [← Int.natCast_add, uint64_of_lt _ (by omega), uint64_of_lt _ (by omega), Nat.add_sub_cancel_left]
  exact dropTake_eq_specRead rd doff len hin

theorem jumpdest_agree (code : Array UInt8) (hcode : code.size < 2 ^ 62) {b : Int} (hb : InRange b) :
    hasJumpdest code b = EvmSpec.validJumpdest code.toList b.toNat ∧
    (EvmSpec.validJumpdest code.toList b.toNat = true → uint64 b = b.toNat) := by
  have := hasJumpdest_eq code b.toNat hcode
  rw [hb.cast_toNat] at this
  refine ⟨this, fun hv => uint64_inRange hb ?_⟩
  unfold EvmSpec.validJumpdest at hv
  simp only [Bool.and_eq_true, decide_eq_true_eq, Array.length_toList] at hv
  omega

structure ExecHyp (env : Env) (H : Bytes → Bytes) (en : Entry) (opc : Nat) (m : Machine) : Prop where
  hcode : env.code.size < 2 ^ 62
  hrd : env.returndata.length < 2 ^ 64
  hst : ∀ v ∈ m.stack, InRange v
  hpops : en.pops ≤ m.stack.length
  hk : en.memK = specMemKind opc
  hcov : (touchOf en.memK m.stack).2 ≠ 0 → (touchOf en.memK m.stack).1.toNat + (touchOf en.memK m.stack).2.toNat ≤ m.mem.length
  hmem : m.mem.length < 2 ^ 64
  hsar : ¬ (opc = 0x1d ∧ back m.stack 0 ≥ 256 ∧ back m.stack 1 = 0)
  hdup : ∀ n, decode opc = .dup n → n ≤ en.pops
  hswap : ∀ k, decode opc = .swap k → k + 1 ≤ en.pops

theorem take_two {st : List Int} {p : Nat} {x y : Int} (h : st.take p = [x, y]) : back st 0 = x ∧ back st 1 = y := by
  match st, p, h with
  | a :: b :: _, _ + 2, h =>
    simp only [List.take_succ_cons, List.cons.injEq] at h
    exact ⟨h.1, h.2.1⟩
  | [], _, h => simp at h
  | [_], p, h => cases p <;> simp at h
  | _ :: _ :: _, 0, h => simp at h
  | _ :: _ :: _, 1, h => simp at h

theorem pushSlice_eq (code : Bytes) (pc n : Nat) :
    rightPad ((code.drop (min code.length (pc + 1))).take (min code.length (min code.length (pc + 1) + n) - min code.length (pc + 1))) n
      = specRead code (pc + 1) n := by
  have := slicePad_eq code (pc + 1) n
  rwa [Nat.min_comm (pc + 1) code.length, Nat.min_comm (min code.length (pc + 1) + n) code.length] at this

theorem exec_agree (env : Env) (H : Bytes → Bytes) (en : Entry) (opc : Nat) (m : Machine) (h : ExecHyp env H en opc m) :
    implExec env H en opc m = specExec env H en opc m := by
  have hd := decode_sound opc
  have hb := back_inRange m.stack h.hst
  have hcov : ∀ k, specMemKind opc = k → (touchOf k m.stack).2.toNat ≠ 0 →
      (touchOf k m.stack).1.toNat + (touchOf k m.stack).2.toNat ≤ m.mem.length := by
    intro k hk hz
    rw [← hk, ← h.hk]
    exact h.hcov fun h0 => hz (by rw [h.hk, hk] at h0; rw [h0]; rfl)
  unfold implExec specExec
  generalize hdec : decode opc = ins at hd
  cases ins with
  | push n => simp only []; rw [pushSlice_eq]
  | dup n =>
    simp only [instrOk] at hd
    have := h.hdup n hdec
    have := h.hpops
    simp only []
    rw [dup_spec m.stack n (by omega) (by omega)]
  | swap k =>
    simp only [instrOk] at hd
    have := h.hswap k hdec
    have := h.hpops
    simp only []
    rw [swap_spec m.stack k (by omega) (by omega)]
  | alu =>
    simp only []
    rw [alu_agree opc (m.stack.take en.pops) (fun v hv => h.hst v (List.mem_of_mem_take hv))]
    intro ⟨ho, x, y, hxy, hx, hy⟩
    obtain ⟨e0, e1⟩ := take_two hxy
    exact h.hsar ⟨ho, e0 ▸ hx, e1 ▸ hy⟩
  | sha3 =>
    cases hd
    simp only []
    rw [memGet_u64 m.mem (hb 0) (hb 1) (hcov .b0b1 rfl) h.hmem]
  | ret =>
    simp only []
    rw [memGet_u64 m.mem (hb 0) (hb 1) (hcov .b0b1 (by rcases hd with rfl | rfl <;> rfl)) h.hmem]
  | calldataload => simp only []; rw [getDataBig_spec _ _ 32 (by decide)]
  | calldatacopy | codecopy =>
    cases hd
    simp only []
    rw [copy_agree m.mem _ (hb 0) (hb 2) (hcov .b0b2 rfl) h.hmem]
  | returndatacopy =>
    cases hd
    simp only []
    have hc := hcov .b0b2 rfl
    have hoob := returnDataCopy_oob_iff env.returndata.length (back m.stack 1).toNat (back m.stack 2).toNat h.hrd
    have hsl := returnData_slice env.returndata (back m.stack 1).toNat (back m.stack 2).toNat h.hrd
    rw [(hb 1).cast_toNat, (hb 2).cast_toNat] at hoob hsl
    simp only [hoob]
    split
    · rfl
    · rw [hsl (by omega), memSet_u64 m.mem (hb 0) (hb 2) _ (specRead_length ..) hc h.hmem]
  | mload =>
    cases hd
    simp only []
    rw [show memGet m.mem (uint64 (back m.stack 0)) 32 = _ from
      memGet_u64 m.mem (hb 0) (b1 := 32) ⟨by decide, by decide⟩ (hcov .b0c32 rfl) h.hmem]
    rfl
  | mstore =>
    cases hd
    simp only []
    rw [paddedBigBytes_spec _ (hb 1).toNat_lt, show memSet m.mem (uint64 (back m.stack 0)) 32 _ = _ from
      memSet_u64 m.mem (hb 0) (bl := 32) ⟨by decide, by decide⟩ _ (specWord_length _) (hcov .b0c32 rfl) h.hmem]
  | mstore8 =>
    cases hd
    simp only []
    have hlt : (back m.stack 0).toNat + 1 ≤ m.mem.length := hcov .b0c1 rfl (show (1 : Int).toNat ≠ 0 by decide)
    have := h.hmem
    rw [uint64_inRange (hb 0) (by omega), if_pos (by omega), set_eq_specWrite _ _ _ (by omega)]
    have : uint64 (back m.stack 1) % 256 = (back m.stack 1).toNat % 256 := by
      rw [← (hb 1).cast_toNat, uint64_natCast, Int.toNat_natCast]; omega
    rw [this]
  | jump =>
    obtain ⟨hj, hu⟩ := jumpdest_agree env.code h.hcode (hb 0)
    simp only [hj]
    split
    · rename_i hv; rw [hu hv]
    · rfl
  | jumpi =>
    obtain ⟨hj, hu⟩ := jumpdest_agree env.code h.hcode (hb 0)
    simp only [hj]
    split
    · split
      · rename_i hv; rw [hu hv]
      · rfl
    · rfl
  | stop | address | origin | caller | callvalue | calldatasize | codesize | gasprice | returndatasize | coinbase | timestamp
  | number | difficulty | gaslimit | pop | pc | msize | gas | jumpdest | other => rfl
end Aqv.Evm
