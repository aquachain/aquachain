/- C07: evm.go Create in Model.Vm, the gas side: code deposit and error handling only lower the gas left. -/
import Aqv.Lemmas.VmRun
namespace Aqv.Vm
open Aqv.Gen.VmFlags
variable {W : Type}

theorem createStore_below (env : Env) (i : StepIn W) (r : Res W) : Below (createStore env i r) r := by
  unfold createStore
  split
  · split
    · exact ⟨Nat.le_refl _, nofun, rfl, rfl⟩
    · exact ⟨Nat.sub_le _ _, fun h => h, rfl, rfl⟩
  · exact .refl r

/-- the code deposit either leaves the outcome or turns success into ErrCodeStoreOutOfGas -/
theorem createStore_spec (env : Env) (i : StepIn W) (r : Res W) :
    (createStore env i r).out = r.out ∨ (createStore env i r).out = .fail .codeStoreOutOfGas := by
  unfold createStore
  split
  · split
    · exact .inr rfl
    · exact .inl rfl
  · exact .inl rfl

theorem createStore_tick (env : Env) (i : StepIn W) (r : Res W) : (createStore env i r).tick = r.tick :=
  (createStore_below env i r).tick

theorem createFinish_below (env : Env) (id : Nat) (mx : Bool) (r1 : Res W) : Below (createFinish env id mx r1) r1 := by
  unfold createFinish
  refine Below.ite_out ?_ _ _
  split
  · split
    · exact ⟨Nat.le_refl _, nofun, rfl, rfl⟩
    · split
      · exact ⟨Nat.le_refl _, fun h => h, rfl, rfl⟩
      · exact ⟨Nat.zero_le _, fun h => h, rfl, rfl⟩
  · exact .refl r1

theorem createFinish_tick (env : Env) (id : Nat) (mx : Bool) (r1 : Res W) : (createFinish env id mx r1).tick = r1.tick :=
  (createFinish_below env id mx r1).tick

theorem createWrap_sound {env : Env} {fuel : Nat} {runChild : Frame → Db W → Nat → Res W}
    (hc : Child env fuel runChild) {i : StepIn W} {depth : Nat} {ro : Bool} {gas : Nat}
    {db : Db W} {t : Nat} (hg : gas < two64) :
    Sound env fuel gas ro (createWrap env runChild i depth ro gas db t) := by
  unfold createWrap
  split
  · exact .leaf (Nat.le_refl _)
  · next hdep =>
    split
    · exact .leaf (Nat.le_refl _)
    · simp only []
      split
      · exact .leaf (Nat.zero_le _)
      · -- `r0`: the init code run (nothing for empty code) on the StateDB after nonce bump, snapshot and transfer
        generalize hr0 : (if i.codeEmpty = true then _ else _) = r0
        have h0 : Sound env fuel gas ro r0 := by
          rw [← hr0]
          split
          · exact .leaf (Nat.le_refl _)
          · exact hc (newFrame gas (depth + 1) ro) _ t (FrameInv.new hg (by omega))
        split
        · exact h0
        · exact (h0.mono (createStore_below env i r0)).mono (createFinish_below env _ _ _)

end Aqv.Vm
