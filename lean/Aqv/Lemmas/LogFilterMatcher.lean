/-
  Aqv.Lemmas.LogFilterMatcher — the matcher as a function (C16). One section, bit by bit: `subMatch`, `runSection`; over vectors
  that are the columns of a bloom the pipeline built from the criteria computes `bloomFilter`. The result-extraction loop of
  `Matcher.Start` (with its `i += 7` skip) enumerates exactly the set bits of the section vector inside `[first, last]`, and the
  sections concatenate to the whole range.
-/
import Aqv.Lemmas.LogFilterBloom
namespace Aqv.LogFilter

def tripleBit (vec : Nat → Bytes) (bits : Nat × Nat × Nat) (n : Nat) : Bool :=
  vecBit (vec bits.1) n && vecBit (vec bits.2.1) n && vecBit (vec bits.2.2) n

def GroupFits (vec : Nat → Bytes) (L : Nat) (bloom : List (Nat × Nat × Nat)) : Prop :=
  ∀ bits ∈ bloom, ∀ k ∈ [bits.1, bits.2.1, bits.2.2], (vec k).length = L

def VecsFit (vec : Nat → Bytes) (L : Nat) (filters : List (List (Nat × Nat × Nat))) : Prop :=
  ∀ bloom ∈ filters, GroupFits vec L bloom

theorem GroupFits.cons {vec : Nat → Bytes} {L : Nat} {x : Nat × Nat × Nat} {xs : List (Nat × Nat × Nat)} :
    GroupFits vec L (x :: xs) ↔ (∀ k ∈ [x.1, x.2.1, x.2.2], (vec k).length = L) ∧ GroupFits vec L xs :=
  List.forall_mem_cons

theorem VecsFit.cons {vec : Nat → Bytes} {L : Nat} {f : List (Nat × Nat × Nat)} {fs : List (List (Nat × Nat × Nat))} :
    VecsFit vec L (f :: fs) ↔ GroupFits vec L f ∧ VecsFit vec L fs :=
  List.forall_mem_cons

theorem andVector_isVec (vec : Nat → Bytes) (size : Nat) (bits : Nat × Nat × Nat)
    (hl : ∀ k ∈ [bits.1, bits.2.1, bits.2.2], (vec k).length = size / 8) :
    IsVec (size / 8) (andVector vec size bits) (tripleBit vec bits) := by
  have h1 := hl bits.1 (by simp)
  unfold andVector
  rw [copyN_eq _ _ h1]
  exact ((IsVec.of_length h1).and (.of_length (hl bits.2.1 (by simp)))).and (.of_length (hl bits.2.2 (by simp)))

theorem orVector_isVec (vec : Nat → Bytes) (size : Nat) (bloom : List (Nat × Nat × Nat))
    (hl : GroupFits vec (size / 8) bloom) :
    IsVec (size / 8) (orVector vec size bloom) (fun n => bloom.any (fun bits => tripleBit vec bits n)) := by
  cases bloom with
  | nil => exact IsVec.zero _
  | cons x xs =>
    obtain ⟨hx, hxs⟩ := GroupFits.cons.mp hl
    exact (IsVec.foldl_or xs (fun y hy => andVector_isVec vec size y (hxs y hy)) (andVector_isVec vec size x hx)).congr
      fun n => by rw [List.any_cons]

theorem subMatch_isOVec (vec : Nat → Bytes) (size : Nat) (bloom : List (Nat × Nat × Nat)) {inp : Bytes} {g : Nat → Bool}
    (hinp : IsVec (size / 8) inp g)
    (hl : GroupFits vec (size / 8) bloom) :
    IsOVec (size / 8) (subMatch vec size bloom inp) (fun n => g n && bloom.any (fun bits => tripleBit vec bits n)) := by
  have ho := ((orVector_isVec vec size bloom hl).and hinp).congr fun n => Bool.and_comm ..
  unfold subMatch
  simp only
  split
  · exact ⟨fun o h => by cases h; exact ho.len, ho.bit⟩
  · rename_i ht
    exact ⟨fun o h => (by cases h), fun n => (vecBit_of_testBytes_false _ (by simpa using ht) n).symm.trans (ho.bit n)⟩

theorem runFold_isOVec (vec : Nat → Bytes) (size : Nat) (filters : List (List (Nat × Nat × Nat))) {cur : Option Bytes}
    {g : Nat → Bool} (hcur : IsOVec (size / 8) cur g)
    (hl : VecsFit vec (size / 8) filters) :
    IsOVec (size / 8) (filters.foldl (fun cur bloom => cur.bind (subMatch vec size bloom)) cur)
      (fun n => g n && filters.all (fun bloom => bloom.any (fun bits => tripleBit vec bits n))) := by
  induction filters generalizing cur g with
  | nil => exact ⟨hcur.1, fun n => by simp [hcur.2 n]⟩
  | cons f fs ih =>
    obtain ⟨hf, hfs⟩ := VecsFit.cons.mp hl
    have hstep : IsOVec (size / 8) (cur.bind (subMatch vec size f)) (fun n => g n && f.any (fun bits => tripleBit vec bits n)) := by
      cases cur with
      | none => exact ⟨fun o h => (by cases h), fun n => by show false = (g n && _); rw [← hcur.2 n]; rfl⟩
      | some inp => exact subMatch_isOVec vec size f ⟨hcur.1 inp rfl, hcur.2⟩ hf
    obtain ⟨l, b⟩ := ih hstep hfs
    exact ⟨l, fun n => (b n).trans (by simp only [List.all_cons, Bool.and_assoc])⟩

theorem runSection_isOVec (vec : Nat → Bytes) (size : Nat) (filters : List (List (Nat × Nat × Nat)))
    (hl : VecsFit vec (size / 8) filters) :
    IsOVec (size / 8) (runSection vec size filters)
      (fun n => decide (n / 8 < size / 8) && filters.all (fun bloom => bloom.any (fun bits => tripleBit vec bits n))) :=
  runFold_isOVec vec size filters ⟨fun o h => by cases h; exact (IsVec.ones _).len, (IsVec.ones _).bit⟩ hl

theorem runSection_nil (vec : Nat → Bytes) (size : Nat) : runSection vec size [] = some (List.replicate (size / 8) 0xff) := rfl

theorem runSection_length (vec : Nat → Bytes) (size : Nat) (filters : List (List (Nat × Nat × Nat)))
    (hl : ∀ bloom ∈ filters, ∀ bits ∈ bloom, ∀ k ∈ [bits.1, bits.2.1, bits.2.2], (vec k).length = size / 8)
    (o : Bytes) (h : runSection vec size filters = some o) : o.length = size / 8 :=
  (runSection_isOVec vec size filters hl).1 o h

/-- the group `NewMatcher` builds from one position of the criteria (address list or topic position). -/
def groupOf (H : HashFn) (l : List Bytes) : Option (List (Nat × Nat × Nat)) :=
  if l.length == 0 then none else some (l.map (calcBloomIndexes H))

theorem newMatcherFilters_flatten (H : HashFn) (c : Criteria) :
    newMatcherFilters H (flattenCriteria c) =
      ((if c.addresses.length > 0 then [c.addresses] else []) ++ c.topics).filterMap (groupOf H) := by
  have hstep : ∀ l : List Bytes,
      (if (l.map some).length == 0 then none
       else if (l.map some).any (fun c => c.isNone) then none
       else some ((l.map some).map (fun c => calcBloomIndexes H (c.getD [])))) = groupOf H l := by
    intro l
    have h1 : (l.map some).any (fun c => c.isNone) = false := by simp
    rw [h1, List.map_map, List.length_map]
    rfl
  have hflat : flattenCriteria c =
      ((if c.addresses.length > 0 then [c.addresses] else []) ++ c.topics).map (fun tl => tl.map some) := by
    unfold flattenCriteria
    split <;> simp
  rw [hflat, newMatcherFilters, List.filterMap_map]
  congr 1
  funext l
  exact hstep l

theorem all_filterMap {α β : Type} (f : α → Option β) (p : β → Bool) (xs : List α) :
    (xs.filterMap f).all p = xs.all (fun x => ((f x).map p).getD true) := by
  rw [List.all_filterMap]; exact List.all_congr rfl fun x => by cases f x <;> rfl

/-- on the columns of `bloom`, what a position's group contributes at `n` is that position's clause of `bloomFilter`. -/
theorem group_eq (H : HashFn) (vec : Nat → Bytes) (bloom : Bytes) (n : Nat)
    (hcol : ∀ i, i < 2048 → vecBit (vec i) n = (beNat bloom).testBit i) (l : List Bytes) :
    (((groupOf H l).map (fun y => y.any (fun bits => tripleBit vec bits n))).getD true) =
      (l.length == 0 || l.any (fun x => bloomLookup H bloom x)) := by
  unfold groupOf
  by_cases h : l.length = 0
  · simp [h]
  · rw [show (l.length == 0) = false by simpa using h, Bool.false_or]
    simp only [Bool.false_eq_true, if_false, Option.map_some, Option.getD_some, List.any_map]
    apply List.any_congr rfl
    intro x
    have hlt := calcBloomIndexes_lt H x
    simp only [Function.comp, tripleBit]
    rw [hcol _ (hlt _ (by simp)), hcol _ (hlt _ (by simp)), hcol _ (hlt _ (by simp)), bloomLookup_eq_bits, calcBloomIndexes_eq]

theorem newMatcherFilters_lengths (H : HashFn) (vec : Nat → Bytes) (L : Nat) (hvec : ∀ i, i < 2048 → (vec i).length = L)
    (c : Criteria) :
    VecsFit vec L (newMatcherFilters H (flattenCriteria c)) := by
  rw [newMatcherFilters_flatten]
  intro bloom hb bits hbits k hk
  obtain ⟨l, _, hl⟩ := List.mem_filterMap.mp hb
  unfold groupOf at hl
  split at hl
  · cases hl
  · cases hl
    obtain ⟨x, _, rfl⟩ := List.mem_map.mp hbits
    exact hvec k (calcBloomIndexes_lt H x k hk)

/-- `matcher_spec` for any vectors whose bits at `n` are the bits of `bloom` (empty groups are skipped). -/
theorem runSection_bloomFilter (H : HashFn) (vec : Nat → Bytes) (size : Nat) (h8 : size % 8 = 0)
    (hvec : ∀ i, i < 2048 → (vec i).length = size / 8) (bloom : Bytes) (n : Nat) (hn : n < size)
    (hcol : ∀ i, i < 2048 → vecBit (vec i) n = (beNat bloom).testBit i) (c : Criteria) :
    sectionBit (runSection vec size (newMatcherFilters H (flattenCriteria c))) n = bloomFilter H bloom c := by
  refine ((runSection_isOVec _ size _ (newMatcherFilters_lengths H _ (size / 8) hvec c)).2 n).trans ?_
  show (decide (n / 8 < size / 8) && _) = _
  rw [decide_eq_true (by omega), Bool.true_and,
    newMatcherFilters_flatten, all_filterMap, List.all_append]
  unfold bloomFilter
  congr 1
  · split
    · rename_i hpos
      rw [List.all_cons, List.all_nil, Bool.and_true, group_eq H vec bloom n hcol,
        show (c.addresses.length == 0) = false by simpa using (by omega : c.addresses.length ≠ 0), Bool.false_or]
    · rfl
  · exact List.all_congr rfl fun l => group_eq H vec bloom n hcol l

theorem filter_range'_skip (p : Nat → Bool) (a n k : Nat) (h : ∀ j, a ≤ j → j < a + k → p j = false) :
    (List.range' a n).filter p = (List.range' (a + k) (n - k)).filter p := by
  have hfalse : ∀ m, m ≤ k → (List.range' a m).filter p = [] := fun m hm =>
    List.filter_eq_nil_iff.mpr fun j hj => by
      rw [List.mem_range'_1] at hj
      rw [h j hj.1 (by omega)]
      simp
  by_cases hk : k ≤ n
  · have := @List.range'_append_1 a k (n - k)
    rw [show k + (n - k) = n by omega] at this
    rw [← this, List.filter_append, hfalse k (Nat.le_refl k), List.nil_append]
  · rw [show n - k = 0 by omega, hfalse n (by omega)]
    rfl

/-- `extraction_spec` for the loop; `i` ≥ the 8-aligned section start. -/
theorem extractLoop_spec (bitset : Bytes) (ss last : Nat) (h8 : ss % 8 = 0) (fuel i : Nat) (hi : ss ≤ i)
    (hf : last + 1 - i ≤ fuel) :
    extractLoop bitset.toArray ss last fuel i = (List.range' i (last + 1 - i)).filter (fun j => vecBit bitset (j - ss)) := by
  induction fuel generalizing i with
  | zero => rw [show last + 1 - i = 0 by omega]; rfl
  | succ fuel ih =>
    unfold extractLoop
    by_cases hgt : i > last
    · rw [show last + 1 - i = 0 by omega]; simp [hgt]
    · simp only [hgt, if_false, toArray_getD]
      have hn : last + 1 - i = (last + 1 - (i + 1)) + 1 := by omega
      by_cases hz : bitset.getD ((i - ss) / 8) 0 = 0
      · simp only [hz, beq_self_eq_true, if_true]
        by_cases hm : i % 8 = 0
        · -- a zero byte at an 8-aligned position: the loop skips its eight bits
          simp only [hm, beq_self_eq_true, if_true]
          rw [ih (i + 7 + 1) (by omega) (by omega),
            filter_range'_skip (fun j => vecBit bitset (j - ss)) i (last + 1 - i) 8 (fun j h1 h2 =>
              vecBit_of_byte_zero _ _ (by rw [show (j - ss) / 8 = (i - ss) / 8 by omega]; exact hz)),
            show i + 7 + 1 = i + 8 by omega, show last + 1 - (i + 8) = last + 1 - i - 8 by omega]
        · simp only [show (i % 8 == 0) = false by simpa using hm, Bool.false_eq_true, if_false]
          rw [ih (i + 1) (by omega) (by omega), hn, List.range'_succ, List.filter_cons, vecBit_of_byte_zero _ _ hz]
          rfl
      · have hv : (bitset.getD ((i - ss) / 8) 0 &&& ((1 : UInt8) <<< (7 - i % 8).toUInt8) != 0) = vecBit bitset (i - ss) := by
          rw [vecBit, show (i - ss) % 8 = i % 8 by omega]
        simp only [show (bitset.getD ((i - ss) / 8) 0 == 0) = false by simpa using hz, Bool.false_eq_true, if_false]
        rw [hv, ih (i + 1) (by omega) (by omega), hn, List.range'_succ, List.filter_cons]

theorem extract_spec (size b e s : Nat) (hs : 0 < size) (h8 : size % 8 = 0) (bitset : Bytes) :
    extract size b e s bitset =
      (List.range' (max b (s * size)) (min (e + 1) ((s + 1) * size) - max b (s * size))).filter
        (fun j => vecBit bitset (j - s * size)) := by
  have hss : (s * size) % 8 = 0 := by rw [Nat.mul_mod, h8]; simp
  have e1 : (s + 1) * size = s * size + size := Nat.succ_mul s size
  have hfirst : (if b > s * size then b else s * size) = max b (s * size) := by split <;> omega
  have hlast : (if e < s * size + size - 1 then e else s * size + size - 1) + 1 = min (e + 1) ((s + 1) * size) := by
    split <;> omega
  unfold extract
  simp only
  rw [hfirst, extractLoop_spec bitset (s * size) _ hss _ _ (Nat.le_max_right _ _) (Nat.le_refl _), hlast]

/-- the interval `[a, c)` cut at `m` (which may lie outside it). -/
theorem range'_split (a m c : Nat) :
    List.range' a (min m c - a) ++ List.range' (max a m) (c - max a m) = List.range' a (c - a) := by
  by_cases h1 : m ≤ a
  · rw [show min m c - a = 0 by omega, show max a m = a by omega]
    rfl
  · by_cases h2 : m ≤ c
    · have := @List.range'_append_1 a (m - a) (c - m)
      rw [show a + (m - a) = m by omega, show m - a + (c - m) = c - a by omega] at this
      rw [show min m c - a = m - a by omega, show max a m = m by omega, this]
    · rw [show min m c - a = c - a by omega, show c - max a m = 0 by omega]
      exact List.append_nil _

/-- the body of the section loop. -/
def sectionPiece (r : Option Bytes) (size b e s : Nat) : List Nat :=
  match r with
  | some bitset => extract size b e s bitset
  | none => []

theorem matcherSections_succ (index : List (List Bytes)) (size : Nat) (filters : List (List (Nat × Nat × Nat))) (b e k s : Nat) :
    matcherSections index size filters b e (k + 1) s =
      sectionPiece (runSection (indexVec index s) size filters) size b e s ++ matcherSections index size filters b e k (s + 1) := by
  rw [matcherSections]
  cases runSection (indexVec index s) size filters <;> rfl

theorem sectionPiece_spec (size b e s : Nat) (hs : 0 < size) (h8 : size % 8 = 0) (r : Option Bytes) (P : Nat → Bool)
    (hP : ∀ n, n < size → sectionBit r n = P (s * size + n)) :
    sectionPiece r size b e s =
      (List.range' (max b (s * size)) (min (e + 1) ((s + 1) * size) - max b (s * size))).filter P := by
  have e1 : (s + 1) * size = s * size + size := Nat.succ_mul s size
  have hcongr : (List.range' (max b (s * size)) (min (e + 1) ((s + 1) * size) - max b (s * size))).filter P =
      (List.range' (max b (s * size)) (min (e + 1) ((s + 1) * size) - max b (s * size))).filter
        (fun j => sectionBit r (j - s * size)) := by
    apply List.filter_congr
    intro j hj
    rw [List.mem_range'_1] at hj
    rw [hP (j - s * size) (by omega), show s * size + (j - s * size) = j by omega]
  rw [hcongr]
  cases r with
  | none => exact (List.filter_eq_nil_iff.mpr fun _ _ h => Bool.noConfusion h).symm
  | some v => exact extract_spec size b e s hs h8 v

theorem matcherSections_spec (index : List (List Bytes)) (size : Nat) (hs : 0 < size) (h8 : size % 8 = 0)
    (filters : List (List (Nat × Nat × Nat))) (b e : Nat) (P : Nat → Bool) (k s : Nat)
    (hP : ∀ t, s ≤ t → t < s + k → ∀ n, n < size → sectionBit (runSection (indexVec index t) size filters) n = P (t * size + n)) :
    matcherSections index size filters b e k s =
      (List.range' (max b (s * size)) (min (e + 1) ((s + k) * size) - max b (s * size))).filter P := by
  induction k generalizing s with
  | zero =>
    rw [show min (e + 1) ((s + 0) * size) - max b (s * size) = 0 by simp only [Nat.add_zero]; omega]
    rfl
  | succ k ih =>
    have h1 : s * size ≤ (s + 1) * size := Nat.mul_le_mul_right _ (by omega)
    have h2 : (s + 1) * size ≤ (s + (k + 1)) * size := Nat.mul_le_mul_right _ (by omega)
    have hsplit := range'_split (max b (s * size)) ((s + 1) * size) (min (e + 1) ((s + (k + 1)) * size))
    rw [show min ((s + 1) * size) (min (e + 1) ((s + (k + 1)) * size)) = min (e + 1) ((s + 1) * size) by omega,
      show max (max b (s * size)) ((s + 1) * size) = max b ((s + 1) * size) by omega] at hsplit
    rw [matcherSections_succ, ih (s + 1) (fun t h1 h2 => hP t (by omega) (by omega)),
      sectionPiece_spec size b e s hs h8 _ P (hP s (Nat.le_refl _) (by omega)), show s + 1 + k = s + (k + 1) by omega,
      ← List.filter_append, hsplit]

theorem matcherRun_spec (index : List (List Bytes)) (size : Nat) (hs : 0 < size) (h8 : size % 8 = 0)
    (filters : List (List (Nat × Nat × Nat))) (b e : Nat) (P : Nat → Bool)
    (hP : ∀ t, t ≤ e / size → ∀ n, n < size → sectionBit (runSection (indexVec index t) size filters) n = P (t * size + n)) :
    matcherRun index size filters b e = (List.range' b (e + 1 - b)).filter P := by
  have hb : b / size * size ≤ b := Nat.div_mul_le_self b size
  have he : e < (e / size + 1) * size := by rw [Nat.succ_mul]; exact Nat.lt_div_mul_add hs
  have hK : (e / size + 1) * size ≤ (b / size + (e / size + 1 - b / size)) * size := Nat.mul_le_mul_right _ (by omega)
  unfold matcherRun
  rw [matcherSections_spec index size hs h8 filters b e P _ _ (fun t _ h2 n hn => hP t (by omega) n hn),
    show max b (b / size * size) = b by omega,
    show min (e + 1) ((b / size + (e / size + 1 - b / size)) * size) = e + 1 by omega]

/-- `matcher_run_spec` for any index that is the transposition of 256-byte blooms. -/
theorem matcherRun_transposed (H : HashFn) (size : Nat) (blooms : List Bytes) (index : List (List Bytes))
    (hT : Transposed size blooms index) (h256 : ∀ x ∈ blooms, x.length = 256) (c : Criteria) (b e : Nat)
    (he : e < index.length * size) :
    matcherRun index size (newMatcherFilters H (flattenCriteria c)) b e =
      (List.range' b (e + 1 - b)).filter (fun n => bloomFilter H (blooms.getD n []) c) := by
  obtain ⟨hs, h8⟩ := hT.size_ok (Nat.pos_of_ne_zero fun h0 => by rw [h0] at he; omega)
  apply matcherRun_spec index size hs h8
  intro t ht n hn
  have htl : t < index.length := by
    have : e / size < index.length := Nat.div_lt_of_lt_mul (by rw [Nat.mul_comm]; exact he)
    omega
  have hnl : t * size + n < blooms.length := by
    have := Nat.le_trans (Nat.mul_le_mul_right size htl) hT.fits
    rw [Nat.succ_mul] at this
    omega
  exact runSection_bloomFilter H _ size h8 (hT.len t htl) _ n hn
    (fun i hi => by rw [hT.bit t htl i hi n hn, bloomBit_eq_testBit _ (h256 _ (getD_mem [] hnl)) i hi]) c

end Aqv.LogFilter
