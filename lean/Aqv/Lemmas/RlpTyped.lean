/-
  The typed RLP model (Aqv.Model.RlpTyped): `decTy` per type and `decFields` per field as `Except.bind`/`Except.map` of
  the Stream primitives, then — by structural recursion over `Ty` — consumption, round trip, canonicity and totality of
  `decTy`, and the item view `toG`.  The model's recursive definitions are used through these statements and by unfolding
  on constructors, not through their equation lemmas, which are dear to generate.
-/
import Aqv.Lemmas.RlpTypedPrim
namespace Aqv.Rlp
open Aqv

theorem Except.map_eq_ok {ε α β : Type} {f : α → β} {x : Except ε α} {b : β} :
    x.map f = .ok b ↔ ∃ a, x = .ok a ∧ f a = b := by
  cases x <;> simp [Except.map]

theorem Except.bind_eq_ok {ε α β : Type} {f : α → Except ε β} {x : Except ε α} {b : β} :
    x.bind f = .ok b ↔ ∃ a, x = .ok a ∧ f a = .ok b := by
  cases x <;> simp [Except.bind]

theorem Except.map_pair_eq_ok {ε α β γ : Type} {c : α → β} (hc : ∀ a b, c a = c b → a = b) {x : Except ε (α × γ)}
    {a : α} {rest : γ} : (x.map fun p => (c p.1, p.2)) = .ok (c a, rest) ↔ x = .ok (a, rest) := by
  rw [Except.map_eq_ok]
  constructor
  · rintro ⟨⟨b, r⟩, h, he⟩
    cases Prod.mk.inj he with
    | intro h1 h2 => cases hc _ _ h1; cases h2; exact h
  · intro h; exact ⟨_, h, rfl⟩

theorem Except.map_ne_error {ε α β : Type} {f : α → β} {x : Except ε α} {e : ε} (hx : x ≠ .error e) :
    x.map f ≠ .error e := by
  cases x <;> simp_all [Except.map]

theorem Except.bind_ne_error {ε α β : Type} {f : α → Except ε β} {x : Except ε α} {e : ε} (hx : x ≠ .error e)
    (hf : ∀ a, f a ≠ .error e) : x.bind f ≠ .error e := by
  cases x <;> simp_all [Except.bind]

theorem ne_nil_of_consumes {α : Type} {d : Bytes → Except TErr (α × Bytes)}
    (hc : ∀ bs v rest, d bs = .ok (v, rest) → rest.length < bs.length) {e : Bytes} {v : α}
    (h : ∀ rest, d (e ++ rest) = .ok (v, rest)) : e ≠ [] := by
  rintro rfl
  exact Nat.lt_irrefl _ (hc _ _ _ (h []))

theorem head?_append_of_ne_nil {e : Bytes} (h : e ≠ []) (rest : Bytes) : (e ++ rest).head? = e.head? := by
  cases e with
  | nil => exact absurd rfl h
  | cons b tl => rfl

theorem decMany_enc (d : Bytes → Except TErr (Val × Bytes)) (e : Val → Bytes)
    (hc : ∀ bs v rest, d bs = .ok (v, rest) → rest.length < bs.length) :
    ∀ (vs : List Val) (f : Nat),
      (∀ v ∈ vs, ∀ rest, d (e v ++ rest) = .ok (v, rest)) →
      ((vs.map e).flatten).length ≤ f →
      decMany d f ((vs.map e).flatten) = .ok vs := by
  intro vs
  induction vs with
  | nil => intro f _ _; cases f <;> simp [decMany]
  | cons v vs ih =>
    intro f hv hf
    have hd := hv v (by simp)
    simp only [List.map_cons, List.flatten_cons] at hf ⊢
    cases he : e v with
    | nil => exact absurd he (ne_nil_of_consumes hc hd)
    | cons b t =>
      rw [he] at hf
      simp only [List.cons_append, List.length_cons, List.length_append] at hf
      obtain ⟨g, rfl⟩ : ∃ g, f = g + 1 := ⟨f - 1, by omega⟩
      simp only [List.cons_append, decMany]
      rw [← List.cons_append, ← he, hd]
      simp only
      rw [ih g (fun w hw => hv w (by simp [hw])) (by omega)]

theorem decN_enc (d : Bytes → Except TErr (Val × Bytes)) (e : Val → Bytes)
    (hc : ∀ bs v rest, d bs = .ok (v, rest) → rest.length < bs.length) :
    ∀ (vs : List Val) (rest : Bytes),
      (∀ v ∈ vs, ∀ r, d (e v ++ r) = .ok (v, r)) →
      decN d vs.length ((vs.map e).flatten ++ rest) = .ok (vs, rest) := by
  intro vs
  induction vs with
  | nil => intro rest _; simp [decN]
  | cons v vs ih =>
    intro rest hv
    have hd := hv v (by simp)
    simp only [List.map_cons, List.flatten_cons, List.length_cons, List.append_assoc]
    cases he : e v with
    | nil => exact absurd he (ne_nil_of_consumes hc hd)
    | cons b t =>
      simp only [List.cons_append, decN]
      rw [← List.cons_append, ← he, hd]
      simp only
      rw [ih rest (fun w hw => hv w (by simp [hw]))]

theorem decMany_ok (d : Bytes → Except TErr (Val × Bytes)) (e : Val → Bytes) (P : Val → Prop)
    (hd : ∀ bs v rest, d bs = .ok (v, rest) → bs = e v ++ rest ∧ P v) :
    ∀ (f : Nat) (p : Bytes) (vs : List Val), decMany d f p = .ok vs →
      p = (vs.map e).flatten ∧ ∀ v ∈ vs, P v := by
  intro f
  induction f with
  | zero =>
    intro p vs h
    cases p with
    | nil => cases h; simp
    | cons b bs => cases h
  | succ f ih =>
    intro p vs h
    cases p with
    | nil => cases h; simp
    | cons b bs =>
      simp only [decMany] at h
      split at h
      · cases h
      · rename_i v rest hv
        split at h
        · rename_i ws hws
          cases h
          obtain ⟨h1, p1⟩ := hd _ _ _ hv
          obtain ⟨h2, p2⟩ := ih _ _ hws
          exact ⟨by rw [h1, h2]; simp, by simpa using ⟨p1, p2⟩⟩
        · cases h

theorem decN_ok (d : Bytes → Except TErr (Val × Bytes)) (e : Val → Bytes) (P : Val → Prop)
    (hd : ∀ bs v rest, d bs = .ok (v, rest) → bs = e v ++ rest ∧ P v) :
    ∀ (n : Nat) (p : Bytes) (vs : List Val) (r : Bytes), decN d n p = .ok (vs, r) →
      p = (vs.map e).flatten ++ r ∧ vs.length = n ∧ ∀ v ∈ vs, P v := by
  intro n
  induction n with
  | zero => intro p vs r h; cases h; simp
  | succ n ih =>
    intro p vs r h
    cases p with
    | nil => cases h
    | cons b bs =>
      simp only [decN] at h
      split at h
      · cases h
      · rename_i v rest hv
        split at h
        · rename_i ws r' hws
          cases h
          obtain ⟨e1, p1⟩ := hd _ _ _ hv
          obtain ⟨e2, l2, p2⟩ := ih _ _ _ hws
          exact ⟨by rw [e1, e2]; simp, by simp [l2], by simpa using ⟨p1, p2⟩⟩
        · cases h

theorem decMany_ne_fuel (d : Bytes → Except TErr (Val × Bytes))
    (hc : ∀ bs v rest, d bs = .ok (v, rest) → rest.length < bs.length)
    (hn : ∀ bs, d bs ≠ .error (.rlp .fuel)) :
    ∀ (f : Nat) (p : Bytes), p.length ≤ f → decMany d f p ≠ .error (.rlp .fuel) := by
  intro f
  induction f with
  | zero =>
    intro p hp
    cases p with
    | nil => simp [decMany]
    | cons b bs => simp at hp
  | succ f ih =>
    intro p hp
    cases p with
    | nil => simp [decMany]
    | cons b bs =>
      have := hn (b :: bs)
      simp only [decMany]
      split
      · rintro ⟨⟩
        exact this ‹_›
      · rename_i v rest hv
        have := hc _ _ _ hv
        simp only [List.length_cons] at this hp
        have h2 := ih rest (by omega)
        split <;> rintro ⟨⟩
        exact h2 ‹_›

theorem decN_ne_fuel (d : Bytes → Except TErr (Val × Bytes)) (hn : ∀ bs, d bs ≠ .error (.rlp .fuel)) :
    ∀ (n : Nat) (p : Bytes), decN d n p ≠ .error (.rlp .fuel) := by
  intro n
  induction n with
  | zero => intro p; simp [decN]
  | succ n ih =>
    intro p
    cases p with
    | nil => simp [decN]
    | cons b bs =>
      have := hn (b :: bs)
      simp only [decN]
      split
      · rintro ⟨⟩
        exact this ‹_›
      · rename_i v rest hv
        have h2 := ih rest
        split <;> rintro ⟨⟩
        exact h2 ‹_›

theorem decTy_uint (bits : Nat) (bs : Bytes) :
    decTy (.uint bits) bs = (readUint (bits / 8) bs).map fun p => (.num p.1, p.2) := by
  conv => lhs; whnf
  rcases readUint (bits / 8) bs with _ | ⟨_, _⟩ <;> rfl

theorem decTy_big (bs : Bytes) : decTy .big bs = (readBig bs).map fun p => (.num p.1, p.2) := by
  conv => lhs; whnf
  rcases readBig bs with _ | ⟨_, _⟩ <;> rfl

theorem decTy_bool (bs : Bytes) : decTy .bool bs = (readBool bs).map fun p => (.bool p.1, p.2) := by
  conv => lhs; whnf
  rcases readBool bs with _ | ⟨_, _⟩ <;> rfl

theorem decTy_bytes (bs : Bytes) : decTy .bytes bs = (readBytes bs).map fun p => (.bytes p.1, p.2) := by
  conv => lhs; whnf
  rcases readBytes bs with _ | ⟨_, _⟩ <;> rfl

theorem decTy_bytesN (n : Nat) (bs : Bytes) :
    decTy (.bytesN n) bs = (readByteArray n bs).map fun p => (.bytes p.1, p.2) := by
  conv => lhs; whnf
  rcases readByteArray n bs with _ | ⟨_, _⟩ <;> rfl

theorem decTy_raw (bs : Bytes) : decTy .raw bs = (readRaw bs).map fun p => (.bytes p.1, p.2) := by
  conv => lhs; whnf
  rcases readRaw bs with _ | ⟨_, _⟩ <;> rfl

theorem decTy_iface (bs : Bytes) : decTy .iface bs = (readItem bs).map fun p => (.item p.1, p.2) := by
  conv => lhs; whnf
  rcases readItem bs with _ | ⟨_, _⟩ <;> rfl

theorem decTy_list (t : Ty) (bs : Bytes) :
    decTy (.list t) bs =
      (readList bs).bind fun p => (decMany (decTy t) p.1.length p.1).map fun vs => (.list vs, p.2) := by
  conv => lhs; whnf
  rcases readList bs with _ | ⟨p, r⟩
  · rfl
  · simp only [Except.bind]; cases decMany (decTy t) p.length p <;> rfl

theorem decTy_arr (n : Nat) (t : Ty) (bs : Bytes) :
    decTy (.arr n t) bs =
      (readList bs).bind fun p => (decN (decTy t) n p.1).bind fun q =>
        match q.2 with
        | [] => .ok (.list q.1, p.2)
        | _ :: _ => .error .tooMany := by
  conv => lhs; whnf
  rcases readList bs with _ | ⟨p, r⟩
  · rfl
  · simp only [Except.bind]; rcases decN (decTy t) n p with _ | ⟨vs, _ | _⟩ <;> rfl

theorem decTy_struct (fs : List Ty) (bs : Bytes) :
    decTy (.struct fs) bs =
      (readList bs).bind fun p => (decFields fs p.1).bind fun q =>
        match q.2 with
        | [] => .ok (.list q.1, p.2)
        | _ :: _ => .error .tooMany := by
  conv => lhs; whnf
  rcases readList bs with _ | ⟨p, r⟩
  · rfl
  · simp only [Except.bind]; rcases decFields fs p with _ | ⟨vs, _ | _⟩ <;> rfl

theorem decTy_structTail (fs : List Ty) (t : Ty) (bs : Bytes) :
    decTy (.structTail fs t) bs =
      (readList bs).bind fun p => (decFields fs p.1).bind fun q =>
        (decMany (decTy t) q.2.length q.2).map fun tl => (.tail q.1 tl, p.2) := by
  conv => lhs; whnf
  rcases readList bs with _ | ⟨p, r⟩
  · rfl
  · simp only [Except.bind]
    rcases decFields fs p with _ | ⟨vs, p'⟩
    · rfl
    · simp only; cases decMany (decTy t) p'.length p' <;> rfl

theorem decTy_ptr (t : Ty) (bs : Bytes) : decTy (.ptr t) bs = (decTy t bs).map fun p => (.psome p.1, p.2) := by
  conv => lhs; whnf
  rcases decTy t bs with _ | ⟨_, _⟩ <;> rfl

theorem decTy_ptrNil (t : Ty) (bs : Bytes) :
    decTy (.ptrNil t) bs =
      if bs.head? = some 0x80 then
        (if t.emptyKind = .list then .error .wrongEmpty else .ok (.pnil, bs.tail))
      else if bs.head? = some 0xC0 then
        (if t.emptyKind = .str then .error .wrongEmpty else .ok (.pnil, bs.tail))
      else (decTy t bs).map fun p => (.psome p.1, p.2) := by
  conv => lhs; whnf
  rcases decTy t bs with _ | ⟨_, _⟩ <;> rfl

theorem decFields_cons (t : Ty) (ts : List Ty) (b : UInt8) (bs : Bytes) :
    decFields (t :: ts) (b :: bs) =
      (decTy t (b :: bs)).bind fun p => (decFields ts p.2).map fun q => (p.1 :: q.1, q.2) := by
  conv => lhs; whnf
  rcases decTy t (b :: bs) with _ | ⟨v, p'⟩
  · rfl
  · simp only [Except.bind]; rcases decFields ts p' with _ | ⟨_, _⟩ <;> rfl

theorem decTop_ok_iff_decTy (ty : Ty) (bs : Bytes) (v : Val) : decTop ty bs = .ok v ↔ decTy ty bs = .ok (v, []) := by
  unfold decTop
  split <;> simp_all

theorem consumes_map {α : Type} {x : Except TErr (α × Bytes)} {c : α → Val} {n : Nat} {v : Val} {rest : Bytes}
    (hx : ∀ a rest, x = .ok (a, rest) → rest.length < n)
    (h : (x.map fun p => (c p.1, p.2)) = .ok (v, rest)) : rest.length < n := by
  obtain ⟨⟨a, r⟩, hu, hp⟩ := Except.map_eq_ok.1 h
  cases hp
  exact hx _ _ hu

theorem consumes_readList {bs : Bytes} {g : Bytes × Bytes → Except TErr (Val × Bytes)} {v : Val} {rest : Bytes}
    (hg : ∀ p v rest, g p = .ok (v, rest) → rest = p.2)
    (h : (readList bs).bind g = .ok (v, rest)) : rest.length < bs.length := by
  obtain ⟨⟨p, r⟩, hl, hp⟩ := Except.bind_eq_ok.1 h
  cases hg _ _ _ hp
  exact readList_consumes _ _ _ hl

theorem decTy_consumes : (ty : Ty) → ∀ bs v rest, decTy ty bs = .ok (v, rest) → rest.length < bs.length
  | .uint bits, bs, _, _, h => consumes_map (readUint_consumes _ bs) (decTy_uint bits bs ▸ h)
  | .big, bs, _, _, h => consumes_map (readBig_consumes bs) (decTy_big bs ▸ h)
  | .bool, bs, _, _, h => consumes_map (readBool_consumes bs) (decTy_bool bs ▸ h)
  | .bytes, bs, _, _, h => consumes_map (readBytes_consumes bs) (decTy_bytes bs ▸ h)
  | .bytesN n, bs, _, _, h => consumes_map (readByteArray_consumes n bs) (decTy_bytesN n bs ▸ h)
  | .raw, bs, _, _, h => consumes_map (readRaw_consumes bs) (decTy_raw bs ▸ h)
  | .iface, bs, _, _, h => consumes_map (readItem_consumes bs) (decTy_iface bs ▸ h)
  | .list t, bs, _, _, h => by
    refine consumes_readList (fun p v rest hp => ?_) (decTy_list t bs ▸ h)
    obtain ⟨_, _, hv⟩ := Except.map_eq_ok.1 hp
    cases hv; rfl
  | .arr n t, bs, _, _, h => by
    refine consumes_readList (fun p v rest hp => ?_) (decTy_arr n t bs ▸ h)
    obtain ⟨q, _, hv⟩ := Except.bind_eq_ok.1 hp
    split at hv <;> cases hv
    rfl
  | .struct fs, bs, _, _, h => by
    refine consumes_readList (fun p v rest hp => ?_) (decTy_struct fs bs ▸ h)
    obtain ⟨q, _, hv⟩ := Except.bind_eq_ok.1 hp
    split at hv <;> cases hv
    rfl
  | .structTail fs t, bs, _, _, h => by
    refine consumes_readList (fun p v rest hp => ?_) (decTy_structTail fs t bs ▸ h)
    obtain ⟨q, _, hq⟩ := Except.bind_eq_ok.1 hp
    obtain ⟨_, _, hv⟩ := Except.map_eq_ok.1 hq
    cases hv; rfl
  | .ptr t, bs, _, _, h => consumes_map (decTy_consumes t bs) (decTy_ptr t bs ▸ h)
  | .ptrNil t, bs, v, rest, h => by
    have htail : ∀ x : UInt8, bs.head? = some x → bs.tail.length < bs.length := by
      intro x hx
      cases bs with
      | nil => cases hx
      | cons b tl => simp
    rw [decTy_ptrNil] at h
    split at h
    · rename_i h80
      split at h <;> cases h
      exact htail _ h80
    · split at h
      · rename_i hc0
        split at h <;> cases h
        exact htail _ hc0
      · exact consumes_map (decTy_consumes t bs) h

/-! ### `WFVal` per type

`WFVal`, `encTy` and `Ty.canon` compute on constructors, so these hold by unfolding; for `bool`, `ptr`, `raw` and `iface`
the unfolded form is used as it is. -/

theorem WFVal_uint {bits n : Nat} :
    WFVal (.uint bits) (.num n) = true ↔ (8 ≤ bits ∧ bits ≤ 64) ∧ n < 256 ^ (bits / 8) := by
  show (_ && _ && _) = true ↔ _
  simp only [Bool.and_eq_true, decide_eq_true_eq]

theorem WFVal_big {n : Nat} : WFVal .big (.num n) = true ↔ (beBytes n).length < 2 ^ 64 := decide_eq_true_iff

theorem WFVal_bytes {b : Bytes} : WFVal .bytes (.bytes b) = true ↔ b.length < 2 ^ 64 := decide_eq_true_iff

theorem WFVal_bytesN {n : Nat} {b : Bytes} : WFVal (.bytesN n) (.bytes b) = true ↔ b.length = n ∧ n < 2 ^ 64 := by
  show (_ && _) = true ↔ _
  simp only [Bool.and_eq_true, decide_eq_true_eq]

theorem WFVal_list {t : Ty} {vs : List Val} :
    WFVal (.list t) (.list vs) = true ↔ (∀ v ∈ vs, WFVal t v = true) ∧ ((vs.map (encTy t)).flatten).length < 2 ^ 64 := by
  show (_ && _) = true ↔ _
  simp only [Bool.and_eq_true, decide_eq_true_eq, List.all_eq_true]

theorem WFVal_arr {n : Nat} {t : Ty} {vs : List Val} :
    WFVal (.arr n t) (.list vs) = true ↔
      (vs.length = n ∧ ∀ v ∈ vs, WFVal t v = true) ∧ ((vs.map (encTy t)).flatten).length < 2 ^ 64 := by
  show (_ && _ && _) = true ↔ _
  simp only [Bool.and_eq_true, decide_eq_true_eq, List.all_eq_true]

theorem WFVal_struct {fs : List Ty} {vs : List Val} :
    WFVal (.struct fs) (.list vs) = true ↔ WFFields fs vs = true ∧ (encFields fs vs).length < 2 ^ 64 := by
  show (_ && _) = true ↔ _
  simp only [Bool.and_eq_true, decide_eq_true_eq]

theorem WFVal_structTail {fs : List Ty} {t : Ty} {vs tl : List Val} :
    WFVal (.structTail fs t) (.tail vs tl) = true ↔
      (WFFields fs vs = true ∧ ∀ v ∈ tl, WFVal t v = true) ∧
        (encFields fs vs ++ (tl.map (encTy t)).flatten).length < 2 ^ 64 := by
  show (_ && _ && _) = true ↔ _
  simp only [Bool.and_eq_true, decide_eq_true_eq, List.all_eq_true]

theorem WFVal_ptrNil_some {t : Ty} {v : Val} :
    WFVal (.ptrNil t) (.psome v) = true ↔
      (WFVal t v = true ∧ (encTy t v).head? ≠ some 0x80) ∧ (encTy t v).head? ≠ some 0xC0 := by
  show (_ && _ && _) = true ↔ _
  simp only [Bool.and_eq_true, bne_iff_ne, ne_eq]

theorem WFVal_ptrNil_nil {t : Ty} :
    WFVal (.ptrNil t) .pnil = true ↔
      (t.nilEnc = [0x80] ∧ t.emptyKind ≠ .list) ∨ (t.nilEnc = [0xC0] ∧ t.emptyKind ≠ .str) := by
  show (_ && _ || _ && _) = true ↔ _
  simp only [Bool.or_eq_true, Bool.and_eq_true, beq_iff_eq, bne_iff_ne, ne_eq]

mutual
  theorem decTy_encTy : (ty : Ty) → (v : Val) → WFVal ty v = true →
      ∀ rest, decTy ty (encTy ty v ++ rest) = .ok (v, rest)
    | .uint bits, v, h, rest => by
      cases v with
      | num n =>
        obtain ⟨⟨_, _⟩, hn⟩ := WFVal_uint.1 h
        have := beBytes_length_le n _ hn
        rw [decTy_uint]
        exact congrArg (Except.map _) (readUint_enc (bits / 8) (by omega) n hn (by omega) rest)
      | _ => cases h
    | .big, v, h, rest => by
      cases v with
      | num n => rw [decTy_big]; exact congrArg (Except.map _) (readBig_enc n (WFVal_big.1 h) rest)
      | _ => cases h
    | .bool, v, h, rest => by
      cases v with
      | bool b => rw [decTy_bool]; exact congrArg (Except.map _) (readBool_enc b rest)
      | _ => cases h
    | .bytes, v, h, rest => by
      cases v with
      | bytes b => rw [decTy_bytes]; exact congrArg (Except.map _) (readBytes_encStr b (WFVal_bytes.1 h) rest)
      | _ => cases h
    | .bytesN n, v, h, rest => by
      cases v with
      | bytes b =>
        obtain ⟨rfl, h2⟩ := WFVal_bytesN.1 h
        rw [decTy_bytesN]; exact congrArg (Except.map _) (readByteArray_enc b h2 rest)
      | _ => cases h
    | .list t, v, h, rest => by
      cases v with
      | list vs =>
        obtain ⟨hall, hsz⟩ := WFVal_list.1 h
        rw [decTy_list]
        show (readList (header 0xC0 _ ++ (vs.map (encTy t)).flatten ++ rest)).bind _ = _
        rw [readList_enc _ hsz rest]
        simp only [Except.bind, decMany_enc (decTy t) (encTy t) (decTy_consumes t) vs _
          (fun w hw => decTy_encTy t w (hall w hw)) (Nat.le_refl _)]
        rfl
      | _ => cases h
    | .arr n t, v, h, rest => by
      cases v with
      | list vs =>
        obtain ⟨⟨rfl, hall⟩, hsz⟩ := WFVal_arr.1 h
        have := decN_enc (decTy t) (encTy t) (decTy_consumes t) vs []
          (fun w hw => decTy_encTy t w (hall w hw))
        rw [List.append_nil] at this
        rw [decTy_arr]
        show (readList (header 0xC0 _ ++ (vs.map (encTy t)).flatten ++ rest)).bind _ = _
        rw [readList_enc _ hsz rest]
        simp only [Except.bind, this]
      | _ => cases h
    | .struct fs, v, h, rest => by
      cases v with
      | list vs =>
        obtain ⟨hwf, hsz⟩ := WFVal_struct.1 h
        have := decFields_encFields fs vs hwf []
        rw [List.append_nil] at this
        rw [decTy_struct]
        show (readList (header 0xC0 _ ++ encFields fs vs ++ rest)).bind _ = _
        rw [readList_enc _ hsz rest]
        simp only [Except.bind, this]
      | _ => cases h
    | .structTail fs t, v, h, rest => by
      cases v with
      | tail vs tl =>
        obtain ⟨⟨hwf, hall⟩, hsz⟩ := WFVal_structTail.1 h
        rw [decTy_structTail]
        show (readList (header 0xC0 _ ++ (encFields fs vs ++ (tl.map (encTy t)).flatten) ++ rest)).bind _ = _
        rw [readList_enc _ hsz rest]
        simp only [Except.bind, decFields_encFields fs vs hwf _,
          decMany_enc (decTy t) (encTy t) (decTy_consumes t) tl _
            (fun w hw => decTy_encTy t w (hall w hw)) (Nat.le_refl _)]
        rfl
      | _ => cases h
    | .ptr t, v, h, rest => by
      cases v with
      | psome w => rw [decTy_ptr]; exact congrArg (Except.map _) (decTy_encTy t w h rest)
      | _ => cases h
    | .ptrNil t, v, h, rest => by
      cases v with
      | psome w =>
        obtain ⟨⟨hw, h80⟩, hc0⟩ := WFVal_ptrNil_some.1 h
        have hh := head?_append_of_ne_nil (ne_nil_of_consumes (decTy_consumes t) (decTy_encTy t w hw)) rest
        rw [decTy_ptrNil, show encTy (.ptrNil t) (.psome w) = encTy t w from rfl, hh, if_neg h80, if_neg hc0]
        exact congrArg (Except.map _) (decTy_encTy t w hw rest)
      | pnil =>
        rw [decTy_ptrNil, show encTy (.ptrNil t) .pnil = t.nilEnc from rfl]
        rcases WFVal_ptrNil_nil.1 h with ⟨h1, h2⟩ | ⟨h1, h2⟩ <;> simp [h1, h2]
      | _ => cases h
    | .raw, v, h, rest => by
      cases v with
      | bytes b => rw [decTy_raw]; exact congrArg (Except.map _) (readRaw_enc b h rest)
      | _ => cases h
    | .iface, v, h, rest => by
      cases v with
      | item it => rw [decTy_iface]; exact congrArg (Except.map _) (readItem_enc it h rest)
      | _ => cases h
  theorem decFields_encFields : (fs : List Ty) → (vs : List Val) → WFFields fs vs = true →
      ∀ rest, decFields fs (encFields fs vs ++ rest) = .ok (vs, rest)
    | [], vs, h, rest => by
      cases vs with
      | nil => rfl
      | cons _ _ => cases h
    | t :: ts, vs, h, rest => by
      cases vs with
      | nil => cases h
      | cons v vs =>
        obtain ⟨hv, hvs⟩ := Bool.and_eq_true_iff.1 h
        show decFields (t :: ts) (encTy t v ++ encFields ts vs ++ rest) = _
        cases he : encTy t v with
        | nil => exact absurd he (ne_nil_of_consumes (decTy_consumes t) (decTy_encTy t v hv))
        | cons b tl =>
          rw [List.append_assoc, List.cons_append, decFields_cons, ← List.cons_append, ← he, decTy_encTy t v hv]
          simp only [Except.bind, decFields_encFields ts vs hvs rest]
          rfl
end

theorem encTy_ne_nil (ty : Ty) (v : Val) (h : WFVal ty v = true) : encTy ty v ≠ [] :=
  ne_nil_of_consumes (decTy_consumes ty) (decTy_encTy ty v h)

theorem canon_uint {bits : Nat} : (Ty.uint bits).canon = true ↔ 8 ≤ bits ∧ bits ≤ 64 := by
  show (_ && _) = true ↔ _
  simp only [Bool.and_eq_true, decide_eq_true_eq]

theorem canon_ptrNil {t : Ty} :
    (Ty.ptrNil t).canon = true ↔
      t.canon = true ∧ ((t.emptyKind = .str ∧ t.nilEnc = [0x80]) ∨ (t.emptyKind = .list ∧ t.nilEnc = [0xC0])) := by
  show (_ && (_ && _ || _ && _)) = true ↔ _
  simp only [Bool.and_eq_true, Bool.or_eq_true, beq_iff_eq]

mutual
  theorem decTy_canon : (ty : Ty) → ty.canon = true → ∀ bs v rest, decTy ty bs = .ok (v, rest) →
      bs = encTy ty v ++ rest ∧ WFVal ty v = true
    | .uint bits, hc, bs, v, rest, h => by
      obtain ⟨h8, h64⟩ := canon_uint.1 hc
      obtain ⟨p, hu, hv⟩ := Except.map_eq_ok.1 (decTy_uint bits bs ▸ h)
      cases hv
      obtain ⟨h1, h2⟩ := readUint_ok (bits / 8) (by omega) _ _ _ hu
      exact ⟨h1, WFVal_uint.2 ⟨⟨h8, h64⟩, h2⟩⟩
    | .big, _, bs, v, rest, h => by
      obtain ⟨p, hu, hv⟩ := Except.map_eq_ok.1 (decTy_big bs ▸ h)
      cases hv
      obtain ⟨h1, h2⟩ := readBig_ok _ _ _ hu
      exact ⟨h1, WFVal_big.2 h2⟩
    | .bool, _, bs, v, rest, h => by
      obtain ⟨p, hu, hv⟩ := Except.map_eq_ok.1 (decTy_bool bs ▸ h)
      cases hv
      exact ⟨readBool_ok _ _ _ hu, rfl⟩
    | .bytes, _, bs, v, rest, h => by
      obtain ⟨p, hu, hv⟩ := Except.map_eq_ok.1 (decTy_bytes bs ▸ h)
      cases hv
      obtain ⟨h1, h2⟩ := readBytes_ok _ _ _ hu
      exact ⟨h1, WFVal_bytes.2 h2⟩
    | .bytesN n, _, bs, v, rest, h => by
      obtain ⟨p, hu, hv⟩ := Except.map_eq_ok.1 (decTy_bytesN n bs ▸ h)
      cases hv
      obtain ⟨h1, h2, h3⟩ := readByteArray_ok _ _ _ _ hu
      exact ⟨h1, WFVal_bytesN.2 ⟨h2, h3⟩⟩
    | .raw, _, bs, v, rest, h => by
      obtain ⟨p, hu, hv⟩ := Except.map_eq_ok.1 (decTy_raw bs ▸ h)
      cases hv
      obtain ⟨h1, h2⟩ := readRaw_ok _ _ _ hu
      exact ⟨h1, (rawOk_iff _).2 h2⟩
    | .iface, _, bs, v, rest, h => by
      obtain ⟨p, hu, hv⟩ := Except.map_eq_ok.1 (decTy_iface bs ▸ h)
      cases hv
      exact readItem_ok _ _ _ hu
    | .list t, hc, bs, v, rest, h => by
      obtain ⟨p, hl, hp⟩ := Except.bind_eq_ok.1 (decTy_list t bs ▸ h)
      obtain ⟨vs, hm, hv⟩ := Except.map_eq_ok.1 hp
      cases hv
      obtain ⟨hbs, hsz⟩ := readList_ok _ _ _ hl
      obtain ⟨hpl, hall⟩ := decMany_ok (decTy t) (encTy t) (fun w => WFVal t w = true) (decTy_canon t hc) _ _ _ hm
      rw [hpl] at hbs hsz
      exact ⟨hbs, WFVal_list.2 ⟨hall, hsz⟩⟩
    | .arr n t, hc, bs, v, rest, h => by
      obtain ⟨p, hl, hp⟩ := Except.bind_eq_ok.1 (decTy_arr n t bs ▸ h)
      obtain ⟨q, hm, hv⟩ := Except.bind_eq_ok.1 hp
      obtain ⟨hbs, hsz⟩ := readList_ok _ _ _ hl
      obtain ⟨hpl, hn, hall⟩ := decN_ok (decTy t) (encTy t) (fun w => WFVal t w = true) (decTy_canon t hc) _ _ _ _ hm
      split at hv <;> cases hv
      rename_i hq
      rw [hq, List.append_nil] at hpl
      rw [hpl] at hbs hsz
      exact ⟨hbs, WFVal_arr.2 ⟨⟨hn, hall⟩, hsz⟩⟩
    | .struct fs, hc, bs, v, rest, h => by
      obtain ⟨p, hl, hp⟩ := Except.bind_eq_ok.1 (decTy_struct fs bs ▸ h)
      obtain ⟨q, hm, hv⟩ := Except.bind_eq_ok.1 hp
      obtain ⟨hbs, hsz⟩ := readList_ok _ _ _ hl
      obtain ⟨hpl, hwf⟩ := decFields_canon fs hc _ _ _ hm
      split at hv <;> cases hv
      rename_i hq
      rw [hq, List.append_nil] at hpl
      rw [hpl] at hbs hsz
      exact ⟨hbs, WFVal_struct.2 ⟨hwf, hsz⟩⟩
    | .structTail fs t, hc, bs, v, rest, h => by
      obtain ⟨hcf, hct⟩ := Bool.and_eq_true_iff.1 hc
      obtain ⟨p, hl, hp⟩ := Except.bind_eq_ok.1 (decTy_structTail fs t bs ▸ h)
      obtain ⟨q, hm, hq⟩ := Except.bind_eq_ok.1 hp
      obtain ⟨tl, hm2, hv⟩ := Except.map_eq_ok.1 hq
      cases hv
      obtain ⟨hbs, hsz⟩ := readList_ok _ _ _ hl
      obtain ⟨hpl, hwf⟩ := decFields_canon fs hcf _ _ _ hm
      obtain ⟨hp2, hall⟩ := decMany_ok (decTy t) (encTy t) (fun w => WFVal t w = true) (decTy_canon t hct) _ _ _ hm2
      rw [hp2] at hpl
      rw [hpl] at hbs hsz
      exact ⟨hbs, WFVal_structTail.2 ⟨⟨hwf, hall⟩, hsz⟩⟩
    | .ptr t, hc, bs, v, rest, h => by
      obtain ⟨p, hu, hv⟩ := Except.map_eq_ok.1 (decTy_ptr t bs ▸ h)
      cases hv
      exact decTy_canon t hc _ _ _ hu
    | .ptrNil t, hc, bs, v, rest, h => by
      obtain ⟨hct, hk⟩ := canon_ptrNil.1 hc
      -- an empty value decoded to nil is the one the encoder writes for nil
      have hnil : ∀ x : UInt8, bs.head? = some x → t.nilEnc = [x] → bs = encTy (.ptrNil t) .pnil ++ bs.tail := by
        intro x hx hne
        cases bs with
        | nil => cases hx
        | cons b tl => cases hx; exact congrArg (· ++ tl) hne.symm
      rw [decTy_ptrNil] at h
      split at h
      · rename_i h80
        split at h <;> cases h
        rename_i hek
        have hne : t.nilEnc = [0x80] := by
          rcases hk with ⟨_, h2⟩ | ⟨h1, _⟩
          · exact h2
          · exact absurd h1 hek
        exact ⟨hnil _ h80 hne, WFVal_ptrNil_nil.2 (.inl ⟨hne, hek⟩)⟩
      · rename_i h80
        split at h
        · rename_i hc0
          split at h <;> cases h
          rename_i hek
          have hne : t.nilEnc = [0xC0] := by
            rcases hk with ⟨h1, _⟩ | ⟨_, h2⟩
            · exact absurd h1 hek
            · exact h2
          exact ⟨hnil _ hc0 hne, WFVal_ptrNil_nil.2 (.inr ⟨hne, hek⟩)⟩
        · rename_i hc0
          obtain ⟨p, hu, hv⟩ := Except.map_eq_ok.1 h
          cases hv
          obtain ⟨h1, h2⟩ := decTy_canon t hct _ _ _ hu
          have hh := head?_append_of_ne_nil (encTy_ne_nil t p.1 h2) p.2
          rw [h1, hh] at h80 hc0
          exact ⟨h1, WFVal_ptrNil_some.2 ⟨⟨h2, h80⟩, hc0⟩⟩
  theorem decFields_canon : (fs : List Ty) → Ty.canonAll fs = true → ∀ p vs r, decFields fs p = .ok (vs, r) →
      p = encFields fs vs ++ r ∧ WFFields fs vs = true
    | [], _, p, vs, r, h => by
      cases h
      exact ⟨rfl, rfl⟩
    | t :: ts, hc, p, vs, r, h => by
      obtain ⟨hct, hcs⟩ := Bool.and_eq_true_iff.1 hc
      cases p with
      | nil => cases h
      | cons b bs =>
        obtain ⟨⟨v, p'⟩, hv, hq⟩ := Except.bind_eq_ok.1 (decFields_cons t ts b bs ▸ h)
        obtain ⟨⟨ws, r'⟩, hws, he⟩ := Except.map_eq_ok.1 hq
        cases he
        obtain ⟨e1, w1⟩ := decTy_canon t hct _ _ _ hv
        obtain ⟨e2, w2⟩ := decFields_canon ts hcs _ _ _ hws
        exact ⟨by rw [e1, show p' = _ from e2, ← List.append_assoc]; rfl, Bool.and_eq_true_iff.2 ⟨w1, w2⟩⟩
end

theorem decTy_eq_ok_iff (ty : Ty) (hc : ty.canon = true) (bs : Bytes) (v : Val) (rest : Bytes) :
    decTy ty bs = .ok (v, rest) ↔ bs = encTy ty v ++ rest ∧ WFVal ty v = true :=
  ⟨decTy_canon ty hc bs v rest, fun ⟨hbs, hv⟩ => hbs ▸ decTy_encTy ty v hv rest⟩

theorem decTop_eq_ok_iff (ty : Ty) (hc : ty.canon = true) (bs : Bytes) (v : Val) :
    decTop ty bs = .ok v ↔ encTy ty v = bs ∧ WFVal ty v = true := by
  rw [decTop_ok_iff_decTy, decTy_eq_ok_iff ty hc, List.append_nil, eq_comm]

mutual
  theorem decTy_ne_fuel : (ty : Ty) → ∀ bs, decTy ty bs ≠ .error (.rlp .fuel)
    | .uint bits, bs => decTy_uint bits bs ▸ Except.map_ne_error (readUint_ne_fuel _ bs)
    | .big, bs => decTy_big bs ▸ Except.map_ne_error (readBig_ne_fuel bs)
    | .bool, bs => decTy_bool bs ▸ Except.map_ne_error (readBool_ne_fuel bs)
    | .bytes, bs => decTy_bytes bs ▸ Except.map_ne_error (readBytes_ne_fuel bs)
    | .bytesN n, bs => decTy_bytesN n bs ▸ Except.map_ne_error (readByteArray_ne_fuel n bs)
    | .raw, bs => decTy_raw bs ▸ Except.map_ne_error (readRaw_ne_fuel bs)
    | .iface, bs => decTy_iface bs ▸ Except.map_ne_error (readItem_ne_fuel bs)
    | .list t, bs => decTy_list t bs ▸ Except.bind_ne_error (readList_ne_fuel bs) fun p =>
        Except.map_ne_error (decMany_ne_fuel (decTy t) (decTy_consumes t) (decTy_ne_fuel t) _ _ (Nat.le_refl _))
    | .arr n t, bs => decTy_arr n t bs ▸ Except.bind_ne_error (readList_ne_fuel bs) fun p =>
        Except.bind_ne_error (decN_ne_fuel (decTy t) (decTy_ne_fuel t) n _) fun q => by split <;> simp
    | .struct fs, bs => decTy_struct fs bs ▸ Except.bind_ne_error (readList_ne_fuel bs) fun p =>
        Except.bind_ne_error (decFields_ne_fuel fs _) fun q => by split <;> simp
    | .structTail fs t, bs => decTy_structTail fs t bs ▸ Except.bind_ne_error (readList_ne_fuel bs) fun p =>
        Except.bind_ne_error (decFields_ne_fuel fs _) fun q =>
          Except.map_ne_error (decMany_ne_fuel (decTy t) (decTy_consumes t) (decTy_ne_fuel t) _ _ (Nat.le_refl _))
    | .ptr t, bs => decTy_ptr t bs ▸ Except.map_ne_error (decTy_ne_fuel t bs)
    | .ptrNil t, bs => by
      rw [decTy_ptrNil]
      split
      · split <;> simp
      · split
        · split <;> simp
        · exact Except.map_ne_error (decTy_ne_fuel t bs)
  theorem decFields_ne_fuel : (fs : List Ty) → ∀ p, decFields fs p ≠ .error (.rlp .fuel)
    | [], p => nofun
    | t :: ts, p => by
      cases p with
      | nil => exact nofun
      | cons b bs =>
        exact decFields_cons t ts b bs ▸ Except.bind_ne_error (decTy_ne_fuel t _) fun p =>
          Except.map_ne_error (decFields_ne_fuel ts p.2)
end

mutual
  theorem gitem_enc_ofItem : (it : Item) → (GItem.ofItem it).enc = enc it
    | .str b => rfl
    | .list xs => by simp only [GItem.ofItem, GItem.enc, enc, gitem_encList_ofItems xs]
  theorem gitem_encList_ofItems : (xs : List Item) → GItem.encList (GItem.ofItems xs) = encList xs
    | [] => rfl
    | x :: xs => by simp only [GItem.ofItems, GItem.encList, encList, gitem_enc_ofItem x, gitem_encList_ofItems xs]
end

theorem gitem_encList_append (a b : List GItem) : GItem.encList (a ++ b) = GItem.encList a ++ GItem.encList b := by
  induction a with
  | nil => simp [GItem.encList]
  | cons x xs ih => simp [GItem.encList, ih]

theorem gitem_encList_map (f : Val → GItem) (e : Val → Bytes) (vs : List Val) (h : ∀ v ∈ vs, (f v).enc = e v) :
    GItem.encList (vs.map f) = (vs.map e).flatten := by
  induction vs with
  | nil => simp [GItem.encList]
  | cons v vs ih =>
    simp only [List.map_cons, GItem.encList, List.flatten_cons]
    rw [h v (by simp), ih (fun w hw => h w (by simp [hw]))]

theorem gitem_list_enc {xs : List GItem} {p : Bytes} (h : GItem.encList xs = p) :
    (GItem.list xs).enc = header 0xC0 p.length ++ p :=
  h ▸ rfl

theorem nilItem_enc (t : Ty) : t.nilItem.enc = t.nilEnc := by
  unfold Ty.nilItem
  split
  · rename_i h; rw [h]; rfl
  · rename_i h; rw [h]; rfl
  · rfl

-- for shapes that do not fit the type `toG` and `encTy` are both empty.
mutual
  theorem toG_enc : (ty : Ty) → (v : Val) → (toG ty v).enc = encTy ty v
    | .uint _, v | .big, v | .bytes, v | .bytesN _, v | .raw, v => by cases v <;> rfl
    | .bool, v => by
      cases v with
      | bool b => cases b <;> rfl
      | _ => rfl
    | .iface, v => by
      cases v with
      | item it => exact gitem_enc_ofItem it
      | _ => rfl
    | .list t, v | .arr _ t, v => by
      cases v with
      | list vs => exact gitem_list_enc (gitem_encList_map (toG t) (encTy t) vs fun w _ => toG_enc t w)
      | _ => rfl
    | .struct fs, v => by
      cases v with
      | list vs => exact gitem_list_enc (toGFields_enc fs vs)
      | _ => rfl
    | .structTail fs t, v => by
      cases v with
      | tail vs tl =>
        exact gitem_list_enc (by
          rw [gitem_encList_append, toGFields_enc fs vs, gitem_encList_map (toG t) (encTy t) tl fun w _ => toG_enc t w])
      | _ => rfl
    | .ptr t, v | .ptrNil t, v => by
      cases v with
      | psome w => exact toG_enc t w
      | pnil => exact nilItem_enc t
      | _ => rfl
  theorem toGFields_enc : (fs : List Ty) → (vs : List Val) → GItem.encList (toGFields fs vs) = encFields fs vs
    | [], vs => by cases vs <;> rfl
    | t :: ts, vs => by
      cases vs with
      | nil => rfl
      | cons v vs => exact congr (congrArg _ (toG_enc t v)) (toGFields_enc ts vs)
end

end Aqv.Rlp
