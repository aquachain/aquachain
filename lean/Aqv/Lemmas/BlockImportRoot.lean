/-
  Lemmas tying Layer A′ (Finalise on real Merkle-Patricia tries, Aqv.Model.BlockImportTrie) to Layer A (Finalise on trie
  CONTENTS) through property C10: a history of trie operations is determined, as far as its root is concerned, by the content
  it produces (`Trie.inv_unique`, the fact behind C10 `root_content_only`).  Hence "equal content" (Layer A, all permutations) becomes "equal root".
-/
import Aqv.Lemmas.BlockImport
import Aqv.Model.BlockImportTrie
import Aqv.Lemmas.TrieBuild
namespace Aqv.BlockImport
open Aqv.Trie (Op absOf absStep)

/-- what the byte-level encodings have to satisfy: keys are injective (the secure trie hashes keys: collision-freedom of that
    hash on the keys involved), encoded non-zero words and encoded accounts are non-empty byte strings (they are RLP). -/
structure Codec.Ok (cd : Codec) : Prop where
  slot_inv : ∀ k, cd.slotInv (cd.slotKey k) = some k
  slot_key : ∀ b k, cd.slotInv b = some k → cd.slotKey k = b
  word_ne : ∀ v, v ≠ 0 → (cd.wordVal v).length ≠ 0
  addr_inv : ∀ a, cd.addrInv (cd.addrKey a) = some a
  addr_key : ∀ b a, cd.addrInv b = some a → cd.addrKey a = b
  leaf_ne : ∀ l, (cd.leafVal l).length ≠ 0

/-- a storage content as the key→value map its trie holds (zero slots absent). -/
def imgS (cd : Codec) (c : Slot → Word) : Bytes → Option Bytes := fun kb =>
  match cd.slotInv kb with
  | some k => if c k = 0 then none else some (cd.wordVal (c k))
  | none => none

/-- an account-trie content as the key→value map its trie holds. -/
def imgA (cd : Codec) (tr : Addr → Option Leaf) : Bytes → Option Bytes := fun kb =>
  match cd.addrInv kb with
  | some a => (tr a).map cd.leafVal
  | none => none

/-- THE root of a key→value map: the root of (any) history producing it.  Well defined by C10 `root_content_only`. -/
noncomputable def contentRoot (H : Bytes → Bytes) (m : Bytes → Option Bytes) : Bytes :=
  open Classical in if h : ∃ ops, absOf ops = m then trieRoot H (Classical.choose h) else []

theorem trieRoot_eq_of_content (H : Bytes → Bytes) (ops₁ ops₂ : List Op) (h : absOf ops₁ = absOf ops₂) :
    trieRoot H ops₁ = trieRoot H ops₂ := by
  obtain ⟨t₁, r₁, i₁⟩ := Trie.inv_run ops₁
  obtain ⟨t₂, r₂, i₂⟩ := Trie.inv_run ops₂
  unfold trieRoot
  rw [r₁, r₂, Trie.inv_unique i₁ i₂ (congrFun h)]

theorem trieRoot_content (H : Bytes → Bytes) (ops : List Op) : trieRoot H ops = contentRoot H (absOf ops) := by
  unfold contentRoot
  have h : ∃ ops', absOf ops' = absOf ops := ⟨ops, rfl⟩
  rw [dif_pos h]
  exact trieRoot_eq_of_content H _ _ (Classical.choose_spec h).symm

/-- the storage-root function of Layer A instantiated with the real trie: a function of the CONTENT by construction. -/
noncomputable def storageRootOf (H : Bytes → Bytes) (cd : Codec) : (Slot → Word) → Hash :=
  fun c => natOfRoot (contentRoot H (imgS cd c))

noncomputable def accountRootOf (H : Bytes → Bytes) (cd : Codec) : (Addr → Option Leaf) → Hash :=
  fun tr => natOfRoot (contentRoot H (imgA cd tr))

/-- the one fact behind every trie operation of the two loops. -/
theorem keyed_step {β : Type} {key : Nat → Bytes} {inv : Bytes → Option Nat} (h1 : ∀ k, inv (key k) = some k)
    (h2 : ∀ b k, inv b = some k → key k = b) (F : β → Option Bytes) (m : Nat → β) (k : Nat) (v : β) (kb : Bytes) :
    (if kb = key k then F v else (inv kb).bind fun x => F (m x)) = (inv kb).bind fun x => F (upd m k v x) := by
  by_cases hk : kb = key k
  · subst hk; simp [h1]
  · rw [if_neg hk]
    cases hi : inv kb with
    | none => rfl
    | some k' => simp [upd_other _ _ _ _ (fun e => hk (by rw [← h2 kb k' hi, e]) : k' ≠ k)]

theorem imgS_bind (cd : Codec) (c : Slot → Word) (kb : Bytes) :
    imgS cd c kb = (cd.slotInv kb).bind fun k => if c k = 0 then none else some (cd.wordVal (c k)) := by
  unfold imgS; cases cd.slotInv kb <;> rfl

theorem imgA_bind (cd : Codec) (tr : Addr → Option Leaf) (kb : Bytes) :
    imgA cd tr kb = (cd.addrInv kb).bind fun a => (tr a).map cd.leafVal := by
  unfold imgA; cases cd.addrInv kb <;> rfl

theorem imgS_step (cd : Codec) (ok : cd.Ok) (c : Slot → Word) (k : Slot) (v : Word) :
    absStep (imgS cd c) (slotOp cd k v) = imgS cd (upd c k v) := by
  funext kb
  rw [imgS_bind, ← keyed_step ok.slot_inv ok.slot_key (fun w => if w = 0 then none else some (cd.wordVal w)), ← imgS_bind]
  unfold slotOp
  by_cases hv : v = 0 <;> simp [hv, absStep, ok.word_ne]

theorem imgA_delete (cd : Codec) (ok : cd.Ok) (tr : Addr → Option Leaf) (a : Addr) :
    absStep (imgA cd tr) (.delete (cd.addrKey a)) = imgA cd (upd tr a none) := by
  funext kb
  rw [imgA_bind, ← keyed_step ok.addr_inv ok.addr_key (Option.map cd.leafVal), ← imgA_bind]
  rfl

theorem imgA_update (cd : Codec) (ok : cd.Ok) (tr : Addr → Option Leaf) (a : Addr) (l : Leaf) :
    absStep (imgA cd tr) (.update (cd.addrKey a) (cd.leafVal l)) = imgA cd (upd tr a (some l)) := by
  funext kb
  rw [imgA_bind, ← keyed_step ok.addr_inv ok.addr_key (Option.map cd.leafVal), ← imgA_bind]
  simp [absStep, ok.leaf_ne l]

theorem cStoreStep_refines (cd : Codec) (ok : cd.Ok) (p : Obj × List Op) (k : Slot) (h : absOf p.2 = imgS cd p.1.storage) :
    (cStoreStep cd p k).1 = storeStep p.1 k ∧ absOf (cStoreStep cd p k).2 = imgS cd (cStoreStep cd p k).1.storage := by
  unfold cStoreStep storeStep
  cases hd : p.1.dirty k with
  | none => exact ⟨rfl, h⟩
  | some v =>
    refine ⟨rfl, ?_⟩
    simp only []
    rw [Aqv.Trie.absOf_snoc, h, imgS_step cd ok]

theorem cUpdateTrie_refines (cd : Codec) (ok : cd.Ok) (ks : List Slot) (p : Obj × List Op)
    (h : absOf p.2 = imgS cd p.1.storage) :
    (cUpdateTrie cd ks p).1 = updateTrie ks p.1 ∧ absOf (cUpdateTrie cd ks p).2 = imgS cd (cUpdateTrie cd ks p).1.storage :=
  foldl_sim (fun p o => p.1 = o ∧ absOf p.2 = imgS cd p.1.storage)
    (fun p o k ⟨e, h⟩ => by subst e; exact cStoreStep_refines cd ok p k h) ks p p.1 ⟨rfl, h⟩

theorem cUpdateRoot_refines (H : Bytes → Bytes) (cd : Codec) (ok : cd.Ok) (ks : List Slot) (p : Obj × List Op)
    (h : absOf p.2 = imgS cd p.1.storage) :
    (cUpdateRoot H cd ks p).1 = updateRoot (storageRootOf H cd) ks p.1 ∧
    absOf (cUpdateRoot H cd ks p).2 = imgS cd (cUpdateRoot H cd ks p).1.storage := by
  obtain ⟨h1, h2⟩ := cUpdateTrie_refines cd ok ks p h
  refine ⟨?_, ?_⟩
  · unfold cUpdateRoot updateRoot storageRootOf
    simp only []
    rw [trieRoot_content, h2, h1]
  · exact h2

/-- the relation between Layer A′ and Layer A: every trie history of `s` produces (the image of) the content `s.base` holds. -/
structure CCoh (cd : Codec) (s : CSDB) : Prop where
  st : ∀ a o, s.base.objs a = some o → absOf (s.hists a) = imgS cd o.storage
  ac : absOf s.acct = imgA cd s.base.trie

theorem cFinalStep_refines (H : Bytes → Bytes) (cd : Codec) (ok : cd.Ok) (del : Bool) (σ : Addr → List Slot) (s : CSDB)
    (hc : CCoh cd s) (a : Addr) :
    (cFinalStep H cd del σ s a).base = finalStep (storageRootOf H cd) del σ s.base a ∧ CCoh cd (cFinalStep H cd del σ s a) := by
  unfold cFinalStep finalStep
  cases ho : s.base.objs a with
  | none => exact ⟨rfl, hc.st, hc.ac⟩
  | some o =>
    simp only [settle]
    by_cases c : (o.suicided || (del && o.empty)) = true
    · rw [if_pos c, if_pos c]
      refine ⟨rfl, entries_upd (hc.st a o ho) hc.st, ?_⟩
      simp only []
      rw [Aqv.Trie.absOf_snoc, hc.ac, imgA_delete cd ok]
    · rw [if_neg c, if_neg c]
      obtain ⟨h1, h2⟩ := cUpdateRoot_refines H cd ok (σ a) (o, s.hists a) (hc.st a o ho)
      refine ⟨?_, ⟨?_, ?_⟩⟩
      · simp only [h1]
      · intro a' o' h'
        simp only [upd] at h' ⊢
        split at h'
        · rename_i e; cases h'; simp only [e, if_true]; exact h2
        · rename_i e; simp only [e, if_false]; exact hc.st a' o' h'
      · simp only []
        rw [Aqv.Trie.absOf_snoc, hc.ac, imgA_update cd ok]

theorem cFinalise_refines (H : Bytes → Bytes) (cd : Codec) (ok : cd.Ok) (del : Bool) (π : List Addr) (σ : Addr → List Slot)
    (s : CSDB) (hc : CCoh cd s) :
    (cFinalise H cd del π σ s).base = finalise (storageRootOf H cd) del π σ s.base ∧ CCoh cd (cFinalise H cd del π σ s) :=
  foldl_sim (fun c s => c.base = s ∧ CCoh cd c)
    (fun c s a ⟨e, hc⟩ => by subst e; exact cFinalStep_refines H cd ok del σ c hc a) π s s.base ⟨rfl, hc⟩

theorem cFinalise_perm (H : Bytes → Bytes) (cd : Codec) (ok : cd.Ok) (del : Bool) (s : CSDB) (hc : CCoh cd s)
    {π₁ π₂ : List Addr} (σ₁ σ₂ : Addr → List Slot) (hπ : π₁.Perm π₂) (hσ : ∀ a, (σ₁ a).Perm (σ₂ a)) :
    (cFinalise H cd del π₁ σ₁ s).base = (cFinalise H cd del π₂ σ₂ s).base ∧
    absOf (cFinalise H cd del π₁ σ₁ s).acct = absOf (cFinalise H cd del π₂ σ₂ s).acct ∧
    ∀ a o, (cFinalise H cd del π₁ σ₁ s).base.objs a = some o →
      absOf ((cFinalise H cd del π₁ σ₁ s).hists a) = absOf ((cFinalise H cd del π₂ σ₂ s).hists a) := by
  obtain ⟨b₁, c₁⟩ := cFinalise_refines H cd ok del π₁ σ₁ s hc
  obtain ⟨b₂, c₂⟩ := cFinalise_refines H cd ok del π₂ σ₂ s hc
  have eb := (b₁.trans (finalise_perm _ del σ₁ σ₂ hπ hσ s.base)).trans b₂.symm
  exact ⟨eb, by rw [c₁.ac, c₂.ac, eb], fun a o ho => by rw [c₁.st a o ho, c₂.st a o (eb ▸ ho)]⟩

end Aqv.BlockImport
