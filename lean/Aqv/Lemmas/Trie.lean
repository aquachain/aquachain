/-
  Aqv.Lemmas.Trie — basic lemmas for the trie model: keys (Hex/Term/prefixLen), children functions, the `pos` loop
  of `delete` (`onlyChild`).
-/
import Aqv.Model.Trie
namespace Aqv.Trie
open Aqv

theorem T_val : (T : Nib).val = 16 := rfl

theorem hex_nil : Hex [] := by intro x hx; cases hx

theorem hex_cons {x : Nib} {k : List Nib} : Hex (x :: k) ↔ x ≠ T ∧ Hex k := List.forall_mem_cons

theorem hex_append {a b : List Nib} : Hex (a ++ b) ↔ Hex a ∧ Hex b := List.forall_mem_append

theorem term_cons {x : Nib} {r : List Nib} : Term (x :: r) ↔ (r = [] ∧ x = T) ∨ (r ≠ [] ∧ x ≠ T ∧ Term r) := by
  cases r with
  | nil => simp [Term]
  | cons y r => simp [Term]

theorem term_ne_nil {k : List Nib} (h : Term k) : k ≠ [] := by
  intro e; subst e; exact h

theorem term_T_cons {r : List Nib} : Term (T :: r) ↔ r = [] := by
  rw [term_cons]; simp

theorem term_single : Term [T] := by simp [Term]

theorem term_iff {k : List Nib} : Term k ↔ ∃ h, Hex h ∧ k = h ++ [T] := by
  induction k with
  | nil => simp [Term]
  | cons x r ih =>
    rw [term_cons, ih]
    constructor
    · rintro (⟨rfl, rfl⟩ | ⟨-, hx, h, hh, rfl⟩)
      · exact ⟨[], hex_nil, rfl⟩
      · exact ⟨x :: h, hex_cons.2 ⟨hx, hh⟩, rfl⟩
    · rintro ⟨_ | ⟨y, h⟩, hh, e⟩
      · simp at e
        exact .inl ⟨e.2, e.1⟩
      · obtain ⟨rfl, rfl⟩ := List.cons.inj e
        exact .inr ⟨by simp, (hex_cons.1 hh).1, h, (hex_cons.1 hh).2, rfl⟩

theorem term_append {a b : List Nib} (hb : b ≠ []) : Term (a ++ b) ↔ Hex a ∧ Term b := by
  induction a with
  | nil => simp [hex_nil]
  | cons x a ih => simp [term_cons, hex_cons, ih, hb, and_assoc]

theorem term_not_hex {k : List Nib} (h : Term k) : ¬ Hex k := by
  obtain ⟨a, _, rfl⟩ := term_iff.1 h
  intro hh
  exact (hex_append.1 hh).2 T (by simp) rfl

theorem term_prefix_eq {a b : List Nib} (ha : Term a) (hab : Term (a ++ b)) : b = [] := by
  by_cases hb : b = []
  · exact hb
  · exact absurd ((term_append hb).1 hab).1 (term_not_hex ha)

theorem hasTerm_append_T (h : List Nib) : hasTerm (h ++ [T]) = true := by
  simp [hasTerm, List.getLast?_append]

theorem term_hasTerm {k : List Nib} (h : Term k) : hasTerm k = true := by
  obtain ⟨a, _, rfl⟩ := term_iff.1 h
  exact hasTerm_append_T a

theorem hex_not_hasTerm {k : List Nib} (h : Hex k) : hasTerm k = false := by
  cases hl : k.getLast? with
  | none => simp [hasTerm, hl]
  | some x => simp [hasTerm, hl, h x (List.mem_of_getLast? hl)]

theorem take_eq_iff {p k : List Nib} : k.take p.length = p ↔ ∃ r, k = p ++ r := by
  rw [eq_comm, ← List.prefix_iff_eq_take]
  exact ⟨fun ⟨r, h⟩ => ⟨r, h.symm⟩, fun ⟨r, h⟩ => ⟨r, h.symm⟩⟩

theorem prefixLen_decomp (key nk : List Nib) :
    ∃ cp ka kb, key = cp ++ ka ∧ nk = cp ++ kb ∧ prefixLen key nk = cp.length ∧
      (ka = [] ∨ kb = [] ∨ ka.head? ≠ kb.head?) := by
  induction key generalizing nk with
  | nil => exact ⟨[], [], nk, rfl, rfl, by simp [prefixLen], Or.inl rfl⟩
  | cons a as ih =>
    cases nk with
    | nil => exact ⟨[], a :: as, [], rfl, rfl, by simp [prefixLen], Or.inr (Or.inl rfl)⟩
    | cons b bs =>
      by_cases hab : a = b
      · subst hab
        obtain ⟨cp, ka, kb, h1, h2, h3, h4⟩ := ih bs
        exact ⟨a :: cp, ka, kb, by simp [h1], by simp [h2], by simp [prefixLen, h3], h4⟩
      · exact ⟨[], a :: as, b :: bs, rfl, rfl, by simp [prefixLen, hab], Or.inr (Or.inr (by simp [hab]))⟩

theorem prefixLen_le_right (a b : List Nib) : prefixLen a b ≤ b.length := by
  obtain ⟨cp, ka, kb, -, rfl, h, -⟩ := prefixLen_decomp a b
  simp [h]

theorem prefixLen_le_left (a b : List Nib) : prefixLen a b ≤ a.length := by
  obtain ⟨cp, ka, kb, rfl, -, h, -⟩ := prefixLen_decomp a b
  simp [h]

theorem prefixLen_append_left (cp ka kb : List Nib) : prefixLen (cp ++ ka) (cp ++ kb) = cp.length + prefixLen ka kb := by
  induction cp with
  | nil => simp
  | cons x cp ih => simp [prefixLen, ih]; omega

theorem prefixLen_covers (nk r : List Nib) : prefixLen (nk ++ r) nk = nk.length := by
  have := prefixLen_append_left nk r []
  rw [List.append_nil] at this
  rw [this]
  cases r <;> simp [prefixLen]

theorem prefixLen_split {a b : Nib} (h : a ≠ b) (cp ka kb : List Nib) :
    prefixLen (cp ++ a :: ka) (cp ++ b :: kb) = cp.length := by
  simp [prefixLen_append_left, prefixLen, h]

@[simp] theorem setChild_same (cs : Nib → Node) (i : Nib) (n : Node) : setChild cs i n i = n := by simp [setChild]

theorem setChild_other (cs : Nib → Node) {i j : Nib} (n : Node) (h : j ≠ i) : setChild cs i n j = cs j := by
  simp [setChild, h]

theorem setChild_self (cs : Nib → Node) (i : Nib) : setChild cs i (cs i) = cs := by
  funext j; unfold setChild; split
  · next h => rw [h]
  · rfl

theorem setChild_ne_nil {cs : Nib → Node} {x i : Nib} {nn : Node} (hn : nn ≠ .nil) (hi : cs i ≠ .nil) :
    setChild cs x nn i ≠ .nil := by
  unfold setChild
  split <;> assumption

@[simp] theorem emptyCs_apply (i : Nib) : emptyCs i = .nil := rfl

theorem isNil_iff {n : Node} : n.isNil = true ↔ n = .nil := by
  cases n <;> simp [Node.isNil]

theorem onlyChild_some {cs : Nib → Node} {p : Nib} :
    onlyChild cs = some p ↔ (cs p ≠ .nil ∧ ∀ j, cs j ≠ .nil → j = p) := by
  have h1 : onlyChild cs = some p ↔ (List.finRange 17).filter (fun i => !(cs i).isNil) = [p] := by
    unfold onlyChild
    split
    · next i hi => simp [hi]
    · next hne => simpa using hne p
  -- two duplicate-free lists are equal up to order as soon as they have the same members
  rw [h1, ← List.perm_singleton, List.perm_ext_iff_of_nodup ((List.nodup_finRange 17).filter _) (by simp)]
  simp only [List.mem_filter, List.mem_finRange, true_and, List.mem_singleton, Bool.not_eq_eq_eq_not, Bool.not_true,
    ← Bool.not_eq_true, isNil_iff]
  exact ⟨fun h => ⟨(h p).2 rfl, fun j => (h j).1⟩, fun ⟨h1, h2⟩ j => ⟨h2 j, fun e => e ▸ h1⟩⟩

theorem onlyChild_none_of_two {cs : Nib → Node} {i j : Nib} (hij : i ≠ j) (hi : cs i ≠ .nil) (hj : cs j ≠ .nil) :
    onlyChild cs = none := by
  cases h : onlyChild cs with
  | none => rfl
  | some p =>
    have := onlyChild_some.1 h
    exact absurd ((this.2 i hi).trans (this.2 j hj).symm) hij

theorem two_of_onlyChild_none {cs : Nib → Node} (h : onlyChild cs = none) {i : Nib} (hi : cs i ≠ .nil) :
    ∃ j, j ≠ i ∧ cs j ≠ .nil := by
  apply Classical.byContradiction
  intro hne
  have : onlyChild cs = some i :=
    onlyChild_some.2 ⟨hi, fun j hj => Decidable.byContradiction fun hji => hne ⟨j, hji, hj⟩⟩
  rw [h] at this
  cases this

end Aqv.Trie
