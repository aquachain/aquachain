/- C08: the Int-level models of the computational opcodes (Model.EvmOps, mirroring core/vm/instructions.go) against the
  BitVec 256 specification (Model.EvmSpec). A stack word `a : W` reaches the Go code as the big.Int `↑a.toNat`; signed opcodes
  read it through S256 (`s256_toNat`). -/
import Aqv.Lemmas.Big
import Aqv.Model.EvmOps
import Aqv.Model.EvmSpec
namespace Aqv.Evm
open Aqv Aqv.Big

abbrev W := BitVec 256

theorem w_eq_zero_iff (b : W) : b = 0 ↔ b.toNat = 0 := by
  rw [← BitVec.toNat_inj]; rfl

theorem s256_toNat (a : W) : s256 (a.toNat : Int) = a.toInt := by
  unfold s256
  rw [BitVec.toInt_eq_toNat_cond, tt255_eq, tt256_eq]
  have := a.isLt
  split <;> split <;> omega

theorem toInt_bounds (a : W) : -(2 ^ 255 : Int) ≤ a.toInt ∧ a.toInt < 2 ^ 255 := by
  rw [BitVec.toInt_eq_toNat_cond]
  have := a.isLt
  split <;> omega

theorem s256_idem (a : W) : s256 a.toInt = a.toInt := by
  unfold s256
  have := (toInt_bounds a).2
  rw [tt255_eq]
  split <;> omega

theorem toNat_eq_toInt_emod (a : W) : (a.toNat : Int) = a.toInt % 2 ^ 256 := by
  rw [BitVec.toInt_eq_toNat_cond]
  have := a.isLt
  split <;> omega

theorem toInt_eq_zero_iff (b : W) : b.toInt = 0 ↔ b = 0 := by
  rw [w_eq_zero_iff, BitVec.toInt_eq_toNat_cond]
  have := b.isLt
  split <;> omega

theorem opAdd_spec (a b : W) : opAdd a.toNat b.toNat = (EvmSpec.add a b).toNat := by
  unfold opAdd EvmSpec.add
  rw [u256_eq_emod, BitVec.toNat_add]
  omega

theorem opSub_spec (a b : W) : opSub a.toNat b.toNat = (EvmSpec.sub a b).toNat := by
  unfold opSub EvmSpec.sub
  rw [u256_eq_emod, BitVec.toNat_sub]
  have := a.isLt; have := b.isLt
  omega

theorem opMul_spec (a b : W) : opMul a.toNat b.toNat = (EvmSpec.mul a b).toNat := by
  unfold opMul EvmSpec.mul
  rw [u256_eq_emod, BitVec.toNat_mul, ← Int.natCast_mul]
  omega

theorem opDiv_spec (a b : W) : opDiv a.toNat b.toNat = (EvmSpec.div a b).toNat := by
  unfold opDiv EvmSpec.div
  by_cases hb : b = 0
  · subst hb; rfl
  · have : (b.toNat : Int) ≠ 0 := by rw [w_eq_zero_iff] at hb; omega
    rw [if_pos this, if_neg hb, BitVec.toNat_udiv, ← Int.natCast_ediv, u256_of_lt]
    exact Nat.lt_of_le_of_lt (Nat.div_le_self ..) a.isLt

theorem opMod_spec (a b : W) : opMod a.toNat b.toNat = (EvmSpec.mod a b).toNat := by
  unfold opMod EvmSpec.mod
  by_cases hb : b = 0
  · subst hb; rfl
  · have : (b.toNat : Int) ≠ 0 := by rw [w_eq_zero_iff] at hb; omega
    rw [if_neg this, if_neg hb, BitVec.toNat_umod, ← Int.natCast_emod, u256_of_lt]
    exact Nat.lt_of_le_of_lt (Nat.mod_le ..) a.isLt

/-- ADDMOD / MULMOD, `r` the unreduced sum or product -/
theorem modop_spec (r : Nat) (n : W) :
    (if (n.toNat : Int) > 0 then u256 ((r : Int) % n.toNat) else 0) =
      ((if n = 0 then 0 else BitVec.ofNat 256 (r % n.toNat) : W).toNat : Int) := by
  by_cases hn : n = 0
  · subst hn; rfl
  · have hpos : 0 < n.toNat := by rw [w_eq_zero_iff] at hn; omega
    have hlt := Nat.lt_trans (Nat.mod_lt r hpos) n.isLt
    rw [if_pos (by omega), if_neg hn, ← Int.natCast_emod, u256_of_lt _ hlt, BitVec.toNat_ofNat, Nat.mod_eq_of_lt hlt]

theorem opAddmod_spec (a b n : W) : opAddmod a.toNat b.toNat n.toNat = (EvmSpec.addmod a b n).toNat := by
  unfold opAddmod EvmSpec.addmod
  rw [← Int.natCast_add]
  exact modop_spec _ n

theorem opMulmod_spec (a b n : W) : opMulmod a.toNat b.toNat n.toNat = (EvmSpec.mulmod a b n).toNat := by
  unfold opMulmod EvmSpec.mulmod
  rw [← Int.natCast_mul]
  exact modop_spec _ n

/-- SDIV: Go divides the magnitudes and restores the sign from the product -/
theorem sdiv_core (x y : Int) : Big.abs x / Big.abs y * (if x * y < 0 then -1 else 1) = x.tdiv y := by
  have hn : Big.abs x / Big.abs y = ((x.tdiv y).natAbs : Int) := by
    rw [Int.natAbs_tdiv]; rfl
  -- the quotient is zero or has the sign of the product
  have hs := Int.sign_tdiv x y
  rw [← Int.sign_mul] at hs
  rw [hn]
  split
  · rename_i h
    have : (x.tdiv y).sign ≤ 0 := by
      rw [hs, Int.sign_eq_neg_one_of_neg h]; split <;> decide
    have := Int.sign_nonpos_iff.1 this
    omega
  · rename_i h
    have : 0 ≤ (x.tdiv y).sign := by
      rw [hs]; split
      · decide
      · exact Int.sign_nonneg_iff.2 (by omega)
    have := Int.sign_nonneg_iff.1 this
    omega

theorem smod_core (x y : Int) : Big.abs x % Big.abs y * (if x < 0 then -1 else 1) = x.tmod y := by
  have hn : Big.abs x % Big.abs y = ((x.tmod y).natAbs : Int) := by
    rw [Int.natAbs_tmod]; rfl
  rw [hn]
  split
  · rename_i h
    have : x.tmod y ≤ 0 := by
      have := Int.tmod_nonneg y (show 0 ≤ -x by omega)
      rw [Int.neg_tmod] at this
      omega
    omega
  · have := Int.tmod_nonneg y (show 0 ≤ x by omega)
    omega

theorem opSdiv_spec (a b : W) : opSdiv a.toNat b.toNat = (EvmSpec.sdiv a b).toNat := by
  unfold opSdiv EvmSpec.sdiv
  simp only [s256_toNat, toInt_eq_zero_iff]
  split
  · rfl
  · rw [sdiv_core, u256_eq_emod, toNat_eq_toInt_emod, BitVec.toInt_sdiv]
    have := @Int.bmod_emod (a.toInt.tdiv b.toInt) (2 ^ 256)
    simpa using this.symm

theorem opSmod_spec (a b : W) : opSmod a.toNat b.toNat = (EvmSpec.smod a b).toNat := by
  unfold opSmod EvmSpec.smod
  simp only [s256_toNat, toInt_eq_zero_iff]
  split
  · rfl
  · rw [smod_core, u256_eq_emod, toNat_eq_toInt_emod, BitVec.toInt_srem]

theorem ite_eq_bool (p : Prop) [Decidable p] (b : Bool) (h : p ↔ b = true) :
    (if p then (1 : Int) else 0) = ((EvmSpec.bool b).toNat : Int) := by
  unfold EvmSpec.bool
  cases b <;> simp [h]

theorem opLt_spec (a b : W) : opLt a.toNat b.toNat = (EvmSpec.lt a b).toNat :=
  ite_eq_bool _ _ (by simp [BitVec.ult])

theorem opGt_spec (a b : W) : opGt a.toNat b.toNat = (EvmSpec.gt a b).toNat :=
  ite_eq_bool _ _ (by simp [BitVec.ult])

theorem opSlt_spec (a b : W) : opSlt a.toNat b.toNat = (EvmSpec.slt a b).toNat := by
  unfold opSlt
  simp only [s256_toNat, s256_idem]
  exact ite_eq_bool _ _ (by simp [BitVec.slt])

theorem opSgt_spec (a b : W) : opSgt a.toNat b.toNat = (EvmSpec.sgt a b).toNat := by
  unfold opSgt
  simp only [s256_toNat]
  exact ite_eq_bool _ _ (by simp [BitVec.slt])

theorem opEq_spec (a b : W) : opEq a.toNat b.toNat = (EvmSpec.eq a b).toNat :=
  ite_eq_bool _ _ (by rw [Int.ofNat_inj, BitVec.toNat_inj, beq_iff_eq])

theorem opIszero_spec (a : W) : opIszero a.toNat = (EvmSpec.iszero a).toNat :=
  (ite_not ..).symm.trans (ite_eq_bool _ _ (by rw [beq_iff_eq, w_eq_zero_iff]; omega))

theorem opAnd_spec (a b : W) : opAnd a.toNat b.toNat = (EvmSpec.and a b).toNat := by
  unfold opAnd EvmSpec.and
  rw [BitVec.toNat_and]; rfl
theorem opOr_spec (a b : W) : opOr a.toNat b.toNat = (EvmSpec.or a b).toNat := by
  unfold opOr EvmSpec.or
  rw [BitVec.toNat_or]; rfl
theorem opXor_spec (a b : W) : opXor a.toNat b.toNat = (EvmSpec.xor a b).toNat := by
  unfold opXor EvmSpec.xor
  rw [BitVec.toNat_xor]; rfl
theorem opNot_spec (a : W) : opNot a.toNat = (EvmSpec.not a).toNat := by
  unfold opNot EvmSpec.not
  rw [BitVec.toNat_not, u256_eq_emod]
  show (Int.negSucc a.toNat) % 2 ^ 256 = _
  rw [Int.negSucc_emod _ (by decide)]
  have := a.isLt
  omega

theorem opByte_spec (i x : W) : opByte i.toNat x.toNat = (EvmSpec.byte i x).toNat := by
  unfold opByte EvmSpec.byte
  by_cases h : i.toNat < 32
  · rw [if_pos (by omega), if_pos h, uint64_of_lt _ (by omega)]
    unfold byteAt
    rw [if_neg (by omega), BitVec.toNat_and, BitVec.toNat_ushiftRight]
    have : BitVec.toNat (0xff : W) = 2 ^ 8 - 1 := by decide
    rw [this, Nat.and_two_pow_sub_one_eq_mod]
    simp
  · rw [if_neg (by omega), if_neg h]; rfl

/-- SHL / SHR / SAR: Go compares the shift amount with 256 as a big.Int and calls Uint64() only below that -/
theorem shift_frame (s : W) (big : Int) (f : Nat → Int) (wbig : W) (g : Nat → W)
    (hbig : s.toNat ≥ 256 → big = (wbig.toNat : Int))
    (hsmall : s.toNat < 256 → f s.toNat = ((g s.toNat).toNat : Int)) :
    (if u256 (s.toNat : Int) ≥ 256 then big else f (uint64 (u256 (s.toNat : Int)))) =
      (((if s.toNat ≥ 256 then wbig else g s.toNat) : W).toNat : Int) := by
  rw [u256_of_lt _ s.isLt]
  by_cases h : s.toNat ≥ 256
  · rw [if_pos (by omega), if_pos h, hbig h]
  · rw [if_neg (by omega), if_neg h, uint64_of_lt _ (by omega), hsmall (by omega)]

theorem lsh_natCast (v n : Nat) : lsh (v : Int) n = ((v <<< n : Nat) : Int) := by
  unfold lsh; rw [Nat.shiftLeft_eq, Int.natCast_mul]

theorem rsh_eq_shiftRight (x : Int) (n : Nat) : rsh x n = x >>> n := by
  cases x <;> rfl

theorem opSHL_spec (s v : W) : opSHL s.toNat v.toNat = (EvmSpec.shl s v).toNat :=
  shift_frame s 0 (fun n => u256 (lsh (u256 v.toNat) n)) 0 (v <<< ·) (fun _ => rfl) fun _ => by
    rw [u256_of_lt _ v.isLt, lsh_natCast, u256_natCast, BitVec.toNat_shiftLeft]

theorem opSHR_spec (s v : W) : opSHR s.toNat v.toNat = (EvmSpec.shr s v).toNat :=
  shift_frame s 0 (fun n => u256 (rsh (u256 v.toNat) n)) 0 (v >>> ·) (fun _ => rfl) fun _ => by
    rw [u256_of_lt _ v.isLt, BitVec.toNat_ushiftRight]
    exact u256_of_lt _ (Nat.lt_of_le_of_lt (Nat.shiftRight_le ..) v.isLt)

theorem u256_neg_one : u256 (-1) = 2 ^ 256 - 1 := by rw [u256_eq_emod]; decide
theorem u256_zero : u256 0 = 0 := by rw [u256_eq_emod]; decide

theorem sar_zero_witness : opSAR 256 0 = 2 ^ 256 - 1 ∧ ((EvmSpec.sar 256 0).toNat : Int) = 0 ∧
    opSAR 256 0 ≠ ((EvmSpec.sar 256 0).toNat : Int) := by
  have h1 : opSAR 256 0 = 2 ^ 256 - 1 := by
    unfold opSAR; simp only [u256_eq_emod]; decide
  have h2 : ((EvmSpec.sar 256 0).toNat : Int) = 0 := by decide
  refine ⟨h1, h2, ?_⟩
  rw [h1, h2]; decide

theorem opSAR_spec_partial (s v : W) (h : ¬ (s.toNat ≥ 256 ∧ v = 0)) :
    opSAR s.toNat v.toNat = (EvmSpec.sar s v).toNat := by
  refine shift_frame s (if s256 v.toNat > 0 then u256 0 else u256 (-1)) (fun n => u256 (rsh (s256 v.toNat) n))
    (if v.msb then BitVec.allOnes 256 else 0) (v.sshiftRight ·) (fun hs => ?_) fun _ => ?_
  · -- Go tests `value.Sign() > 0`, the specification the sign bit: they differ exactly at value 0
    have hv : v.toInt ≠ 0 := fun e => h ⟨hs, (toInt_eq_zero_iff v).1 e⟩
    rw [s256_toNat, BitVec.msb_eq_toInt]
    by_cases hp : v.toInt > 0
    · have : ¬ v.toInt < 0 := by omega
      simp [hp, this, u256_zero]
    · have : v.toInt < 0 := by omega
      simp [hp, this, u256_neg_one]
  · simp only [s256_toNat, rsh_eq_shiftRight, u256_eq_emod, toNat_eq_toInt_emod (v.sshiftRight _), BitVec.toInt_sshiftRight]

theorem mod_two_pow_succ (x k : Nat) : x % 2 ^ (k + 1) = x % 2 ^ k + (if x.testBit k then 2 ^ k else 0) := by
  rw [Nat.mod_pow_succ, Nat.testBit_eq_decide_div_mod_eq]
  have : x / 2 ^ k % 2 < 2 := Nat.mod_lt _ (by decide)
  by_cases h : x / 2 ^ k % 2 = 1
  · simp [h]
  · have : x / 2 ^ k % 2 = 0 := by omega
    simp [this]

/-- math/big Or with a negative operand -/
theorem or_neg_two_pow (a k : Nat) : Big.or (a : Int) (Big.not ((2 ^ k - 1 : Nat) : Int)) = ((a % 2 ^ k : Nat) : Int) - 2 ^ k := by
  show Int.negSucc (natAndNot (2 ^ k - 1) a) = _
  rw [natAndNot_mask, Int.negSucc_eq]
  have h : a % 2 ^ k < 2 ^ k := Nat.mod_lt _ (Nat.two_pow_pos k)
  have : ((2 ^ k : Nat) : Int) = (2 : Int) ^ k := by simp
  omega

theorem and_mask (a k : Nat) : Big.and (a : Int) ((2 ^ k - 1 : Nat) : Int) = ((a % 2 ^ k : Nat) : Int) := by
  show Int.ofNat (a &&& (2 ^ k - 1)) = _
  rw [Nat.and_two_pow_sub_one_eq_mod]; rfl

theorem lsh_one_sub_one (k : Nat) : lsh 1 k - 1 = ((2 ^ k - 1 : Nat) : Int) := by
  unfold lsh
  have := Nat.two_pow_pos k
  omega

/-- With `bit = 8·b + 7` the sign position, both sides are `x mod 2^bit` plus, if that bit is set, `2^256 − 2^bit`. Go gets
    there on a sign-magnitude big.Int: `x | ¬mask` is the negative number `x mod 2^bit − 2^bit` (`or_neg_two_pow`), wrapped by
    U256, and `x & mask` is `x mod 2^bit` (`and_mask`); the specification truncates to `bit + 1` bits and sign-extends, and
    `mod_two_pow_succ` splits `x mod 2^(bit+1)` at the sign bit. -/
theorem opSignExtend_spec (b x : W) : opSignExtend b.toNat x.toNat = (EvmSpec.signextend b x).toNat := by
  unfold opSignExtend EvmSpec.signextend
  by_cases h : b.toNat < 31
  · rw [if_pos (by omega), if_pos h, uint64_of_lt _ (by omega)]
    simp only []
    rw [lsh_one_sub_one, BitVec.toNat_signExtend, BitVec.toNat_setWidth, BitVec.toNat_setWidth, BitVec.msb_setWidth,
      ← BitVec.testBit_toNat]
    have hk : 8 * (b.toNat + 1) - 1 = b.toNat * 8 + 7 := by omega
    have hk2 : 8 * (b.toNat + 1) = (b.toNat * 8 + 7) + 1 := by omega
    rw [hk, hk2]
    generalize hbit : b.toNat * 8 + 7 = bit
    have hp1 : 2 ^ (bit + 1) ≤ 2 ^ 256 := Nat.pow_le_pow_right (by decide) (by omega)
    have hp2 : 2 ^ bit < 2 ^ (bit + 1) := Nat.pow_lt_pow_right (by decide) (by omega)
    have hm := mod_two_pow_succ x.toNat bit
    have hlt : x.toNat % 2 ^ bit < 2 ^ bit := Nat.mod_lt _ (Nat.two_pow_pos bit)
    have hmm : x.toNat % 2 ^ (bit + 1) % 2 ^ 256 = x.toNat % 2 ^ (bit + 1) := by
      apply Nat.mod_eq_of_lt
      have := Nat.mod_lt x.toNat (Nat.two_pow_pos (bit + 1))
      omega
    rw [hmm]
    have hpc : ((2 ^ bit : Nat) : Int) = (2 : Int) ^ bit := by simp
    by_cases ht : x.toNat.testBit bit
    · have hb : Big.bit (x.toNat : Int) bit > 0 := by
        show (if x.toNat.testBit bit then 1 else 0) > 0
        simp [ht]
      rw [if_pos hb, or_neg_two_pow, u256_eq_emod]
      simp only [ht, if_true] at hm
      simp only [ht, Bool.and_self, if_true, show decide (0 < bit + 1) = true by simp]
      omega
    · have hb : ¬ Big.bit (x.toNat : Int) bit > 0 := by
        show ¬ (if x.toNat.testBit bit then 1 else 0) > 0
        simp [ht]
      rw [if_neg hb, and_mask, u256_natCast]
      simp only [ht, Bool.false_eq_true, if_false, Nat.add_zero] at hm
      simp only [ht, Bool.and_false, Bool.false_eq_true, if_false, Nat.add_zero]
      rw [hm, Nat.mod_eq_of_lt (by omega)]
  · rw [if_neg (by omega), if_neg h]

theorem pow_split (b e : Nat) : b ^ e = b ^ (e % 2) * (b * b) ^ (e / 2) := by
  rw [← Nat.pow_two, ← Nat.pow_mul, ← Nat.pow_add, Nat.mod_add_div]

/-- one round of square-and-multiply; common/math.Exp and `EvmSpec.powModF` both iterate it -/
theorem sqmul_step (m r r' b e : Nat) (hr : r' % m = r * b ^ (e % 2) % m) :
    r' * (b * b % m) ^ (e / 2) % m = r * b ^ e % m := by
  rw [Nat.mul_mod, ← Nat.pow_mod, hr, ← Nat.mul_mod, pow_split b e, Nat.mul_assoc]

theorem expIter_natCast (k : Nat) : ∀ r b e : Nat, r < 2 ^ 256 → e < 2 ^ k →
    expIter k (r : Int) (b : Int) e = ((r * b ^ e % 2 ^ 256 : Nat) : Int) := by
  induction k with
  | zero =>
    intro r b e hr he
    have : e = 0 := by omega
    subst this
    rw [Nat.pow_zero, Nat.mul_one, Nat.mod_eq_of_lt hr]; rfl
  | succ k ih =>
    intro r b e hr he
    have he2 : e / 2 < 2 ^ k := by rw [Nat.pow_succ] at he; omega
    have hm : ∀ n : Nat, n % 2 ^ 256 < 2 ^ 256 := fun n => Nat.mod_lt _ (Nat.two_pow_pos _)
    unfold expIter
    simp only [← Int.natCast_mul, u256_natCast]
    split
    · rename_i hodd
      rw [ih _ _ _ (hm _) he2, sqmul_step _ r _ b e (by rw [hodd, Nat.pow_one, Nat.mod_mod])]
    · rename_i hodd
      rw [ih _ _ _ hr he2, sqmul_step _ r _ b e (by rw [show e % 2 = 0 by omega, Nat.pow_zero, Nat.mul_one])]

/-- Go runs 64 rounds for every 64-bit word of the exponent -/
theorem exp_natCast (b e : Nat) : Big.exp (b : Int) (e : Int) = ((b ^ e % 2 ^ 256 : Nat) : Int) := by
  unfold Big.exp
  have := expIter_natCast (64 * ((natBitLen e + 63) / 64)) 1 b e (by decide)
    (Nat.lt_of_lt_of_le (lt_two_pow_natBitLen e) (Nat.pow_le_pow_right (by decide) (by omega)))
  rwa [Nat.one_mul] at this

theorem powModF_eq (f : Nat) : ∀ a e m, e < 2 ^ f → EvmSpec.powModF f a e m = a ^ e % m := by
  induction f with
  | zero =>
    intro a e m h
    have : e = 0 := by omega
    subst this; rfl
  | succ f ih =>
    intro a e m h
    have h2 : e / 2 < 2 ^ f := by rw [Nat.pow_succ] at h; omega
    unfold EvmSpec.powModF
    split
    · rename_i he; rw [he]; rfl
    · simp only [ih _ _ _ h2]
      rw [← Nat.one_mul (a ^ e)]
      split
      · rename_i hodd
        rw [Nat.mul_mod_mod, sqmul_step m 1 a a e (by rw [hodd, Nat.pow_one, Nat.one_mul])]
      · rename_i hodd
        rw [← sqmul_step m 1 1 a e (by rw [show e % 2 = 0 by omega, Nat.pow_zero]), Nat.one_mul]

theorem powMod_eq (a e m : Nat) : EvmSpec.powMod a e m = a ^ e % m :=
  powModF_eq _ _ _ _ Nat.lt_log2_self

theorem exp_meaning (a e : W) : (EvmSpec.exp a e).toNat = a.toNat ^ e.toNat % 2 ^ 256 := by
  unfold EvmSpec.exp
  rw [powMod_eq, BitVec.toNat_ofNat, Nat.mod_mod]

theorem opExp_spec (a e : W) : opExp a.toNat e.toNat = (EvmSpec.exp a e).toNat := by
  rw [exp_meaning]; exact exp_natCast _ _
end Aqv.Evm
