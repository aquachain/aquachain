/-
  The Go-shaped model of rlp/raw.go (Aqv.Model.RlpRaw) against the spec-level shallow reader.  One walk over the tag
  ranges (`rawReadKind_spec`) gives `KindSpec`; that Split, SplitString, SplitList and CountValues never reach a
  slice-bounds panic, that CountValues terminates, and that both agree with the shallow reader all follow from it.
-/
import Aqv.Lemmas.RlpCanon
import Aqv.Model.RlpRaw
namespace Aqv.RlpRaw
open Aqv Aqv.Rlp

theorem rawReadSize_ne_fuel (b : Bytes) (slen : Nat) : rawReadSize b slen ≠ .error .fuel := by
  unfold rawReadSize
  dsimp only
  repeat' split
  all_goals simp

theorem rawReadSize_iff (tl : Bytes) (ll : Nat) (hll : 1 ≤ ll) (n : Nat) :
    rawReadSize tl ll = .ok n ↔ readSize ll tl = .ok (n, tl.drop ll) := by
  unfold rawReadSize readSize
  by_cases hlt : tl.length < ll
  · simp [hlt]
  · simp only [hlt, if_false]
    cases tl with
    | nil => simp at hlt; omega
    | cons b0 t =>
      obtain ⟨m, rfl⟩ : ∃ m, ll = m + 1 := ⟨ll - 1, by omega⟩
      simp only [List.take_succ_cons]
      by_cases h0 : b0 = 0 <;> by_cases h56 : beNat (b0 :: List.take m t) < 56 <;> simp [h0, h56]

theorem readSize_snd (ll : Nat) (tl : Bytes) (n : Nat) (r : Bytes) (h : readSize ll tl = .ok (n, r)) :
    r = tl.drop ll ∧ 56 ≤ n ∧ ll ≤ tl.length := by
  obtain ⟨h1, h2, h3⟩ := readSize_ok ll tl n r h
  refine ⟨by rw [h1, List.drop_left' h2], h3, ?_⟩
  rw [h1, List.length_append]; omega

/-- raw.go's `readKind` against the shallow reader. -/
def KindSpec (bs : Bytes) : Prop :=
  match rawReadKind bs with
  | .ok (k, ts, cs) =>
    ts + cs ≤ bs.length ∧ 1 ≤ ts + cs ∧ shallowSplit bs = some (k, (bs.drop ts).take cs, bs.drop (ts + cs))
  | .error e => e ≠ .fuel ∧ shallowSplit bs = none

/-- the long forms (`ll` size bytes after the tag) for either kind, from what both readers do once the size is read. -/
theorem kindSpec_long (b : UInt8) (tl : Bytes) (ll : Nat) (hll : 1 ≤ ll) (k : K)
    (hrk : ∀ cs, rawReadSize tl ll = .ok cs → rawReadKind (b :: tl) =
      if cs > (b :: tl).length - (ll + 1) then .error .valueTooLarge else .ok (k, ll + 1, cs))
    (hrk' : ∀ e, rawReadSize tl ll = .error e → rawReadKind (b :: tl) = .error e)
    (hsh : ∀ n r, readSize ll tl = .ok (n, r) → 56 ≤ n →
      shallowSplit (b :: tl) = if r.length < n then none else some (k, r.take n, r.drop n))
    (hsh' : ∀ e, readSize ll tl = .error e → shallowSplit (b :: tl) = none) :
    KindSpec (b :: tl) := by
  unfold KindSpec
  cases hrs : rawReadSize tl ll with
  | error e =>
    rw [hrk' e hrs]
    refine ⟨fun he => rawReadSize_ne_fuel tl ll (he ▸ hrs), ?_⟩
    cases hq : readSize ll tl with
    | error e' => exact hsh' _ hq
    | ok p =>
      obtain ⟨n, r⟩ := p
      obtain ⟨rfl, _, _⟩ := readSize_snd _ _ _ _ hq
      rw [← rawReadSize_iff tl ll hll, hrs] at hq
      cases hq
  | ok n =>
    have hq := (rawReadSize_iff tl ll hll n).1 hrs
    obtain ⟨_, h56, hle⟩ := readSize_snd _ _ _ _ hq
    rw [hrk n hrs, hsh _ _ hq h56]
    simp only [List.length_cons, List.length_drop]
    by_cases hlt : tl.length - ll < n
    · rw [if_pos (by omega), if_pos hlt]; exact ⟨by simp, rfl⟩
    · rw [if_neg (by omega), if_neg hlt]
      exact ⟨by omega, by omega, by simp [show ll + 1 + n = ll + n + 1 by omega]⟩

theorem rawReadKind_spec (bs : Bytes) : KindSpec bs := by
  cases bs with
  | nil => simp [KindSpec, rawReadKind, shallowSplit, readHead]
  | cons b tl =>
    have e2 : (0xB8 : UInt8).toNat = 0xB8 := rfl
    have e4 : (0xF8 : UInt8).toNat = 0xF8 := rfl
    by_cases h1 : b < 0x80
    · simp [KindSpec, rawReadKind, shallowSplit, readHead, h1]
    by_cases h2 : b < 0xB8
    · unfold KindSpec
      simp only [rawReadKind, shallowSplit, readHead, h1, h2, if_true, if_false, List.length_cons]
      -- with the literal subtrahend, evaluation unfolds `b.toNat - 128` one step at a time
      generalize b.toNat - 0x80 = n
      cases tl with
      | nil => cases n <;> simp
      | cons x t =>
        by_cases hc : n = 1 ∧ x < 0x80
        · obtain ⟨rfl, hx⟩ := hc; simp [hx]
        · simp only [hc, if_false, List.length_cons, Nat.add_sub_cancel]
          by_cases hlt : t.length + 1 < n
          · simp [hlt]
          · simp only [hlt, if_false]
            refine ⟨by omega, by omega, ?_⟩
            split
            · rename_i y hy
              have hl := congrArg List.length hy
              rw [List.length_take] at hl
              simp only [List.length_cons, List.length_nil] at hl
              obtain rfl : n = 1 := by omega
              cases hy
              rw [if_neg fun h => hc ⟨rfl, h⟩]; rfl
            · simp [Nat.add_comm 1]
    by_cases h3 : b < 0xC0
    · refine kindSpec_long b tl (b.toNat - 0xB7) (by rw [UInt8.lt_iff_toNat_lt, e2] at h2; omega) .string
        (fun cs he => by simp only [rawReadKind, h1, h2, h3, if_true, if_false, he])
        (fun e he => by simp only [rawReadKind, h1, h2, h3, if_true, if_false, he])
        (fun n r hq h56 => ?_)
        (fun e hq => by simp only [shallowSplit, readHead, h1, h2, h3, if_true, if_false, hq])
      simp only [shallowSplit, readHead, h1, h2, h3, if_true, if_false, hq]
      split
      · rfl
      · rename_i hlt
        split
        · rename_i x hx
          have := congrArg List.length hx
          rw [List.length_take] at this
          simp only [List.length_cons, List.length_nil] at this
          omega
        · rfl
    by_cases h4 : b < 0xF8
    · unfold KindSpec
      simp only [rawReadKind, shallowSplit, readHead, h1, h2, h3, h4, if_true, if_false, List.length_cons,
        Nat.add_sub_cancel]
      generalize b.toNat - 0xC0 = n
      by_cases hlt : tl.length < n
      · simp [hlt]
      · rw [if_neg hlt, if_neg (show ¬ n > tl.length from hlt)]
        exact ⟨by omega, by omega, by simp [Nat.add_comm 1]⟩
    · exact kindSpec_long b tl (b.toNat - 0xF7) (by rw [UInt8.lt_iff_toNat_lt, e4] at h4; omega) .list
        (fun cs he => by simp only [rawReadKind, h1, h2, h3, h4, if_false, he])
        (fun e he => by simp only [rawReadKind, h1, h2, h3, h4, if_false, he])
        (fun n r hq _ => by simp only [shallowSplit, readHead, h1, h2, h3, h4, if_false, hq])
        (fun e hq => by simp only [shallowSplit, readHead, h1, h2, h3, h4, if_false, hq])

/-- what `KindSpec` says of a success. -/
theorem rawReadKind_ok_spec {bs : Bytes} {k : K} {ts cs : Nat} (h : rawReadKind bs = .ok (k, ts, cs)) :
    ts + cs ≤ bs.length ∧ 1 ≤ ts + cs ∧ shallowSplit bs = some (k, (bs.drop ts).take cs, bs.drop (ts + cs)) := by
  have := rawReadKind_spec bs
  rwa [KindSpec, h] at this

/-- what `KindSpec` says of an error. -/
theorem rawReadKind_error_spec {bs : Bytes} {e : RErr} (h : rawReadKind bs = .error e) :
    e ≠ .fuel ∧ shallowSplit bs = none := by
  have := rawReadKind_spec bs
  rwa [KindSpec, h] at this

theorem rawReadKind_ok (buf : Bytes) (k : K) (ts cs : Nat) (h : rawReadKind buf = .ok (k, ts, cs)) :
    ts + cs ≤ buf.length ∧ 1 ≤ ts + cs ∧ ts ≤ buf.length := by
  obtain ⟨hin, hpos, _⟩ := rawReadKind_ok_spec h
  exact ⟨hin, hpos, by omega⟩

theorem slice_eq (b : Bytes) (i j : Nat) (h : i ≤ j ∧ j ≤ b.length) : slice b i j = some ((b.take j).drop i) := by
  simp [slice, h]

theorem split_cases (bs : Bytes) :
    (∃ r, split bs = .ok r ∧ shallowSplit bs = some r) ∨ (∃ e, split bs = .err e ∧ e ≠ .fuel ∧ shallowSplit bs = none) := by
  unfold split
  cases hrk : rawReadKind bs with
  | error e => exact .inr ⟨e, rfl, rawReadKind_error_spec hrk⟩
  | ok p =>
    obtain ⟨k, ts, cs⟩ := p
    obtain ⟨h1, _, h3⟩ := rawReadKind_ok_spec hrk
    simp only [slice_eq bs ts (ts + cs) ⟨by omega, h1⟩, slice_eq bs (ts + cs) bs.length ⟨h1, Nat.le_refl _⟩,
      ← List.take_drop, List.take_length]
    exact .inl ⟨_, rfl, h3⟩

theorem split_ne_panic (b : Bytes) : split b ≠ .panic := by
  rcases split_cases b with ⟨_, h, _⟩ | ⟨_, h, _⟩ <;> simp [h]

theorem splitString_ne_panic (b : Bytes) : splitString b ≠ .panic := by
  unfold splitString
  have := split_ne_panic b
  split <;> simp_all

theorem splitList_ne_panic (b : Bytes) : splitList b ≠ .panic := by
  unfold splitList
  have := split_ne_panic b
  split <;> simp_all

theorem Out.toOption_some {α : Type} (o : Out α) (a : α) : o.toOption = some a ↔ o = .ok a := by
  cases o <;> simp [Out.toOption]

theorem split_eq_shallow (bs : Bytes) : (split bs).toOption = shallowSplit bs := by
  rcases split_cases bs with ⟨_, h, hs⟩ | ⟨_, h, _, hs⟩ <;> rw [h, hs] <;> rfl

theorem split_ok_iff (bs : Bytes) (r : K × Bytes × Bytes) : split bs = .ok r ↔ shallowSplit bs = some r := by
  rw [← split_eq_shallow, Out.toOption_some]

theorem countLoop_succ (f : Nat) (b : UInt8) (tl : Bytes) (i : Nat) :
    countLoop (f + 1) (b :: tl) i =
      (match split (b :: tl) with
       | .ok (_, _, rest) => countLoop f rest (i + 1)
       | .err e => .err e
       | .panic => .panic) := by
  simp only [countLoop, split]
  cases hrk : rawReadKind (b :: tl) with
  | error e => rfl
  | ok p =>
    obtain ⟨k, ts, cs⟩ := p
    obtain ⟨h1, _, _⟩ := rawReadKind_ok _ _ _ _ hrk
    simp only [slice_eq (b :: tl) ts (ts + cs) ⟨by omega, h1⟩, slice_eq (b :: tl) (ts + cs) _ ⟨h1, Nat.le_refl _⟩]

theorem shallowSplit_consumes (bs : Bytes) (k : K) (c rest : Bytes) (h : shallowSplit bs = some (k, c, rest)) :
    rest.length < bs.length := by
  cases hrk : rawReadKind bs with
  | error e =>
    rw [(rawReadKind_error_spec hrk).2] at h
    cases h
  | ok p =>
    obtain ⟨k', ts, cs⟩ := p
    obtain ⟨hin, hpos, hsh⟩ := rawReadKind_ok_spec hrk
    rw [hsh] at h
    cases h
    rw [List.length_drop]
    omega

theorem countLoop_shallow (f : Nat) : ∀ (bs : Bytes) (i : Nat),
    (countLoop f bs i).toOption = (shallowCount f bs).map (· + i) := by
  induction f with
  | zero => intro bs i; cases bs <;> simp [countLoop, shallowCount, Out.toOption]
  | succ f ih =>
    intro bs i
    cases bs with
    | nil => simp [countLoop, shallowCount, Out.toOption]
    | cons b tl =>
      rw [countLoop_succ]
      simp only [shallowCount]
      rcases split_cases (b :: tl) with ⟨⟨k, c, rest⟩, h, hs⟩ | ⟨_, h, _, hs⟩
      · rw [h, hs]
        simp only [ih rest (i + 1)]
        cases shallowCount f rest with
        | none => rfl
        | some m => simp only [Option.map]; congr 1; omega
      · rw [h, hs]; rfl

theorem countLoop_total (f : Nat) : ∀ (b : Bytes) (i : Nat), b.length ≤ f →
    countLoop f b i ≠ .panic ∧ countLoop f b i ≠ .err .fuel := by
  induction f with
  | zero =>
    intro b i hb
    cases b with
    | nil => simp [countLoop]
    | cons x tl => simp at hb
  | succ f ih =>
    intro b i hb
    cases b with
    | nil => simp [countLoop]
    | cons x tl =>
      rw [countLoop_succ]
      rcases split_cases (x :: tl) with ⟨⟨k, c, rest⟩, h, hs⟩ | ⟨e, h, he, _⟩
      · rw [h]
        have := shallowSplit_consumes _ _ _ _ hs
        exact ih rest _ (by simp only [List.length_cons] at this hb; omega)
      · rw [h]; simp [he]

theorem countValues_total (b : Bytes) : countValues b ≠ .panic ∧ countValues b ≠ .err .fuel :=
  countLoop_total b.length b 0 (Nat.le_refl _)

theorem countValues_ok_iff (bs : Bytes) (n : Nat) : countValues bs = .ok n ↔ shallowCount bs.length bs = some n := by
  rw [← Out.toOption_some, countValues, countLoop_shallow]
  cases shallowCount bs.length bs <;> simp

end Aqv.RlpRaw
