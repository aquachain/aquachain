/- The `f_translated_eq` theorems: every definition of the generated module `Aqv.Gen.Translated` (mini-translator
  go/extract/cmd/ssa2lean, DESIGN.md 2.2, docs/notes/translator.md) equals or refines the hand-written model function the
  property theorems are stated on. One file per area, so that a change of one Go function breaks only the properties that
  consume it: each Props/Cxx.lean imports its area file, not this umbrella. -/
import Aqv.Lemmas.Translated.Basic
import Aqv.Lemmas.Translated.Vm
import Aqv.Lemmas.Translated.VmNat
import Aqv.Lemmas.Translated.VmPre
import Aqv.Lemmas.Translated.Rlp
import Aqv.Lemmas.Translated.Rpc
import Aqv.Lemmas.Translated.Tx
import Aqv.Lemmas.Translated.TxSign
import Aqv.Lemmas.Translated.Params
import Aqv.Lemmas.Translated.Consensus
