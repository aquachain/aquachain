/-
  Lemmas for Layer A of Aqv.Model.BlockImport (property C01): point updates of total maps, a property of every entry of a
  partial map under the ways the model changes a map (`Entries`), folds of a commuting step, and the three map loops of
  core/state as instances.
-/
import Aqv.Model.BlockImport
namespace Aqv.BlockImport

@[simp] theorem upd_same {β : Type} (m : Nat → β) (a : Nat) (v : β) : upd m a v a = v := by simp [upd]

theorem upd_other {β : Type} (m : Nat → β) (a b : Nat) (v : β) (h : b ≠ a) : upd m a v b = m b := by simp [upd, h]

theorem upd_comm {β : Type} (m : Nat → β) (a b : Nat) (v w : β) (h : a ≠ b) :
    upd (upd m a v) b w = upd (upd m b w) a v := by
  funext x
  simp only [upd]
  by_cases hb : x = b
  · rw [if_pos hb, if_neg (hb ▸ h.symm), if_pos hb]
  · rw [if_neg hb, if_neg hb]

@[simp] theorem upd_idem {β : Type} (m : Nat → β) (a : Nat) (v w : β) : upd (upd m a v) a w = upd m a w := by
  funext x
  simp only [upd]
  split <;> rfl

section Entries
variable {β : Type} {m : Nat → Option β} {P : Nat → β → Prop}

theorem entries_none : ∀ x y, (fun _ => none : Nat → Option β) x = some y → P x y := fun _ _ h => nomatch h

theorem entries_upd {a : Nat} {v : β} (hv : P a v) (hm : ∀ x y, m x = some y → P x y) :
    ∀ x y, upd m a (some v) x = some y → P x y := by
  intro x y h
  by_cases e : x = a
  · subst e; rw [upd_same] at h; cases h; exact hv
  · rw [upd_other _ _ _ _ e] at h; exact hm x y h

theorem entries_ite {k : Nat → Option β} (c : Nat → Bool) (hk : ∀ x y, k x = some y → P x y)
    (hm : ∀ x y, m x = some y → P x y) :
    ∀ x y, (if c x then k x else m x) = some y → P x y := by
  intro x y h
  split at h
  · exact hk x y h
  · exact hm x y h

theorem entries_filter (c : Nat → Bool) (hm : ∀ x y, m x = some y → P x y) :
    ∀ x y, (if c x then m x else none) = some y → P x y :=
  entries_ite c hm entries_none

end Entries

section Fold
variable {α β : Type} {f : β → α → β}

theorem foldl_comm_step (comm : ∀ z x y, f (f z x) y = f (f z y) x) (l : List α) (z : β) (a : α) :
    l.foldl f (f z a) = f (l.foldl f z) a := by
  induction l generalizing z with
  | nil => rfl
  | cons b rest ih => simp only [List.foldl_cons]; rw [comm z a b]; exact ih _

theorem foldl_idem (comm : ∀ z x y, f (f z x) y = f (f z y) x) (idem : ∀ z x, f (f z x) x = f z x) (l : List α) (z : β) :
    l.foldl f (l.foldl f z) = l.foldl f z := by
  induction l generalizing z with
  | nil => rfl
  | cons a rest ih =>
    simp only [List.foldl_cons]
    rw [foldl_comm_step comm rest z a, idem, foldl_comm_step comm rest _ a, ih]

/-- two iteration orders, and two steps that agree: the form in which the inner orders `σ` enter the outer loops. -/
theorem foldl_perm_congr {g : β → α → β} (fg : ∀ z x, f z x = g z x) (comm : ∀ z x y, g (g z x) y = g (g z y) x)
    {l₁ l₂ : List α} (p : l₁.Perm l₂) (z : β) : l₁.foldl f z = l₂.foldl g z := by
  have e : f = g := funext fun z => funext (fg z)
  rw [e]
  exact p.foldl_eq' (fun x _ y _ z => comm z x y) z

theorem foldl_sim {γ : Type} {g : γ → α → γ} (R : β → γ → Prop) (step : ∀ x y a, R x y → R (f x a) (g y a))
    (l : List α) (x : β) (y : γ) (h : R x y) : R (l.foldl f x) (l.foldl g y) := by
  induction l generalizing x y with
  | nil => exact h
  | cons a rest ih => exact ih _ _ (step x y a h)

end Fold

theorem storeStep_comm (o : Obj) (j k : Slot) : storeStep (storeStep o j) k = storeStep (storeStep o k) j := by
  by_cases hjk : j = k
  · subst hjk; rfl
  · have hkj : k ≠ j := fun h => hjk h.symm
    unfold storeStep
    cases hj : o.dirty j <;> cases hk : o.dirty k <;> simp [hj, hk, upd_other, hjk, hkj]
    exact ⟨upd_comm _ _ _ _ _ hjk, upd_comm _ _ _ _ _ hjk⟩

theorem storeStep_idem (o : Obj) (k : Slot) : storeStep (storeStep o k) k = storeStep o k := by
  unfold storeStep
  cases h : o.dirty k <;> simp [h]

theorem updateTrie_perm (o : Obj) {ks₁ ks₂ : List Slot} (h : ks₁.Perm ks₂) : updateTrie ks₁ o = updateTrie ks₂ o :=
  h.foldl_eq' (fun x _ y _ z => storeStep_comm z x y) o

theorem updateTrie_idem (ks : List Slot) (o : Obj) : updateTrie ks (updateTrie ks o) = updateTrie ks o :=
  foldl_idem storeStep_comm storeStep_idem ks o

theorem updateTrie_sroot (ks : List Slot) (o : Obj) (x : Hash) :
    updateTrie ks { o with sroot := x } = { updateTrie ks o with sroot := x } :=
  foldl_sim (f := storeStep) (g := storeStep) (fun a b => a = { b with sroot := x })
    (fun a b k e => by subst e; unfold storeStep; cases b.dirty k <;> rfl) ks _ o rfl

/-- the fields that decide between deleting and updating the account. -/
theorem storeStep_flags (o : Obj) (k : Slot) :
    (storeStep o k).suicided = o.suicided ∧ (storeStep o k).nonce = o.nonce ∧ (storeStep o k).balance = o.balance ∧
    (storeStep o k).codeHash = o.codeHash := by
  unfold storeStep
  cases o.dirty k <;> exact ⟨rfl, rfl, rfl, rfl⟩

theorem updateTrie_flags (ks : List Slot) (o : Obj) :
    (updateTrie ks o).suicided = o.suicided ∧ (updateTrie ks o).nonce = o.nonce ∧ (updateTrie ks o).balance = o.balance ∧
    (updateTrie ks o).codeHash = o.codeHash := by
  induction ks generalizing o with
  | nil => exact ⟨rfl, rfl, rfl, rfl⟩
  | cons j rest ih =>
    have h1 := ih (storeStep o j)
    have h2 := storeStep_flags o j
    exact ⟨h1.1.trans h2.1, h1.2.1.trans h2.2.1, h1.2.2.1.trans h2.2.2.1, h1.2.2.2.trans h2.2.2.2⟩

theorem storeStep_dirty_none (o : Obj) (k : Slot) (h : o.dirty k = none) : storeStep o k = o := by
  unfold storeStep; rw [h]

theorem storeStep_clears (o : Obj) (k : Slot) : (storeStep o k).dirty k = none := by
  unfold storeStep
  cases h : o.dirty k with
  | none => exact h
  | some v => exact upd_same ..

theorem storeStep_keeps_none (o : Obj) (j k : Slot) (h : o.dirty k = none) : (storeStep o j).dirty k = none := by
  by_cases e : k = j
  · exact e ▸ storeStep_clears o j
  · unfold storeStep
    cases o.dirty j with
    | none => exact h
    | some v => exact (upd_other _ _ _ _ e).trans h

theorem updateTrie_keeps_none (ks : List Slot) (o : Obj) (k : Slot) (h : o.dirty k = none) : (updateTrie ks o).dirty k = none :=
  List.foldlRecOn (motive := fun o' => o'.dirty k = none) ks storeStep h (fun o' h' j _ => storeStep_keeps_none o' j k h')

theorem updateTrie_clears (ks : List Slot) (o : Obj) (k : Slot) (hk : k ∈ ks) : (updateTrie ks o).dirty k = none := by
  induction ks generalizing o with
  | nil => cases hk
  | cons j rest ih =>
    cases hk with
    | head => exact updateTrie_keeps_none rest _ _ (storeStep_clears o _)
    | tail _ h => exact ih _ h

theorem updateTrie_noop (ks : List Slot) (o : Obj) (h : ∀ k ∈ ks, o.dirty k = none) : updateTrie ks o = o := by
  induction ks with
  | nil => rfl
  | cons j rest ih =>
    show updateTrie rest (storeStep o j) = o
    rw [storeStep_dirty_none o j (h j (List.mem_cons_self ..))]
    exact ih fun k hk => h k (List.mem_cons_of_mem _ hk)

theorem updateRoot_perm (R : (Slot → Word) → Hash) (o : Obj) {ks₁ ks₂ : List Slot} (h : ks₁.Perm ks₂) :
    updateRoot R ks₁ o = updateRoot R ks₂ o := by
  unfold updateRoot
  rw [updateTrie_perm o h]

theorem updateRoot_idem (R : (Slot → Word) → Hash) (ks : List Slot) (o : Obj) :
    updateRoot R ks (updateRoot R ks o) = updateRoot R ks o := by
  unfold updateRoot
  simp only [updateTrie_sroot, updateTrie_idem]

theorem updateRoot_flags (R : (Slot → Word) → Hash) (ks : List Slot) (o : Obj) :
    (updateRoot R ks o).suicided = o.suicided ∧ (updateRoot R ks o).empty = o.empty := by
  obtain ⟨a, b, c, d⟩ := updateTrie_flags ks o
  exact ⟨a, by unfold updateRoot Obj.empty; simp only [b, c, d]⟩

theorem settle_perm (R : (Slot → Word) → Hash) (del : Bool) (o : Obj) {ks₁ ks₂ : List Slot} (h : ks₁.Perm ks₂) :
    settle R del ks₁ o = settle R del ks₂ o := by
  unfold settle
  rw [updateRoot_perm R o h]

theorem settle_idem (R : (Slot → Word) → Hash) (del : Bool) (ks : List Slot) (o : Obj) :
    settle R del ks (settle R del ks o).1 = settle R del ks o := by
  unfold settle
  by_cases c : (o.suicided || (del && o.empty)) = true
  · have c' : (o.suicided || (del && Obj.empty { o with deleted := true })) = true := c
    simp [c, c']
  · have f := updateRoot_flags R ks o
    simp only [c, Bool.false_eq_true, if_false, f.1, f.2, updateRoot_idem]

theorem finalStep_comm (R : (Slot → Word) → Hash) (del : Bool) (σ : Addr → List Slot) (s : SDB) (a b : Addr) :
    finalStep R del σ (finalStep R del σ s a) b = finalStep R del σ (finalStep R del σ s b) a := by
  by_cases hab : a = b
  · subst hab; rfl
  · have hba : b ≠ a := fun h => hab h.symm
    unfold finalStep
    cases ha : s.objs a <;> cases hb : s.objs b <;> simp [ha, hb, upd_other, hab, hba]
    exact ⟨upd_comm _ _ _ _ _ hab, upd_comm _ _ _ _ _ hab⟩

theorem finalStep_idem (R : (Slot → Word) → Hash) (del : Bool) (σ : Addr → List Slot) (s : SDB) (a : Addr) :
    finalStep R del σ (finalStep R del σ s a) a = finalStep R del σ s a := by
  unfold finalStep
  cases ha : s.objs a <;> simp [ha, settle_idem]

theorem finalStep_sigma (R : (Slot → Word) → Hash) (del : Bool) (σ₁ σ₂ : Addr → List Slot) (s : SDB) (a : Addr)
    (h : (σ₁ a).Perm (σ₂ a)) : finalStep R del σ₁ s a = finalStep R del σ₂ s a := by
  unfold finalStep
  simp only [settle_perm R del _ h]

/-- `Finalise` yields the same StateDB for every iteration order of `stateObjectsDirty` and of every `dirtyStorage`. -/
theorem finalise_perm (R : (Slot → Word) → Hash) (del : Bool) {π₁ π₂ : List Addr} (σ₁ σ₂ : Addr → List Slot)
    (hπ : π₁.Perm π₂) (hσ : ∀ a, (σ₁ a).Perm (σ₂ a)) (s : SDB) :
    finalise R del π₁ σ₁ s = finalise R del π₂ σ₂ s :=
  foldl_perm_congr (fun s a => finalStep_sigma R del σ₁ σ₂ s a (hσ a)) (finalStep_comm R del σ₂) hπ s

theorem finalise_idem (R : (Slot → Word) → Hash) (del : Bool) (π : List Addr) (σ : Addr → List Slot) (s : SDB) :
    finalise R del π σ (finalise R del π σ s) = finalise R del π σ s :=
  foldl_idem (finalStep_comm R del σ) (finalStep_idem R del σ) π s

theorem commitStep_comm (R : (Slot → Word) → Hash) (del : Bool) (σ : Addr → List Slot) (s : SDB) (a b : Addr) :
    commitStep R del σ (commitStep R del σ s a) b = commitStep R del σ (commitStep R del σ s b) a := by
  by_cases hab : a = b
  · subst hab; rfl
  · have hba : b ≠ a := fun h => hab h.symm
    unfold commitStep
    cases ha : s.objs a <;> cases hb : s.objs b <;> simp [ha, hb, upd_other, hab, hba]
    rename_i oa ob
    refine ⟨?_, upd_comm _ _ _ _ _ hab, upd_comm _ _ _ _ _ hab⟩
    cases (settleCommit R del (σ a) (s.dirty a) oa).2 <;> cases (settleCommit R del (σ b) (s.dirty b) ob).2 <;>
      simp [upd_comm _ _ _ _ _ hab]

theorem commitStep_sigma (R : (Slot → Word) → Hash) (del : Bool) (σ₁ σ₂ : Addr → List Slot) (s : SDB) (a : Addr)
    (h : (σ₁ a).Perm (σ₂ a)) : commitStep R del σ₁ s a = commitStep R del σ₂ s a := by
  unfold commitStep settleCommit
  simp only [updateRoot_perm R _ h]

end Aqv.BlockImport
