/-
  Aqv.Lemmas.StateCache — reads only fill the object cache (`warm_eq`): `look`, the invariants, the copy, and the trie that
  Finalise computes are unchanged by `loadObj`/`warm` (the finalised cache itself keeps the entries that were read).
-/
import Aqv.Model.StateCache
import Aqv.Lemmas.StateGood
namespace Aqv.State

theorem loadObj_cases (s : SDB) (a : Addr) :
    loadObj s a = s ∨ (∃ c, s.objs a = none ∧ s.trie a = some c ∧ loadObj s a = putObj s a (fromAcct c)) := by
  unfold loadObj
  cases ho : s.objs a with
  | some o => exact Or.inl rfl
  | none =>
    cases ht : s.trie a with
    | none => exact Or.inl rfl
    | some c => exact Or.inr ⟨c, rfl, rfl, rfl⟩

theorem look_loadObj (s : SDB) (a b : Addr) : look (loadObj s a) b = look s b := by
  rcases loadObj_cases s a with h | ⟨c, ho, ht, h⟩
  · rw [h]
  · rw [h, look_putObj]
    split
    · subst b; rw [look_of_none ho, ht]; rfl
    · rfl

theorem good_loadObj {d : Bool} {s : SDB} (hg : Good d s) (a : Addr) : Good d (loadObj s a) := by
  rcases loadObj_cases s a with h | ⟨c, ho, ht, h⟩
  · rw [h]; exact hg
  · rw [h]
    have hl : look s a = some (fromAcct c) := by rw [look_of_none ho, ht]; rfl
    exact ⟨binv_setObj hg.binv a rfl (fun _ h => h) (fun _ h => Or.inr h) (look_clean hg.binv hl), hg.revs,
      fun b o hq hqd => (tomb_putObj (o := fromAcct c) rfl ⟨hq, hqd⟩).elim (hg.tomb b o)⟩

theorem look_warm (reads : List Addr) : ∀ (s : SDB) (b : Addr), look (warm s reads) b = look s b := by
  induction reads with
  | nil => intro s b; rfl
  | cons a as ih => intro s b; rw [warm, List.foldl_cons]; exact (ih (loadObj s a) b).trans (look_loadObj s a b)

theorem warm_eq (reads : List Addr) : ∀ (s : SDB), ∃ m, warm s reads = { s with objs := m } := by
  induction reads with
  | nil => exact fun s => ⟨s.objs, rfl⟩
  | cons a as ih =>
    intro s
    rw [warm, List.foldl_cons]
    rcases loadObj_cases s a with h | ⟨c, -, -, h⟩ <;> rw [h]
    · exact ih s
    · exact ih (putObj s a (fromAcct c))

theorem warm_fields (reads : List Addr) : ∀ (s : SDB),
    (warm s reads).trie = s.trie ∧ (warm s reads).dirty = s.dirty ∧ (warm s reads).journal = s.journal ∧ (warm s reads).revs = s.revs ∧
    (warm s reads).refund = s.refund ∧ (warm s reads).logs = s.logs ∧ (warm s reads).logSize = s.logSize ∧
    (warm s reads).preimages = s.preimages ∧ (warm s reads).fault = s.fault ∧ (warm s reads).nextId = s.nextId ∧ (warm s reads).thash = s.thash := by
  intro s
  obtain ⟨m, h⟩ := warm_eq reads s
  rw [h]
  exact ⟨rfl, rfl, rfl, rfl, rfl, rfl, rfl, rfl, rfl, rfl, rfl⟩

/-- dirty addresses are cached under `BInv`, so reads leave their entries alone. -/
theorem warm_keeps {d : Bool} (reads : List Addr) : ∀ {s : SDB}, Good d s →
    Good d (warm s reads) ∧ ∀ b ∈ s.dirty, (warm s reads).objs b = s.objs b := by
  induction reads with
  | nil => exact fun hg => ⟨hg, fun _ _ => rfl⟩
  | cons a as ih =>
    intro s hg
    have h1 : (loadObj s a).dirty = s.dirty ∧ ∀ b ∈ s.dirty, (loadObj s a).objs b = s.objs b := by
      rcases loadObj_cases s a with h | ⟨c, ho, -, h⟩ <;> rw [h]
      · exact ⟨rfl, fun _ _ => rfl⟩
      · refine ⟨rfl, fun b hb => upd_ne _ _ _ _ ?_⟩
        rintro rfl
        obtain ⟨o, hq⟩ := hg.binv.dobj b hb
        rw [ho] at hq; cases hq
    obtain ⟨hg', hd⟩ := ih (good_loadObj hg a)
    rw [warm, List.foldl_cons]
    exact ⟨hg', fun b hb => (hd b (h1.1 ▸ hb)).trans (h1.2 b hb)⟩

theorem warm_spec {d : Bool} (reads : List Addr) {s : SDB} (hg : Good d s) :
    ∃ m, warm s reads = { s with objs := m } ∧ (∀ b, look { s with objs := m } b = look s b) ∧
      (∀ b ∈ s.dirty, m b = s.objs b) ∧ Good d { s with objs := m } := by
  obtain ⟨m, hm⟩ := warm_eq reads s
  obtain ⟨hgw, hd⟩ := warm_keeps reads hg
  rw [hm] at hgw hd
  exact ⟨m, hm, fun b => hm ▸ look_warm reads s b, hd, hgw⟩

theorem copy_setObjs (s : SDB) {m : Addr → Option Obj} (h : ∀ b ∈ s.dirty, m b = s.objs b) : copy { s with objs := m } = copy s := by
  unfold copy
  congr 1
  · funext a
    split
    · exact congrArg _ (h a ‹_›)
    · rfl
  · exact congrArg (s.fault || ·) (any_congr (fun _ => Iff.rfl) fun a ha => congrArg _ (h a ha))

theorem finalise_trie_setObjs (d : Bool) (s : SDB) {m : Addr → Option Obj} (h : ∀ b ∈ s.dirty, m b = s.objs b) :
    (finalise d { s with objs := m }).trie = (finalise d s).trie := by
  funext a
  rw [finalise_trie, finalise_trie]
  show (if a ∈ s.dirty then finLeaf d (m a) (s.trie a) else s.trie a) = _
  split
  · rw [h a ‹_›]
  · rfl

end Aqv.State
