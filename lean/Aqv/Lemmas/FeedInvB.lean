/-
  Aqv.Lemmas.FeedInvB — delivery bookkeeping invariants of the Feed transition system:
  `pre`   : while Send g is in its loop, `cases` (= sendCases[:active]) is exactly the set of channels in sendCases
            that have NOT yet been given g's value (deactivate swap, removeSub index arithmetic);
  `done_all`: when Send g has returned, every channel subscribed before the call and whose Unsubscribe had not been
            called at return has been given the value;
  the other fields are what these two need: of Sends before the merge, of the counter `nsent`, of the snapshot `atCall`.
-/
import Aqv.Lemmas.FeedInvA
namespace Aqv.Feed
variable {s s' : St} {a : Act}

structure InvB (s : St) : Prop where
  pre : ∀ g, (s.spc g).merged = true → ∀ c ∈ s.sendCases, (c ∈ s.sendCases.take s.active ↔ (c, g) ∉ s.placed)
  unmerged : ∀ g c, (s.spc g = .idle ∨ s.spc g = .start ∨ s.spc g = .locked) → (c, g) ∉ s.placed
  pnodup : s.placed.Nodup
  nsent_eq : ∀ g, (s.spc g).held = true → s.nsent g = placedBy s g
  done_eq : ∀ g n, s.spc g = .done n → n = placedBy s g
  inbox_new : ∀ g, (s.spc g).merged = true → ∀ c ∈ s.inbox, s.atCall g c = false
  atCall_sub : ∀ g c, s.atCall g c = true → s.subscribed c = true
  done_all : ∀ g n c, s.spc g = .done n → s.atCall g c = true → s.atRet g c = false → (c, g) ∈ s.placed

theorem unmerged_step (h : ∀ g c, (s.spc g = .idle ∨ s.spc g = .start ∨ s.spc g = .locked) → (c, g) ∉ s.placed)
    (st : Step s a s') : ∀ g c, (s'.spc g = .idle ∨ s'.spc g = .start ∨ s'.spc g = .locked) → (c, g) ∉ s'.placed := by
  -- a Send that moves to a place before the merge comes from one
  have keep : ∀ {g₀ : Sid} {v : SPc},
      ((v = .idle ∨ v = .start ∨ v = .locked) → (s.spc g₀ = .idle ∨ s.spc g₀ = .start ∨ s.spc g₀ = .locked)) →
      ∀ g c, (upd s.spc g₀ v g = .idle ∨ upd s.spc g₀ v g = .start ∨ upd s.spc g₀ v g = .locked) → (c, g) ∉ s.placed :=
    fun hv g c hg =>
      upd_imp (P := fun p : SPc => p = .idle ∨ p = .start ∨ p = .locked) (Q := fun g => ∀ c, (c, g) ∉ s.placed)
        (fun g hg c => h g c hg) hv g hg c
  cases st with
  | sendCall hg | acquire hg => exact keep fun _ => by simp [hg]
  | merge | tryFail | sendRet | toSelect | selRecv | doRemove | sendPanic => exact keep (by simp)
  | @tryOk g₀ | @selPlace g₀ =>
    -- the Send that places is past the merge, and the new pair is its own
    intro g c hg
    simp only [upd_apply] at hg
    have hne : g ≠ g₀ := fun e => by simp [e] at hg
    rw [if_neg hne] at hg
    simpa [hne] using h g c hg
  | _ => exact h

theorem atCall_sub_step (h : ∀ g c, s.atCall g c = true → s.subscribed c = true) (st : Step s a s') :
    ∀ g c, s'.atCall g c = true → s'.subscribed c = true := by
  cases st with
  | subscribe | sendCall => grind
  | _ => exact h

theorem inbox_new_step (hsub : ∀ g c, s.atCall g c = true → s.subscribed c = true)
    (h : ∀ g, (s.spc g).merged = true → ∀ c ∈ s.inbox, s.atCall g c = false) (st : Step s a s') :
    ∀ g, (s'.spc g).merged = true → ∀ c ∈ s'.inbox, s'.atCall g c = false := by
  have hm := st.merged_of_merged
  cases st with
  | subscribe => grind
  | merge => exact fun _ _ _ hc => nomatch hc
  | rmInbox => exact fun g hg c hc => h g hg c (List.mem_of_mem_erase hc)
  | sendCall => grind [SPc.merged]
  | _ => exact fun g hg => h g (hm (by simp) g hg)

theorem pre_step (ha : InvA s)
    (hun : ∀ g c, (s.spc g = .idle ∨ s.spc g = .start ∨ s.spc g = .locked) → (c, g) ∉ s.placed)
    (h : ∀ g, (s.spc g).merged = true → ∀ c ∈ s.sendCases, (c ∈ s.sendCases.take s.active ↔ (c, g) ∉ s.placed))
    (st : Step s a s') :
    ∀ g, (s'.spc g).merged = true → ∀ c ∈ s'.sendCases, (c ∈ s'.sendCases.take s'.active ↔ (c, g) ∉ s'.placed) := by
  have hm := st.merged_of_merged
  cases st with
  | @merge g hg =>
    -- everything is active, and g has placed nothing yet
    intro g' hm c hc
    obtain rfl := ha.eq_of_held_upd (by rw [hg]; rfl) (merged_held _ hm)
    dsimp only at hc ⊢
    rw [List.take_length]
    exact iff_of_true hc (hun g' c (.inr (.inr hg)))
  | @tryOk g i hg hi | @selPlace g i hg hi =>
    intro g' hm c hc
    obtain rfl := ha.eq_of_held_upd (by rw [hg]; rfl) (merged_held _ hm)
    have hle := ha.active_le hg rfl
    have := h g' (by rw [hg]; rfl) c ((mem_swapAt_last _ hi hle c).mp hc)
    have := mem_take_swapAt s.sendCases ha.nodup_cases hi hle c
    grind
  | @doRemove g c₀ hg hc₀ =>
    intro g' hm c hc
    obtain rfl := ha.eq_of_held_upd (by rw [hg]; rfl) (merged_held _ hm)
    obtain ⟨hne, hc⟩ := ha.nodup_cases.mem_erase_iff.mp hc
    dsimp only
    rw [mem_take_erase _ _ hne]
    exact h g' (by rw [hg]; rfl) c hc
  | @rmDelete c₀ hc =>
    exact fun g hm => (ha.sender_remover g c₀ (merged_held _ hm) (by rw [hc]; rfl)).elim
  | _ => exact fun g hg => h g (hm (by simp) g hg)


theorem pnodup_step (ha : InvA s)
    (hpre : ∀ g, (s.spc g).merged = true → ∀ c ∈ s.sendCases, (c ∈ s.sendCases.take s.active ↔ (c, g) ∉ s.placed))
    (h : s.placed.Nodup) (st : Step s a s') : s'.placed.Nodup := by
  -- a Send places into an active case only, and there it has not placed yet
  have placing : ∀ {g p i}, s.spc g = p → p.merged = true → i < s.active →
      (s.placed ++ [(s.sendCases.getD i 0, g)]).Nodup := fun hg hp hi =>
    (nodup_snoc _ _).mpr ⟨h, (hpre _ (hg ▸ hp) _ (ha.getD_mem hg hp hi)).mp
      (getD_mem_take _ hi (ha.active_le hg hp))⟩
  cases st with
  | tryOk hg hi | selPlace hg hi => exact placing hg rfl hi
  | _ => exact h

theorem countP_snd_snoc (l : List (Chan × Sid)) (c : Chan) (g g' : Sid) :
    (l ++ [(c, g)]).countP (·.2 == g') = l.countP (·.2 == g') + if g = g' then 1 else 0 := by
  simp [List.countP_append, List.countP_cons]

theorem nsent_eq_step (hun : ∀ g c, (s.spc g = .idle ∨ s.spc g = .start ∨ s.spc g = .locked) → (c, g) ∉ s.placed)
    (h : ∀ g, (s.spc g).held = true → s.nsent g = placedBy s g) (st : Step s a s') :
    ∀ g, (s'.spc g).held = true → s'.nsent g = placedBy s' g := by
  simp only [placedBy] at h ⊢
  have hm := st.held_of_held
  cases st with
  | @acquire g hg =>
    have : s.placed.countP (·.2 == g) = 0 := List.countP_eq_zero.mpr fun p hp e =>
      hun g p.1 (.inr (.inl hg)) (by simpa [← (beq_iff_eq.mp e)] using hp)
    grind [SPc.held]
  | tryOk | selPlace => simp only [countP_snd_snoc]; grind [SPc.held]
  | _ => exact fun g hg => h g (hm (by simp) g hg)

theorem done_eq_step (hn : ∀ g, (s.spc g).held = true → s.nsent g = placedBy s g)
    (h : ∀ g n, s.spc g = .done n → n = placedBy s g) (st : Step s a s') :
    ∀ g n, s'.spc g = .done n → n = placedBy s' g := by
  simp only [placedBy] at h hn ⊢
  cases st with
  | @sendRet g i hg => have := hn g (by rw [hg]; rfl); grind
  | tryOk | selPlace => simp only [countP_snd_snoc]; grind
  | _ => first | exact h | grind

theorem done_all_step (ha : InvA s) (hb : InvB s) (st : Step s a s') :
    ∀ g n c, s'.spc g = .done n → s'.atCall g c = true → s'.atRet g c = false → (c, g) ∈ s'.placed := by
  have h := hb.done_all
  cases st with
  | @sendRet g₀ i hg h0 =>
    -- `cases` is empty: a channel subscribed at the call and not unsubscribing is in `sendCases` (it is too old for the
    -- inbox), hence not active any more, hence placed
    have : ∀ c, s.atCall g₀ c = true → s.rpc c = .idle → (c, g₀) ∈ s.placed := by
      intro c hc hi
      rcases ha.loc_idle c (hb.atCall_sub g₀ c hc) (.inl hi) with hm | hm
      · simp [hb.inbox_new g₀ (by rw [hg]; rfl) c hm] at hc
      · have := hb.pre g₀ (by rw [hg]; rfl) c hm
        simpa [h0] using this
    grind
  | _ => first | exact h | grind

theorem invB_init : InvB init := by
  constructor <;> simp [init, SPc.held, SPc.merged, placedBy]

theorem invB_step (ha : InvA s) (h : InvB s) (st : Step s a s') : InvB s' where
  pre := pre_step ha h.unmerged h.pre st
  unmerged := unmerged_step h.unmerged st
  pnodup := pnodup_step ha h.pre h.pnodup st
  nsent_eq := nsent_eq_step h.unmerged h.nsent_eq st
  done_eq := done_eq_step h.nsent_eq h.done_eq st
  inbox_new := inbox_new_step h.atCall_sub h.inbox_new st
  atCall_sub := atCall_sub_step h.atCall_sub st
  done_all := done_all_step ha h st

theorem invB_reach {s : St} (h : Reach s) : InvB s := by
  induction h with
  | init => exact invB_init
  | step a hr hs ih => exact invB_step (invA_reach hr) ih (.of_step hs)

end Aqv.Feed
