/-
  Aqv.Lemmas.MatcherPipeline — invariants of the matcher session transition system: whatever the delivery schedule, the sink
  receives a prefix of the per-section pipeline results, in section order; requests are forwarded once; results only after all
  vectors of the section arrived; every non-delivery step decreases a measure (C16).
-/
import Aqv.Model.MatcherPipeline
import Aqv.Lemmas.LogFilterMatcher
namespace Aqv.LogFilter

variable (vec : Nat → Nat → Bytes) (size : Nat)

theorem Reach.inv {σ0 σ : Sess} (h : Reach vec size σ0 σ) {P : Sess → Prop} (h0 : P σ0)
    (hstep : ∀ σ σ', P σ → Step vec size σ σ' → P σ') : P σ := by
  induction h with
  | refl => exact h0
  | step σ σ' _ hs ih => exact hstep σ σ' ih hs

theorem pipeStep_groups {cached : List (Nat × Nat)} {a b : List Stage} {out : List Item} {req : List (Nat × Nat)}
    (h : PipeStep vec size cached a b out req) : b.map (·.group) = a.map (·.group) := by
  induction h with
  | sched => rfl
  | procLast => rfl
  | procMid => rfl
  | deeper st rest rest' out req _ ih => simp [ih]

theorem initSess_stages (groups : List Group) (sections : List Nat) :
    (initSess groups sections).stages.map (·.group) = groups ∧
      ∀ st ∈ (initSess groups sections).stages, st.procq = [] ∧ st.inq = [] := by
  constructor
  · simp [initSess, List.map_map, Function.comp_def]
  · intro st hst
    obtain ⟨g, _, rfl⟩ := List.mem_map.mp hst
    exact ⟨rfl, rfl⟩

/-- an item pushed through the stages `gs` it still has to pass (none if one of them drops it). -/
def finishThrough : List Group → Item → Option Item
  | [], x => some x
  | g :: gs, x => (stageApply vec size g x).bind (finishThrough gs)

theorem finishThrough_eq_fold (groups : List Group) (s : Nat) (b : Bytes) :
    finishThrough vec size groups (s, b) =
      (groups.foldl (fun cur g => cur.bind (subMatch (vec s) size g)) (some b)).map (fun r => (s, r)) := by
  induction groups generalizing b with
  | nil => rfl
  | cons g gs ih =>
    simp only [finishThrough, stageApply, List.foldl_cons, Option.bind_some]
    cases hm : subMatch (vec s) size g b with
    | none =>
      have hnone : gs.foldl (fun cur g => cur.bind (subMatch (vec s) size g)) none = none :=
        List.foldlRecOn (motive := fun r => r = none) gs _ rfl fun _ hb _ _ => by rw [hb]; rfl
      simp [hnone]
    | some r => simp [ih r]

theorem finishThrough_fresh (groups : List Group) (s : Nat) :
    finishThrough vec size groups (freshItem size s) = (runSection (vec s) size groups).map (fun r => (s, r)) :=
  finishThrough_eq_fold vec size groups s _

/-- the items in flight, oldest first, already pushed through the stages they still have to pass. -/
def flight : List Stage → List Item
  | [] => []
  | st :: rest => flight rest ++ (st.procq ++ st.inq).filterMap (finishThrough vec size (st.group :: rest.map (·.group)))

/-- a pipeline step moves items along without changing what they will become; what it emits is the head of the flight. -/
theorem pipeStep_flight {cached : List (Nat × Nat)} {a b : List Stage} {out : List Item} {req : List (Nat × Nat)}
    (h : PipeStep vec size cached a b out req) : flight vec size a = out ++ flight vec size b := by
  induction h with
  | sched st rest x q h => simp [flight, h]
  | procLast st x p h hall =>
    cases hs : stageApply vec size st.group x <;> simp [flight, h, finishThrough, hs]
  | procMid st nxt rest x p h hall =>
    have e : finishThrough vec size (st.group :: nxt.group :: rest.map (·.group)) x =
        (stageApply vec size st.group x).bind (finishThrough vec size (nxt.group :: rest.map (·.group))) := rfl
    simp only [flight, h, List.nil_append, List.map_cons, List.cons_append, List.filterMap_cons, List.filterMap_append, e]
    cases stageApply vec size st.group x with
    | none => simp
    | some r =>
      simp only [Option.bind_some]
      cases hr : finishThrough vec size (nxt.group :: rest.map (·.group)) r <;> simp [hr]
  | deeper st rest rest' out req h ih =>
    simp only [flight]
    rw [ih, pipeStep_groups vec size h, List.append_assoc]

theorem flight_final (stages : List Stage) (h : ∀ st ∈ stages, st.procq = [] ∧ st.inq = []) : flight vec size stages = [] := by
  induction stages with
  | nil => rfl
  | cons st rest ih =>
    obtain ⟨h1, h2⟩ := h st (by simp)
    simp [flight, h1, h2, ih (fun s hs => h s (by simp [hs]))]

def expected (groups : List Group) (sections : List Nat) : List Item :=
  sections.filterMap (fun s => (runSection (vec s) size groups).map (fun r => (s, r)))

/-- nothing is lost, added or reordered: received ++ in flight ++ still to feed is what the sink is to receive. -/
structure SessInv (groups : List Group) (sections : List Nat) (σ : Sess) : Prop where
  same_groups : σ.stages.map (·.group) = groups
  flow : σ.output ++ flight vec size σ.stages ++ expected vec size groups σ.source = expected vec size groups sections

theorem sessInv_step (groups : List Group) (sections : List Nat) (σ σ' : Sess) (hinv : SessInv vec size groups sections σ)
    (hs : Step vec size σ σ') : SessInv vec size groups sections σ' := by
  obtain ⟨hg, hf⟩ := hinv
  cases hs with
  | feedStage s src st rest h hst =>
    rw [hst] at hg
    refine ⟨hg, ?_⟩
    rw [h, hst] at hf
    have hg' : st.group :: rest.map (·.group) = groups := hg
    rw [← hf]
    cases hx : runSection (vec s) size groups <;> simp [flight, expected, hg', finishThrough_fresh, hx]
  | feedSink s src h hst =>
    obtain rfl : groups = [] := by rw [hst] at hg; exact hg.symm
    refine ⟨hg, ?_⟩
    rw [h, hst] at hf
    rw [← hf]
    simp [hst, flight, expected, runSection_nil, freshItem]
  | pipe stages' out req h =>
    refine ⟨by rw [pipeStep_groups vec size h]; exact hg, ?_⟩
    rw [← hf, pipeStep_flight vec size h]
    simp [List.append_assoc]
  | deliver p h => exact ⟨hg, hf⟩
  | deliverIgnored => exact ⟨hg, hf⟩

theorem sessInv_reach (groups : List Group) (sections : List Nat) (σ : Sess)
    (h : Reach vec size (initSess groups sections) σ) : SessInv vec size groups sections σ :=
  h.inv vec size
    ⟨(initSess_stages groups sections).1, by rw [flight_final vec size _ (initSess_stages groups sections).2]; rfl⟩
    (sessInv_step vec size groups sections)

theorem sessInv_final (groups : List Group) (sections : List Nat) (σ : Sess) (hinv : SessInv vec size groups sections σ)
    (hfin : σ.final) : σ.output = expected vec size groups sections := by
  rw [← hinv.flow, flight_final vec size σ.stages hfin.2, hfin.1]
  simp [expected]

theorem deliverMatches_expected (index : List (List Bytes)) (groups : List Group) (b e k s0 : Nat) :
    deliverMatches size b e (expected (indexVec index) size groups (List.range' s0 k)) =
      matcherSections index size groups b e k s0 := by
  induction k generalizing s0 with
  | zero => rfl
  | succ k ih =>
    rw [matcherSections_succ, ← ih (s0 + 1), List.range'_succ]
    unfold expected deliverMatches
    rw [List.filterMap_cons]
    cases hr : runSection (indexVec index s0) size groups <;> simp [sectionPiece]

theorem expected_sections_sublist (groups : List Group) (sections : List Nat) :
    ((expected vec size groups sections).map (·.1)).Sublist sections := by
  induction sections with
  | nil => exact List.Sublist.slnil
  | cons s rest ih =>
    unfold expected at *
    rw [List.filterMap_cons]
    cases runSection (vec s) size groups with
    | none => exact List.Sublist.cons _ ih
    | some r => exact List.Sublist.cons_cons _ ih

/-- what the invariants need of `addReqs needed requested sent` (`scheduleRequests`): what goes to the distributor goes once and
    has a `response` entry, no entry is forgotten, everything needed has one. -/
structure ReqsAdded (needed requested : List (Nat × Nat)) (r : List (Nat × Nat) × List (Nat × Nat)) : Prop where
  nodup : r.2.Nodup
  sent_requested : ∀ p ∈ r.2, p ∈ r.1
  keeps : ∀ p ∈ requested, p ∈ r.1
  needed : ∀ p ∈ needed, p ∈ r.1

theorem addReqs_inv (needed : List (Nat × Nat)) (requested sent : List (Nat × Nat))
    (h : sent.Nodup ∧ (∀ p ∈ sent, p ∈ requested)) : ReqsAdded needed requested (addReqs needed requested sent) := by
  unfold addReqs
  induction needed generalizing requested sent with
  | nil => exact ⟨h.1, h.2, fun p hp => hp, fun p hp => by cases hp⟩
  | cons p ps ih =>
    simp only [List.foldl_cons]
    by_cases hp : p ∈ requested
    · simp only [hp, if_true]
      have i := ih requested sent h
      exact ⟨i.nodup, i.sent_requested, i.keeps, List.forall_mem_cons.mpr ⟨i.keeps _ hp, i.needed⟩⟩
    · simp only [hp, if_false]
      have hns : p ∉ sent := fun hs => hp (h.2 p hs)
      have h' : (sent ++ [p]).Nodup ∧ ∀ q ∈ sent ++ [p], q ∈ p :: requested := by
        refine ⟨List.nodup_append.mpr ⟨h.1, by simp, ?_⟩, fun q hq => ?_⟩
        · intro a ha b hb
          simp at hb
          subst hb
          exact fun e => hns (e ▸ ha)
        · rcases List.mem_append.mp hq with hq | hq
          · exact List.mem_cons_of_mem _ (h.2 q hq)
          · simp at hq
            subst hq
            simp
      have i := ih (p :: requested) (sent ++ [p]) h'
      exact ⟨i.nodup, i.sent_requested, fun q hq => i.keeps q (List.mem_cons_of_mem _ hq),
        List.forall_mem_cons.mpr ⟨i.keeps _ (by simp), i.needed⟩⟩

/-- scheduler invariant: what went to the distributor has no duplicates, everything sent or cached has a `response` entry. -/
structure ReqInv (σ : Sess) : Prop where
  nodup : σ.sent.Nodup
  sent_requested : ∀ p ∈ σ.sent, p ∈ σ.requested
  cached_requested : ∀ p ∈ σ.cached, p ∈ σ.requested

theorem reqInv_step (σ σ' : Sess) (h : ReqInv σ) (hs : Step vec size σ σ') : ReqInv σ' := by
  obtain ⟨h1, h2, h3⟩ := h
  cases hs with
  | feedStage => exact ⟨h1, h2, h3⟩
  | feedSink => exact ⟨h1, h2, h3⟩
  | pipe stages' out req hp =>
    have i := addReqs_inv req σ.requested σ.sent ⟨h1, h2⟩
    exact ⟨i.nodup, i.sent_requested, fun p hp => i.keeps p (h3 p hp)⟩
  | deliver p hp => exact ⟨h1, h2, List.forall_mem_cons.mpr ⟨hp, h3⟩⟩
  | deliverIgnored => exact ⟨h1, h2, h3⟩

theorem reqInv_reach (groups : List Group) (sections : List Nat) (σ : Sess)
    (h : Reach vec size (initSess groups sections) σ) : ReqInv σ :=
  h.inv vec size (by refine ⟨?_, ?_, ?_⟩ <;> simp [initSess]) (reqInv_step vec size)

/-- all vectors of the groups `done` for the item's section have been delivered. -/
def Ready (cached : List (Nat × Nat)) (done : List Group) (x : Item) : Prop :=
  ∀ g ∈ done, ∀ b ∈ groupBits g, (b, x.1) ∈ cached

/-- every item waiting at a stage has passed all earlier stages with their vectors delivered. -/
def StagesReady (cached : List (Nat × Nat)) : List Group → List Stage → Prop
  | _, [] => True
  | done, st :: rest => (∀ x ∈ st.procq ++ st.inq, Ready cached done x) ∧ StagesReady cached (done ++ [st.group]) rest

theorem ready_mono {c c' : List (Nat × Nat)} (hc : ∀ p ∈ c, p ∈ c') {done : List Group} {x : Item} (h : Ready c done x) :
    Ready c' done x := fun g hg b hb => hc _ (h g hg b hb)

theorem stagesReady_mono {c c' : List (Nat × Nat)} (hc : ∀ p ∈ c, p ∈ c') (done : List Group) (stages : List Stage)
    (h : StagesReady c done stages) : StagesReady c' done stages := by
  induction stages generalizing done with
  | nil => trivial
  | cons st rest ih => exact ⟨fun x hx => ready_mono hc (h.1 x hx), ih _ h.2⟩

theorem stagesReady_of_empty (c : List (Nat × Nat)) (done : List Group) (stages : List Stage)
    (h : ∀ st ∈ stages, st.procq = [] ∧ st.inq = []) : StagesReady c done stages := by
  induction stages generalizing done with
  | nil => trivial
  | cons st rest ih =>
    obtain ⟨h1, h2⟩ := h st (by simp)
    exact ⟨fun x hx => by simp [h1, h2] at hx, ih _ (fun s hs => h s (by simp [hs]))⟩

theorem stageApply_section (g : Group) (x y : Item) (h : y ∈ (stageApply vec size g x).toList) : y.1 = x.1 := by
  obtain ⟨r, _, rfl⟩ := Option.map_eq_some_iff.mp (Option.mem_toList.mp h)
  rfl

theorem ready_snoc {c : List (Nat × Nat)} {done : List Group} {g : Group} {x y : Item} (hy : y.1 = x.1)
    (h : Ready c done x) (hall : ∀ b ∈ groupBits g, (b, x.1) ∈ c) : Ready c (done ++ [g]) y := by
  intro g' hg' b hb
  rw [hy]
  rcases List.mem_append.mp hg' with h1 | h1
  · exact h g' h1 b hb
  · obtain rfl := List.mem_singleton.mp h1
    exact hall b hb

theorem pipeStep_ready {cached : List (Nat × Nat)} {a b : List Stage} {out : List Item} {req : List (Nat × Nat)}
    (h : PipeStep vec size cached a b out req) (done : List Group) (hr : StagesReady cached done a) :
    StagesReady cached done b ∧ ∀ y ∈ out, Ready cached (done ++ a.map (·.group)) y := by
  induction h generalizing done with
  | sched st rest x q h =>
    refine ⟨⟨fun y hy => hr.1 y ?_, hr.2⟩, fun y hy => by cases hy⟩
    rw [h]
    simpa [List.append_assoc] using hy
  | procLast st x p h hall =>
    have hsub : ∀ y ∈ p ++ st.inq, y ∈ st.procq ++ st.inq := fun y hy => by rw [h]; exact List.mem_cons_of_mem _ hy
    have hx : Ready cached done x := hr.1 x (by rw [h]; simp)
    exact ⟨⟨fun y hy => hr.1 y (hsub y hy), trivial⟩, fun y hy => ready_snoc (stageApply_section vec size _ _ _ hy) hx hall⟩
  | procMid st nxt rest x p h hall =>
    have hsub : ∀ y ∈ p ++ st.inq, y ∈ st.procq ++ st.inq := fun y hy => by rw [h]; exact List.mem_cons_of_mem _ hy
    have hx : Ready cached done x := hr.1 x (by rw [h]; simp)
    refine ⟨⟨fun y hy => hr.1 y (hsub y hy), fun y hy => ?_, hr.2.2⟩, fun y hy => by cases hy⟩
    rw [← List.append_assoc] at hy
    rcases List.mem_append.mp hy with hy | hy
    · exact hr.2.1 y hy
    · exact ready_snoc (stageApply_section vec size _ _ _ hy) hx hall
  | deeper st rest rest' out req h ih =>
    obtain ⟨i1, i2⟩ := ih (done ++ [st.group]) hr.2
    exact ⟨⟨hr.1, i1⟩, fun y hy => by simpa [List.append_assoc] using i2 y hy⟩

/-- items wait only at stages whose predecessors had their vectors; everything at the sink had all of them. -/
structure ReadyInv (groups : List Group) (σ : Sess) : Prop where
  same_groups : σ.stages.map (·.group) = groups
  stages : StagesReady σ.cached [] σ.stages
  output : ∀ y ∈ σ.output, Ready σ.cached groups y

theorem readyInv_step (groups : List Group) (σ σ' : Sess) (h : ReadyInv groups σ) (hs : Step vec size σ σ') : ReadyInv groups σ' := by
  obtain ⟨hg, h1, h2⟩ := h
  cases hs with
  | feedStage s src st rest hsrc hst =>
    rw [hst] at hg h1
    refine ⟨hg, ⟨fun y hy => ?_, h1.2⟩, h2⟩
    rw [← List.append_assoc] at hy
    rcases List.mem_append.mp hy with hy | hy
    · exact h1.1 y hy
    · exact fun g hg => by cases hg
  | feedSink s src hsrc hst =>
    obtain rfl : groups = [] := by rw [hst] at hg; exact hg.symm
    exact ⟨hg, h1, fun y _ g hg => by cases hg⟩
  | pipe stages' out req hp =>
    obtain ⟨i1, i2⟩ := pipeStep_ready vec size hp [] h1
    refine ⟨by rw [pipeStep_groups vec size hp]; exact hg, i1, fun y hy => ?_⟩
    rcases List.mem_append.mp hy with hy | hy
    · exact h2 y hy
    · simpa [hg] using i2 y hy
  | deliver p hp =>
    have hc : ∀ q ∈ σ.cached, q ∈ p :: σ.cached := fun q hq => List.mem_cons_of_mem _ hq
    exact ⟨hg, stagesReady_mono hc [] _ h1, fun y hy => ready_mono hc (h2 y hy)⟩
  | deliverIgnored => exact ⟨hg, h1, h2⟩

theorem readyInv_reach (groups : List Group) (sections : List Nat) (σ : Sess)
    (h : Reach vec size (initSess groups sections) σ) : ReadyInv groups σ :=
  h.inv vec size
    ⟨(initSess_stages groups sections).1, stagesReady_of_empty _ _ _ (initSess_stages groups sections).2, fun y hy => by cases hy⟩
    (readyInv_step vec size groups)

/-- weighted number of items still on their way (weight = number of channel hops to the sink). -/
def stagesMu : List Stage → Nat
  | [] => 0
  | st :: rest => (2 * rest.length + 2) * st.inq.length + (2 * rest.length + 1) * st.procq.length + stagesMu rest

def Sess.mu (σ : Sess) : Nat := (2 * σ.stages.length + 1) * σ.source.length + stagesMu σ.stages

theorem pipeStep_mu {cached : List (Nat × Nat)} {a b : List Stage} {out : List Item} {req : List (Nat × Nat)}
    (h : PipeStep vec size cached a b out req) : stagesMu b < stagesMu a ∧ b.length = a.length := by
  induction h with
  | sched st rest x q h =>
    refine ⟨?_, rfl⟩
    simp only [stagesMu, h, List.length_append, List.length_cons, List.length_nil, Nat.mul_add, Nat.add_mul]
    omega
  | procLast st x p h hall =>
    refine ⟨?_, rfl⟩
    simp only [stagesMu, h, List.length_cons, List.length_nil, Nat.mul_add, Nat.add_mul]
    omega
  | procMid st nxt rest x p h hall =>
    refine ⟨?_, rfl⟩
    have hl : (stageApply vec size st.group x).toList.length ≤ 1 := by
      cases stageApply vec size st.group x <;> simp
    simp only [stagesMu, h, List.length_append, List.length_cons, Nat.mul_add, Nat.add_mul]
    generalize (stageApply vec size st.group x).toList.length = t at hl
    have : t = 0 ∨ t = 1 := by omega
    rcases this with rfl | rfl <;> simp only [Nat.mul_zero, Nat.mul_one] <;> omega
  | deeper st rest rest' out req h ih =>
    obtain ⟨i1, i2⟩ := ih
    refine ⟨?_, by simp [i2]⟩
    simp only [stagesMu, i2]
    omega

theorem feedStage_mu (σ : Sess) (s : Nat) (src : List Nat) (st : Stage) (rest : List Stage) (x : Item) (h : σ.source = s :: src)
    (hst : σ.stages = st :: rest) :
    ({ σ with source := src, stages := { st with inq := st.inq ++ [x] } :: rest } : Sess).mu < σ.mu := by
  simp only [Sess.mu, stagesMu, h, hst, List.length_append, List.length_cons, List.length_nil, Nat.mul_add, Nat.add_mul]
  omega

theorem feedSink_mu (σ : Sess) (s : Nat) (src : List Nat) (out : List Item) (h : σ.source = s :: src) (hst : σ.stages = []) :
    ({ σ with source := src, output := out } : Sess).mu < σ.mu := by
  simp only [Sess.mu, stagesMu, h, hst, List.length_cons, List.length_nil]
  omega

theorem pipe_mu {σ : Sess} {stages' : List Stage} {out : List Item} {req : List (Nat × Nat)}
    (hp : PipeStep vec size σ.cached σ.stages stages' out req) (o : List Item) (r t : List (Nat × Nat)) :
    ({ σ with stages := stages', output := o, requested := r, sent := t } : Sess).mu < σ.mu := by
  obtain ⟨i1, i2⟩ := pipeStep_mu vec size hp
  simp only [Sess.mu, i2]
  omega

/-- only a delivery changes `cached`. -/
theorem step_mu (σ σ' : Sess) (hs : Step vec size σ σ') :
    σ'.mu ≤ σ.mu ∧ (σ'.cached = σ.cached → σ' = σ ∨ σ'.mu < σ.mu) := by
  have lt {τ : Sess} (h : τ.mu < σ.mu) : τ.mu ≤ σ.mu ∧ (τ.cached = σ.cached → τ = σ ∨ τ.mu < σ.mu) :=
    ⟨Nat.le_of_lt h, fun _ => .inr h⟩
  cases hs with
  | feedStage s src st rest h hst => exact lt (feedStage_mu σ s src st rest _ h hst)
  | feedSink s src h hst => exact lt (feedSink_mu σ s src _ h hst)
  | pipe stages' out req hp => exact lt (pipe_mu vec size hp _ _ _)
  | deliver p hp => exact ⟨Nat.le_refl _, fun h => absurd h (List.cons_ne_self _ _)⟩
  | deliverIgnored => exact ⟨Nat.le_refl _, fun _ => .inl rfl⟩

def ProcRequested (requested : List (Nat × Nat)) (stages : List Stage) : Prop :=
  ∀ st ∈ stages, ∀ x ∈ st.procq, ∀ b ∈ groupBits st.group, (b, x.1) ∈ requested

theorem pipeStep_procRequested {cached : List (Nat × Nat)} {a b : List Stage} {out : List Item} {req : List (Nat × Nat)}
    (h : PipeStep vec size cached a b out req) (r : List (Nat × Nat)) (hr : ProcRequested r a) (hreq : ∀ p ∈ req, p ∈ r) :
    ProcRequested r b := by
  induction h with
  | sched st rest x q h =>
    refine List.forall_mem_cons.mpr ⟨fun y hy b hb => ?_, fun s hs => hr s (List.mem_cons_of_mem _ hs)⟩
    rcases List.mem_append.mp hy with hy | hy
    · exact hr st (by simp) y hy b hb
    · obtain rfl := List.mem_singleton.mp hy
      exact hreq _ (List.mem_map.mpr ⟨b, hb, rfl⟩)
  | procLast st x p h hall =>
    exact List.forall_mem_cons.mpr ⟨fun y hy => hr st (by simp) y (by rw [h]; exact List.mem_cons_of_mem _ hy), fun s hs => by cases hs⟩
  | procMid st nxt rest x p h hall =>
    exact List.forall_mem_cons.mpr ⟨fun y hy => hr st (by simp) y (by rw [h]; exact List.mem_cons_of_mem _ hy),
      List.forall_mem_cons.mpr ⟨hr nxt (by simp), fun s hs => hr s (by simp [hs])⟩⟩
  | deeper st rest rest' out req h ih =>
    exact List.forall_mem_cons.mpr ⟨hr st (by simp), ih (fun s hs => hr s (by simp [hs])) hreq⟩

theorem procRequested_reach (groups : List Group) (sections : List Nat) (σ : Sess)
    (h : Reach vec size (initSess groups sections) σ) : ProcRequested σ.requested σ.stages := by
  refine (h.inv vec size (P := fun σ => ReqInv σ ∧ ProcRequested σ.requested σ.stages)
    ⟨reqInv_reach vec size _ _ _ .refl, ?_⟩ ?_).2
  · intro st hst x hx
    rw [((initSess_stages groups sections).2 st hst).1] at hx
    cases hx
  · intro σ σ' ⟨hreq, ih⟩ hs
    refine ⟨reqInv_step vec size σ σ' hreq hs, ?_⟩
    cases hs with
    | feedStage s src st rest h hst =>
      rw [hst] at ih
      exact List.forall_mem_cons.mpr ⟨ih st (by simp), fun s hs => ih s (by simp [hs])⟩
    | feedSink => exact ih
    | pipe stages' out req hp =>
      have i := addReqs_inv req σ.requested σ.sent ⟨hreq.nodup, hreq.sent_requested⟩
      exact pipeStep_procRequested vec size hp _ (fun st hst x hx b hb => i.keeps _ (ih st hst x hx b hb)) i.needed
    | deliver => exact ih
    | deliverIgnored => exact ih

theorem pipeStep_exists (cached : List (Nat × Nat)) (stages : List Stage)
    (hne : ¬ ∀ st ∈ stages, st.procq = [] ∧ st.inq = [])
    (hready : ProcRequested cached stages) :
    ∃ b out req, PipeStep vec size cached stages b out req := by
  induction stages with
  | nil => exact absurd (fun _ h => by cases h) hne
  | cons st rest ih =>
    cases hi : st.inq with
    | cons x q => exact ⟨_, _, _, PipeStep.sched st rest x q hi⟩
    | nil =>
      cases hp : st.procq with
      | cons x p =>
        have hall := hready st (by simp) x (by rw [hp]; simp)
        cases rest with
        | nil => exact ⟨_, _, _, PipeStep.procLast st x p hp hall⟩
        | cons nxt rest' => exact ⟨_, _, _, PipeStep.procMid st nxt rest' x p hp hall⟩
      | nil =>
        obtain ⟨b, out, req, hstep⟩ := ih (fun hall => hne (List.forall_mem_cons.mpr ⟨⟨hp, hi⟩, hall⟩))
          (fun s hs => hready s (by simp [hs]))
        exact ⟨_, _, _, PipeStep.deeper st rest b out req hstep⟩

theorem session_progress (groups : List Group) (sections : List Nat) (σ : Sess)
    (h : Reach vec size (initSess groups sections) σ) (hdel : ∀ p ∈ σ.requested, p ∈ σ.cached) :
    σ.final ∨ ∃ σ', Step vec size σ σ' ∧ σ'.mu < σ.mu := by
  cases hsrc : σ.source with
  | cons s src =>
    cases hst : σ.stages with
    | nil => exact Or.inr ⟨_, Step.feedSink σ s src hsrc hst, feedSink_mu σ s src _ hsrc hst⟩
    | cons st rest => exact Or.inr ⟨_, Step.feedStage σ s src st rest hsrc hst, feedStage_mu σ s src st rest _ hsrc hst⟩
  | nil =>
    by_cases hfin : ∀ st ∈ σ.stages, st.procq = [] ∧ st.inq = []
    · exact Or.inl ⟨hsrc, hfin⟩
    · have hpr := procRequested_reach vec size groups sections σ h
      obtain ⟨b, out, req, hstep⟩ := pipeStep_exists vec size σ.cached σ.stages hfin
        (fun st hst x hx bit hb => hdel _ (hpr st hst x hx bit hb))
      exact Or.inr ⟨_, Step.pipe σ b out req hstep, pipe_mu vec size hstep _ _ _⟩

end Aqv.LogFilter
