/-
  Aqv.Lemmas.ChainWorld — a decidable sufficient condition for `World` (used for the non-vacuity examples and evaluated
  by the model driver on every generated tree), and the derivation of the property as stated from the invariant: the
  clauses read against the header head (`InvK.spec`), `SpecInv` from `Inv`, and `SpecLag` from `GInv`.
-/
import Aqv.Lemmas.ChainK
namespace Aqv.Chain

theorem mapOf_id {bs : List Blk} {k : Nat} {x : Blk} (h : mapOf bs k = some x) : x.id = k ∧ x ∈ bs := by
  unfold mapOf at h
  have h1 := List.find?_some h
  have h2 := List.mem_of_find?_eq_some h
  simp at h1
  exact ⟨h1, h2⟩

theorem path_prefix_ancestry {U : Map Blk} {x c : Blk} {l : List Blk} (h : Path U x l c) :
    ∀ f, l.length ≤ f → ∃ r, ancestry U f x = l ++ r := by
  induction h with
  | nil x => intro f _; exact ⟨_, rfl⟩
  | cons hp _ ih =>
    intro f hf
    cases f with
    | zero => simp at hf
    | succ f =>
      obtain ⟨r, hr⟩ := ih f (by simp at hf; omega)
      refine ⟨r, ?_⟩
      simp only [ancestry, hp, hr, List.cons_append]

theorem world_of_check {bs : List Blk} (h : worldCheck bs = true) : World (mapOf bs) where
  ids := fun k x hx => (mapOf_id hx).1
  diffPos := by
    intro k x hx hn
    have hmem := (mapOf_id hx).2
    unfold worldCheck at h
    have := (List.all_eq_true.mp h) x hmem
    simp only [Bool.and_eq_true, Bool.or_eq_true, beq_iff_eq, decide_eq_true_eq] at this
    rcases this.1 with h0 | h0
    · exact absurd h0 hn
    · exact h0
  nodup := by
    intro k x l c hx hp
    have hmem := (mapOf_id hx).2
    unfold worldCheck at h
    have := (List.all_eq_true.mp h) x hmem
    simp only [Bool.and_eq_true, decide_eq_true_eq] at this
    obtain ⟨r, hr⟩ := path_prefix_ancestry hp (x.number + 1) (by have := hp.number; omega)
    have hnd := this.2
    rw [hr, List.flatMap_append] at hnd
    exact (List.nodup_append.mp hnd).1

theorem up_path {store : Map Blk} (hid : ∀ k x, store k = some x → x.id = k) {x y : Blk} {l : List Blk}
    (h : Path store x l y) (hx : store x.id = some x) :
    ∀ k z, (l ++ [y])[k]? = some z → up store k x.id = some z := by
  induction h with
  | nil x =>
    intro k z hz
    cases k with
    | zero => simp at hz; subst hz; simpa [up] using hx
    | succ k => simp at hz
  | cons hp _ ih =>
    rename_i x p l y
    intro k z hz
    have h1 := (parentOf_some hp).1
    have hpid := hid _ _ h1
    cases k with
    | zero => simp at hz; subst hz; simpa [up] using hx
    | succ k =>
      simp at hz
      simp only [up, hx]
      rw [← hpid]
      exact ih (by rw [hpid]; exact h1) k z hz

theorem IdxC.below {U H : Map Blk} (W : World U) {g : Blk} {canon : Map Nat} {hh : Blk} {HC : List Blk}
    (h : IdxC U H g canon hh HC) {n : Nat} (hn : n ≤ hh.number) :
    ∃ x ∈ HC ++ [g], up H (hh.number - n) hh.id = some x ∧ x.number = n ∧ canon n = some x.id := by
  obtain ⟨z, hz, hzn⟩ := h.path.atNumber n (by rw [h.genNum]; omega) hn
  have hzmem : z ∈ HC ++ [g] := List.mem_of_getElem? hz
  exact ⟨z, hzmem, up_path (h.storeIds W) h.path h.headStored _ _ hz, hzn, (h.canon _ _).mpr ⟨z, hzmem, hzn, rfl⟩⟩

/-- the clauses that the two readings of C03 (`SpecInv`, `SpecLag`) share, read against the header head -/
theorem InvK.spec {U : Map Blk} (W : World U) {s : St} {hh : Blk} {HC : List Blk} (h : InvK U s hh HC) :
    (∀ n, n ≤ hh.number → ∃ x, up s.store (hh.number - n) hh.id = some x ∧ x.number = n ∧ s.canon n = some x.id ∧
      s.receipts x.id = true ∧ (s.td x.id).isSome = true) ∧
    (∀ n, hh.number < n → s.canon n = none) ∧
    (∀ t l, s.lookup t = some l ↔
      (s.canon l.num = some l.blk ∧ ∃ x, s.store l.blk = some x ∧ x.txs[l.idx]? = some t)) := by
  have hI := h.il.idx
  refine ⟨fun n hn => ?_, hI.canonAbove, fun t l => ?_⟩
  · obtain ⟨z, hzm, hup, hzn, hzc⟩ := hI.below W hn
    exact ⟨z, hup, hzn, hzc, h.seenRcpt _ (h.canonSeen z hzm), h.storeTd _ _ (hI.chainStored W z hzm)⟩
  · rw [h.il.lookup]
    constructor
    · rintro ⟨x, hx, hxi, hxn, hxt⟩
      exact ⟨(hI.canon _ _).mpr ⟨x, hx, hxn, hxi⟩, x, by rw [← hxi]; exact hI.chainStored W x hx, hxt⟩
    · rintro ⟨hc, x, hxs, hxt⟩
      obtain ⟨y, hy, hyn, hyi⟩ := (hI.canon _ _).mp hc
      have := hI.chainStored W y hy
      rw [hyi, hxs] at this
      cases this
      exact ⟨x, hy, hyi, hyn, hxt⟩

/-- the invariant with a lagging block head implies the statement read with the header head as "the head" -/
theorem spec_of_ginv {U : Map Blk} (W : World U) {s : St} (h : GInv U s) : SpecLag s := by
  obtain ⟨hh, HC, hG⟩ := h
  have hI := hG.k.il.idx
  have hhs : s.store s.hhead = some hh := by rw [hG.k.il.hhead]; exact hI.headStored
  obtain ⟨hbelow, habove, hlookup⟩ := hG.k.spec W
  obtain ⟨cb, hcbm, hcbid, hcbs⟩ := hG.headStored W
  obtain ⟨fb, hfbm, hfid⟩ := hG.fheadOn
  refine ⟨⟨hh, hhs⟩, ?_, ?_, hlookup, cb, fb, hcbs, ?_, hG.headState, ?_, ?_⟩
  · intro hb' hhb' n hn
    rw [hhs] at hhb'; cases hhb'
    rw [hG.k.il.hhead]; exact hbelow n hn
  · intro hb' hhb' n hn
    rw [hhs] at hhb'; cases hhb'
    exact habove n hn
  · rw [hcbid]; exact (hI.canon _ _).mpr ⟨cb, hcbm, rfl, rfl⟩
  · rw [hfid]; exact hI.chainStored W fb hfbm
  · rw [hfid]; exact (hI.canon _ _).mpr ⟨fb, hfbm, rfl, rfl⟩

theorem specInv_of_specLag {s : St} (h : SpecLag s) (h1 : s.hhead = s.head) (h2 : s.fhead = s.head) : SpecInv s := by
  obtain ⟨cb, fb, hcb, _, _, _, _⟩ := h.heads
  refine ⟨⟨cb, hcb, h1, h2⟩, ?_, ?_, h.lookup⟩
  · intro hb hhb n hn
    have := h.below hb (by rw [h1]; exact hhb) n hn
    rw [h1] at this
    exact this
  · intro hb hhb n hn
    exact h.above hb (by rw [h1]; exact hhb) n hn

/-- the invariant implies C03 as stated -/
theorem spec_of_inv {U : Map Blk} (W : World U) {s : St} (h : Inv U s) : SpecInv s := by
  obtain ⟨hb, C, hI⟩ := h
  exact specInv_of_specLag (spec_of_ginv W ⟨hb, C, hI.toG W⟩) hI.hheadEq hI.fheadEq

end Aqv.Chain
