/-
  The Go-shaped Stream machine (Aqv.Model.RlpStream) against the strict decoders of Aqv.Model.Rlp, which see `win s`: the bytes
  the next value may use (the rest of the innermost list extent, at top level of the input budget).  `Ready` is the invariant
  between operations, `Step s k s'` says that `k` bytes were consumed.  Of an operation and its reader on bytes two halves are
  proved: the reader accepts `(a, rest)` → the operation returns `a` and leaves the stream `ReadTo` `rest`; the reader rejects →
  the operation fails.  What they say of `alloc` and of the error differs with the operation, so they have no common form.
  `sim` simulates `decItem`/`decList` from any ready, re-armed (`kind = none`) state; the entry points are instances of it.
-/
import Aqv.Lemmas.RlpTypedPrim
import Aqv.Model.RlpStream
namespace Aqv.RlpStream
open Aqv Aqv.Rlp

def avail (s : St) : Nat :=
  match s.stack with
  | (p, z) :: _ => z - p
  | [] => s.remaining

def bump (k : Nat) : List (Nat × Nat) → List (Nat × Nat)
  | (p, z) :: tl => (p + k, z) :: tl
  | [] => []

def win (s : St) : Bytes := s.inp.take (avail s)

structure Ready (s : St) : Prop where
  lim : s.limited = true
  rem : s.remaining = s.inp.length
  top : ∀ p z tl, s.stack = (p, z) :: tl → p ≤ z ∧ z - p ≤ s.remaining

structure Step (s : St) (k : Nat) (s' : St) : Prop where
  inp : s'.inp = s.inp.drop k
  rem : s'.remaining = s.remaining - k
  lim : s'.limited = s.limited
  stack : s'.stack = bump k s.stack

theorem avail_le_rem (s : St) (h : Ready s) : avail s ≤ s.remaining := by
  unfold avail
  split
  · rename_i p z tl hs; exact (h.top p z tl hs).2
  · exact Nat.le_refl _

theorem avail_le (s : St) (h : Ready s) : avail s ≤ s.inp.length := h.rem ▸ avail_le_rem s h

theorem win_length (s : St) (h : Ready s) : (win s).length = avail s := by
  unfold win
  rw [List.length_take]
  exact Nat.min_eq_left (avail_le s h)

theorem win_take (s : St) (n : Nat) (hn : n ≤ avail s) : (win s).take n = s.inp.take n := by
  unfold win
  rw [List.take_take, Nat.min_eq_left hn]

theorem win_top (s : St) (h : Ready s) (hst : s.stack = []) : win s = s.inp := by
  simp only [win, avail, hst, h.rem, List.take_length]

theorem step_ready {s s' : St} {k : Nat} (h : Ready s) (hk : k ≤ avail s) (st : Step s k s') : Ready s' := by
  have ha := avail_le s h
  constructor
  · rw [st.lim, h.lim]
  · rw [st.rem, st.inp, h.rem, List.length_drop]
  · intro p z tl hs
    rw [st.stack] at hs
    rw [st.rem]
    cases hst : s.stack with
    | nil => rw [hst] at hs; simp [bump] at hs
    | cons a tl' =>
      obtain ⟨p0, z0⟩ := a
      rw [hst] at hs
      simp only [bump, List.cons.injEq, Prod.mk.injEq] at hs
      obtain ⟨⟨hp, hz⟩, _⟩ := hs
      have := h.top p0 z0 tl' hst
      simp only [avail, hst] at hk
      omega

theorem step_avail {s s' : St} {k : Nat} (st : Step s k s') : avail s' = avail s - k := by
  unfold avail
  rw [st.stack, st.rem]
  cases s.stack with
  | nil => simp [bump]
  | cons a tl => obtain ⟨p, z⟩ := a; simp only [bump]; omega

theorem step_win {s s' : St} {k : Nat} (st : Step s k s') : win s' = (win s).drop k := by
  unfold win
  rw [step_avail st, st.inp, List.drop_take]

theorem step_refl (s : St) : Step s 0 s := ⟨by simp, by simp, rfl, by cases s.stack <;> simp [bump]⟩

theorem bump_bump (a b : Nat) (st : List (Nat × Nat)) : bump b (bump a st) = bump (a + b) st := by
  cases st with
  | nil => rfl
  | cons x tl => obtain ⟨p, z⟩ := x; simp [bump, Nat.add_assoc]

theorem step_trans {s s1 s2 : St} {a b : Nat} (h1 : Step s a s1) (h2 : Step s1 b s2) : Step s (a + b) s2 := by
  constructor
  · rw [h2.inp, h1.inp, List.drop_drop]
  · rw [h2.rem, h1.rem]; omega
  · rw [h2.lim, h1.lim]
  · rw [h2.stack, h1.stack, bump_bump]

/-- the reader position, all that `Ready`, `Step`, `avail` and `win` look at: not what `Kind` caches, nor the ghost `alloc`. -/
def pos (s : St) : Bytes × Nat × Bool × List (Nat × Nat) := (s.inp, s.remaining, s.limited, s.stack)

theorem Ready.of_pos {s t : St} (h : Ready s) (hp : pos t = pos s) : Ready t := by
  simp only [pos, Prod.mk.injEq] at hp
  obtain ⟨hi, hr, hl, hs⟩ := hp
  exact ⟨hl ▸ h.lim, by rw [hr, hi]; exact h.rem, fun p z tl e => by rw [hr]; exact h.top p z tl (hs ▸ e)⟩

theorem Step.of_pos {s s' t t' : St} {k : Nat} (st : Step s k t) (hs : pos s' = pos s) (ht : pos t' = pos t) :
    Step s' k t' := by
  simp only [pos, Prod.mk.injEq] at hs ht
  obtain ⟨hi, hr, hl, hk⟩ := hs
  obtain ⟨hi', hr', hl', hk'⟩ := ht
  exact ⟨by rw [hi', hi]; exact st.inp, by rw [hr', hr]; exact st.rem, by rw [hl', hl]; exact st.lim,
    by rw [hk', hk]; exact st.stack⟩

theorem step_drop {s s1 s2 : St} {r : Bytes} {n : Nat} (hr : Ready s) (h1 : Step s ((win s).length - r.length) s1)
    (hr1 : Ready s1) (hw : r = win s1) (h2 : Step s1 n s2) (hn : n ≤ r.length) :
    Step s ((win s).length - (r.drop n).length) s2 ∧ r.drop n = win s2 ∧
      n ≤ (win s).length - (r.drop n).length := by
  have ha1 := step_avail h1
  rw [← win_length s1 hr1, ← hw, ← win_length s hr] at ha1
  have : (win s).length - (r.drop n).length = (win s).length - r.length + n := by
    rw [List.length_drop]; omega
  rw [this, step_win h2, ← hw]
  exact ⟨step_trans h1 h2, rfl, by omega⟩

/-- errors that end a decode for good (EOL only ends a list, io.EOF a stream); `sim` needs it of an element's error. -/
structure Hard (e : SErr) : Prop where
  ne_eol : e ≠ .eol
  ne_eof : e ≠ .eof
  ne_fuel : e ≠ .fuel

/-- what an operation returns when its `Kind()` rejects the header. -/
def Fails {α : Type} (s : St) (r : R α) : Prop := ∃ e s', r = (.error e, s') ∧ Hard e ∧ s'.alloc = s.alloc

/-- ErrValueTooLarge against the input budget, ErrElemTooLarge in a list. -/
def tooLarge (s : St) : SErr := if s.stack.isEmpty then .valueTooLarge else .elemTooLarge

theorem hard_tooLarge (s : St) : Hard (tooLarge s) := by
  unfold tooLarge; split <;> exact ⟨nofun, nofun, nofun⟩

theorem hard_canonSize : Hard .canonSize := ⟨nofun, nofun, nofun⟩

/-- what `readByte`, `readFull` and `readUint` leave when they succeed. -/
def after (k : Nat) (s : St) : St :=
  { s with kind := none, stack := bump k s.stack, remaining := s.remaining - k, inp := s.inp.drop k }

theorem after_step (k : Nat) (s : St) : Step s k (after k s) := ⟨rfl, rfl, rfl, rfl⟩

theorem willRead_eq (n : Nat) (s : St) (h : Ready s) :
    willRead n s = if avail s < n then (.error (tooLarge s), { s with kind := none })
      else (.ok (), { s with kind := none, stack := bump n s.stack, remaining := s.remaining - n }) := by
  have hl := h.lim
  have hr := avail_le_rem s h
  unfold willRead
  cases hst : s.stack with
  | nil => simp only [avail, hst] at hr ⊢; split <;> simp_all [tooLarge, bump]
  | cons a tl =>
    obtain ⟨p, z⟩ := a
    simp only [avail, hst] at hr ⊢
    split
    · simp_all [tooLarge]
    · have : ¬ n > s.remaining := by omega
      simp_all [bump]

theorem readFull_ok (n : Nat) (s : St) (h : Ready s) (hn : n ≤ avail s) :
    readFull n s = (.ok (s.inp.take n), after n s) := by
  have ha := avail_le s h
  unfold readFull
  rw [willRead_eq n s h, if_neg (by omega)]
  have : ¬ s.inp.length < n := by omega
  simp [this, after]

theorem readFull_err (n : Nat) (s : St) (h : Ready s) (hn : avail s < n) :
    readFull n s = (.error (tooLarge s), { s with kind := none }) := by
  unfold readFull
  rw [willRead_eq n s h, if_pos hn]

theorem readFull_short (n : Nat) (s : St) (h : Ready s) (hn : avail s < n) : Fails s (readFull n s) :=
  ⟨_, _, readFull_err n s h hn, hard_tooLarge s, rfl⟩

theorem readByte_ok (s : St) (h : Ready s) (hn : 1 ≤ avail s) (b : UInt8) (r : Bytes) (hi : s.inp = b :: r) :
    readByte s = (.ok b, after 1 s) := by
  unfold readByte
  rw [willRead_eq 1 s h, if_neg (by omega)]
  simp [hi, after]

theorem readByte_empty (s : St) (h : Ready s) (hn : avail s = 0) :
    readByte s = (.error (tooLarge s), { s with kind := none }) := by
  unfold readByte
  rw [willRead_eq 1 s h, if_pos (by omega)]

/-- this `readUint` is the machine's `readUint(size)` behind the long-form sizes; the machine twin of `Rlp.readUint` is `uint`. -/
theorem readUint_short (ll : Nat) (hll : 1 ≤ ll) (s : St) (h : Ready s) (hlt : avail s < ll) :
    Fails s (readUint ll s) := by
  match ll, hll with
  | 1, _ =>
    exact ⟨_, { s with kind := none }, by simp only [readUint, readByte_empty s h (by omega)], hard_tooLarge s, rfl⟩
  | n+2, _ =>
    obtain ⟨e, s', hr, he, hal⟩ := readFull_short (n+2) s h hlt
    exact ⟨e, s', by simp only [readUint, hr], he, hal⟩

theorem readUint_ok (ll : Nat) (hll : 1 ≤ ll) (s : St) (h : Ready s) (hle : ll ≤ avail s) :
    readUint ll s =
      (match s.inp.take ll with
       | b0 :: _ :: _ => if b0 = 0 then .error .canonSize else .ok (beNat (s.inp.take ll))
       | l => .ok (beNat l), after ll s) := by
  have ha := avail_le s h
  match ll, hll with
  | 1, _ =>
    cases hi : s.inp with
    | nil => rw [hi] at ha; simp at ha; omega
    | cons b r => simp [readUint, readByte_ok s h hle b r hi, beNat]
  | n+2, _ =>
    have hrf := readFull_ok (n+2) s h hle
    match hi : s.inp with
    | [] | [_] => simp [hi] at ha; omega
    | b :: x :: r =>
      rw [hi] at hrf
      simp only [readUint, hrf, List.take_succ_cons]
      split <;> rfl

def hdKind : Hd → K
  | .byte .. => .byte
  | .str .. => .string
  | .list .. => .list
def hdSize : Hd → Nat
  | .byte .. => 0
  | .str n _ => n
  | .list n _ => n
def hdRest : Hd → Bytes
  | .byte _ r => r
  | .str _ r => r
  | .list _ r => r
def hdByte : Hd → UInt8
  | .byte x _ => x
  | _ => 0

/-- what a successful `Kind()` leaves on a window that starts with the header `hd`. -/
structure Cached (s : St) (hd : Hd) (s' : St) : Prop where
  step : Step s ((win s).length - (hdRest hd).length) s'
  ready : Ready s'
  win : hdRest hd = win s'
  kind : s'.kind = some (hdKind hd)
  size : s'.size = hdSize hd
  byteval : s'.byteval = hdByte hd
  err : s'.kinderr = none
  alloc : s'.alloc = s.alloc

theorem Cached.avail {s s' : St} {hd : Hd} (hc : Cached s hd s') : avail s' = (hdRest hd).length := by
  rw [← win_length s' hc.ready, ← hc.win]

theorem Cached.take {s s' : St} {hd : Hd} (hc : Cached s hd s') {n : Nat} (hn : n ≤ (hdRest hd).length) :
    s'.inp.take n = (hdRest hd).take n := by
  rw [hc.win, win_take s' n (hc.avail ▸ hn)]

/-- `r` is `Kind()`'s answer on a window that starts with the header `hd`. -/
structure Answers (s : St) (r : R (K × Nat)) (hd : Hd) : Prop where
  fails : (hdRest hd).length < hdSize hd → Fails s r
  cached : hdSize hd ≤ (hdRest hd).length → ∃ s', r = (.ok (hdKind hd, hdSize hd), s') ∧ Cached s hd s'

theorem win_cons {s t : St} (st : Step s 1 t) (b : UInt8) (r : Bytes) (hi : s.inp = b :: r) (ha : 1 ≤ avail s) :
    win s = b :: win t := by
  rw [step_win st]
  unfold win
  obtain ⟨a, ha'⟩ : ∃ a, avail s = a + 1 := ⟨avail s - 1, by omega⟩
  rw [hi, ha']; rfl

def afterTag (s : St) : St := { after 1 s with byteval := 0 }

theorem afterTag_step (s : St) : Step s 1 (afterTag s) := ⟨rfl, rfl, rfl, rfl⟩

/-- the two long-form branches of `readKind`, which differ in the kind only. -/
def longForm (k : K) (ll : Nat) (s : St) : (K × Nat × Option SErr) × St :=
  match readUint ll s with
  | (.ok size, s) => ((k, size, if size < 56 then some .canonSize else none), s)
  | (.error e, s) => ((k, 0, some e), s)

theorem readKind_tag (s : St) (h : Ready s) (ha : 1 ≤ avail s) (b : UInt8) (r : Bytes) (hi : s.inp = b :: r) :
    readKind s =
      if b.toNat < 0x80 then ((.byte, 0, none), { afterTag s with byteval := b })
      else if b.toNat < 0xB8 then ((.string, b.toNat - 0x80, none), afterTag s)
      else if b.toNat < 0xC0 then longForm .string (b.toNat - 0xB7) (afterTag s)
      else if b.toNat < 0xF8 then ((.list, b.toNat - 0xC0, none), afterTag s)
      else longForm .list (b.toNat - 0xF7) (afterTag s) := by
  have lt (k : UInt8) : (b < k) = (b.toNat < k.toNat) := propext UInt8.lt_iff_toNat_lt
  simp only [readKind, readByte_ok s h ha b r hi, longForm, afterTag]
  -- the `match`es of `longForm` and of `readKind` are different terms: compare them on a generalised `readUint _ _`
  refine ite_congr (lt _) (fun _ => rfl) fun _ => ite_congr (lt _) (fun _ => rfl) fun _ =>
    ite_congr (lt _) (fun _ => ?_) fun _ => ite_congr (lt _) (fun _ => rfl) fun _ => ?_
  all_goals rcases readUint _ _ with ⟨_ | _, _⟩ <;> rfl

/-- on a ready state both forms of the size check of `Kind` compare the size with `avail t`. -/
theorem kindFresh_eq {s t : St} {k : K} {n : Nat} (hrk : readKind s = ((k, n, none), t)) (ht : Ready t)
    (hemp : t.stack.isEmpty = s.stack.isEmpty) :
    kindFresh s =
      if avail t < n then (.error (tooLarge s), { t with kind := some k, size := n, kinderr := some (tooLarge s) })
      else (.ok (k, n), { t with kind := some k, size := n, kinderr := none }) := by
  have hl := ht.lim
  cases hst : t.stack with
  | nil =>
    have hse : s.stack.isEmpty = true := by rw [← hemp, hst]; rfl
    simp only [avail, hst]
    by_cases hlt : t.remaining < n <;> simp [kindFresh, hrk, hse, hst, hl, hlt, cached, tooLarge]
  | cons a tl =>
    obtain ⟨p, z⟩ := a
    have hse : s.stack.isEmpty = false := by rw [← hemp, hst]; rfl
    simp only [avail, hst]
    by_cases hlt : z - p < n <;> simp [kindFresh, hrk, hse, hst, hlt, cached, tooLarge]

theorem kindFresh_ok {s t : St} {h : Nat} (hd : Hd) (hr : Ready s) (st : Step s h t) (hh : h ≤ avail s)
    (hrk : readKind s = ((hdKind hd, hdSize hd, none), t)) (hw : hdRest hd = win t) (hb : t.byteval = hdByte hd)
    (hal : t.alloc = s.alloc) : Answers s (kindFresh s) hd := by
  have ht : Ready t := step_ready hr hh st
  have hav : (hdRest hd).length = avail t := by rw [hw, win_length t ht]
  have hemp : t.stack.isEmpty = s.stack.isEmpty := by rw [st.stack]; cases s.stack <;> rfl
  have hk := kindFresh_eq hrk ht hemp
  have hlen : (win s).length - (hdRest hd).length = h := by
    rw [hav, step_avail st, win_length s hr]; omega
  constructor
  · intro hlt
    rw [if_pos (hav ▸ hlt)] at hk
    exact ⟨_, _, hk, hard_tooLarge s, hal⟩
  · intro hle
    rw [if_neg (by omega)] at hk
    exact ⟨_, hk, by rw [hlen]; exact st.of_pos rfl rfl, ht.of_pos rfl, hw, rfl, rfl, hb, rfl, hal⟩

theorem longForm_spec (k : K) (ll : Nat) (hll : 1 ≤ ll) (t : St) (ht : Ready t) :
    match readSize ll (win t) with
    | .ok (n, rest) => longForm k ll t = ((k, n, none), after ll t) ∧ ll ≤ avail t ∧ rest = win (after ll t)
    | .error _ => ∃ n e t', longForm k ll t = ((k, n, some e), t') ∧ Hard e ∧ t'.alloc = t.alloc := by
  have hc := hard_canonSize
  unfold readSize longForm
  rw [win_length t ht]
  by_cases hlt : avail t < ll
  · obtain ⟨e, t', hr, he, hal⟩ := readUint_short ll hll t ht hlt
    rw [if_pos hlt, hr]
    exact ⟨0, e, t', rfl, he, hal⟩
  · have hle : ll ≤ avail t := by omega
    have hlen : (t.inp.take ll).length = ll := by
      rw [List.length_take]; exact Nat.min_eq_left (Nat.le_trans hle (avail_le t ht))
    rw [if_neg hlt, readUint_ok ll hll t ht hle, win_take t ll hle]
    have hw := step_win (after_step ll t)
    match hlb : t.inp.take ll with
    | [] => rw [hlb] at hlen; simp at hlen; omega
    | [b0] =>
      by_cases h56 : beNat [b0] < 56
      · by_cases hb0 : b0 = 0 <;> simp only [hb0, h56, if_true, if_false] <;> exact ⟨_, _, _, rfl, hc, rfl⟩
      · have hb0 : b0 ≠ 0 := by rintro rfl; exact h56 (by decide)
        simp only [hb0, h56, if_false]
        exact ⟨trivial, hle, hw.symm⟩
    | b0 :: x :: tl =>
      by_cases hb0 : b0 = 0
      · simp only [hb0, if_true]; exact ⟨_, _, _, rfl, hc, rfl⟩
      · by_cases h56 : beNat (b0 :: x :: tl) < 56
        · simp only [hb0, h56, if_true, if_false]; exact ⟨_, _, _, rfl, hc, rfl⟩
        · simp only [hb0, h56, if_false]
          exact ⟨trivial, hle, hw.symm⟩

/-- `mk` is the header that `readHead` builds from the size (`.str` or `.list`). -/
theorem kindFresh_long {s : St} (hr : Ready s) (ha : 1 ≤ avail s) (k : K) (ll : Nat) (mk : Nat → Bytes → Hd)
    (hll : 1 ≤ ll) (hrk : readKind s = longForm k ll (afterTag s))
    (hmk : ∀ n rest, hdKind (mk n rest) = k ∧ hdSize (mk n rest) = n ∧ hdRest (mk n rest) = rest ∧
      hdByte (mk n rest) = 0) :
    match (match readSize ll (win (afterTag s)) with
           | .ok (n, rest) => Except.ok (mk n rest)
           | .error e => .error e) with
    | .ok hd => Answers s (kindFresh s) hd
    | .error _ => Fails s (kindFresh s) := by
  have st := afterTag_step s
  have hl := longForm_spec k ll hll (afterTag s) (step_ready hr ha st)
  cases hrs : readSize ll (win (afterTag s)) with
  | error e =>
    rw [hrs] at hl
    obtain ⟨n, e', t', hl, he, hal⟩ := hl
    exact ⟨e', { t' with kind := some k, size := n, kinderr := some e' },
      by simp [kindFresh, hrk.trans hl, cached], he, hal⟩
  | ok p =>
    rw [hrs] at hl
    obtain ⟨hl, hle, hw⟩ := hl
    obtain ⟨hK, hS, hR, hB⟩ := hmk p.1 p.2
    have := step_avail st
    refine kindFresh_ok (mk p.1 p.2) hr (step_trans st (after_step ll _)) (by omega) ?_ (hR.trans hw) hB.symm rfl
    rw [hK, hS]; exact hrk.trans hl

theorem kindFresh_spec (s : St) (hr : Ready s) (ha : 1 ≤ avail s) :
    match readHead (win s) with
    | .ok hd => Answers s (kindFresh s) hd
    | .error _ => Fails s (kindFresh s) := by
  have hal := avail_le s hr
  match hi : s.inp with
  | [] => rw [hi] at hal; simp at hal; omega
  | b :: r =>
    have st := afterTag_step s
    have hrk := readKind_tag s hr ha b r hi
    rw [win_cons st b r hi ha, readHead_cons]
    by_cases h1 : b.toNat < 0x80
    · rw [if_pos h1] at hrk ⊢
      exact kindFresh_ok (t := { afterTag s with byteval := b }) (.byte b _) hr ⟨rfl, rfl, rfl, rfl⟩ ha hrk rfl rfl
        rfl
    rw [if_neg h1] at hrk ⊢
    by_cases h2 : b.toNat < 0xB8
    · rw [if_pos h2] at hrk ⊢
      exact kindFresh_ok (.str _ _) hr st ha hrk rfl rfl rfl
    rw [if_neg h2] at hrk ⊢
    by_cases h3 : b.toNat < 0xC0
    · rw [if_pos h3] at hrk ⊢
      -- with the literal `b.toNat - 183` in the goal, comparing the two `match`es unfolds `Nat.sub` 183 deep
      generalize hll : b.toNat - 0xB7 = ll at hrk ⊢
      exact kindFresh_long hr ha .string ll .str (by omega) hrk fun _ _ => ⟨rfl, rfl, rfl, rfl⟩
    rw [if_neg h3] at hrk ⊢
    by_cases h4 : b.toNat < 0xF8
    · rw [if_pos h4] at hrk ⊢
      exact kindFresh_ok (.list _ _) hr st ha hrk rfl rfl rfl
    rw [if_neg h4] at hrk ⊢
    generalize hll : b.toNat - 0xF7 = ll at hrk ⊢
    exact kindFresh_long hr ha .list ll .list (by omega) hrk fun _ _ => ⟨rfl, rfl, rfl, rfl⟩

/-- the first statement of the fresh branch of `Kind` clears the sticky error. -/
def cleared (s : St) : St := { s with kinderr := none }

theorem cleared_step (s : St) : Step s 0 (cleared s) := (step_refl s).of_pos rfl rfl
theorem cleared_ready (s : St) (h : Ready s) : Ready (cleared s) := h.of_pos rfl
theorem cleared_avail (s : St) : avail (cleared s) = avail s := rfl
theorem cleared_win (s : St) : win (cleared s) = win s := rfl

theorem cached_ok (s : St) (k : K) (hk : s.kind = some k) (he : s.kinderr = none) : cached s = .ok (k, s.size) := by
  simp [cached, he, hk]

theorem kindOf_cached (s : St) (k : K) (hk : s.kind = some k) (he : s.kinderr = none) :
    kindOf s = (.ok (k, s.size), s) := by
  simp [kindOf, hk, cached_ok s k hk he]

theorem kindOf_eol (s : St) (h : Ready s) (hk : s.kind = none) (hne : s.stack ≠ []) (ha : avail s = 0) :
    kindOf s = (.error .eol, cleared s) := by
  cases hst : s.stack with
  | nil => exact absurd hst hne
  | cons a tl =>
    obtain ⟨p, z⟩ := a
    have := (h.top p z tl hst).1
    simp only [avail, hst] at ha
    have hpz : p = z := by omega
    simp [kindOf, hk, hst, hpz, cleared]

/-- the EOL test of `Kind` concerns an open list only. -/
theorem kindOf_fresh (s : St) (hk : s.kind = none) (ha : s.stack ≠ [] → 1 ≤ avail s) :
    kindOf s = kindFresh (cleared s) := by
  cases hst : s.stack with
  | nil => simp [kindOf, hk, hst, cleared]
  | cons a tl =>
    obtain ⟨p, z⟩ := a
    have ha := ha (by simp [hst])
    simp only [avail, hst] at ha
    have hpz : ¬ p = z := by omega
    simp [kindOf, hk, hst, hpz, cleared]

theorem kindOf_eof (s : St) (h : Ready s) (hk : s.kind = none) (hst : s.stack = []) (ha : avail s = 0) :
    kindOf s = (.error .eof, { s with kind := some .byte, size := 0, kinderr := some .eof }) := by
  rw [kindOf_fresh s hk (absurd hst)]
  simp only [kindFresh, readKind, readByte_empty (cleared s) (cleared_ready s h) ha]
  simp [tooLarge, cleared, hst, cached]

theorem kind_spec (s : St) (h : Ready s) (hk : s.kind = none) (ha : 1 ≤ avail s) :
    match readHead (win s) with
    | .ok hd => Answers s (kindOf s) hd
    | .error _ => Fails s (kindOf s) := by
  rw [kindOf_fresh s hk fun _ => ha]
  have := kindFresh_spec (cleared s) (cleared_ready s h) (cleared_avail s ▸ ha)
  rw [cleared_win] at this
  cases hh : readHead (win s) with
  | error e => rw [hh] at this; exact this
  | ok hd =>
    rw [hh] at this
    refine ⟨this.fails, fun hle => ?_⟩
    obtain ⟨s', hko, hc⟩ := this.cached hle
    exact ⟨s', hko, { hc with step := hc.step.of_pos rfl rfl, alloc := hc.alloc }⟩

/-- where an accepted read leaves the stream: `rest` is what the reader on bytes leaves of the window. -/
structure ReadTo (s : St) (rest : Bytes) (s' : St) : Prop where
  step : Step s ((win s).length - rest.length) s'
  kind : s'.kind = none
  win_eq : rest = win s'

/-- `ReadTo` written out, as the statements of Props/C11 have it. -/
theorem ReadTo.spell {α : Type} {s : St} {rest : Bytes} {run : R α} {a : α} {P : St → Prop}
    (h : ∃ s', run = (.ok a, s') ∧ ReadTo s rest s' ∧ P s') :
    ∃ s', run = (.ok a, s') ∧ Step s ((win s).length - rest.length) s' ∧ s'.kind = none ∧ rest = win s' ∧ P s' :=
  let ⟨s', hr, ht, hp⟩ := h
  ⟨s', hr, ht.step, ht.kind, ht.win_eq, hp⟩

theorem bytes_byte {s s1 : St} {n : Nat} (hko : kindOf s = (.ok (.byte, n), s1)) :
    bytes s = (.ok [s1.byteval], { s1 with kind := none, alloc := s1.alloc + 1 }) := by
  simp only [bytes, hko]

/-- `Bytes()` on a string: `b := make([]byte, size)`, `readFull(b)`, then a single byte below 0x80 is rejected. -/
theorem bytes_string {s s1 : St} {n : Nat} (hko : kindOf s = (.ok (.string, n), s1)) (hr1 : Ready s1)
    (hn : n ≤ avail s1) :
    bytes s =
      (match s1.inp.take n with
       | [x] => if x < 0x80 then .error .canonSize else .ok [x]
       | b => .ok b,
       after n { s1 with alloc := s1.alloc + n }) := by
  simp only [bytes, hko, readFull_ok n { s1 with alloc := s1.alloc + n } (hr1.of_pos rfl) hn]
  match s1.inp.take n with
  | [x] => by_cases hx : x < 0x80 <;> simp [hx]
  | [] | _ :: _ :: _ => rfl

theorem bytes_sim (s : St) (hr : Ready s) (hk : s.kind = none) (ha : 1 ≤ avail s) :
    (∀ b rest, Rlp.readBytes (win s) = .ok (b, rest) →
      ∃ s', bytes s = (.ok b, s') ∧ ReadTo s rest s' ∧ s'.alloc ≤ s.alloc + ((win s).length - rest.length)) ∧
    (∀ e, Rlp.readBytes (win s) = .error e →
      ∃ e' s', bytes s = (.error e', s') ∧ Hard e' ∧ s'.alloc ≤ s.alloc + avail s) := by
  have hwl := win_length s hr
  have hks := kind_spec s hr hk ha
  have hkerr : Fails s (kindOf s) →
      ∃ e' s', bytes s = (.error e', s') ∧ Hard e' ∧ s'.alloc ≤ s.alloc + avail s :=
    fun ⟨e', s', hko, hh, hal⟩ => ⟨e', s', by simp only [bytes, hko], hh, by omega⟩
  unfold Rlp.readBytes
  cases hh : readHead (win s) with
  | error e0 => rw [hh] at hks; exact ⟨nofun, fun _ _ => hkerr hks⟩
  | ok hd =>
    rw [hh] at hks
    cases hd with
    | byte x r =>
      obtain ⟨s1, hko, hc⟩ := hks.cached (Nat.zero_le _)
      have hcons : r.length < (win s).length := readHead_consumes _ _ hh
      refine ⟨fun b rest h => ?_, nofun⟩
      cases h
      refine ⟨{ s1 with kind := none, alloc := s1.alloc + 1 }, ?_, ⟨hc.step.of_pos rfl rfl, rfl, hc.win⟩, ?_⟩
      · rw [bytes_byte hko, hc.byteval]; rfl
      · simp only [hc.alloc]; omega
    | list n r =>
      refine ⟨nofun, fun e _ => ?_⟩
      by_cases hlt : r.length < n
      · exact hkerr (hks.fails hlt)
      · obtain ⟨s1, hko, hc⟩ := hks.cached (Nat.le_of_not_lt hlt)
        exact ⟨.expectedString, s1, by simp only [bytes, hko, hdKind], ⟨nofun, nofun, nofun⟩,
          by rw [hc.alloc]; omega⟩
    | str n r =>
      simp only
      by_cases hlt : r.length < n
      · rw [if_pos hlt]; exact ⟨nofun, fun _ _ => hkerr (hks.fails hlt)⟩
      rw [if_neg hlt]
      have hn := Nat.le_of_not_lt hlt
      obtain ⟨s1, hko, hc⟩ := hks.cached hn
      obtain ⟨hst, hw2, hge⟩ := step_drop (r := r) (s2 := after n { s1 with alloc := s1.alloc + n }) hr hc.step
        hc.ready hc.win ⟨rfl, rfl, rfl, rfl⟩ hn
      have hb := bytes_string (n := n) hko hc.ready (hc.avail ▸ hn)
      rw [show s1.inp.take n = r.take n from hc.take hn] at hb
      have hal : (after n { s1 with alloc := s1.alloc + n }).alloc ≤ s.alloc + ((win s).length - (r.drop n).length) := by
        simp only [after, hc.alloc]; omega
      have hal' : (after n { s1 with alloc := s1.alloc + n }).alloc ≤ s.alloc + avail s := by omega
      rw [hb]
      match r.take n with
      | [x] =>
        by_cases hx : x < 0x80
        · simp only [hx, if_true]
          exact ⟨nofun, fun _ _ => ⟨_, _, rfl, hard_canonSize, hal'⟩⟩
        · simp only [hx, if_false]
          refine ⟨fun b rest h => ?_, nofun⟩
          cases h
          exact ⟨_, rfl, ⟨hst, rfl, hw2⟩, hal⟩
      | [] | _ :: _ :: _ =>
        refine ⟨fun b rest h => ?_, nofun⟩
        cases h
        exact ⟨_, rfl, ⟨hst, rfl, hw2⟩, hal⟩

theorem list_cached (s : St) (hk : s.kind = some .list) (he : s.kinderr = none) :
    list s = (.ok s.size, { s with stack := (0, s.size) :: s.stack, kind := none, size := 0 }) := by
  simp [list, kindOf_cached s .list hk he]

theorem listEnd_ok (s : St) (z : Nat) (tl : List (Nat × Nat)) (hst : s.stack = (z, z) :: tl) :
    listEnd s = (.ok (), { s with stack := bump z tl, kind := none, size := 0 }) := by
  unfold listEnd
  rw [hst]
  cases tl with
  | nil => simp [bump]
  | cons a more => obtain ⟨p, q⟩ := a; simp [bump]

theorem listEnd_err (s : St) (p z : Nat) (tl : List (Nat × Nat)) (hst : s.stack = (p, z) :: tl) (hne : p ≠ z) :
    listEnd s = (.error .notAtEOL, s) := by
  unfold listEnd
  rw [hst]
  simp [hne]

/-- `s2` is where `List()` leaves a stream `s1` that holds a cached list header of `n` payload bytes: the window is exactly
    the payload, and once it is used up `ListEnd()` closes the list, which for `s1` is a step over the payload. -/
structure Bracket (s s1 : St) (n : Nat) (r : Bytes) (s2 : St) : Prop where
  ready : Ready s2
  kind : s2.kind = none
  inList : s2.stack ≠ []
  avail_eq : avail s2 = n
  win_eq : win s2 = r.take n
  alloc : s2.alloc = s.alloc
  close : ∀ s3, Step s2 n s3 →
    ∃ s4, listEnd s3 = (.ok (), s4) ∧ s4.kind = none ∧ s4.alloc = s3.alloc ∧ Step s1 n s4

theorem list_bracket {s s1 : St} {n : Nat} {r : Bytes} (hc : Cached s (.list n r) s1) (hn : n ≤ r.length) :
    ∃ s2, list s1 = (.ok n, s2) ∧ Bracket s s1 n r s2 := by
  have hav1 : avail s1 = r.length := hc.avail
  have hli := list_cached s1 hc.kind hc.err
  rw [show s1.size = n from hc.size] at hli
  refine ⟨_, hli, ⟨hc.ready.lim, hc.ready.rem, fun p z tl hs => ?_⟩, rfl, by simp, rfl, ?_, hc.alloc,
    fun s3 st3 => ?_⟩
  · simp only [List.cons.injEq, Prod.mk.injEq] at hs
    obtain ⟨⟨rfl, rfl⟩, _⟩ := hs
    have := avail_le_rem s1 hc.ready
    exact ⟨Nat.zero_le _, by simp only [Nat.sub_zero]; omega⟩
  · exact hc.take hn
  · have hstk3 : s3.stack = (n, n) :: s1.stack := by rw [st3.stack]; simp [bump]
    exact ⟨_, listEnd_ok s3 n s1.stack hstk3, rfl, rfl, st3.inp, st3.rem, st3.lim, rfl⟩

theorem decItem_nonlist (f : Nat) (bs : Bytes) (h : ∀ n r, readHead bs ≠ .ok (.list n r)) (it : Item) (rest : Bytes) :
    decItem (f+1) bs = .ok (it, rest) ↔ ∃ b, it = .str b ∧ readBytes bs = .ok (b, rest) := by
  rw [decItem_ok_iff]
  refine ⟨?_, fun ⟨b, hi, hb⟩ => .inl ⟨b, hb, hi⟩⟩
  rintro (⟨b, hb, hi⟩ | ⟨p, _, hl, _⟩)
  · exact ⟨b, hi, hb⟩
  · -- `readList` accepts a list header only
    unfold readList at hl
    split at hl
    · cases hl
    · exact absurd ‹_› (h _ _)
    · cases hl

/-- the second `Kind()`, inside `Bytes()`, answers from the cache. -/
theorem decodeInterface_nonlist (f : Nat) (s : St) (hr : Ready s) (hk : s.kind = none) (ha : 1 ≤ avail s)
    (h : ∀ n r, readHead (win s) ≠ .ok (.list n r)) :
    decodeInterface (f+1) s = ((bytes s).1.map .str, (bytes s).2) := by
  have hks := kind_spec s hr hk ha
  have hf : Fails s (kindOf s) → decodeInterface (f+1) s = ((bytes s).1.map .str, (bytes s).2) :=
    fun ⟨e, s', hko, _⟩ => by simp only [decodeInterface, bytes, hko]; rfl
  cases hh : readHead (win s) with
  | error e => rw [hh] at hks; exact hf hks
  | ok hd =>
    rw [hh] at hks
    by_cases hlt : (hdRest hd).length < hdSize hd
    · exact hf (hks.fails hlt)
    · obtain ⟨s1, hko, hc⟩ := hks.cached (Nat.le_of_not_lt hlt)
      have hb : bytes s1 = bytes s := by
        simp only [bytes, hko, kindOf_cached s1 _ hc.kind hc.err, hc.size]
      cases hd with
      | list n r => exact absurd hh (h n r)
      | byte x r | str n r =>
        simp only [decodeInterface, hko, hdKind, hb]
        cases bytes s with | mk o t => cases o <;> rfl

def SimItem (f : Nat) : Prop :=
  ∀ s, Ready s → s.kind = none → 1 ≤ avail s →
    (∀ it rest, decItem f (win s) = .ok (it, rest) →
      ∃ s', decodeInterface (f+1) s = (.ok it, s') ∧ ReadTo s rest s' ∧
        s'.alloc ≤ s.alloc + ((win s).length - rest.length)) ∧
    (∀ e, decItem f (win s) = .error e → e ≠ .fuel →
      ∃ e' s', decodeInterface (f+1) s = (.error e', s') ∧ Hard e' ∧ s'.alloc ≤ s.alloc + avail s)

def SimList (f : Nat) : Prop :=
  ∀ s, Ready s → s.kind = none → s.stack ≠ [] →
    (∀ xs, decList f (win s) = .ok xs →
      ∃ s', sliceElems (f+1) s = (.ok xs, s') ∧ Step s (avail s) s' ∧ s'.kind = none ∧ s'.alloc ≤ s.alloc + avail s) ∧
    (∀ e, decList f (win s) = .error e → e ≠ .fuel →
      ∃ e' s', sliceElems (f+1) s = (.error e', s') ∧ Hard e' ∧ s'.alloc ≤ s.alloc + avail s)

theorem bump_ne_nil (k : Nat) (st : List (Nat × Nat)) (h : st ≠ []) : bump k st ≠ [] := by
  cases st with
  | nil => exact absurd rfl h
  | cons a tl => obtain ⟨p, z⟩ := a; simp [bump]

theorem simList_succ (f : Nat) (hI : SimItem f) (hL : SimList f) : SimList (f+1) := by
  intro s hr hk hne
  have hwl := win_length s hr
  cases hw : win s with
  | nil =>
    -- the extent is used up: `Kind` reports EOL, which ends the loop
    have ha : avail s = 0 := by rw [← hwl, hw]; rfl
    refine ⟨fun xs h => ?_, fun e h => by simp [decList] at h⟩
    simp only [decList, Except.ok.injEq] at h
    subst h
    refine ⟨cleared s, ?_, by rw [ha]; exact cleared_step s, hk, Nat.le_add_right _ _⟩
    simp [sliceElems, decodeInterface, kindOf_eol s hr hk hne ha]
  | cons b bs =>
    obtain ⟨hIo, hIe⟩ := hI s hr hk (by rw [← hwl, hw]; simp)
    rw [hw] at hIo hIe hwl
    simp only [decList]
    cases hx : decItem f (b :: bs) with
    | error e1 =>
      refine ⟨nofun, fun e h he => ?_⟩
      cases h
      obtain ⟨e', s1, hd, hh, hal⟩ := hIe e1 hx he
      refine ⟨e', s1, ?_, hh, hal⟩
      unfold sliceElems; rw [hd]
      split
      · rename_i heq; cases heq; exact absurd rfl hh.ne_eol
      · rename_i heq; cases heq; rfl
      · rename_i heq; cases heq
    | ok p =>
      obtain ⟨x, rest⟩ := p
      dsimp only
      obtain ⟨s1, hd, ht, hal1⟩ := hIo x rest hx
      have hst := ht.step
      rw [hw] at hst
      have hr1 : Ready s1 := step_ready hr (by omega) hst
      have hav1 := step_avail hst
      have hsl : sliceElems (f+1+1) s = ((sliceElems (f+1) s1).1.map (x :: ·), (sliceElems (f+1) s1).2) := by
        rw [sliceElems, hd]
        dsimp only
        cases sliceElems (f+1) s1 with | mk o t => cases o <;> rfl
      obtain ⟨hLo, hLe⟩ := hL s1 hr1 ht.kind (by rw [hst.stack]; exact bump_ne_nil _ _ hne)
      rw [← ht.win_eq] at hLo hLe
      cases hys : decList f rest with
      | error e2 =>
        refine ⟨nofun, fun e h he => ?_⟩
        cases h
        obtain ⟨e', s2, hd2, hh, hal2⟩ := hLe e2 hys he
        exact ⟨e', s2, by rw [hsl, hd2]; rfl, hh, by omega⟩
      | ok ys =>
        refine ⟨fun xs h => ?_, nofun⟩
        cases h
        obtain ⟨s2, hd2, hst2, hk2, hal2⟩ := hLo ys hys
        refine ⟨s2, by rw [hsl, hd2]; rfl, ?_, hk2, by omega⟩
        have := step_trans hst hst2
        rwa [show (b :: bs).length - rest.length + avail s1 = avail s by omega] at this

theorem simItem_succ (f : Nat) (hL : SimList f) : SimItem (f+1) := by
  intro s hr hk ha
  by_cases hl : ∃ n r, readHead (win s) = .ok (.list n r)
  case neg =>
    have hnl : ∀ n r, readHead (win s) ≠ .ok (.list n r) := fun n r h => hl ⟨n, r, h⟩
    have hdi := decodeInterface_nonlist (f+1) s hr hk ha hnl
    have hiff := decItem_nonlist f (win s) hnl
    obtain ⟨hbo, hbe⟩ := bytes_sim s hr hk ha
    constructor
    · intro it rest h
      obtain ⟨b, rfl, hb⟩ := (hiff it rest).1 h
      obtain ⟨s', hm, hs'⟩ := hbo b rest hb
      exact ⟨s', by rw [hdi, hm]; rfl, hs'⟩
    · intro e h _
      cases hb : readBytes (win s) with
      | ok p => rw [(hiff _ p.2).2 ⟨p.1, rfl, hb⟩] at h; cases h
      | error e' =>
        obtain ⟨e'', s', hm, hs'⟩ := hbe e' hb
        exact ⟨e'', s', by rw [hdi, hm]; rfl, hs'⟩
  obtain ⟨n, r, hh⟩ := hl
  have hks := kind_spec s hr hk ha
  rw [hh] at hks
  simp only [decItem, hh]
  by_cases hlt : r.length < n
  · -- the payload does not fit the window
    obtain ⟨e', s', hko, hh', hal⟩ := hks.fails hlt
    rw [if_pos hlt]
    exact ⟨nofun, fun _ _ _ => ⟨e', s', by simp only [decodeInterface, hko], hh', by omega⟩⟩
  rw [if_neg hlt]
  have hn := Nat.le_of_not_lt hlt
  obtain ⟨s1, hko, hc⟩ := hks.cached hn
  have hko : kindOf s = (.ok (.list, n), s1) := hko
  obtain ⟨s2, hli, hb⟩ := list_bracket hc hn
  obtain ⟨hLo, hLe⟩ := hL s2 hb.ready hb.kind hb.inList
  rw [hb.win_eq, hb.avail_eq, hb.alloc] at hLo hLe
  have fin : ∀ s4, Step s1 n s4 → Step s ((win s).length - (r.drop n).length) s4 ∧ r.drop n = win s4 ∧
      n ≤ (win s).length - (r.drop n).length := fun s4 st4 => step_drop hr hc.step hc.ready hc.win st4 hn
  -- `decList` on an empty payload (the `size == 0` shortcut of decodeListSlice skips `sliceElems`)
  have hnil : n = 0 → decList f (r.take n) = .ok [] ∨ decList f (r.take n) = .error .fuel := by
    rintro rfl; cases f <;> simp [decList]
  constructor
  · intro it rest h
    cases hxs : decList f (r.take n) with
    | error e => simp [hxs] at h
    | ok xs =>
      rw [hxs] at h
      cases h
      by_cases hn0 : n = 0
      · obtain ⟨s4, hle, hk4, hal4, st4⟩ := hb.close s2 (hn0 ▸ step_refl s2)
        obtain ⟨hst4, hw4, _⟩ := fin s4 st4
        obtain rfl : xs = [] := by simpa [hxs] using hnil hn0
        exact ⟨s4, by simp only [decodeInterface, hko, hli, hn0, if_true, hle], ⟨hst4, hk4, hw4⟩,
          by rw [hal4, hb.alloc]; omega⟩
      · obtain ⟨s3, hse, hst3, hk3, hal3⟩ := hLo xs hxs
        obtain ⟨s4, hle, hk4, hal4, st4⟩ := hb.close s3 hst3
        obtain ⟨hst4, hw4, hge⟩ := fin s4 st4
        exact ⟨s4, by simp only [decodeInterface, hko, hli, hn0, if_false, hse, hle], ⟨hst4, hk4, hw4⟩,
          by rw [hal4]; omega⟩
  · intro e h he
    cases hxs : decList f (r.take n) with
    | ok xs => simp [hxs] at h
    | error e2 =>
      rw [hxs] at h
      cases h
      have hn0 : n ≠ 0 := fun hn0 => he (by simpa [hxs] using hnil hn0)
      obtain ⟨e', s3, hse, hhard, hal3⟩ := hLe e hxs he
      have := step_avail hc.step
      have hav1 : avail s1 = r.length := hc.avail
      exact ⟨e', s3, by simp only [decodeInterface, hko, hli, hn0, if_false, hse], hhard, by omega⟩

theorem sim (f : Nat) : SimItem f ∧ SimList f := by
  induction f with
  | zero =>
    exact ⟨fun s _ _ _ => ⟨by simp [decItem], fun e h he => absurd (by simpa [decItem] using h.symm) he⟩,
      fun s _ _ _ => ⟨by simp [decList], fun e h he => absurd (by simpa [decList] using h.symm) he⟩⟩
  | succ f ih => exact ⟨simItem_succ f ih.2, simList_succ f ih.1 ih.2⟩

theorem newStream_ready (bs : Bytes) : Ready (newStream bs bs.length) := by
  refine ⟨rfl, ?_, nofun⟩
  simp only [newStream]; split <;> rfl

theorem newStream_avail (bs : Bytes) : avail (newStream bs bs.length) = bs.length :=
  (newStream_ready bs).rem

theorem newStream_win (bs : Bytes) : win (newStream bs bs.length) = bs :=
  win_top _ (newStream_ready bs) rfl

/-- a top-level stream between two values, as `Decode` finds and leaves it. -/
structure AtTop (s : St) : Prop where
  ready : Ready s
  kind : s.kind = none
  stack : s.stack = []

theorem decode_eof (f : Nat) (s : St) (hs : AtTop s) (hi : s.inp = []) :
    decodeInterface (f+1) s = (.error .eof, { s with kind := some .byte, size := 0, kinderr := some .eof }) := by
  have ha : avail s = 0 := by simp only [avail, hs.stack, hs.ready.rem, hi]; rfl
  simp only [decodeInterface, kindOf_eof s hs.ready hs.kind hs.stack ha]

theorem decode_top (n : Nat) (s : St) (hs : AtTop s) (hn : s.inp.length ≤ n) (hne : s.inp ≠ []) :
    (∀ it rest, decItem (3 * n + 1) s.inp = .ok (it, rest) →
      ∃ s', decodeInterface (fuelFor n) s = (.ok it, s') ∧ AtTop s' ∧ s'.inp = rest ∧
        s'.alloc + rest.length ≤ s.alloc + s.inp.length) ∧
    (∀ e, decItem (3 * n + 1) s.inp = .error e →
      ∃ e' s', decodeInterface (fuelFor n) s = (.error e', s') ∧ Hard e' ∧ s'.alloc ≤ s.alloc + s.inp.length) := by
  obtain ⟨hr, hk, hst⟩ := hs
  have hw := win_top s hr hst
  have hav : avail s = s.inp.length := by rw [← win_length s hr, hw]
  have ha : 1 ≤ avail s := by
    rw [hav]; cases hi : s.inp with
    | nil => exact absurd hi hne
    | cons _ _ => simp
  obtain ⟨hok, herr⟩ := (sim (3 * n + 1)).1 s hr hk ha
  rw [hw] at hok herr
  constructor
  · intro it rest h
    have hcons := decItem_consumes _ _ _ _ h
    obtain ⟨s', hd, ht, hal⟩ := hok it rest h
    have hst' := ht.step
    rw [hw] at hst'
    have hr' : Ready s' := step_ready hr (by omega) hst'
    have hstk : s'.stack = [] := by rw [hst'.stack, hst]; rfl
    exact ⟨s', hd, ⟨hr', ht.kind, hstk⟩, by rw [ht.win_eq, win_top s' hr' hstk], by omega⟩
  · intro e h
    have hne : e ≠ .fuel := by
      rintro rfl
      exact decItem_top_ne_fuel n s.inp hn h
    obtain ⟨e', s', hd, hh, hal⟩ := herr e h hne
    exact ⟨e', s', hd, hh, by omega⟩

theorem first_decode (bs : Bytes) :
    (∀ it rest, decItem (3 * bs.length + 1) bs = .ok (it, rest) →
      ∃ s', decodeInterface (fuelFor bs.length) (newStream bs bs.length) = (.ok it, s') ∧ AtTop s' ∧ s'.inp = rest ∧
        s'.alloc + rest.length ≤ bs.length) ∧
    (∀ e, decItem (3 * bs.length + 1) bs = .error e →
      ∃ e' s', decodeInterface (fuelFor bs.length) (newStream bs bs.length) = (.error e', s') ∧ e' ≠ .fuel ∧
        s'.alloc ≤ bs.length) := by
  have hs : AtTop (newStream bs bs.length) := ⟨newStream_ready bs, rfl, rfl⟩
  by_cases hne : bs = []
  · subst hne
    exact ⟨by simp [decItem, readHead], fun _ _ => ⟨.eof, _, decode_eof 1 _ hs rfl, nofun, Nat.le_refl _⟩⟩
  · obtain ⟨hok, herr⟩ := decode_top bs.length _ hs (Nat.le_refl _) hne
    have h0 : (newStream bs bs.length).alloc + bs.length ≤ bs.length := Nat.le_of_eq (Nat.zero_add _)
    constructor
    · intro it rest h
      obtain ⟨s', hd, ht, hinp, hal⟩ := hok it rest h
      exact ⟨s', hd, ht, hinp, Nat.le_trans hal h0⟩
    · intro e h
      obtain ⟨e', s', hd, hh, hal⟩ := herr e h
      exact ⟨e', s', hd, hh.ne_fuel, Nat.le_trans hal h0⟩

theorem second_decode (n : Nat) (s : St) (hs : AtTop s) (hn : s.inp.length ≤ n) :
    (s.inp = [] → ∃ s', decodeInterface (fuelFor n) s = (.error .eof, s') ∧ s'.alloc = s.alloc) ∧
    (s.inp ≠ [] → ∃ r s', decodeInterface (fuelFor n) s = (r, s') ∧ r ≠ .error .eof ∧ r ≠ .error .fuel ∧
      s'.alloc ≤ s.alloc + s.inp.length) := by
  refine ⟨fun hi => ⟨_, decode_eof _ s hs hi, rfl⟩, fun hne => ?_⟩
  obtain ⟨hok, herr⟩ := decode_top n s hs hn hne
  cases hd : decItem (3 * n + 1) s.inp with
  | ok p =>
    obtain ⟨s', hdi, _, _, hal⟩ := hok p.1 p.2 hd
    exact ⟨.ok p.1, s', hdi, nofun, nofun, by omega⟩
  | error e =>
    obtain ⟨e', s', hdi, hh, hal⟩ := herr e hd
    exact ⟨.error e', s', hdi, fun hc => hh.ne_eof (by cases hc; rfl), fun hc => hh.ne_fuel (by cases hc; rfl), hal⟩

end Aqv.RlpStream
