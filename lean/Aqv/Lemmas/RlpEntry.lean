/-
  The two entry points of the Stream machine (`decodeBytes`, `decodeStream`) against the strict decoder `dec` (`Refines`).
  `accepts_iff`, which is not about `Refines`, takes the two halves proved of an operation (head of Lemmas/RlpStream), on a
  fresh stream over a non-empty input, to "accepts exactly when the reader does", the form of the `stream_*_top` theorems.
-/
import Aqv.Lemmas.RlpStream
namespace Aqv.RlpEntry
open Aqv Aqv.Rlp Aqv.RlpStream

/-- what C11 says of an entry point `run` on the input `bs`. -/
def Refines (bs : Bytes) (run : R Item) : Prop :=
  (∀ it, run.1 = .ok it ↔ dec bs = .ok it) ∧ run.1 ≠ .error .fuel ∧ run.2.alloc ≤ bs.length

theorem decodeBytes_refines (bs : Bytes) : Refines bs (decodeBytes bs) := by
  obtain ⟨hok, herr⟩ := first_decode bs
  unfold Refines decodeBytes dec
  cases hd : decItem (3 * bs.length + 1) bs with
  | ok p =>
    obtain ⟨it', rest⟩ := p
    obtain ⟨s', hdi, _, hinp, hal⟩ := hok it' rest hd
    rw [hdi]
    -- nothing unread: both accept `it'`; something unread: ErrMoreThanOneValue here, `trailing` there
    cases rest with
    | nil => simp [hinp]; omega
    | cons b t => simp [hinp]; omega
  | error e =>
    obtain ⟨e', s', hdi, hnf, hal⟩ := herr e hd
    rw [hdi]
    exact ⟨by simp, by simpa using hnf, hal⟩

/-- the second `Decode` of `decodeStream` sees the unread rest: io.EOF exactly when nothing is left. -/
theorem decodeStream_refines (bs : Bytes) : Refines bs (decodeStream bs) := by
  obtain ⟨hok, herr⟩ := first_decode bs
  unfold Refines decodeStream dec
  cases hd : decItem (3 * bs.length + 1) bs with
  | ok p =>
    obtain ⟨it', rest⟩ := p
    obtain ⟨s', hdi, ht, hinp, hal⟩ := hok it' rest hd
    obtain ⟨h2e, h2n⟩ := second_decode bs.length s' ht (by rw [hinp]; omega)
    rw [hdi]
    cases rest with
    | nil =>
      obtain ⟨s'', hd2, hal2⟩ := h2e hinp
      simp [hd2, hal2]; omega
    | cons b t =>
      obtain ⟨r, s'', hd2, hne, hnf, hal2⟩ := h2n (by rw [hinp]; simp)
      have hal3 : s''.alloc ≤ bs.length := by rw [hinp] at hal2; omega
      simp only [hd2]
      split
      · rename_i heq; cases heq; exact absurd rfl hne
      · rename_i heq; cases heq; exact ⟨fun it => by simp, hnf, hal3⟩
      · exact ⟨fun it => by simp, by simp, by rename_i heq; cases heq; exact hal3⟩
  | error e =>
    obtain ⟨e', s', hdi, hnf, hal⟩ := herr e hd
    rw [hdi]
    exact ⟨by simp, by simpa using hnf, hal⟩

theorem newStream_avail_pos (bs : Bytes) (hne : bs ≠ []) :
    1 ≤ avail (newStream bs bs.length) := by
  rw [newStream_avail]; exact List.length_pos_iff.2 hne

theorem accepts_iff {α : Type} {run : R α} {rd : Except TErr (α × Bytes)} {P : St → Prop}
    (hok : ∀ a rest, rd = .ok (a, rest) → ∃ s', run = (.ok a, s') ∧ P s')
    (herr : ∀ e, rd = .error e → ∃ e' s', run = (.error e', s')) (a : α) :
    (∃ s', run = (.ok a, s') ∧ P s') ↔ ∃ rest, rd = .ok (a, rest) := by
  constructor
  · rintro ⟨s', hs', _⟩
    cases hu : rd with
    | ok p =>
      obtain ⟨s'', hm, _⟩ := hok p.1 p.2 hu
      rw [hs'] at hm
      cases hm
      exact ⟨p.2, rfl⟩
    | error e =>
      obtain ⟨e', s'', hm⟩ := herr e hu
      rw [hs'] at hm
      cases hm
  · rintro ⟨rest, h⟩
    exact hok a rest h

end Aqv.RlpEntry
