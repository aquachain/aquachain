/-
  Aqv.Lemmas.StateInv — the cache invariant `BInv` of the StateDB model.  It is preserved by every journalled step
  (`JStep.binv`), hence by every mutator, and by the undo of every journal entry except a touch that found the callback
  armed (that undo is the F2 defect), hence by RevertToSnapshot over journal segments without such entries.
-/
import Aqv.Lemmas.StateRevert
namespace Aqv.State

/-- a touch that found the callback armed: its undo removes the address from the dirty set without restoring the callback. -/
def Entry.armedTouch : Entry → Bool
  | .touch a prev prevDirty => !prev && a != ripemd && !prevDirty
  | _ => false

/-- the cache invariant: `TxInv` (the first two fields, `BInv.txInv`), the cache coherent with the trie (`dobj`, `ca`), and three
    facts about the journal that make the undo of `resetObject` entries safe. -/
structure BInv (s : SDB) : Prop where
  coh : Coherent s
  jok : JOK s
  /-- `stateObjectsDirty ⊆ stateObjects`: Finalise and Copy dereference the cache entry of every dirty address. -/
  dobj : ∀ a, a ∈ s.dirty → ∃ o, s.objs a = some o
  /-- a clean live cached object still has its callback (so its next write marks it dirty) and is what the trie holds. -/
  ca : ∀ a o, s.objs a = some o → o.deleted = false → a ∉ s.dirty →
    o.armed = true ∧ o.suicided = false ∧ s.trie a = some o.toAcct
  jlive : ∀ a p, Entry.resetObject a p ∈ s.journal → ∃ o, s.objs a = some o ∧ o.deleted = false
  jfresh : ∀ pre a post, s.journal = pre ++ Entry.createObject a :: post → ∀ p, Entry.resetObject a p ∉ post
  jdirty : ∀ a p, Entry.resetObject a p ∈ s.journal → a ∈ s.dirty

theorem toAcct_fromAcct (c : Acct) : (fromAcct c).toAcct = c := rfl

theorem BInv.of_journal_nil {s : SDB} (hj : s.journal = []) (coh : Coherent s) (dobj : ∀ a, a ∈ s.dirty → ∃ o, s.objs a = some o)
    (ca : ∀ a o, s.objs a = some o → o.deleted = false → a ∉ s.dirty →
      o.armed = true ∧ o.suicided = false ∧ s.trie a = some o.toAcct) : BInv s :=
  ⟨coh, fun _ h => (by rw [hj] at h; cases h), dobj, ca, fun _ _ h => (by rw [hj] at h; cases h),
   fun pre _ _ h => (by rw [hj] at h; cases pre <;> cases h), fun _ _ h => (by rw [hj] at h; cases h)⟩

theorem binv_fresh (c : Addr → Option Acct) : BInv (fresh c) :=
  .of_journal_nil rfl (fun _ _ h => (nomatch h)) (fun _ h => (nomatch h)) (fun _ _ h => (nomatch h))

theorem BInv.txInv {s : SDB} (hb : BInv s) : TxInv s := ⟨hb.coh, hb.jok⟩

theorem look_clean {s : SDB} (hb : BInv s) {a : Addr} {o : Obj} (hl : look s a = some o) (hnd : a ∉ s.dirty) :
    o.armed = true ∧ o.suicided = false ∧ s.trie a = some o.toAcct := by
  rcases look_eq_some hl with ⟨ho, hd⟩ | ⟨-, c, ht, rfl⟩
  · exact hb.ca a o ho hd hnd
  · exact ⟨rfl, rfl, ht⟩

theorem look_armed_or_dirty {s : SDB} (hb : BInv s) {a : Addr} {o : Obj} (hl : look s a = some o) :
    o.armed = true ∨ a ∈ s.dirty :=
  (Classical.em (a ∈ s.dirty)).symm.imp (fun h => (look_clean hb hl h).1) id

theorem binv_congr {s t : SDB} (hb : BInv s) (h1 : t.objs = s.objs) (h2 : t.dirty = s.dirty) (h3 : t.trie = s.trie)
    (h4 : t.journal = s.journal) : BInv t := by
  have : t = { t with objs := s.objs, dirty := s.dirty, trie := s.trie, journal := s.journal } := by rw [← h1, ← h2, ← h3, ← h4]
  rw [this]
  exact ⟨hb.coh, hb.jok, hb.dobj, hb.ca, hb.jlive, hb.jfresh, hb.jdirty⟩

theorem binv_push {s : SDB} (hb : BInv s) (e : Entry) (hok : EntryOK e)
    (hreset : ∀ a p, e = .resetObject a p → (∃ o, s.objs a = some o ∧ o.deleted = false) ∧ a ∈ s.dirty)
    (hcreate : ∀ a, e = .createObject a → ∀ p, Entry.resetObject a p ∉ s.journal) : BInv (push s e) := by
  refine ⟨hb.coh, fun x hx => ?_, hb.dobj, hb.ca, fun b p hp => ?_, fun pre a post h p => ?_, fun b p hp => ?_⟩
  · exact (List.mem_cons.mp hx).elim (· ▸ hok) (hb.jok x)
  · exact (List.mem_cons.mp hp).elim (fun h => (hreset b p h.symm).1) (hb.jlive b p)
  · cases pre with
    | nil => cases h; exact hcreate a rfl p
    | cons x pre' => exact hb.jfresh pre' a post (List.cons.inj h).2 p
  · exact (List.mem_cons.mp hp).elim (fun h => (hreset b p h.symm).2) (hb.jdirty b p)

theorem binv_push_aux {s : SDB} (hb : BInv s) (e : Entry) (hobj : e.isObjEntry = false) : BInv (push s e) :=
  binv_push hb e (entryOK_of_aux hobj) (fun _ _ h => by subst h; cases hobj) (fun _ h => by subst h; cases hobj)

theorem binv_pop {s : SDB} {e : Entry} {js : List Entry} (hb : BInv s) (hj : s.journal = e :: js) :
    BInv { s with journal := js } :=
  ⟨hb.coh, fun x hx => hb.jok x (hj ▸ List.mem_cons_of_mem _ hx), hb.dobj, hb.ca,
   fun b p hp => hb.jlive b p (hj ▸ List.mem_cons_of_mem _ hp),
   fun pre a post h => hb.jfresh (e :: pre) a post (by rw [hj, show js = _ from h]; rfl),
   fun b p hp => hb.jdirty b p (hj ▸ List.mem_cons_of_mem _ hp)⟩

theorem binv_setObj {s : SDB} (hb : BInv s) (a : Addr) {o' : Obj} {d : List Addr} (hdel : o'.deleted = false)
    (hsub : ∀ b, b ∈ s.dirty → b ∈ d) (hsup : ∀ b, b ∈ d → b = a ∨ b ∈ s.dirty)
    (hca : a ∉ d → o'.armed = true ∧ o'.suicided = false ∧ s.trie a = some o'.toAcct) :
    BInv (setObj s a (some o') d) := by
  have hne : ∀ b, b ≠ a → (setObj s a (some o') d).objs b = s.objs b := fun b h => upd_ne _ _ _ _ h
  have hsame : (setObj s a (some o') d).objs a = some o' := upd_same ..
  refine ⟨fun b q hq hqd => ?_, hb.jok, fun b hbd => ?_, fun b q hq hqd hnd => ?_, fun b p hp => ?_, hb.jfresh,
    fun b p hp => hsub b (hb.jdirty b p hp)⟩
  · have := tomb_setObj (by rintro _ ⟨⟩; exact hdel) ⟨hq, hqd⟩
    exact hb.coh b q this.1 this.2
  · by_cases hba : b = a
    · subst hba; exact ⟨o', hsame⟩
    · rw [hne b hba]; exact hb.dobj b ((hsup b hbd).resolve_left hba)
  · by_cases hba : b = a
    · subst hba; rw [hsame] at hq; cases hq; exact hca hnd
    · rw [hne b hba] at hq; exact hb.ca b q hq hqd fun h => hnd (hsub b h)
  · by_cases hba : b = a
    · subst hba; exact ⟨o', hsame, hdel⟩
    · rw [hne b hba]; exact hb.jlive b p hp

/-- the undo of `createObjectChange`. -/
theorem binv_dropObj {s : SDB} (hb : BInv s) (a : Addr) (hnr : ∀ p, Entry.resetObject a p ∉ s.journal) :
    BInv (setObj s a none (s.dirty.filter (· != a))) := by
  have hne : ∀ b, b ≠ a → (setObj s a none (s.dirty.filter (· != a))).objs b = s.objs b := fun b h => upd_ne _ _ _ _ h
  have hd : ∀ b, b ∈ (setObj s a none (s.dirty.filter (· != a))).dirty ↔ b ∈ s.dirty ∧ b ≠ a := fun b => by simp [setObj]
  have hja : ∀ b p, Entry.resetObject b p ∈ s.journal → b ≠ a := fun b p hp h => hnr p (h ▸ hp)
  refine ⟨fun b q hq hqd => ?_, hb.jok, fun b hbd => ?_, fun b q hq hqd hnd => ?_, fun b p hp => ?_, hb.jfresh,
    fun b p hp => (hd b).mpr ⟨hb.jdirty b p hp, hja b p hp⟩⟩
  · have := tomb_setObj (by rintro _ ⟨⟩) ⟨hq, hqd⟩
    exact hb.coh b q this.1 this.2
  · rw [hne b ((hd b).mp hbd).2]; exact hb.dobj b ((hd b).mp hbd).1
  · have hba : b ≠ a := by rintro rfl; rw [show (setObj s b none _).objs b = none from upd_same ..] at hq; cases hq
    rw [hne b hba] at hq
    exact hb.ca b q hq hqd fun h => hnd ((hd b).mpr ⟨h, hba⟩)
  · rw [hne b (hja b p hp)]; exact hb.jlive b p hp

/-- a field write without a journal entry, as the undo functions do it. -/
theorem binv_writeObj {s : SDB} (hb : BInv s) (a : Addr) {o0 o' : Obj} (hl : look s a = some o0)
    (harm : o'.armed = o0.armed) (hdel : o'.deleted = false) : BInv (writeObj s a o') := by
  rw [writeObj_eq_setObj]
  refine binv_setObj hb a hdel (fun b h => ?_) (fun b h => ?_) (fun h => (h ?_).elim)
  · split
    · exact (mem_markDirty s a b).mpr (Or.inr h)
    · exact h
  · split at h
    · exact (mem_markDirty s a b).mp h
    · exact Or.inr h
  · split
    · exact (mem_markDirty s a a).mpr (Or.inl rfl)
    · exact (look_armed_or_dirty hb hl).resolve_left (harm ▸ ‹_›)

theorem binv_replace {s : SDB} (hb : BInv s) (a : Addr) (e : Entry) {n : Obj} (hn : n.deleted = false)
    (he : (e = .createObject a ∧ look s a = none) ∨ (∃ p, e = .resetObject a p ∧ look s a = some p)) :
    BInv (setObj (push s e) a (some n) (markDirty s a).dirty) := by
  have h1 : BInv (setObj s a (some n) (markDirty s a).dirty) :=
    binv_setObj hb a hn (fun b h => (mem_markDirty s a b).mpr (Or.inr h)) (fun b => (mem_markDirty s a b).mp)
      fun h => (h ((mem_markDirty s a a).mpr (Or.inl rfl))).elim
  refine binv_push h1 e ?_ (fun b p h => ?_) (fun b h p hp => ?_)
  · rcases he with ⟨rfl, -⟩ | ⟨p, rfl, hl⟩
    · trivial
    · exact look_not_deleted hl
  · rcases he with ⟨rfl, -⟩ | ⟨p', rfl, -⟩ <;> cases h
    exact ⟨⟨n, upd_same .., hn⟩, (mem_markDirty s a a).mpr (Or.inl rfl)⟩
  · rcases he with ⟨rfl, hl⟩ | ⟨p', rfl, -⟩ <;> cases h
    obtain ⟨q, hq, hqd⟩ := hb.jlive a p hp
    cases (look_of_live hq hqd).symm.trans hl

theorem JStep.binv {s t : SDB} (h : JStep s t) (hb : BInv s) : BInv t := by
  cases h with
  | create n hl hn => exact binv_replace hb _ _ hn (Or.inl ⟨rfl, hl⟩)
  | reset n hl hn => exact binv_replace hb _ _ hn (Or.inr ⟨_, rfl, hl⟩)
  | @write a o w hl =>
    have hf := FieldWrite.set_flags o w
    have he := FieldWrite.entry_aux a o w
    exact binv_writeObj (binv_push_aux hb _ he) a hl hf.2 (hf.1.trans (look_not_deleted hl))
  | aux he hj hobjs hdirty htrie =>
    exact binv_congr (binv_push_aux hb _ he) hobjs hdirty htrie hj

theorem JSteps.binv {s t : SDB} (h : JSteps s t) (hb : BInv s) : BInv t := by
  induction h with
  | refl => exact hb
  | tail _ h2 ih => exact h2.binv ih

theorem binv_applyMut (m : Mut) {s : SDB} (hb : BInv s) : BInv (applyMut m s) := (jsteps_applyMut m s).binv hb

theorem binv_writeBack {s : SDB} (hb : BInv s) (a : Addr) {r : Obj → Obj} (f : Bool)
    (hr : ∀ o, (r o).armed = o.armed ∧ (r o).deleted = o.deleted) : BInv (writeBack s a r f) := by
  cases hl : look s a with
  | none => simp only [writeBack, hl]; cases f <;> exact binv_congr hb rfl rfl rfl rfl
  | some o => rw [writeBack_some hl]; exact binv_writeObj hb a hl (hr o).1 ((hr o).2.trans (look_not_deleted hl))

theorem binv_undo {s : SDB} {e : Entry} {js : List Entry} (hb : BInv s) (hj : s.journal = e :: js)
    (hat : e.armedTouch = false) : BInv (undo e { s with journal := js }) := by
  have h1 := binv_pop hb hj
  cases e with
  | createObject a => exact binv_dropObj h1 a (hb.jfresh [] a js hj)
  | resetObject a prev =>
    have hmem : Entry.resetObject a prev ∈ s.journal := hj ▸ List.mem_cons_self
    exact binv_setObj h1 a (hb.jok _ hmem) (fun _ h => h) (fun _ h => Or.inr h) fun h => (h (hb.jdirty a prev hmem)).elim
  | suicide a | balance a | nonce a | storage a | code a =>
    simp only [undo_suicide, undo_balance, undo_nonce, undo_storage, undo_code]
    exact binv_writeBack h1 a _ fun _ => ⟨rfl, rfl⟩
  | refund | addLog | addPreimage => exact binv_congr h1 rfl rfl rfl rfl
  | touch a prev prevDirty =>
    rw [undo_touch]
    split
    · next hc =>
      -- `armedTouch` is the condition `hc` of this branch together with `!prevDirty`
      have hpd : prevDirty = true := by
        cases prevDirty
        · rw [Entry.armedTouch, hc] at hat; cases hat
        · rfl
      subst hpd
      cases hl : look { s with journal := js } a with
      | none => exact binv_congr h1 rfl rfl rfl rfl
      | some o =>
        have hod := look_not_deleted hl
        have hc := look_clean h1 hl
        exact binv_setObj h1 a hod (fun _ h => h) (fun _ h => Or.inr h) hc
    · exact h1

def NoAT (k : Nat) (s : SDB) : Prop := ∀ e ∈ s.journal.take k, Entry.armedTouch e = false

theorem binv_undoN : ∀ (k : Nat) {s : SDB}, BInv s → NoAT k s → BInv (undoN k s)
  | 0, _, hb, _ => hb
  | k + 1, s, hb, hn => by
    cases hj : s.journal with
    | nil => rw [undoN_nil _ s hj]; exact hb
    | cons e js =>
      rw [undoN_succ_cons k s e js hj]
      rw [NoAT, hj, List.take_succ_cons] at hn
      refine binv_undoN k (binv_undo hb hj (hn e List.mem_cons_self)) fun x hx => hn x (List.mem_cons_of_mem _ ?_)
      rwa [undo_journal] at hx

/-- the revert to `id` undoes no touch that found the callback armed. -/
def revertSafe (id : Nat) (s : SDB) : Prop := ∀ r ∈ s.revs, r.1 = id → NoAT (s.journal.length - r.2) s

theorem binv_revertTo {s t : SDB} {id : Nat} (hb : BInv s) (h : revertTo id s = some t) (hn : revertSafe id s) : BInv t := by
  obtain ⟨r, rest, hdw, hid, rfl⟩ := revertTo_eq h
  have hr : r ∈ s.revs := List.IsSuffix.mem List.mem_cons_self (hdw ▸ List.dropWhile_suffix _)
  exact binv_congr (binv_undoN _ hb (hn r hr hid)) rfl rfl rfl rfl

end Aqv.State
