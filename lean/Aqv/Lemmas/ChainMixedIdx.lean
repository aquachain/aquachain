/-
  Aqv.Lemmas.ChainMixedIdx — the index-level mixed model `XSt` (`Aqv.Model.ChainMixed`): ONE chain fed through
  `InsertChain` and `InsertHeaderChain` in any order.  With fix 3f14ce8 (`BlockChain.insert` deletes the number entries
  above the block it makes the head and re-points stale entries below) the header-chain invariant of the projection `toH`
  — the number index is exactly the ancestry of the header head, nothing above — holds after EVERY mixed history
  (`mixInv_run`).
-/
import Aqv.Lemmas.ChainHdr
import Aqv.Lemmas.ChainTd
import Aqv.Lemmas.ChainMixed
namespace Aqv.Chain

variable {U : Map Blk}

/-- the header chain as `HeaderChain` sees it while blocks are written -/
def hview (H0 : Map Blk) (s : St) : HSt :=
  { genesis := s.genesis, store := overlay s.store H0, td := s.td, canon := s.canon, hhead := s.hhead }

theorem overlay_ext (store H0 : Map Blk) : StoreExt store (overlay store H0) := by
  intro k x hx
  simp [overlay, hx]

theorem overlay_upd (store H0 : Map Blk) (k : Nat) (b : Blk) :
    overlay (upd store k (some b)) H0 = upd (overlay store H0) k (some b) := by
  funext x
  unfold overlay upd
  by_cases hx : x = k
  · simp [hx]
  · simp [hx]

theorem overlay_of_ext {store H0 : Map Blk} (h : StoreExt store H0) : overlay store H0 = H0 := by
  funext k
  unfold overlay
  cases hk : store k with
  | none => rfl
  | some b => simp only; exact (h _ _ hk).symm

theorem overlay_idem (store H0 : Map Blk) : overlay store (overlay store H0) = overlay store H0 :=
  overlay_of_ext (overlay_ext store H0)

def numAt (store : Map Blk) (k : Nat) : Nat :=
  match store k with
  | some x => x.number
  | none => 0

/-- the bound of the "entries above" loop covers the header head: below the ghost bound `top`, or a stored block -/
def FuelOk (H0 : Map Blk) (s : St) : Prop :=
  ∀ hh, overlay s.store H0 s.hhead = some hh → hh.number ≤ max s.top (numAt s.store s.hhead)

theorem numAt_some {store : Map Blk} {k : Nat} {x : Blk} (h : store k = some x) : numAt store k = x.number := by
  simp [numAt, h]

theorem indexFuel_ge (s : St) : max s.top (numAt s.store s.hhead) ≤ indexFuel s := by
  unfold indexFuel numAt
  cases s.store s.hhead with
  | none => simp only; omega
  | some y => simp only; omega

structure MixP (U : Map Blk) (H0 : Map Blk) (s : St) : Prop where
  hinv : HInv U (hview H0 s)
  closed : Closed s
  headStored : ∃ hb, s.store s.head = some hb
  fuel : FuelOk H0 s

theorem mixP_frame {H0 : Map Blk} {s : St} (h : MixP U H0 s) {lk : Map Loc} {rc hs od sn : Nat → Bool} {fh : Nat} :
    MixP U H0 { s with lookup := lk, receipts := rc, hasState := hs, onDisk := od, seen := sn, fhead := fh } :=
  ⟨h.hinv, h.closed, h.headStored, h.fuel⟩

theorem mixP_base {H0 : Map Blk} {s : St} (h : MixP U H0 s) : Base U s := by
  obtain ⟨hh, HC, hI⟩ := h.hinv
  exact ⟨fun k x hx => hI.sub _ _ (overlay_ext _ _ _ _ hx), h.headStored,
    fun k x hx => hI.storeTd k x (overlay_ext _ _ _ _ hx)⟩

theorem MixP.fuel_le {H0 : Map Blk} {s : St} (h : MixP U H0 s) {hh : Blk} {HC : List Blk}
    (hI : HInvC U (hview H0 s) hh HC) : hh.number ≤ indexFuel s := by
  have := h.fuel hh hI.headStored
  have := indexFuel_ge s
  omega

theorem fuelOk_of_stored {H0 : Map Blk} {s : St} {x : Blk} (hx : s.store s.hhead = some x) : FuelOk H0 s := by
  intro hh hhs
  rw [overlay_ext _ _ _ _ hx] at hhs
  cases hhs
  rw [numAt_some hx]
  omega

/-- `WriteBlockWithState` on its side branch, `WriteBlockWithoutState`, or the first half of the canonical branches -/
theorem mixP_grow {H0 : Map Blk} {s : St} (h : MixP U H0 s) {b p : Blk} (hbU : U b.id = some b)
    (hpar : parentOf s.store b = some p) {ptd : Nat} (hptd : s.td b.parent = some ptd)
    {receipts hasState onDisk seen : Nat → Bool} :
    MixP U H0 { s with td := upd s.td b.id (some (ptd + b.diff)), store := upd s.store b.id (some b),
                       receipts := receipts, hasState := hasState, onDisk := onDisk, seen := seen } := by
  obtain ⟨hh, HC, hI⟩ := h.hinv
  have hsubS := (mixP_base h).sub
  have he1 := (storeExt_updK hsubS hbU).1
  refine ⟨⟨hh, HC, ?_⟩, ?_, ?_, ?_⟩
  · -- for the header chain this is the first half of a `WriteHeader`
    show HInvC U ⟨s.genesis, overlay (upd s.store b.id (some b)) H0, _, s.canon, s.hhead⟩ hh HC
    rw [overlay_upd]
    exact hI.written hbU (parentOf_mono (overlay_ext _ _) hpar) hptd
  · exact closed_upd h.closed hpar he1 (fun _ _ => upd_some_cases)
  · obtain ⟨hb, hhb⟩ := h.headStored
    exact ⟨hb, he1 _ _ hhb⟩
  · by_cases hk : s.hhead = b.id
    · exact fuelOk_of_stored (x := b) (hk ▸ upd_same _ _ _)
    · intro hh' hhs
      have hhs' : overlay (upd s.store b.id (some b)) H0 s.hhead = some hh' := hhs
      rw [overlay_upd, upd_other _ _ _ _ hk] at hhs'
      have := h.fuel hh' hhs'
      show hh'.number ≤ max s.top (numAt (upd s.store b.id (some b)) s.hhead)
      unfold numAt at this ⊢
      rw [upd_other _ _ _ _ hk]
      exact this

theorem mixP_insert (W : World U) {H0 : Map Blk} {t : St} (h : MixP U H0 t) {x : Blk} (hxs : t.store x.id = some x) :
    MixP U H0 (insertHead t x) := by
  obtain ⟨hh, HC, hI⟩ := h.hinv
  have hIc := hI.toIdxC W
  by_cases hc : t.canon x.number = some x.id
  · rw [insertHead_same hc]
    exact ⟨h.hinv, h.closed, ⟨x, hxs⟩, h.fuel⟩
  · obtain ⟨lx, hlx⟩ := h.closed _ _ hxs
    cases hlx with
    | nil =>
      -- `x` is the genesis block, which is always indexed
      exact absurd ((hI.canon _ _).mpr ⟨t.genesis, by simp [hview], rfl, rfl⟩) hc
    | cons hpar hrest =>
      obtain ⟨HC', hnew, hhh⟩ := insert_index W (overlay_ext t.store H0) hIc (h.fuel_le hI) hxs hpar hrest hc
      have hxs' : (insertHead t x).store (insertHead t x).hhead = some x := by rw [hhh]; exact hxs
      exact ⟨⟨x, HC', .ofIdx hnew hhh hI.tdIntr hI.storeTd⟩, h.closed, ⟨x, hxs⟩, fuelOk_of_stored hxs'⟩

theorem mixP_fold (W : World U) {H0 : Map Blk} {t : St} (h : MixP U H0 t) : ∀ (N : List Blk),
    (∀ x ∈ N, t.store x.id = some x) → MixP U H0 (N.foldr reorgStep t) := by
  intro N
  induction N with
  | nil => intro _; exact h
  | cons x N ih =>
    intro hN
    have h1 := ih (fun y hy => hN y (List.mem_cons_of_mem _ hy))
    have hxs : (N.foldr reorgStep t).store x.id = some x := by rw [foldr_store]; exact hN x (by simp)
    exact mixP_frame (mixP_insert W h1 hxs)

/-- `batch.Write()` and `insert`, the last part of the canonical branches of `WriteBlockWithState`; `reorg` runs on a database
    that holds `b` already, and for an extension of the head it makes no difference (`afterCanon_afterTd`) -/
theorem mixP_afterCanon (W : World U) {H0 : Map Blk} {s2 : St} {b : Blk} (h : MixP U H0 s2)
    (hbs : s2.store b.id = some b) : MixP U H0 (afterCanon s2 b) := by
  unfold afterCanon
  rw [upd_self _ _ _ hbs]
  exact mixP_insert W (mixP_frame h) hbs

theorem mixP_wbws (W : World U) {H0 : Map Blk} {s : St} (h : MixP U H0 s) {b p : Blk} (hbU : U b.id = some b)
    (hpar : parentOf s.store b = some p) (coin : Bool) :
    MixP U H0 (writeBlockWithState s b coin).st ∧ (writeBlockWithState s b coin).err ≠ some .reorgFail := by
  obtain ⟨hh, HC, hI⟩ := h.hinv
  have hsubS := (mixP_base h).sub
  have hnf := wbws_no_reorgFail hsubS h.closed hI.genNum hbU hpar coin
  refine ⟨?_, hnf⟩
  cases wbws_cases s b coin with
  | early e he _ _ => rw [he]; exact h
  | reorgFailed _ _ _ _ _ he => rw [he] at hnf; exact absurd rfl hnf
  | side ptd _ _ hptd _ _ _ he => rw [he]; exact mixP_grow h hbU hpar hptd
  | canonical ptd s2 cur lt hptd _ _ _ hs2 he =>
    rw [he]
    have hB : MixP U H0 (afterStored s b ptd) := mixP_grow h hbU hpar hptd
    have hbs : (afterStored s b ptd).store b.id = some b := upd_same _ _ _
    rcases hs2 with ⟨rfl, -⟩ | hr
    · rw [afterCanon_afterTd]
      exact mixP_afterCanon W hB hbs
    · obtain ⟨o, n, c, c', oc1, nc1, oc2, nc2, hw⟩ := reorg_spec hr
      obtain ⟨hh1, HC1, hI1⟩ := hB.hinv
      -- the blocks `reorg` re-inserts are stored
      have hN := (hw.newUp.append hw.newDown).stored_of (fun k y hy => W.ids _ _ (hI1.sub _ _ (overlay_ext _ _ _ _ hy))) hbs
      rw [hw.eq]
      have h1 : MixP U H0 (reorgApply (afterStored s b ptd) (oc1 ++ oc2) (nc1 ++ nc2)) :=
        mixP_frame (mixP_fold W hB (nc1 ++ nc2) hN.1)
      exact mixP_afterCanon W h1 (by rw [reorgApply_store]; exact hbs)

theorem mixP_stable (W : World U) (H0 : Map Blk) : Stable U (MixP U H0) True where
  base := fun _ h => mixP_base h
  wbws := fun _ _ _ coin h hbU hpar _ => ⟨fun _ => (mixP_wbws W h hbU hpar coin).1, fun _ => (mixP_wbws W h hbU hpar coin).2⟩
  without := fun _ _ _ _ h hbU hpar hptd => mixP_grow h hbU hpar hptd

structure MixInv (U : Map Blk) (x : XSt) : Prop where
  p : MixP U x.hdrs x.full
  ext : StoreExt x.full.store x.hdrs

theorem MixInv.hinv {x : XSt} (h : MixInv U x) : HInv U (toH x) := by
  have := h.p.hinv
  unfold hview at this
  rw [overlay_of_ext h.ext] at this
  exact this

theorem mixInv_init (g : Blk) (hgU : U g.id = some g) (hg0 : g.number = 0) : MixInv U (xinit g) := by
  have hst : (xinit g).full.store = (xinit g).hdrs := rfl
  refine ⟨⟨?_, ancClosed_init g, ⟨g, by simp [xinit, init]⟩, ?_⟩, by rw [hst]; exact fun _ _ hx => hx⟩
  · have : hview (xinit g).hdrs (xinit g).full = hinit g := by
      unfold hview
      rw [hst, overlay_of_ext (fun _ _ hx => hx)]
      rfl
    rw [this]
    exact ⟨g, [], hinvC_init g hgU hg0⟩
  · exact fuelOk_of_stored (x := g) (by simp [xinit, init])

theorem raiseTop_le (s : St) (chain : List Blk) : s.top ≤ (raiseTop s chain).top ∧
    ∀ y ∈ chain, y.number ≤ (raiseTop s chain).top := by
  unfold raiseTop
  simp only
  generalize s.top = m
  induction chain generalizing m with
  | nil => exact ⟨Nat.le_refl _, by simp⟩
  | cons a l ih =>
    simp only [List.foldl_cons]
    obtain ⟨h1, h2⟩ := ih (max m a.number)
    refine ⟨by omega, ?_⟩
    intro y hy
    rcases List.mem_cons.mp hy with rfl | hy
    · omega
    · exact h2 y hy

theorem mixP_raiseTop {x : XSt} (h : MixInv U x) (chain : List Blk) : MixP U x.hdrs (raiseTop x.full chain) := by
  refine ⟨h.p.hinv, h.p.closed, h.p.headStored, ?_⟩
  intro hh' hhs
  have := h.p.fuel hh' hhs
  have hle := (raiseTop_le x.full chain).1
  show hh'.number ≤ max (raiseTop x.full chain).top (numAt x.full.store x.full.hhead)
  omega

theorem mixInv_blocks (W : World U) {x : XSt} (h : MixInv U x) (chain : List Blk) (hU : ∀ b ∈ chain, U b.id = some b)
    (coins : List (List Bool)) : MixInv U (xImportChain x chain coins).1 := by
  have h0 := mixP_raiseTop h chain
  have h1 := (stable_importChain W (mixP_stable W x.hdrs) h0 chain hU coins)
  have hP := h1.keeps (h1.noFail trivial)
  have hx' : (xImportChain x chain coins).1 =
      ⟨(importChain (raiseTop x.full chain) chain coins).1.st,
        overlay (importChain (raiseTop x.full chain) chain coins).1.st.store x.hdrs⟩ := rfl
  rw [hx']
  generalize (importChain (raiseTop x.full chain) chain coins).1.st = r at hP
  refine ⟨?_, overlay_ext _ _⟩
  obtain ⟨hh', HC', hI'⟩ := hP.hinv
  refine ⟨⟨hh', HC', ?_⟩, hP.closed, hP.headStored, ?_⟩
  · have : hview (overlay r.store x.hdrs) r = hview x.hdrs r := by
      unfold hview; rw [overlay_idem]
    rw [this]; exact hI'
  · intro hh'' hhs
    rw [overlay_idem] at hhs
    exact hP.fuel hh'' hhs

theorem mixInv_headers (W : World U) {x : XSt} (h : MixInv U x) (chain : List Blk) (hU : ∀ b ∈ chain, U b.id = some b)
    (coins : List Bool) : MixInv U (xImportHeaders x chain coins).1 := by
  have hH := h.hinv
  have hstep := hstep_importChain W hH chain hU coins
  have hhd := hImportChain_hhead (toH x) chain coins
  have hx' : (xImportHeaders x chain coins).1 =
      ⟨{ raiseTop x.full chain with
          td := (hImportChain (toH x) chain coins).1.st.td
          canon := (hImportChain (toH x) chain coins).1.st.canon
          hhead := (hImportChain (toH x) chain coins).1.st.hhead },
        (hImportChain (toH x) chain coins).1.st.store⟩ := rfl
  rw [hx']
  generalize (hImportChain (toH x) chain coins).1.st = r at hstep hhd
  have hext : StoreExt x.full.store r.store := fun k y hy => hstep.ext _ _ (h.ext _ _ hy)
  have hgen : r.genesis = x.full.genesis := hstep.gen
  refine ⟨⟨?_, ?_, h.p.headStored, ?_⟩, hext⟩
  · have : hview r.store { raiseTop x.full chain with td := r.td, canon := r.canon, hhead := r.hhead } = r := by
      cases r
      simp only [hview, HSt.mk.injEq, and_true]
      exact ⟨hgen.symm, overlay_of_ext hext⟩
    rw [this]
    exact hstep.inv
  · exact h.p.closed
  · intro hh hhs
    have hhs' : overlay x.full.store r.store r.hhead = some hh := hhs
    rw [overlay_of_ext hext] at hhs'
    show hh.number ≤ max (raiseTop x.full chain).top (numAt x.full.store r.hhead)
    have htop := raiseTop_le x.full chain
    rcases hhd with hold | ⟨y, hy, hnew⟩
    · -- the header head did not move
      have hold' : r.hhead = x.full.hhead := hold
      rw [hold'] at hhs' ⊢
      obtain ⟨hh0, HC0, hI0⟩ := hH
      have h0 : x.hdrs x.full.hhead = some hh0 := hI0.headStored
      have h1 : r.store x.full.hhead = some hh0 := hstep.ext _ _ h0
      rw [h1] at hhs'
      cases hhs'
      have := h.p.fuel hh (by rw [overlay_of_ext h.ext]; exact h0)
      omega
    · -- it is a header of the batch, whose height `top` covers
      obtain ⟨hh1, HC1, hI1⟩ := hstep.inv
      have hyU := hU y hy
      have hhU : U r.hhead = some hh := hI1.sub _ _ hhs'
      rw [hnew, hyU] at hhU
      cases hhU
      have := htop.2 hh hy
      omega

theorem mixInv_step (W : World U) {x : XSt} (h : MixInv U x) (op : MOp) (hop : MOpOk U op) : MixInv U (xstep x op) := by
  cases op with
  | blocks chain cs => exact mixInv_blocks W h chain hop _
  | headers chain coins => exact mixInv_headers W h chain hop coins

theorem mixInv_run (W : World U) : ∀ (ops : List MOp) {x : XSt}, MixInv U x → (∀ op ∈ ops, MOpOk U op) →
    MixInv U (xrun x ops) := by
  intro ops
  induction ops with
  | nil => intro x h _; exact h
  | cons op ops ih =>
    intro x h hops
    exact ih (mixInv_step W h op (hops op (by simp))) (fun o ho => hops o (List.mem_cons_of_mem _ ho))

end Aqv.Chain
