/-
  Aqv.Lemmas.ChainOps — `WriteBlockWithState` (extension, reorganisation, side block) and the side-chain writes preserve
  the invariant.  Everything is proved for `GInvC` (the block head may lag behind the header head, see `ChainK`); the
  statements for `InvC` (all heads equal) are corollaries.
-/
import Aqv.Lemmas.ChainK
namespace Aqv.Chain

theorem tdIntr_upd {U : Map Blk} (W : World U) {s : St} {hb : Blk} {C : List Blk} (h : InvC U s hb C) {b p : Blk}
    (hbU : U b.id = some b) (hpar : parentOf s.store b = some p) {ptd : Nat} (hptd : s.td b.parent = some ptd) :
    ∀ k t, upd s.td b.id (some (ptd + b.diff)) k = some t →
      ∃ x l, U k = some x ∧ Path U x l s.genesis ∧ t = s.genesis.diff + diffSum l :=
  TdIntr.write h.tdIntr h.sub hbU hpar hptd

theorem reorgApply_frame (s : St) (O N : List Blk) : ∃ c lk hd hhd fh,
    reorgApply s O N = { s with canon := c, lookup := lk, head := hd, hhead := hhd, fhead := fh } := by
  obtain ⟨c, lk, hd, hhd, fh, h⟩ := foldr_reorgStep_frame s N
  unfold reorgApply
  rw [h]
  exact ⟨_, _, _, _, _, rfl⟩

section fold
variable (s : St)

theorem foldr_store (l : List Blk) : (l.foldr reorgStep s).store = s.store := by
  obtain ⟨_, _, _, _, _, h⟩ := foldr_reorgStep_frame s l
  rw [h]

theorem foldr_head_cons (x : Blk) (l : List Blk) : ((x :: l).foldr reorgStep s).head = x.id := by
  simp [reorgStep, insertHead]

end fold

section apply
variable (s : St) (O N : List Blk)

theorem reorgApply_store : (reorgApply s O N).store = s.store := foldr_store s N

theorem reorgApply_receipts : (reorgApply s O N).receipts = s.receipts := by
  obtain ⟨_, _, _, _, _, h⟩ := reorgApply_frame s O N
  rw [h]

theorem reorgApply_onDisk : (reorgApply s O N).onDisk = s.onDisk := by
  obtain ⟨_, _, _, _, _, h⟩ := reorgApply_frame s O N
  rw [h]

theorem reorgApply_genesis : (reorgApply s O N).genesis = s.genesis := by
  obtain ⟨_, _, _, _, _, h⟩ := reorgApply_frame s O N
  rw [h]

theorem reorgApply_archive : (reorgApply s O N).archive = s.archive := by
  obtain ⟨_, _, _, _, _, h⟩ := reorgApply_frame s O N
  rw [h]

end apply

theorem walkBoth_same {store : Map Blk} {f : Nat} {o n c : Blk} {oc nc : List Blk}
    (h : walkBoth store f o n = some (c, oc, nc)) (hid : o.id = n.id) : oc = [] ∧ nc = [] := by
  cases f with
  | zero => cases h
  | succ f =>
    unfold walkBoth at h
    rw [if_pos hid] at h
    cases h
    exact ⟨rfl, rfl⟩

/-- The walks of a successful `reorg`.  Both sides are first walked up to the height of the lower of the two (`oc1` from
    `old` to `o`, `nc1` from `new` to `n`), then stepped back in lock-step until the hashes agree (`oc2` from `o` to `c`,
    `nc2` from `n` to `c'`); the result re-inserts the new side over the old one. -/
structure ReorgWalks (s s2 : St) (old new o n c c' : Blk) (oc1 nc1 oc2 nc2 : List Blk) : Prop where
  oldUp : Path s.store old oc1 o
  oldNum : o.number = min old.number new.number
  newUp : Path s.store new nc1 n
  newNum : n.number = min old.number new.number
  oldDown : Path s.store o oc2 c
  newDown : Path s.store n nc2 c'
  sameId : c.id = c'.id
  meet : o.id = n.id → oc2 = [] ∧ nc2 = []
  eq : s2 = reorgApply s (oc1 ++ oc2) (nc1 ++ nc2)

theorem reorg_spec {s s2 : St} {old new : Blk} (h : reorg s old new = some s2) :
    ∃ (o n c c' : Blk) (oc1 nc1 oc2 nc2 : List Blk), ReorgWalks s s2 old new o n c c' oc1 nc1 oc2 nc2 := by
  unfold reorg at h
  simp only at h
  split at h
  · cases h
  · rename_i o oc1 hr1
    split at h
    · cases h
    · rename_i n nc1 hr2
      split at h
      · cases h
      · rename_i c oc2 nc2 hw
        obtain ⟨hp1, hn1⟩ := reduce_spec _ _ _ _ _ hr1
        obtain ⟨hp2, hn2⟩ := reduce_spec _ _ _ _ _ hr2
        obtain ⟨c', hw1, hw2, hid⟩ := walkBoth_spec _ _ _ _ _ _ hw
        cases h
        exact ⟨o, n, c, c', oc1, nc1, oc2, nc2, hp1, hn1, hp2, hn2, hw1, hw2, hid, walkBoth_same hw, rfl⟩

theorem reorg_frame {s s2 : St} {old new : Blk} (h : reorg s old new = some s2) : ∃ c lk hd hhd fh,
    s2 = { s with canon := c, lookup := lk, head := hd, hhead := hhd, fhead := fh } := by
  obtain ⟨_, _, _, _, _, _, _, _, hw⟩ := reorg_spec h
  rw [hw.eq]
  exact reorgApply_frame _ _ _

theorem afterTd_onDisk (s : St) (b : Blk) (ptd : Nat) :
    (∀ k, (afterTd s b ptd).onDisk k = true → s.onDisk k = true ∨ k = b.id) ∧
    (∀ k, s.onDisk k = true → (afterTd s b ptd).onDisk k = true) := by
  constructor
  · intro k hk
    simp only [afterTd] at hk
    split at hk
    · by_cases hkb : k = b.id
      · exact .inr hkb
      · rw [updB_other _ _ _ _ hkb] at hk; exact .inl hk
    · exact .inl hk
  · intro k hk
    simp only [afterTd]
    split
    · exact updB_true_of _ _ _ hk
    · exact hk

theorem afterStored_onDisk (s : St) (b : Blk) (ptd : Nat) : (afterStored s b ptd).onDisk = (afterTd s b ptd).onDisk := rfl

theorem ginvC_frame {U : Map Blk} {s s' : St} {hh : Blk} {HC : List Blk} (h : GInvC U s hh HC)
    (hext : StoreExt s.store s'.store) (hsub : StoreExt s'.store U)
    (hgen : s'.genesis = s.genesis)
    (hcanon : ∀ n, s'.canon n = s.canon n) (hlookup : ∀ t, s'.lookup t = s.lookup t)
    (hhead : s'.head = s.head) (hhh : s'.hhead = s.hhead) (hfh : s'.fhead = s.fhead)
    (hseen : ∀ k, s.seen k = true → s'.seen k = true)
    (hclosed : ∀ k x, s'.seen k = true → U k = some x → x.number ≠ 0 → s'.seen x.parent = true)
    (hstate : ∀ k, s'.hasState k = true → s'.seen k = true)
    (hdisk : ∀ k, s'.onDisk k = true → s'.hasState k = true)
    (hrcpt : ∀ k, s'.seen k = true → s'.receipts k = true)
    (htd : TdIntr U s.genesis s'.td)
    (hstd : ∀ k x, s'.store k = some x → (s'.td k).isSome = true)
    (hgs : s'.onDisk s.genesis.id = true) (hhs : s'.hasState s.head = true) :
    GInvC U s' hh HC :=
  { k :=
      { il := h.k.il.mono hext hsub hgen hcanon hlookup hhh
        canonSeen := by intro x hx; rw [hgen] at hx; exact hseen _ (h.k.canonSeen x hx)
        seenClosed := hclosed, stateSeen := hstate, diskState := hdisk, seenRcpt := hrcpt
        tdIntr := by rw [hgen]; exact htd
        storeTd := hstd
        genState := by rw [hgen]; exact hgs }
    headOn := by rw [hgen, hhead]; exact h.headOn
    fheadOn := by rw [hgen, hfh]; exact h.fheadOn
    headState := by rw [hhead]; exact hhs }

/-- a side block: `WriteBlockWithState` of a block that does not become the head -/
theorem ginv_side {U : Map Blk} {s : St} {hh : Blk} {HC : List Blk} (h : GInvC U s hh HC) {b p : Blk}
    (hbU : U b.id = some b) (hpar : parentOf s.store b = some p) (hps : s.hasState b.parent = true)
    {ptd : Nat} (hptd : s.td b.parent = some ptd) : GInvC U (afterSide s b ptd) hh HC := by
  have hsub := h.k.il.idx.sub
  obtain ⟨he1, he2⟩ := storeExt_updK hsub hbU
  refine ginvC_frame h (hext := he1) (hsub := he2)
    (hgen := rfl) (hcanon := fun _ => rfl) (hlookup := fun _ => rfl) (hhead := rfl) (hhh := rfl) (hfh := rfl)
    (hseen := fun k hk => updB_true_of _ _ _ hk) (hclosed := ?_) (hstate := updB_mono h.k.stateSeen _) (hdisk := ?_)
    (hrcpt := updB_mono h.k.seenRcpt _) (htd := TdIntr.write h.k.tdIntr hsub hbU hpar hptd)
    (hstd := upd_isSome_mono h.k.storeTd _ _ _) (hgs := (afterTd_onDisk s b ptd).2 _ h.k.genState)
    (hhs := updB_true_of _ _ _ h.headState)
  · -- the parent of `b` has its state, so it is fully validated
    intro k x (hk : updB s.seen b.id true k = true) hxU hx0
    by_cases hkb : k = b.id
    · subst hkb
      rw [hbU] at hxU; cases hxU
      exact updB_true_of _ _ _ (h.k.stateSeen _ hps)
    · rw [updB_other _ _ _ _ hkb] at hk
      exact updB_true_of _ _ _ (h.k.seenClosed k x hk hxU hx0)
  · intro k hk
    rcases (afterTd_onDisk s b ptd).1 k hk with hk' | hk'
    · exact updB_true_of _ _ _ (h.k.diskState k hk')
    · subst hk'; exact updB_same _ _ _

theorem ginv_withoutState {U : Map Blk} {s : St} {hh : Blk} {HC : List Blk} (h : GInvC U s hh HC)
    {b p : Blk} (hbU : U b.id = some b) (hpar : parentOf s.store b = some p) {ptd : Nat}
    (hptd : s.td b.parent = some ptd) :
    GInvC U { s with td := upd s.td b.id (some (ptd + b.diff)), store := upd s.store b.id (some b) } hh HC := by
  have hsub := h.k.il.idx.sub
  obtain ⟨he1, he2⟩ := storeExt_updK hsub hbU
  exact ginvC_frame h (hext := he1) (hsub := he2)
    (hgen := rfl) (hcanon := fun _ => rfl) (hlookup := fun _ => rfl) (hhead := rfl) (hhh := rfl) (hfh := rfl)
    (hseen := fun _ hk => hk) (hclosed := h.k.seenClosed) (hstate := h.k.stateSeen) (hdisk := h.k.diskState)
    (hrcpt := h.k.seenRcpt) (htd := TdIntr.write h.k.tdIntr hsub hbU hpar hptd)
    (hstd := upd_isSome_mono h.k.storeTd _ _ _) (hgs := h.k.genState) (hhs := h.headState)

theorem invC_withoutState {U : Map Blk} (W : World U) {s : St} {hb : Blk} {C : List Blk} (h : InvC U s hb C) {b p : Blk}
    (hbU : U b.id = some b) (hpar : parentOf s.store b = some p) {ptd : Nat} (hptd : s.td b.parent = some ptd) :
    InvC U { s with td := upd s.td b.id (some (ptd + b.diff)), store := upd s.store b.id (some b) } hb C :=
  (ginv_withoutState (h.toG W) hbU hpar hptd).toC h.hheadEq h.fheadEq

/-- The invariant once index and lookups of the new database are known to describe a chain through the new block head `b`
    (`hI`, `hbm`): the remaining fields are those of the old database plus the records of `b`. -/
theorem ginv_assemble {U : Map Blk} (W : World U) {s s' : St} {hh : Blk} {HC : List Blk} (hG : GInvC U s hh HC)
    {b p : Blk} (hbU : U b.id = some b) (hpar : parentOf s.store b = some p) (hps : s.hasState b.parent = true)
    {ptd : Nat} (hptd : s.td b.parent = some ptd)
    (hstore : s'.store = upd s.store b.id (some b)) (hgen : s'.genesis = s.genesis)
    (htd : s'.td = upd s.td b.id (some (ptd + b.diff)))
    (hseen : s'.seen = updB s.seen b.id true) (hrc : s'.receipts = updB s.receipts b.id true)
    (hst : s'.hasState = updB s.hasState b.id true)
    (hdisk : ∀ k, s'.onDisk k = true → s.onDisk k = true ∨ k = b.id)
    (hdisk' : ∀ k, s.onDisk k = true → s'.onDisk k = true)
    (hhead : s'.head = b.id)
    {hh' : Blk} {HC' : List Blk} (hI : IdxL U s' hh' HC') (hbm : b ∈ HC' ++ [s.genesis])
    (hcase : (hh' = hh ∧ HC' = HC ∧ s'.fhead = s.fhead) ∨ (hh' = b ∧ s'.fhead = b.id)) :
    GInvC U s' hh' HC' := by
  have hK := hG.k
  have hsub := hK.il.idx.sub
  -- apart from index, lookups and heads the new database is the one a side write of `b` would give
  have hS := (ginv_side hG hbU hpar hps hptd).k
  refine
    { k :=
        { il := hI
          canonSeen := ?_
          seenClosed := by rw [hseen]; exact hS.seenClosed
          stateSeen := by rw [hst, hseen]; exact hS.stateSeen
          diskState := ?_
          seenRcpt := by rw [hseen, hrc]; exact hS.seenRcpt
          tdIntr := by rw [htd, hgen]; exact hS.tdIntr
          storeTd := by rw [hstore, htd]; exact hS.storeTd
          genState := by rw [hgen]; exact hdisk' _ hK.genState }
      headOn := ⟨b, by rw [hgen]; exact hbm, hhead⟩
      fheadOn := ?_
      headState := by rw [hhead, hst]; simp }
  · -- the blocks of the chain are fully validated: `b` is now, its ancestors were (the parent has its state)
    intro x hx
    rw [hgen] at hx
    rw [hseen]
    rcases hcase with ⟨_, hC, _⟩ | ⟨hb', _⟩
    · subst hC; exact updB_true_of _ _ _ (hK.canonSeen x hx)
    · subst hb'
      obtain ⟨hps', hpn⟩ := parentOf_some hpar
      have hpid : p.id = hh'.parent := W.ids _ _ (hsub _ _ hps')
      have hpath : Path (upd s.store hh'.id (some hh')) hh' HC' s.genesis := by
        have := hI.idx.path
        rwa [hstore, hgen] at this
      cases hpath with
      | nil => have := hK.il.idx.genNum; omega
      | cons hp' hrest =>
        rw [parentOf_mono (storeExt_updK hsub hbU).1 hpar] at hp'
        cases hp'
        rcases List.mem_cons.mp hx with rfl | hx
        · simp
        · apply updB_true_of
          rcases List.mem_append.mp hx with hx | hx
          · exact seen_along W hsub hK.seenClosed (Path.unupd hrest (by omega))
              (by rw [hpid]; exact hK.stateSeen _ hps) (by rw [hpid]; exact hsub _ _ hps') x hx
          · exact hK.canonSeen x (List.mem_append_right _ hx)
  · intro k hk
    rw [hst]
    rcases hdisk k hk with hk | hk
    · exact updB_true_of _ _ _ (hK.diskState k hk)
    · subst hk; simp
  · rcases hcase with ⟨_, hC, hf⟩ | ⟨_, hf⟩
    · subst hC
      obtain ⟨fb, hfb, hfe⟩ := hG.fheadOn
      exact ⟨fb, by rw [hgen]; exact hfb, by rw [hf, hfe]⟩
    · exact ⟨b, by rw [hgen]; exact hbm, hf⟩

/-- what the canonical branch of `WriteBlockWithState` establishes; if `b` was on the indexed chain already, only the
    block head moves -/
def CanonOutcome (U : Map Blk) (s s' : St) (HC : List Blk) (b : Blk) : Prop :=
  GInv U s' ∧ s'.head = b.id ∧
    ((b ∈ HC ++ [s.genesis] ∧ s'.hhead = s.hhead ∧ s'.fhead = s.fhead) ∨
     (b ∉ HC ++ [s.genesis] ∧ s'.hhead = b.id ∧ s'.fhead = b.id))

/-- the last batch of the canonical branch writes the block and its receipts; where they were written before `reorg`
    (`afterStored`), whatever `reorg` did to index and heads since, writing them again changes nothing -/
theorem afterCanon_afterStored (s : St) (b : Blk) (ptd : Nat) (c : Map Nat) (lk : Map Loc) (hd hhd fh : Nat) :
    afterCanon { afterStored s b ptd with canon := c, lookup := lk, head := hd, hhead := hhd, fhead := fh } b =
      afterCanon { afterTd s b ptd with canon := c, lookup := lk, head := hd, hhead := hhd, fhead := fh } b := by
  simp only [afterCanon, afterStored, afterTd, upd_upd_same, updB_updB_same]

/-- the extension branch writes them with the last batch only -/
theorem afterCanon_afterTd (s : St) (b : Blk) (ptd : Nat) :
    afterCanon (afterTd s b ptd) b = afterCanon (afterStored s b ptd) b :=
  (afterCanon_afterStored s b ptd s.canon s.lookup s.head s.hhead s.fhead).symm

/-- The end of the canonical branch, `batch.Write()` and `insert(b)`, on the database `sF` that `reorg` (or nothing, for
    an extension of the head) left.  The index of `sF` describes a chain through the parent of `b`: for an extension
    `insert` still has to switch it to `b`, after `reorg` the block `b` is indexed already. -/
theorem ginv_canon_final {U : Map Blk} (W : World U) {s : St} {hh : Blk} {HC : List Blk} (hG : GInvC U s hh HC)
    {b p : Blk} (hbU : U b.id = some b) (hpar : parentOf s.store b = some p) (hps : s.hasState b.parent = true)
    {ptd : Nat} (hptd : s.td b.parent = some ptd) {c : Map Nat} {lk : Map Loc} {hd hhd fh : Nat} {sF : St}
    (hsF : sF = { afterStored s b ptd with canon := c, lookup := lk, head := hd, hhead := hhd, fhead := fh })
    {hh' : Blk} {HC' : List Blk} (hI : IdxL U sF hh' HC') (hpm : p ∈ HC' ++ [s.genesis])
    (hcase : (hh' = hh ∧ HC' = HC ∧ fh = s.fhead) ∨ (hh' = b ∧ fh = b.id)) :
    CanonOutcome U sF (afterCanon sF b) HC' b := by
  subst hsF
  obtain ⟨he1, he2⟩ := storeExt_updK hG.k.il.idx.sub hbU
  -- the database with the records of `b`, before its lookups are written and `insert` is called
  let T : St := { afterStored s b ptd with
    canon := c, lookup := lk, head := hd, hhead := hhd, fhead := fh
    store := upd (upd s.store b.id (some b)) b.id (some b)
    receipts := updB (updB s.receipts b.id true) b.id true
    seen := updB s.seen b.id true }
  have hIT : IdxL U T hh' HC' :=
    hI.mono (by show StoreExt _ (upd _ _ _); rw [upd_upd_same]; exact fun _ _ hx => hx)
      (by show StoreExt (upd _ _ _) U; rw [upd_upd_same]; exact he2) rfl (fun _ => rfl) (fun _ => rfl) rfl
  have hparT : parentOf T.store b = some p := by
    show parentOf (upd _ _ _) b = some p
    rw [upd_upd_same]; exact parentOf_mono he1 hpar
  have hstep := idxL_step W hIT true (x := b) (upd_same _ _ _) hparT hpm
  have hasm : ∀ {hh'' : Blk} {HC'' : List Blk}, IdxL U (insertAndWrite true b T) hh'' HC'' → b ∈ HC'' ++ [s.genesis] →
      ((hh'' = hh ∧ HC'' = HC ∧ (insertAndWrite true b T).fhead = s.fhead) ∨
        (hh'' = b ∧ (insertAndWrite true b T).fhead = b.id)) → GInvC U (insertAndWrite true b T) hh'' HC'' :=
    fun hI'' hbm hc => ginv_assemble W hG (s' := insertAndWrite true b T) hbU hpar hps hptd
      (hstore := upd_upd_same _ _ _ _) (hgen := rfl) (htd := rfl) (hseen := rfl) (hrc := updB_updB_same _ _ _ _)
      (hst := rfl) (hdisk := (afterTd_onDisk s b ptd).1) (hdisk' := (afterTd_onDisk s b ptd).2) (hhead := rfl) hI'' hbm hc
  show CanonOutcome U _ (insertAndWrite true b T) HC' b
  by_cases hbm : b ∈ HC' ++ [s.genesis]
  · obtain ⟨hI'', hf⟩ := hstep.1 hbm
    refine ⟨⟨hh', HC', hasm hI'' hbm ?_⟩, rfl, .inl ⟨hbm, hI''.hhead.trans hI.hhead.symm, hf⟩⟩
    rcases hcase with ⟨h1, h2, h3⟩ | ⟨h1, h3⟩
    · exact .inl ⟨h1, h2, hf.trans h3⟩
    · exact .inr ⟨h1, hf.trans h3⟩
  · obtain ⟨_, R, _, _, hR⟩ := hIT.idx.splitAt hpm
    obtain ⟨hI'', hf⟩ := hstep.2 hbm R hR
    exact ⟨⟨b, b :: R, hasm hI'' (by simp) (.inr ⟨rfl, hf⟩)⟩, rfl, .inr ⟨hbm, hI''.hhead, hf⟩⟩

theorem ginv_reorg {U : Map Blk} (W : World U) {s : St} {hh : Blk} {HC : List Blk} (hG : GInvC U s hh HC) {b p cb : Blk}
    (hbU : U b.id = some b) (hpar : parentOf s.store b = some p) (hps : s.hasState b.parent = true)
    {ptd : Nat} (hptd : s.td b.parent = some ptd) (hcb : s.store s.head = some cb)
    {lt : Nat} (hlt : s.td s.head = some lt) (hge : lt ≤ ptd + b.diff)
    {s2 : St} (hr : reorg (afterStored s b ptd) cb b = some s2) :
    CanonOutcome U s (afterCanon s2 b) HC b := by
  have hK := hG.k
  have hIs := hK.il
  have hsub := hIs.idx.sub
  obtain ⟨he1, he2⟩ := storeExt_updK hsub hbU
  obtain ⟨cb', hcbm, hcbid, hcbs⟩ := hG.headStored W
  have hcbe : cb' = cb := by rw [hcb] at hcbs; cases hcbs; rfl
  subst hcbe
  obtain ⟨o, n, c, c', oc1, nc1, oc2, nc2, hw⟩ := reorg_spec hr
  -- the database the walks and the re-insertion loop run on
  have hI1 : IdxL U (afterStored s b ptd) hh HC := hIs.mono he1 he2 rfl (fun _ => rfl) (fun _ => rfl) rfl
  have hpar1 : parentOf (afterStored s b ptd).store b = some p := parentOf_mono he1 hpar
  -- the old side of the fork lies on the indexed chain
  obtain ⟨hp1, hom⟩ := hIs.idx.path_from_mem hcbm he1 hw.oldUp
  obtain ⟨_, hcm⟩ := hIs.idx.path_from_mem hcbm he1 (hw.oldUp.append hw.oldDown)
  have hcU : U c.id = some c := hsub _ _ (hIs.idx.chainStored W c hcm)
  have hN' : Path (afterStored s b ptd).store b (nc1 ++ nc2) c' := hw.newUp.append hw.newDown
  -- both walks end in the block of the universe with the same hash
  have hcc : c' = c := by
    have hc'U := ((hN'.mono he2).stored_of W.ids hbU).2
    rw [← hw.sameId, hcU] at hc'U
    cases hc'U; rfl
  subst hcc
  obtain rfl := hw.eq
  -- if `b` lies on the indexed chain (which is then ahead of the block head), there is no old side
  have hOnil : b ∈ HC ++ [s.genesis] → oc1 ++ oc2 = [] := by
    intro hbm
    obtain ⟨hp2, hnm⟩ := hIs.idx.path_from_mem hbm he1 hw.newUp
    have hon : o = n := hIs.idx.chainNumInj o hom n hnm (by rw [hw.oldNum, hw.newNum])
    subst hon
    rw [(hw.meet rfl).1, List.append_nil]
    have ho := hw.oldNum
    by_cases hlow : cb'.number ≤ b.number
    · exact List.eq_nil_of_length_eq_zero (by have := hp1.number; omega)
    · -- `b` would be a proper ancestor of the block head, hence strictly lighter
      have hnc1 : nc1 = [] := List.eq_nil_of_length_eq_zero (by have := hp2.number; omega)
      subst hnc1
      cases hp2
      exact hK.heavy_not_below W (hIs.idx.chainStored W b hbm) hpar hptd (hcbid ▸ hcb) (hcbid ▸ hlt) hge hp1
  obtain ⟨hfA, hfB⟩ := idxL_reorgApply W hI1 (b := b) (upd_same _ _ _) hN' hcbm (hw.oldUp.append hw.oldDown) hOnil
  obtain ⟨c0, lk, hd, hhd, fh, hfr⟩ := reorgApply_frame (afterStored s b ptd) (oc1 ++ oc2) (nc1 ++ nc2)
  have hfh : (reorgApply (afterStored s b ptd) (oc1 ++ oc2) (nc1 ++ nc2)).fhead = fh := congrArg St.fhead hfr
  have hfin := fun {hh' : Blk} {HC' : List Blk} => ginv_canon_final W hG hbU hpar hps hptd hfr (hh' := hh') (HC' := HC')
  by_cases hbm : b ∈ HC ++ [s.genesis]
  · -- nothing is displaced: only the block head moves
    obtain ⟨hIf, hff⟩ := hfA hbm
    obtain ⟨hG', hd1, hc1⟩ := hfin hIf (hIs.idx.parent_mem hbm hpar) (.inl ⟨rfl, rfl, hfh.symm.trans hff⟩)
    rcases hc1 with ⟨_, h1, h2⟩ | ⟨hbn, _⟩
    · exact ⟨hG', hd1, .inl ⟨hbm, h1.trans (hIf.hhead.trans hIs.hhead.symm), h2.trans hff⟩⟩
    · exact absurd (by rw [reorgApply_genesis]; exact hbm) hbn
  · -- the index switches to the chain of `b`
    obtain ⟨R, hIf, hff⟩ := hfB hbm
    have hpm : p ∈ (nc1 ++ nc2 ++ R) ++ [s.genesis] := by
      have := hIf.idx.parent_mem hIf.idx.headMem (by rw [reorgApply_store]; exact hpar1)
      rwa [reorgApply_genesis] at this
    obtain ⟨hG', hd1, hc1⟩ := hfin hIf hpm (.inr ⟨rfl, hfh.symm.trans hff⟩)
    refine ⟨hG', hd1, .inr ⟨hbm, ?_⟩⟩
    rcases hc1 with ⟨_, h1, h2⟩ | ⟨_, h1, h2⟩
    · exact ⟨h1.trans hIf.hhead, h2.trans hff⟩
    · exact ⟨h1, h2⟩

inductive WbwsCase (s : St) (b : Blk) (coin : Bool) : Prop
  | early (e : Err) (eq : writeBlockWithState s b coin = ⟨s, some e⟩) (notReorg : e ≠ .reorgFail)
      (why : (s.td b.parent = none ∧ e ≠ .modelPanic) ∨ s.store s.head = none ∨ s.td s.head = none)
  | reorgFailed (ptd : Nat) (cur : Blk) (hptd : s.td b.parent = some ptd) (hcur : s.store s.head = some cur)
      (hr : reorg (afterStored s b ptd) cur b = none)
      (eq : writeBlockWithState s b coin = ⟨afterStored s b ptd, some .reorgFail⟩)
  | canonical (ptd : Nat) (s2 : St) (cur : Blk) (lt : Nat) (hptd : s.td b.parent = some ptd)
      (hcur : s.store s.head = some cur) (hlt : s.td s.head = some lt)
      (hdec : decideReorg (ptd + b.diff) lt b.number cur.number coin = true)
      (hs2 : (s2 = afterTd s b ptd ∧ b.parent = cur.id) ∨ reorg (afterStored s b ptd) cur b = some s2)
      (eq : writeBlockWithState s b coin = ⟨afterCanon s2 b, none⟩)
  | side (ptd : Nat) (cur : Blk) (lt : Nat) (hptd : s.td b.parent = some ptd) (hcur : s.store s.head = some cur)
      (hlt : s.td s.head = some lt) (hdec : decideReorg (ptd + b.diff) lt b.number cur.number coin = false)
      (eq : writeBlockWithState s b coin = ⟨afterSide s b ptd, none⟩)

/-- `WriteBlockWithState` past its nil checks -/
theorem wbws_eq {s : St} {b cur : Blk} {ptd lt : Nat} (hptd : s.td b.parent = some ptd)
    (hcur : s.store s.head = some cur) (hlt : s.td s.head = some lt) (coin : Bool) :
    writeBlockWithState s b coin =
      if decideReorg (ptd + b.diff) lt b.number cur.number coin then
        if b.parent != cur.id then
          match reorg (afterStored s b ptd) cur b with
          | none => ⟨afterStored s b ptd, some .reorgFail⟩
          | some s2 => ⟨afterCanon s2 b, none⟩
        else ⟨afterCanon (afterTd s b ptd) b, none⟩
      else ⟨afterSide s b ptd, none⟩ := by
  rw [writeBlockWithState, hptd, hcur, hlt]
  rfl

theorem wbws_cases (s : St) (b : Blk) (coin : Bool) : WbwsCase s b coin := by
  cases hptd : s.td b.parent with
  | none => exact .early .unknownAncestor (by rw [writeBlockWithState, hptd]) (by simp) (.inl ⟨hptd, by simp⟩)
  | some ptd =>
    cases hh : s.store s.head with
    | none => exact .early .modelPanic (by rw [writeBlockWithState, hptd, hh]) (by simp) (.inr (.inl hh))
    | some cur =>
      cases hl : s.td s.head with
      | none => exact .early .modelPanic (by rw [writeBlockWithState, hptd, hh, hl]) (by simp) (.inr (.inr hl))
      | some lt =>
        cases hdec : decideReorg (ptd + b.diff) lt b.number cur.number coin with
        | false =>
          refine .side ptd cur lt hptd hh hl hdec ?_
          rw [wbws_eq hptd hh hl, hdec, if_neg (by simp)]
        | true =>
          by_cases hext : (b.parent != cur.id) = true
          · cases hr : reorg (afterStored s b ptd) cur b with
            | none =>
              refine .reorgFailed ptd cur hptd hh hr ?_
              rw [wbws_eq hptd hh hl, hdec, if_pos rfl, if_pos hext, hr]
            | some s2 =>
              refine .canonical ptd s2 cur lt hptd hh hl hdec (.inr hr) ?_
              rw [wbws_eq hptd hh hl, hdec, if_pos rfl, if_pos hext, hr]
          · refine .canonical ptd _ cur lt hptd hh hl hdec (.inl ⟨rfl, by simpa using hext⟩) ?_
            rw [wbws_eq hptd hh hl, hdec, if_pos rfl, if_neg hext]

theorem wbws_err_eq {s : St} {b : Blk} {coin : Bool} {e : Err} (h : (writeBlockWithState s b coin).err = some e) :
    ((writeBlockWithState s b coin).st = s ∧ e ≠ .reorgFail ∧
      ((s.td b.parent = none ∧ e ≠ .modelPanic) ∨ s.store s.head = none ∨ s.td s.head = none)) ∨
    (e = .reorgFail ∧ ∃ ptd cur, s.td b.parent = some ptd ∧ s.store s.head = some cur ∧
      reorg (afterStored s b ptd) cur b = none ∧ (writeBlockWithState s b coin).st = afterStored s b ptd) := by
  cases wbws_cases s b coin with
  | early e' he hne hwhy => rw [he] at h ⊢; cases h; exact .inl ⟨rfl, hne, hwhy⟩
  | reorgFailed ptd cur hptd hcur hr he => rw [he] at h ⊢; cases h; exact .inr ⟨rfl, ptd, cur, hptd, hcur, hr, rfl⟩
  | canonical _ _ _ _ _ _ _ _ _ he => rw [he] at h; cases h
  | side _ _ _ _ _ _ _ he => rw [he] at h; cases h

theorem wbws_err_st {s : St} {b : Blk} {coin : Bool} {e : Err} (h : (writeBlockWithState s b coin).err = some e)
    (hne : e ≠ .reorgFail) : (writeBlockWithState s b coin).st = s := by
  rcases wbws_err_eq h with ⟨hst, _⟩ | ⟨he, _⟩
  · exact hst
  · exact absurd he hne

theorem ginvC_canon {U : Map Blk} (W : World U) {s : St} {hh : Blk} {HC : List Blk} (hG : GInvC U s hh HC) {b p cur : Blk}
    (hbU : U b.id = some b) (hpar : parentOf s.store b = some p) (hps : s.hasState b.parent = true)
    {ptd lt : Nat} (hptd : s.td b.parent = some ptd) (hcur : s.store s.head = some cur) (hlt : s.td s.head = some lt)
    {coin : Bool} (hdec : decideReorg (ptd + b.diff) lt b.number cur.number coin = true) {s2 : St}
    (hs2 : (s2 = afterTd s b ptd ∧ b.parent = cur.id) ∨ reorg (afterStored s b ptd) cur b = some s2) :
    CanonOutcome U s (afterCanon s2 b) HC b := by
  rcases hs2 with ⟨hs2, hpe⟩ | hr
  · -- extension of the block head, which is the parent: the index still describes the old chain
    subst hs2
    obtain ⟨cb, hcbm, _, hcbs⟩ := hG.headStored W
    have hpcb : p = cb := by
      have h1 := (parentOf_some hpar).1
      rw [hpe, W.ids _ _ (hG.k.il.idx.sub _ _ hcur), hcbs] at h1
      cases h1; rfl
    subst hpcb
    obtain ⟨he1, he2⟩ := storeExt_updK hG.k.il.idx.sub hbU
    rw [afterCanon_afterTd]
    exact ginv_canon_final W hG hbU hpar hps hptd (sF := afterStored s b ptd) rfl
      (hG.k.il.mono he1 he2 rfl (fun _ => rfl) (fun _ => rfl) rfl) hcbm (.inl ⟨rfl, rfl, rfl⟩)
  · exact ginv_reorg W hG hbU hpar hps hptd hcur hlt (decideReorg_ge hdec) hr

/-- `hok`: `reorg` fails only on a broken ancestry; on an ancestor-closed store `wbws_no_reorgFail` (`ChainTd`) discharges it. -/
theorem ginvC_wbws {U : Map Blk} (W : World U) {s : St} {hh : Blk} {HC : List Blk} (hG : GInvC U s hh HC) {b p : Blk}
    (hbU : U b.id = some b) (hpar : parentOf s.store b = some p) (hps : s.hasState b.parent = true) (coin : Bool)
    (hok : (writeBlockWithState s b coin).err ≠ some .reorgFail) :
    ∃ hh' HC', GInvC U (writeBlockWithState s b coin).st hh' HC' ∧
      HeadsFollow s (writeBlockWithState s b coin).st hh hh' := by
  cases wbws_cases s b coin with
  | early _ he =>
    rw [he]
    exact ⟨hh, HC, hG, .same rfl rfl⟩
  | reorgFailed _ _ _ _ _ he =>
    rw [he] at hok
    exact absurd rfl hok
  | side ptd _ _ hptd _ _ _ he =>
    rw [he]
    exact ⟨hh, HC, ginv_side hG hbU hpar hps hptd, .same rfl rfl⟩
  | canonical ptd s2 cur lt hptd hcur hlt hdec hs2 he =>
    rw [he]
    obtain ⟨⟨hh', HC', hG'⟩, hhead, hcase⟩ := ginvC_canon W hG hbU hpar hps hptd hcur hlt hdec hs2
    refine ⟨hh', HC', hG', fun h1 h2 => ?_⟩
    have hI := hG.k.il.idx
    rcases hcase with ⟨hbm, hhh, hfh⟩ | ⟨_, hhh, hfh⟩
    · -- a block of the indexed chain at least as heavy as its head is the head
      obtain ⟨O, _, _, hO, _⟩ := hI.splitAt hbm
      obtain rfl := hG.k.heavy_not_below W (hI.chainStored W b hbm) hpar hptd hI.headStored (h1 ▸ hlt)
        (decideReorg_ge hdec) hO
      cases hO
      have : hh'.id = hh.id := hG'.k.il.hhead.symm.trans (hhh.trans hG.k.il.hhead)
      exact ⟨hhead.trans this.symm, (hfh.trans h2).trans this.symm⟩
    · have : hh'.id = b.id := hG'.k.il.hhead.symm.trans hhh
      exact ⟨hhead.trans this.symm, hfh.trans this.symm⟩

theorem ginv_wbws {U : Map Blk} (W : World U) {s : St} (h : GInv U s) {b p : Blk} (hbU : U b.id = some b)
    (hpar : parentOf s.store b = some p) (hps : s.hasState b.parent = true) (coin : Bool)
    (hok : (writeBlockWithState s b coin).err ≠ some .reorgFail) : GInv U (writeBlockWithState s b coin).st := by
  obtain ⟨hh, HC, hG⟩ := h
  obtain ⟨hh', HC', hG', -⟩ := ginvC_wbws W hG hbU hpar hps coin hok
  exact ⟨hh', HC', hG'⟩

theorem inv_wbws {U : Map Blk} (W : World U) {s : St} (h : Inv U s) {b p : Blk} (hbU : U b.id = some b)
    (hpar : parentOf s.store b = some p) (hps : s.hasState b.parent = true) (coin : Bool)
    (hok : (writeBlockWithState s b coin).err ≠ some .reorgFail) : Inv U (writeBlockWithState s b coin).st := by
  obtain ⟨hb, C, h⟩ := h
  obtain ⟨hh', HC', hG', hheads⟩ := ginvC_wbws W (h.toG W) hbU hpar hps coin hok
  exact h.step W hG' hheads

/-- `insert` and `reorg` touch index, lookups and heads only: under them the records are those of a side write -/
theorem afterCanon_eq {s s2 : St} {b cur : Blk} {ptd : Nat}
    (hs2 : s2 = afterTd s b ptd ∨ reorg (afterStored s b ptd) cur b = some s2) :
    ∃ c lk hhd fh, afterCanon s2 b =
      { afterSide s b ptd with canon := c, lookup := lk, head := b.id, hhead := hhd, fhead := fh } := by
  rcases hs2 with rfl | hr
  · exact ⟨_, _, _, _, rfl⟩
  · obtain ⟨c, lk, hd, hhd, fh, rfl⟩ := reorg_frame hr
    rw [afterCanon_afterStored]
    exact ⟨_, _, _, _, rfl⟩

/-- What a call of `WriteBlockWithState` that returned no error did.  The records (block, td, receipts, states, `seen`) are
    those of a side write whatever the fork choice; the block head afterwards is `b` or the old head, whichever is not lighter. -/
theorem wbws_ok_eq {s : St} {b : Blk} {coin : Bool} (h : (writeBlockWithState s b coin).err = none) :
    ∃ ptd lt, s.td b.parent = some ptd ∧ s.td s.head = some lt ∧
      ∃ c lk hd hhd fh,
        (writeBlockWithState s b coin).st =
          { afterSide s b ptd with canon := c, lookup := lk, head := hd, hhead := hhd, fhead := fh } ∧
        ForkChoice s.head hd b (ptd + b.diff) lt := by
  cases wbws_cases s b coin with
  | early _ he => rw [he] at h; cases h
  | reorgFailed _ _ _ _ _ he => rw [he] at h; cases h
  | canonical ptd s2 cur lt hptd _ hlt hdec hs2 he =>
    obtain ⟨c, lk, hhd, fh, e⟩ := afterCanon_eq (hs2.imp And.left id)
    rw [he, e]
    exact ⟨ptd, lt, hptd, hlt, c, lk, b.id, hhd, fh, rfl, .inl ⟨rfl, decideReorg_ge hdec⟩⟩
  | side ptd cur lt hptd _ hlt hdec he =>
    rw [he]
    exact ⟨ptd, lt, hptd, hlt, _, _, _, _, _, rfl, .inr ⟨rfl, decideReorg_false_le hdec⟩⟩

theorem wbws_ok_st {s : St} {b : Blk} {coin : Bool} (h : (writeBlockWithState s b coin).err = none) :
    ∃ ptd c lk hd hhd fh, (writeBlockWithState s b coin).st =
      { afterSide s b ptd with canon := c, lookup := lk, head := hd, hhead := hhd, fhead := fh } := by
  obtain ⟨ptd, lt, -, -, c, lk, hd, hhd, fh, e, -⟩ := wbws_ok_eq h
  exact ⟨ptd, c, lk, hd, hhd, fh, e⟩

theorem wbws_ok_seen {s : St} {b : Blk} {coin : Bool} (h : (writeBlockWithState s b coin).err = none) :
    (writeBlockWithState s b coin).st.seen = updB s.seen b.id true := by
  obtain ⟨ptd, c, lk, hd, hhd, fh, e⟩ := wbws_ok_st h
  rw [e]; rfl

theorem wbws_ok_hasState {s : St} {b : Blk} {coin : Bool} (h : (writeBlockWithState s b coin).err = none) :
    (writeBlockWithState s b coin).st.hasState = updB s.hasState b.id true := by
  obtain ⟨ptd, c, lk, hd, hhd, fh, e⟩ := wbws_ok_st h
  rw [e]; rfl

theorem wbws_storeExtK {U : Map Blk} {s : St} (hsub : StoreExt s.store U) {b : Blk} (hbU : U b.id = some b) (coin : Bool) :
    StoreExt s.store (writeBlockWithState s b coin).st.store := by
  have hup := (storeExt_updK hsub hbU).1
  cases herr : (writeBlockWithState s b coin).err with
  | none =>
    obtain ⟨ptd, c, lk, hd, hhd, fh, e⟩ := wbws_ok_st herr
    rw [e]; exact hup
  | some err =>
    rcases wbws_err_eq herr with ⟨e, _⟩ | ⟨_, _, _, _, _, _, e⟩ <;> rw [e]
    · exact fun _ _ hx => hx
    · exact hup

theorem wbws_storeExt {U : Map Blk} {s : St} (h : Inv U s) {b : Blk} (hbU : U b.id = some b) (coin : Bool) :
    StoreExt s.store (writeBlockWithState s b coin).st.store := by
  obtain ⟨hb, C, h⟩ := h
  exact wbws_storeExtK h.sub hbU coin

/-- The invariant when the head moves to `b`: the old chain is `O ++ R` with `O` the part above the common ancestor `c`,
    the new chain is `N ++ R` (`N` = `b` and its ancestors above `c`); the hypotheses describe the new database in closed
    form. -/
theorem invC_newchain {U : Map Blk} (W : World U) {s s' : St} {hb : Blk} {C O R N : List Blk} {b c : Blk}
    (h : InvC U s hb C) (hsplit : C = O ++ R) (hO : Path s.store hb O c) (hR : Path s.store c R s.genesis)
    (hbU : U b.id = some b) (hN : Path s.store b N c) (hNne : N ≠ [])
    (hstore : s'.store = upd s.store b.id (some b))
    (hgen : s'.genesis = s.genesis)
    (hc1 : ∀ x ∈ N, s'.canon x.number = some x.id)
    (hc2 : ∀ n, n ≤ c.number → s'.canon n = s.canon n)
    (hc3 : ∀ n, b.number < n → s'.canon n = none)
    (hl1 : ∀ x ∈ N, ∀ j t, x.txs[j]? = some t → s'.lookup t = some ⟨x.id, x.number, j⟩)
    (hl2 : ∀ t, t ∉ N.flatMap (·.txs) → t ∈ O.flatMap (·.txs) → s'.lookup t = none)
    (hl3 : ∀ t, t ∉ N.flatMap (·.txs) → t ∉ O.flatMap (·.txs) → s'.lookup t = s.lookup t)
    (hhead : s'.head = b.id) (hhh : s'.hhead = b.id) (hfh : s'.fhead = b.id)
    (hseen : s'.seen = updB s.seen b.id true)
    (hrc : s'.receipts = updB s.receipts b.id true)
    (hst : s'.hasState = updB s.hasState b.id true)
    (hdisk : ∀ k, s'.onDisk k = true → s.onDisk k = true ∨ k = b.id)
    (hdisk' : ∀ k, s.onDisk k = true → s'.onDisk k = true)
    (hps : s.hasState b.parent = true)
    (htd : ∃ ptd, s.td b.parent = some ptd ∧ s'.td = upd s.td b.id (some (ptd + b.diff))) :
    InvC U s' b (N ++ R) := by
  obtain ⟨ptd, hptd, htd'⟩ := htd
  obtain ⟨he1, he2⟩ := storeExt_updK h.sub hbU
  have hhU : U hb.id = some hb := h.sub _ _ ((h.idx W).chainStored W hb h.path.head_mem)
  obtain ⟨p, hpb⟩ : ∃ p, parentOf s.store b = some p := by
    cases hN with
    | nil => exact absurd rfl hNne
    | cons hp _ => exact ⟨_, hp⟩
  have hI : IdxL U s' b (N ++ R) :=
    { idx :=
        { sub := by rw [hstore]; exact he2
          headStored := by rw [hstore]; simp
          path := by rw [hstore, hgen]; exact (hN.append hR).mono he1
          canon := by
            rw [hgen]
            exact index_switch (by rw [← hsplit]; exact h.canon) (fun y hy => (hO.mem_number y hy).1) hR hN hc1 hc2 hc3
          genNum := by rw [hgen]; exact h.genNum }
      hhead := hhh
      lookup := by
        rw [hgen]
        exact lkOf_switch W (by rw [← hsplit]; exact h.lookup) h.genTxs hhU (by rw [← hsplit]; exact h.path.mono h.sub)
          hbU ((hN.append hR).mono h.sub) hl1 hl2 hl3
      genTxs := by rw [hgen]; exact h.genTxs }
  exact (ginv_assemble W (h.toG W) hbU hpb hps hptd hstore hgen htd' hseen hrc hst hdisk hdisk' hhead hI
    (hN.append hR).head_mem (.inr ⟨rfl, hfh⟩)).toC (hhh.trans hhead.symm) (hfh.trans hhead.symm)

end Aqv.Chain
