/- C08: the memory-growth chain (calcMemSize → size prologue of Interpreter.Run → memoryGasCost → Resize) against the Yellow
  Paper's M(µ, f, l) and C_mem, for small requests and then for every offset/length outside the uint64-wrap range. -/
import Aqv.Lemmas.EvmGas
namespace Aqv.Evm
open Aqv Aqv.Big

theorem words_32_words (n : Nat) : EvmSpec.words (32 * EvmSpec.words n) = EvmSpec.words n := by
  unfold EvmSpec.words; omega

theorem words_ge (n : Nat) : n ≤ 32 * EvmSpec.words n := by unfold EvmSpec.words; omega

theorem calcMemSize_spec (off len : Nat) : calcMemSize (off : Int) (len : Int) = ((if len = 0 then 0 else off + len : Nat) : Int) := by
  unfold calcMemSize
  simp only [Int.natCast_eq_zero]
  split <;> simp

theorem memExpand_eq (cur off len : Nat) :
    EvmSpec.memExpand cur off len = max cur (EvmSpec.words (if len = 0 then 0 else off + len)) := by
  unfold EvmSpec.memExpand
  split
  · exact (Nat.max_eq_left (Nat.zero_le _)).symm
  · rfl

theorem memResize_lastGasCost (mem : Mem) (r : UInt64) : (memResize mem r).lastGasCost = mem.lastGasCost := by
  unfold memResize; split <;> rfl

theorem growth_small (mem : Mem) (cur req : Nat) (r : UInt64) (hok : MemOk mem cur) (hr : r.toNat = 32 * EvmSpec.words req)
    (hsmall : r.toNat ≤ 0x1fffffffe0) :
    ∃ fee mem', memoryGasCost mem r = some (fee, mem') ∧
      fee.toNat = EvmSpec.cmem (max cur (EvmSpec.words req)) - EvmSpec.cmem cur ∧
      MemOk (memResize mem' r) (max cur (EvmSpec.words req)) := by
  obtain ⟨fee, mem', hg, hfee, hlen, hlast⟩ := memoryGasCost_spec_partial mem cur r hok hsmall
  rw [hr, words_32_words] at hfee hlast
  refine ⟨fee, mem', hg, hfee, ?_, by rw [memResize_lastGasCost, hlast]⟩
  unfold memResize
  simp only [gt_iff_lt, UInt64.lt_iff_toNat_lt, UInt64.toNat_zero, hlen, hok.1, hr]
  split
  · show r.toNat = _; omega
  · show mem'.len.toNat = _; rw [hlen, hok.1]; show 32 * cur = _; omega

/-- what the size prologue `ms?` followed by memoryGasCost does for a specified expansion fee `fee`; `K` is said of the
    accepted size and the updated memory record -/
def MemGrowth (ms? : Option UInt64) (mem : Mem) (fee : Nat) (K : UInt64 → Mem → Prop) : Prop :=
  (ms? = none ∧ fee ≥ 2 ^ 60) ∨
  (∃ r, ms? = some r ∧ memoryGasCost mem r = none ∧ fee ≥ 2 ^ 60) ∨
  (∃ r f mem', ms? = some r ∧ memoryGasCost mem r = some (f, mem') ∧ f.toNat = fee ∧ K r mem')

theorem MemGrowth.imp {ms? : Option UInt64} {mem : Mem} {fee : Nat} {K K' : UInt64 → Mem → Prop}
    (h : MemGrowth ms? mem fee K) (hK : ∀ r mem', K r mem' → K' r mem') : MemGrowth ms? mem fee K' :=
  Or.imp id (Or.imp id fun ⟨r, f, mem', h1, h2, h3, h4⟩ => ⟨r, f, mem', h1, h2, h3, hK r mem' h4⟩) h

/-- `hnw` excludes the range (0x1fffffffe0, 0xffffffffe0] in which memoryGasCost wraps (`memgas_wrap_witness`). -/
theorem memory_growth_total (mem : Mem) (cur off len : Nat) (hok : MemOk mem cur) (hcur : cur ≤ 0xffffffff)
    (hnw : ¬ (len ≠ 0 ∧ 0x1fffffffe0 < 32 * EvmSpec.words (off + len) ∧ 32 * EvmSpec.words (off + len) ≤ 0xffffffffe0)) :
    MemGrowth (memorySizeOf (calcMemSize (off : Int) (len : Int))) mem
      (EvmSpec.cmem (EvmSpec.memExpand cur off len) - EvmSpec.cmem cur) fun r mem' =>
        MemOk (memResize mem' r) (EvmSpec.memExpand cur off len) ∧
        r.toNat = 32 * EvmSpec.words (if len = 0 then 0 else off + len) ∧ r.toNat ≤ 0x1fffffffe0 := by
  have hcm := cmem_lt_of_small hcur
  have hnw' : ¬ (0x1fffffffe0 < 32 * EvmSpec.words (if len = 0 then 0 else off + len) ∧
      32 * EvmSpec.words (if len = 0 then 0 else off + len) ≤ 0xffffffffe0) := by
    split
    · decide
    · rename_i hl; exact fun h => hnw ⟨hl, h⟩
  rw [calcMemSize_spec, memExpand_eq]
  generalize (if len = 0 then 0 else off + len) = req at hnw' ⊢
  have hms := memorySizeOf_spec req
  -- a request of 2^40 bytes or more costs at least 2^61 − 2^56
  have hbig : 0x800000000 ≤ EvmSpec.words req → EvmSpec.cmem (max cur (EvmSpec.words req)) - EvmSpec.cmem cur ≥ 2 ^ 60 := by
    intro h
    have := cmem_ge_of_big (Nat.le_trans h (Nat.le_max_right cur _))
    omega
  cases hr : memorySizeOf (req : Int) with
  | none => exact .inl ⟨rfl, hbig (by have := hms.2 hr; omega)⟩
  | some r =>
    have hrv := hms.1 r hr
    by_cases hsmall : r.toNat ≤ 0x1fffffffe0
    · obtain ⟨fee, mem', h1, h2, h3⟩ := growth_small mem cur req r hok hrv hsmall
      exact .inr (.inr ⟨r, fee, mem', rfl, h1, h2, h3, hrv, hsmall⟩)
    · exact .inr (.inl ⟨r, rfl, (memoryGasCost_overflow mem r (by omega)).1, hbig (by omega)⟩)

end Aqv.Evm
