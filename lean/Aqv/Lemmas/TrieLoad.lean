/-
  Aqv.Lemmas.TrieLoad — partially loaded tries denote the fully loaded trie they unfold to: the on-demand workers
  (`xget`/`xinsert`/`xdelete`), the hasher and Commit/unload/reopen respect the representation relation `Repr`; the fully
  unloaded form of a trie is a representation of it, and resolving every hash reference of a representation rebuilds
  the trie.
-/
import Aqv.Model.TrieLoad
import Aqv.Lemmas.TrieProof
namespace Aqv.Trie
open Aqv Aqv.Rlp

/-- `Repr H db am r x t`: the partially loaded node `x` stands for the fully loaded node `t` over the node database `db`.
    A hash node stands for `t` when it is `t`'s hash and the database returns `t`'s encoding under it, whose decoded form
    again stands for `t` (`hash`), or, with `am = true`, lacks the blob (`gone`).  `r = true` marks the root position, where
    a node is hashed whatever its size; elsewhere only nodes whose RLP is ≥ 32 bytes are referenced by hash. -/
inductive Repr (H : Bytes → Bytes) (db : Bytes → Option Bytes) (am : Bool) : Bool → PNode → Node → Prop
  | nil (r : Bool) : Repr H db am r .nil .nil
  | value (r : Bool) (v : Bytes) : Repr H db am r (.value v) (.value v)
  | short (r : Bool) (k : List Nib) {x : PNode} {t : Node} : Repr H db am false x t → Repr H db am r (.short k x) (.short k t)
  | full (r : Bool) {xs : Nib → PNode} {ts : Nib → Node} : (∀ i, Repr H db am false (xs i) (ts i)) →
      Repr H db am r (.full xs) (.full ts)
  | hash (r : Bool) {t : Node} : WF t → SizeOk H t → (r = true ∨ 32 ≤ (enc (body H t)).length) →
      db (hashOf H t) = some (enc (body H t)) → Repr H db am false (toP H t) t → Repr H db am r (.hash (hashOf H t)) t
  | gone (r : Bool) {t : Node} : am = true → WF t → (r = true ∨ 32 ≤ (enc (body H t)).length) →
      db (hashOf H t) = none → Repr H db am r (.hash (hashOf H t)) t

section
variable {H : Bytes → Bytes} {db : Bytes → Option Bytes} {am r : Bool} {x : PNode} {t : Node}

/-- the root flag matters at a hash node only, where it lifts the 32-byte bound. -/
theorem Repr.reroot (h : Repr H db am r x t) {r' : Bool} (hx : isHashX x = true → r = true → r' = true) :
    Repr H db am r' x t := by
  cases h with
  | nil => exact .nil _
  | value _ v => exact .value _ v
  | short _ k hc => exact .short _ k hc
  | full _ hc => exact .full _ hc
  | hash _ hw hs hl hd hc => exact .hash _ hw hs (hl.imp_left (hx rfl)) hd hc
  | gone _ ha hw hl hd => exact .gone _ ha hw (hl.imp_left (hx rfl)) hd

theorem Repr.weaken (h : Repr H db am false x t) (r : Bool) : Repr H db am r x t :=
  h.reroot fun _ e => nomatch e

theorem repr_insertNil (h : Repr H db am false x t) (k : List Nib) : Repr H db am false (insertNilX k x) (insertNil k t) := by
  unfold insertNilX insertNil
  split
  · exact h
  · exact .short _ k h

theorem repr_setX {xs : Nib → PNode} {ts : Nib → Node} (h : ∀ i, Repr H db am false (xs i) (ts i)) (j : Nib)
    (hx : Repr H db am false x t) : ∀ i, Repr H db am false (setX xs j x i) (setChild ts j t i) := by
  intro i
  unfold setX setChild
  split
  · exact hx
  · exact h i

theorem repr_isNil (h : Repr H db am r x t) : x.isNil = t.isNil := by
  cases h with
  | nil => rfl
  | value => rfl
  | short => rfl
  | full => rfl
  | hash _ hw => cases hw <;> rfl
  | gone _ _ hw => cases hw <;> rfl

theorem onlyChildX_eq {xs : Nib → PNode} {ts : Nib → Node} (h : ∀ i, Repr H db am false (xs i) (ts i)) :
    onlyChildX xs = onlyChild ts := by
  unfold onlyChildX onlyChild
  rw [show (fun i => !(xs i).isNil) = (fun i => !(ts i).isNil) from funext fun i => by rw [repr_isNil (h i)]]
  cases List.filter (fun i => !(ts i).isNil) (List.finRange 17) with
  | nil => rfl
  | cons a l => cases l <;> rfl

theorem repr_sfx (h : Repr H db am r x t) (hx : isSFX x = true) : IsSF t ∧ isHashX x = false := by
  cases h with
  | short => exact ⟨trivial, rfl⟩
  | full => exact ⟨trivial, rfl⟩
  | _ => cases hx

end

/-- two per nibble: a step into a child, and resolving it. -/
def need (x : PNode) (k : List Nib) : Nat := 2 * k.length + (if isHashX x then 2 else 1)

theorem need_le_xfuel (x : PNode) (k : List Nib) : need x k ≤ xfuel k := by
  unfold need xfuel; split <;> omega

theorem need_pos {x : PNode} {k : List Nib} {f : Nat} (h : need x k ≤ f) : ∃ g, f = g + 1 :=
  ⟨f - 1, by unfold need at h; split at h <;> omega⟩

theorem need_child {x c : PNode} {k r : List Nib} {g : Nat} (hx : isHashX x = false) (hlen : r.length < k.length)
    (h : need x k ≤ g + 1) : need c r ≤ g := by
  unfold need at h ⊢
  rw [hx] at h
  split <;> simp at h <;> omega

theorem need_resolved {h : Bytes} {x : PNode} {k : List Nib} {g : Nat} (hx : isHashX x = false)
    (hf : need (.hash h) k ≤ g + 1) : need x k ≤ g := by
  unfold need at hf ⊢
  rw [hx]
  simp [isHashX] at hf ⊢
  omega

variable (H : Bytes → Bytes) (db : Bytes → Option Bytes)

theorem resolve_toP (hH : ∀ x, (H x).length = 32) {t : Node} (hw : WF t) (hs : SizeOk H t)
    (hd : db (hashOf H t) = some (enc (body H t))) :
    resolveHash db (hashOf H t) = .ok (toP H t) := by
  simp [resolveHash, hd, decodeNode_self H hH hw hs]

theorem repr_refP :
    ∀ (n : Node) (x : PNode), (x = refP H n ∨ IsSF n ∧ x = toP H n) → Slot n → SizeOk H n →
      (∀ m, Sub m n → IsSF m → 32 ≤ (enc (body H m)).length → db (hashOf H m) = some (enc (body H m))) →
      Repr H db false false x n := by
  refine refP_induction H ?nil ?value ?short ?full ?hash
  case nil =>
    intro _ _ _
    exact .nil _
  case value =>
    intro v _ _ _
    exact .value _ v
  case short =>
    intro p c ih hn hs hdb
    exact .short _ p (ih (slot_short_child (slot_wf_of_sf hn trivial)) hs.2 fun m hm => hdb m (.short p hm))
  case full =>
    intro cs ih hn hs hdb
    exact .full _ fun i => ih i (slot_full_child (slot_wf_of_sf hn trivial) i) (hs.2 i) fun m hm => hdb m (.full i hm)
  case hash =>
    intro n hsf he ih hn hs hdb
    exact .hash _ (slot_wf_of_sf hn hsf) hs (.inr he) (hdb n (.refl n) hsf he) (ih hn hs hdb)

theorem uniform_bound (P : Nib → Nat → Prop) (h : ∀ i, ∃ f₀, ∀ f, f₀ ≤ f → P i f) : ∃ F, ∀ i f, F ≤ f → P i f := by
  have : ∀ l : List Nib, ∃ F, ∀ i ∈ l, ∀ f, F ≤ f → P i f := by
    intro l
    induction l with
    | nil => exact ⟨0, fun i hi => by cases hi⟩
    | cons j l ih =>
      obtain ⟨F, hF⟩ := ih
      obtain ⟨fj, hj⟩ := h j
      refine ⟨max fj F, fun i hi f hf => ?_⟩
      cases hi with
      | head => exact hj f (by omega)
      | tail _ hi => exact hF i hi f (by omega)
  obtain ⟨F, hF⟩ := this (List.finRange 17)
  exact ⟨F, fun i f hf => hF i (List.mem_finRange i) f hf⟩

theorem loadP_repr (hH : ∀ x, (H x).length = 32) {r : Bool} {x : PNode} {t : Node} (hr : Repr H db false r x t) :
    ∃ f₀, ∀ f, f₀ ≤ f → loadP db f x = some t := by
  have succ : ∀ {f₀ f : Nat}, f₀ + 1 ≤ f → ∃ g, f = g + 1 ∧ f₀ ≤ g := fun {_ f} hf => ⟨f - 1, by omega, by omega⟩
  induction hr with
  | nil r => exact ⟨1, fun f hf => by obtain ⟨g, rfl, _⟩ := succ hf; rfl⟩
  | value r v => exact ⟨1, fun f hf => by obtain ⟨g, rfl, _⟩ := succ hf; rfl⟩
  | short r k _ ih =>
    obtain ⟨fc, hfc⟩ := ih
    refine ⟨fc + 1, fun f hf => ?_⟩
    obtain ⟨g, rfl, hg⟩ := succ hf
    simp [loadP, hfc g hg]
  | @full r xs ts _ ih =>
    obtain ⟨F, hF⟩ := uniform_bound (fun i f => loadP db f (xs i) = some (ts i)) ih
    refine ⟨F + 1, fun f hf => ?_⟩
    obtain ⟨g, rfl, hg⟩ := succ hf
    simp [loadP, fun i => hF i g hg]
  | hash r hw hs _ hd _ ih =>
    obtain ⟨f₀, h₀⟩ := ih
    refine ⟨f₀ + 1, fun f hf => ?_⟩
    obtain ⟨g, rfl, hg⟩ := succ hf
    simp only [loadP, hd, decodeNode_self H hH hw hs]
    exact h₀ g hg
  | gone r ha => cases ha

theorem xinsert_short_hit {nk : List Nib} (hne : nk ≠ []) (c : PNode) (r : List Nib) (v : Bytes) (g : Nat) :
    xinsert db (g + 1) (.short nk c) (nk ++ r) v =
      match xinsert db g c r v with
      | .ok (dirty, nn) => if dirty then .ok (true, .short nk nn) else .ok (false, .short nk c)
      | e => e.cast := by
  obtain ⟨y, nk', rfl⟩ := List.exists_cons_of_ne_nil hne
  have hm := prefixLen_covers (y :: nk') r
  simp only [List.cons_append] at hm ⊢
  simp only [xinsert, hm, List.length_cons, if_true]
  rw [← List.length_cons, ← List.cons_append, List.drop_left]
  rfl

theorem xinsert_short_split {a b : Nib} (hab : a ≠ b) (cp ka kb : List Nib) (c : PNode) (v : Bytes) (g : Nat) :
    xinsert db (g + 1) (.short (cp ++ b :: kb) c) (cp ++ a :: ka) v =
      .ok (true, insertNilX cp (.full (setX (setX emptyX b (insertNilX kb c)) a (insertNilX ka (.value v))))) := by
  have hm := prefixLen_split hab cp ka kb
  cases cp with
  | nil => simp [xinsert, prefixLen, hab, insertNilX]
  | cons y cp =>
    simp only [List.cons_append] at hm ⊢
    simp [xinsert, hm, insertNilX]

theorem xdelete_short_end (nk : List Nib) (c : PNode) (g : Nat) : xdelete db (g + 1) (.short nk c) nk = .ok (true, .nil) := by
  have hm := prefixLen_covers nk []
  rw [List.append_nil] at hm
  simp [xdelete, hm]

theorem xdelete_short_hit (nk : List Nib) (c : PNode) {r : List Nib} (hr : r ≠ []) (g : Nat) :
    xdelete db (g + 1) (.short nk c) (nk ++ r) =
      match xdelete db g c r with
      | .ok (dirty, child) =>
        if !dirty then .ok (false, .short nk c)
        else
          match child with
          | .short ck cv => .ok (true, .short (nk ++ ck) cv)
          | _ => .ok (true, .short nk child)
      | e => e.cast := by
  simp only [xdelete, prefixLen_covers, Nat.lt_irrefl, if_false, List.length_append, Nat.left_eq_add,
    List.length_eq_zero_iff, hr, List.drop_left]
  rfl

theorem xdelete_short_split {a b : Nib} (hab : a ≠ b) (cp ka kb : List Nib) (c : PNode) (g : Nat) :
    xdelete db (g + 1) (.short (cp ++ b :: kb) c) (cp ++ a :: ka) = .ok (false, .short (cp ++ b :: kb) c) := by
  simp [xdelete, prefixLen_split hab]

/-- The cases of `pos_induction` on `t`, and two more for an unloaded node: its blob is in the database and the walk goes
    on, at the same key, in the decoded node (`hash`), or the database lacks it (`gone`).  A node gets the budget `g + 1`
    and hands `g` to the recursive call. -/
theorem repr_induction (hH : ∀ x, (H x).length = 32) {am : Bool} {motive : Nat → PNode → Node → List Nib → Prop}
    (nil : ∀ g k, motive (g + 1) .nil .nil k)
    (value : ∀ g w, motive (g + 1) (.value w) (.value w) [])
    (hit : ∀ g nk xc tc rest, WF (.short nk tc) → Term (nk ++ rest) → Repr H db am false xc tc →
      motive g xc tc rest → motive (g + 1) (.short nk xc) (.short nk tc) (nk ++ rest))
    (split : ∀ g cp a ka b kb xc tc, a ≠ b → Repr H db am false xc tc →
      motive (g + 1) (.short (cp ++ b :: kb) xc) (.short (cp ++ b :: kb) tc) (cp ++ a :: ka))
    (full : ∀ g xs ts y rest, WF (.full ts) → (∀ i, Repr H db am false (xs i) (ts i)) →
      motive g (xs y) (ts y) rest → motive (g + 1) (.full xs) (.full ts) (y :: rest))
    (hash : ∀ g t k, WF t → Term k → resolveHash db (hashOf H t) = .ok (toP H t) → Repr H db am false (toP H t) t →
      motive g (toP H t) t k → motive (g + 1) (.hash (hashOf H t)) t k)
    (gone : ∀ g t k, am = true → Term k → resolveHash db (hashOf H t) = .missing (hashOf H t) →
      motive (g + 1) (.hash (hashOf H t)) t k)
    (r : Bool) (x : PNode) (t : Node) (hr : Repr H db am r x t) :
    ∀ k f, Pos t k → need x k ≤ f → motive f x t k := by
  induction hr with
  | nil r =>
    intro k f _ hf
    obtain ⟨g, rfl⟩ := need_pos hf
    exact nil g k
  | value r w =>
    intro k f hp hf
    obtain ⟨g, rfl⟩ := need_pos hf
    cases pos_value hp
    exact value g w
  | @short r p xc tc hc ih =>
    intro k f hp hf
    obtain ⟨g, rfl⟩ := need_pos hf
    obtain ⟨hk, hw⟩ := pos_sf hp trivial
    rcases short_key_cases hw hk with ⟨rest, rfl⟩ | ⟨cp, a, ka, b, kb, hab, rfl, rfl⟩
    · have hpl := List.length_pos_iff.2 (wf_short_key_ne_nil hw)
      exact hit g p xc tc rest hw hk hc
        (ih rest g (pos_short_child hw hk) (need_child rfl (by simp; omega) hf))
    · exact split g cp a ka b kb xc tc hab hc
  | @full r xs ts hc ih =>
    intro k f hp hf
    obtain ⟨g, rfl⟩ := need_pos hf
    obtain ⟨hk, hw⟩ := pos_sf hp trivial
    obtain ⟨y, rest, rfl⟩ := List.exists_cons_of_ne_nil (term_ne_nil hk)
    exact full g xs ts y rest hw hc (ih y rest g (pos_full_child hw hk) (need_child rfl (by simp) hf))
  | @hash r t hw hs hl hd hc ih =>
    intro k f hp hf
    obtain ⟨g, rfl⟩ := need_pos hf
    exact hash g t k hw (pos_sf hp (wf_isSF hw)).1 (resolve_toP H db hH hw hs hd) hc
      (ih k g hp (need_resolved (toP_not_hash H (wf_isSF hw)) hf))
  | @gone r t ha hw hl hd =>
    intro k f hp hf
    obtain ⟨g, rfl⟩ := need_pos hf
    exact gone g t k ha (pos_sf hp (wf_isSF hw)).1 (by simp [resolveHash, hd])

/-- `.missing` is the MissingNodeError; it arises only when the database lacks a node (`am = true`). -/
theorem xget_repr (hH : ∀ x, (H x).length = 32) (am : Bool) {r : Bool} {x : PNode} {t : Node}
    (hr : Repr H db am r x t) :
    ∀ k f, Pos t k → need x k ≤ f →
      (∃ x', xget db f x k = .ok (lookup t k, x') ∧ Repr H db am false x' t) ∨
      (am = true ∧ ∃ h, xget db f x k = .missing h) := by
  revert r x t
  refine @repr_induction H db hH am _ ?nil ?value ?hit ?split ?full ?hash ?gone
  case nil =>
    intro g k
    exact .inl ⟨.nil, rfl, .nil _⟩
  case value =>
    intro g w
    exact .inl ⟨.value w, rfl, .value _ w⟩
  case hit =>
    intro g nk xc tc rest _ _ _ ih
    rw [xget, if_pos (List.take_left' rfl), List.drop_left, lookup_short_append]
    rcases ih with ⟨c', he, hr'⟩ | ⟨ha, h, he⟩
    · exact .inl ⟨.short nk c', by rw [he], .short _ nk hr'⟩
    · exact .inr ⟨ha, h, by rw [he]; rfl⟩
  case split =>
    intro g cp a ka b kb xc tc hab hc
    rw [xget, if_neg (split_take_ne hab _ _ _), lookup_short_split hab]
    exact .inl ⟨_, rfl, .short _ _ hc⟩
  case full =>
    intro g xs ts y rest _ hc ih
    rw [xget, lookup_full_cons]
    rcases ih with ⟨c', he, hr'⟩ | ⟨ha, h, he⟩
    · refine .inl ⟨.full (setX xs y c'), by rw [he], .full _ ?_⟩
      have := repr_setX hc y hr'
      rwa [setChild_self] at this
    · exact .inr ⟨ha, h, by rw [he]; rfl⟩
  case hash =>
    intro g t k _ _ hres _ ih
    rw [xget, hres]
    exact ih
  case gone =>
    intro g t k ha _ hres
    exact .inr ⟨ha, hashOf H t, by rw [xget, hres]; rfl⟩

theorem xinsert_repr (hH : ∀ x, (H x).length = 32) (am : Bool) {r : Bool} {x : PNode} {t : Node}
    (hr : Repr H db am r x t) (v : Bytes) :
    ∀ k f, Pos t k → need x k ≤ f →
      (∃ d x', insert t k v = some (d, ins t k v) ∧ xinsert db f x k v = .ok (d, x') ∧
        Repr H db am false x' (ins t k v)) ∨
      (am = true ∧ ∃ h, xinsert db f x k v = .missing h) := by
  revert r x t
  refine @repr_induction H db hH am _ ?nil ?value ?hit ?split ?full ?hash ?gone
  case nil =>
    intro g k
    cases k with
    | nil => exact .inl ⟨true, .value v, rfl, rfl, .value _ v⟩
    | cons y rest => exact .inl ⟨true, _, rfl, rfl, .short _ _ (.value _ v)⟩
  case value =>
    intro g w
    exact .inl ⟨w != v, .value v, rfl, rfl, .value _ v⟩
  case hit =>
    intro g nk xc tc rest hw _ hc ih
    have hne := wf_short_key_ne_nil hw
    rw [ins_short_hit hne, xinsert_short_hit db hne]
    rcases ih with ⟨d, c', hi, he, hr'⟩ | ⟨ha, h, he⟩
    · rw [he]
      cases d with
      | true => exact .inl ⟨true, .short nk c', insert_short_of hne hi, rfl, .short _ nk hr'⟩
      | false =>
        have e := insert_fst_false _ _ _ _ hi
        rw [e] at hi ⊢
        exact .inl ⟨false, .short nk xc, insert_short_of hne hi, rfl, .short _ nk hc⟩
    · exact .inr ⟨ha, h, by rw [he]; rfl⟩
  case split =>
    intro g cp a ka b kb xc tc hab hc
    rw [ins_short_split hab]
    have hbr : Repr H db am false (.full (setX (setX emptyX b (insertNilX kb xc)) a (insertNilX ka (.value v))))
        (.full (setChild (setChild emptyCs b (insertNil kb tc)) a (insertNil ka (.value v)))) :=
      .full _ (repr_setX (repr_setX (fun _ => .nil _) b (repr_insertNil hc kb)) a (repr_insertNil (.value _ v) ka))
    exact .inl ⟨true, _, by rw [insert_short_split hab, ins_short_split hab], xinsert_short_split db hab ..,
      repr_insertNil hbr cp⟩
  case full =>
    intro g xs ts y rest _ hc ih
    simp only [insert, ins, xinsert]
    rcases ih with ⟨d, c', hi, he, hr'⟩ | ⟨ha, h, he⟩
    · rw [hi, he]
      cases d with
      | true => exact .inl ⟨true, .full (setX xs y c'), rfl, rfl, .full _ (repr_setX hc y hr')⟩
      | false =>
        rw [insert_fst_false _ _ _ _ hi, setChild_self]
        exact .inl ⟨false, .full xs, rfl, rfl, .full _ hc⟩
    · exact .inr ⟨ha, h, by rw [he]; rfl⟩
  case hash =>
    intro g t k _ hk hres hc ih
    obtain ⟨y, rest, rfl⟩ := List.exists_cons_of_ne_nil (term_ne_nil hk)
    simp only [xinsert, hres]
    rcases ih with ⟨d, x', hi, he, hr'⟩ | ⟨ha, h, he⟩
    · rw [he]
      cases d with
      | true => exact .inl ⟨true, x', hi, rfl, hr'⟩
      | false =>
        refine .inl ⟨false, toP H t, hi, rfl, ?_⟩
        rw [insert_fst_false _ _ _ _ hi]; exact hc
    · exact .inr ⟨ha, h, by rw [he]; rfl⟩
  case gone =>
    intro g t k ha hk hres
    obtain ⟨y, rest, rfl⟩ := List.exists_cons_of_ne_nil (term_ne_nil hk)
    exact .inr ⟨ha, hashOf H t, by simp only [xinsert, hres]; rfl⟩

/-- the collapse step: the remaining child is looked at through the database, and merged when it is a short node. -/
theorem xcollapse_repr (hH : ∀ x, (H x).length = 32) (am : Bool) {xs : Nib → PNode} {ts : Nib → Node}
    (h : ∀ i, Repr H db am false (xs i) (ts i)) :
    (∃ x', xcollapse db xs = .ok x' ∧ Repr H db am false x' (collapse ts) ∧ isHashX x' = false) ∨
    (am = true ∧ ∃ hh, xcollapse db xs = .missing hh) := by
  unfold xcollapse collapse
  rw [onlyChildX_eq h]
  cases onlyChild ts with
  | none => exact Or.inl ⟨_, rfl, .full _ h, rfl⟩
  | some pos =>
    dsimp only
    split
    · have hpos := h pos
      generalize ts pos = m at hpos ⊢
      generalize xs pos = xp at hpos ⊢
      cases hpos with
      | nil => exact Or.inl ⟨_, rfl, .short _ _ (.nil _), rfl⟩
      | value _ w => exact Or.inl ⟨_, rfl, .short _ _ (.value _ w), rfl⟩
      | short _ ck hc => exact Or.inl ⟨_, rfl, .short _ _ hc, rfl⟩
      | full _ hc => exact Or.inl ⟨_, rfl, .short _ _ (.full _ hc), rfl⟩
      | hash _ hw hs hl hd hc =>
        simp only [resolveX, resolve_toP H db hH hw hs hd]
        cases m with
        | nil => exact absurd hw not_wf_nil
        | value w => exact absurd hw (not_wf_value w)
        | short ck c =>
          cases hc with
          | short _ _ hcc => exact Or.inl ⟨_, rfl, .short _ _ hcc, rfl⟩
        | full cs => exact Or.inl ⟨_, rfl, .short _ _ (.hash _ hw hs hl hd hc), rfl⟩
      | gone _ ha hw hl hd => exact Or.inr ⟨ha, hashOf H m, by simp [resolveX, resolveHash, hd, XRes.cast]⟩
    · exact Or.inl ⟨_, rfl, .short _ _ (h pos), rfl⟩

theorem xdelete_repr (hH : ∀ x, (H x).length = 32) (am : Bool) {r : Bool} {x : PNode} {t : Node}
    (hr : Repr H db am r x t) :
    ∀ k f, Pos t k → need x k ≤ f →
      (∃ d x', delete t k = some (d, del t k) ∧ xdelete db f x k = .ok (d, x') ∧
        Repr H db am false x' (del t k) ∧ isHashX x' = false) ∨
      (am = true ∧ ∃ h, xdelete db f x k = .missing h) := by
  revert r x t
  refine @repr_induction H db hH am _ ?nil ?value ?hit ?split ?full ?hash ?gone
  case nil =>
    intro g k
    exact .inl ⟨false, .nil, rfl, rfl, .nil _, rfl⟩
  case value =>
    intro g w
    exact .inl ⟨true, .nil, rfl, rfl, .nil _, rfl⟩
  case hit =>
    intro g nk xc tc rest hw hk hc ih
    rw [del_short_hit]
    rcases short_hit_cases hw hk with ⟨rfl, -⟩ | ⟨hr, -, -, cs, rfl, -⟩
    · rw [List.append_nil]
      exact .inl ⟨true, .nil, delete_short_end nk _, xdelete_short_end db nk xc g, .nil _, rfl⟩
    · have hne := term_ne_nil hr
      rw [if_neg hne, xdelete_short_hit db nk xc hne]
      rcases ih with ⟨d, c', hi, he, hr', hnh⟩ | ⟨ha, h, he⟩
      · rw [he, delete_short_of hne hi]
        cases d with
        | false =>
          rw [delete_fst_false _ _ _ hi]
          exact .inl ⟨false, .short nk xc, rfl, rfl, .short _ nk hc, rfl⟩
        | true =>
          generalize del (.full cs) rest = dt at hr' ⊢
          cases hr' with
          | nil => exact .inl ⟨true, _, rfl, rfl, .short _ nk (.nil _), rfl⟩
          | value _ v => exact .inl ⟨true, _, rfl, rfl, .short _ nk (.value _ v), rfl⟩
          | short _ ck hcc => exact .inl ⟨true, _, rfl, rfl, .short _ (nk ++ ck) hcc, rfl⟩
          | full _ hcc => exact .inl ⟨true, _, rfl, rfl, .short _ nk (.full _ hcc), rfl⟩
          | hash => cases hnh
          | gone => cases hnh
      · exact .inr ⟨ha, h, by rw [he]; rfl⟩
  case split =>
    intro g cp a ka b kb xc tc hab hc
    rw [del_short_split hab]
    exact .inl ⟨false, _, delete_short_split hab .., xdelete_short_split db hab .., .short _ _ hc, rfl⟩
  case full =>
    intro g xs ts y rest hw hc ih
    rw [show del (.full ts) (y :: rest) = collapse (setChild ts y (del (ts y) rest)) from rfl, xdelete]
    rcases ih with ⟨d, c', hi, he, hr', _⟩ | ⟨ha, h, he⟩
    · rw [he, delete_full_of hi]
      cases d with
      | false =>
        rw [delete_fst_false _ _ _ hi, setChild_self, collapse_wf_full hw]
        exact .inl ⟨false, .full xs, rfl, rfl, .full _ hc, rfl⟩
      | true =>
        rcases xcollapse_repr H db hH am (repr_setX hc y hr') with ⟨x', hx, hrx, hnh⟩ | ⟨ha, h, hx⟩
        · exact .inl ⟨true, x', rfl, by simp [hx], hrx, hnh⟩
        · exact .inr ⟨ha, h, by simp [hx]; rfl⟩
    · exact .inr ⟨ha, h, by rw [he]; rfl⟩
  case hash =>
    intro g t k hw _ hres hc ih
    simp only [xdelete, hres]
    rcases ih with ⟨d, x', hi, he, hr', hnh⟩ | ⟨ha, h, he⟩
    · rw [he]
      cases d with
      | true => exact .inl ⟨true, x', hi, rfl, hr', hnh⟩
      | false =>
        refine .inl ⟨false, toP H t, hi, rfl, ?_, toP_not_hash H (wf_isSF hw)⟩
        rw [delete_fst_false _ _ _ hi]; exact hc
    · exact .inr ⟨ha, h, by rw [he]; rfl⟩
  case gone =>
    intro g t k ha _ hres
    exact .inr ⟨ha, hashOf H t, by simp only [xdelete, hres]; rfl⟩

theorem refX_repr (am : Bool) {r : Bool} {x : PNode} {t : Node} (hr : Repr H db am r x t) :
    (r = false → refX H x = ref H t) ∧ (isHashX x = false → bodyX H x = body H t) := by
  -- a hash node below the root stands for a node that the hasher references by this hash
  have hashed : ∀ {r : Bool} {t : Node}, WF t → (r = true ∨ 32 ≤ (enc (body H t)).length) → r = false →
      refX H (.hash (hashOf H t)) = ref H t := by
    intro r t hw hl hr
    rcases sf_cases H (wf_isSF hw) with ⟨he, _⟩ | ⟨_, e, _⟩
    · rcases hl with h | h
      · rw [hr] at h; cases h
      · omega
    · exact e.symm
  induction hr with
  | nil r => exact ⟨fun _ => rfl, fun _ => rfl⟩
  | value r v => exact ⟨fun _ => rfl, fun _ => rfl⟩
  | @short r k xc tc hc ih =>
    have hb : bodyX H (.short k xc) = body H (.short k tc) := by rw [bodyX, body, ih.1 rfl]
    exact ⟨fun _ => congrArg (wrap H) hb, fun _ => hb⟩
  | @full r xs ts hc ih =>
    have hb : bodyX H (.full xs) = body H (.full ts) := by simp only [bodyX, body, fun i => (ih i).1 rfl]
    exact ⟨fun _ => congrArg (wrap H) hb, fun _ => hb⟩
  | hash r hw hs hl hd hc ih => exact ⟨hashed hw hl, fun h => by cases h⟩
  | gone r ha hw hl hd => exact ⟨hashed hw hl, fun h => by cases h⟩

theorem hashRootX_repr (am : Bool) {r : Bool} {x : PNode} {t : Node} (hr : Repr H db am r x t) :
    hashRootX H x = hashRoot H t := by
  have hb := (refX_repr H db am hr).2
  cases hr with
  | hash => exact hashOf_eq_hashRoot H t
  | gone => exact hashOf_eq_hashRoot H t
  | _ => exact congrArg (fun b => H (enc b)) (hb rfl)

section
variable {H} {db}

theorem Repr.mono {db' : Bytes → Option Bytes} {r : Bool} {x : PNode} {t : Node} (h : Repr H db false r x t)
    (hsub : ∀ k b, db k = some b → db' k = some b) : Repr H db' false r x t := by
  induction h with
  | nil r => exact .nil r
  | value r v => exact .value r v
  | short r k _ ih => exact .short r k ih
  | full r _ ih => exact .full r ih
  | hash r hw hs hl hd _ ih => exact .hash r hw hs hl (hsub _ _ hd) ih
  | gone r ha => cases ha

theorem storedX_short {k : List Nib} {c : PNode} (h : StoredX H db (.short k c)) : StoredX H db c :=
  fun kv hkv => h kv (by rw [storeList]; exact List.mem_append_right _ hkv)

theorem storedX_full {cs : Nib → PNode} (h : StoredX H db (.full cs)) (i : Nib) : StoredX H db (cs i) :=
  fun kv hkv => h kv (by
    rw [storeList]; exact List.mem_append_right _ (List.mem_flatMap.2 ⟨i, List.mem_finRange i, hkv⟩))

theorem storedX_self {x : PNode} (h : StoredX H db x) (hx : isSFX x = true) (he : 32 ≤ (enc (bodyX H x)).length) :
    db (H (enc (bodyX H x))) = some (enc (bodyX H x)) := by
  refine h (_, _) ?_
  cases x with
  | short _ _ => rw [storeList]; simp [he]
  | full _ => rw [storeList]; simp [he]
  | _ => cases hx

end

theorem wf_sub_short {k : List Nib} {c : Node} (hw : WF (.short k c)) : c = .nil ∨ (∃ v, c = .value v) ∨ WF c :=
  slot_short_child hw

/-- a stored (clean) loaded subtree can be replaced, child by child, by the references the hasher would write. -/
theorem repr_refP_of_stored {r : Bool} {x : PNode} {t : Node} (hr : Repr H db false r x t) :
    Slot t → SizeOk H t → StoredX H db x →
      Repr H db false false (refP H t) t ∧ (IsSF t → Repr H db false false (toP H t) t) := by
  have ref : ∀ {t : Node}, WF t → SizeOk H t → Repr H db false false (toP H t) t →
      (32 ≤ (enc (body H t)).length → db (hashOf H t) = some (enc (body H t))) →
      Repr H db false false (refP H t) t := by
    intro t hw hs htop hd
    rcases sf_cases H (wf_isSF hw) with ⟨_, _, e⟩ | ⟨he, _, e⟩ <;> rw [e]
    · exact htop
    · exact .hash _ hw hs (Or.inr he) (hd he) htop
  -- a stored loaded node is in the database under the hash of the node it stands for
  have stored : ∀ {x : PNode} {t : Node}, isSFX x = true → bodyX H x = body H t → StoredX H db x →
      32 ≤ (enc (body H t)).length → db (hashOf H t) = some (enc (body H t)) := by
    intro x t hx hb hst he
    rw [hashOf, ← hb]
    exact storedX_self hst hx (hb ▸ he)
  induction hr with
  | nil r => intro _ _ _; exact ⟨.nil _, fun h => h.elim⟩
  | value r v => intro _ _ _; exact ⟨.value _ v, fun h => h.elim⟩
  | @short r k xc tc hc ih =>
    intro hsl hs hst
    have hw := slot_wf_of_sf hsl trivial
    have htop : Repr H db false false (toP H (.short k tc)) (.short k tc) :=
      .short _ k (ih (slot_short_child hw) hs.2 (storedX_short hst)).1
    have hb : bodyX H (.short k xc) = body H (.short k tc) := (refX_repr H db false (.short false k hc)).2 rfl
    exact ⟨ref hw hs htop (stored rfl hb hst), fun _ => htop⟩
  | @full r xs ts hc ih =>
    intro hsl hs hst
    have hw := slot_wf_of_sf hsl trivial
    have htop : Repr H db false false (toP H (.full ts)) (.full ts) :=
      .full _ fun i => (ih i (slot_full_child hw i) (hs.2 i) (storedX_full hst i)).1
    have hb : bodyX H (.full xs) = body H (.full ts) := (refX_repr H db false (.full false hc)).2 rfl
    exact ⟨ref hw hs htop (stored rfl hb hst), fun _ => htop⟩
  | hash r hw hs hl hd hc ih =>
    intro _ _ _
    exact ⟨ref hw hs hc fun _ => hd, fun _ => hc⟩
  | gone r ha => cases ha

theorem unload_repr {r : Bool} {x x' : PNode} (hu : Unload H db r x x') :
    ∀ {t : Node}, Repr H db false r x t → Slot t → SizeOk H t → Repr H db false r x' t := by
  induction hu with
  | here r x hsf hl hd hst =>
    intro t hr hsl hs
    obtain ⟨htsf, hnh⟩ := repr_sfx hr hsf
    have htop := (repr_refP_of_stored H db hr hsl hs hst).2 htsf
    rw [(refX_repr H db false hr).2 hnh] at hl hd ⊢
    exact .hash r (slot_wf_of_sf hsl htsf) hs hl hd htop
  | short r k hu ih =>
    intro t hr hsl hs
    cases hr with
    | short _ _ hc => exact .short r k (ih hc (slot_short_child (slot_wf_of_sf hsl trivial)) hs.2)
  | @full r cs i c' hu ih =>
    intro t hr hsl hs
    cases hr with
    | @full _ _ ts hc =>
      have := repr_setX hc i (ih (hc i) (slot_full_child (slot_wf_of_sf hsl trivial) i) (hs.2 i))
      rw [setChild_self] at this
      exact .full r this

theorem dbInsert_eq_some {db : Bytes → Option Bytes} {e : Bytes × Bytes} {k b : Bytes} :
    dbInsert db e k = some b ↔ db k = some b ∨ (db k = none ∧ (k, b) = e) := by
  unfold dbInsert
  cases db k with
  | some b' => simp
  | none =>
    cases e
    simp only [reduceCtorEq, false_or, true_and, Prod.mk.injEq]
    split
    · next hk => simp [hk, eq_comm]
    · next hk => simp [hk]

theorem foldl_dbInsert (L : List (Bytes × Bytes)) : ∀ (db : Bytes → Option Bytes),
    (∀ k b, db k = some b → (L.foldl dbInsert db) k = some b) ∧
    (∀ k b, (L.foldl dbInsert db) k = some b → db k = some b ∨ (k, b) ∈ L) ∧
    (∀ kv ∈ L, ∃ b, (L.foldl dbInsert db) kv.1 = some b) := by
  induction L with
  | nil => intro db; exact ⟨fun _ _ h => h, fun _ _ h => Or.inl h, fun kv h => by cases h⟩
  | cons e L ih =>
    intro db
    obtain ⟨i1, i2, i3⟩ := ih (dbInsert db e)
    refine ⟨fun k b h => i1 k b (dbInsert_eq_some.2 (Or.inl h)), fun k b h => ?_, fun kv hkv => ?_⟩
    · rcases i2 k b h with h' | h'
      · rcases dbInsert_eq_some.1 h' with h'' | ⟨_, rfl⟩
        · exact Or.inl h''
        · exact Or.inr (List.mem_cons_self ..)
      · exact Or.inr (List.mem_cons_of_mem _ h')
    · cases hkv with
      | head =>
        cases hd : db e.1 with
        | some b' => exact ⟨b', i1 _ _ (dbInsert_eq_some.2 (Or.inl hd))⟩
        | none => exact ⟨e.2, i1 _ _ (dbInsert_eq_some.2 (Or.inr ⟨hd, rfl⟩))⟩
      | tail _ h => exact i3 kv h

theorem storeList_sub {r : Bool} {x : PNode} {t : Node} (hr : Repr H db false r x t) :
    Slot t → ∀ kv ∈ storeList H x, ∃ m, Sub m t ∧ WF m ∧ kv = (hashOf H m, enc (body H m)) := by
  induction hr with
  | nil r => intro _ kv h; cases h
  | value r v => intro _ kv h; cases h
  | @short r k xc tc hc ih =>
    intro hsl kv hkv
    have hw := slot_wf_of_sf hsl trivial
    rw [storeList, (refX_repr H db false (.short false k hc)).2 rfl, List.mem_append] at hkv
    rcases hkv with h | h
    · split at h
      · exact ⟨_, .refl _, hw, List.mem_singleton.1 h⟩
      · cases h
    · obtain ⟨m, hm, hmw, he⟩ := ih (slot_short_child hw) kv h
      exact ⟨m, .short k hm, hmw, he⟩
  | @full r xs ts hc ih =>
    intro hsl kv hkv
    have hw := slot_wf_of_sf hsl trivial
    rw [storeList, (refX_repr H db false (.full false hc)).2 rfl, List.mem_append, List.mem_flatMap] at hkv
    rcases hkv with h | ⟨i, _, h⟩
    · split at h
      · exact ⟨_, .refl _, hw, List.mem_singleton.1 h⟩
      · cases h
    · obtain ⟨m, hm, hmw, he⟩ := ih i (slot_full_child hw i) kv h
      exact ⟨m, .full i hm, hmw, he⟩
  | hash r => intro _ kv h; cases h
  | gone r ha => cases ha

/-- the database `db'` that `Commit` of `x` (standing for `t`) makes of `db`. -/
structure Committed (H : Bytes → Bytes) (db db' : Bytes → Option Bytes) (x : PNode) (t : Node) : Prop where
  keeps : ∀ k b, db k = some b → db' k = some b
  stored : StoredX H db' x
  root : db' (H (enc (bodyX H x))) = some (enc (bodyX H x))
  genuine : ∀ k b, db' k = some b → db k = some b ∨ ∃ m, Sub m t ∧ WF m ∧ k = hashOf H m ∧ b = enc (body H m)

/-- `hcf`: `H` is collision-free between the nodes of the trie; `hold`: and against what the database already holds
    under their hashes. -/
theorem commit_stored {r : Bool} {x : PNode} {t : Node} (hr : Repr H db false r x t) (hsl : Slot t)
    (hsf : isSFX x = true) (hold : ∀ m, Sub m t → WF m → ∀ b, db (hashOf H m) = some b → b = enc (body H m))
    (hcf : CFp H t t) : Committed H db (commitDb H db x) x t := by
  obtain ⟨htsf, hnh⟩ := repr_sfx hr hsf
  have hcd : commitDb H db x = ((H (enc (bodyX H x)), enc (bodyX H x)) :: storeList H x).foldl dbInsert db := by
    cases x with
    | short _ _ => exact (List.foldl_cons ..).symm
    | full _ => exact (List.foldl_cons ..).symm
    | _ => cases hsf
  obtain ⟨f1, f2, f3⟩ := foldl_dbInsert ((H (enc (bodyX H x)), enc (bodyX H x)) :: storeList H x) db
  rw [← hcd] at f1 f2 f3
  have hgen : ∀ kv ∈ (H (enc (bodyX H x)), enc (bodyX H x)) :: storeList H x,
      ∃ m, Sub m t ∧ WF m ∧ kv = (hashOf H m, enc (body H m)) := by
    intro kv hkv
    cases hkv with
    | head => exact ⟨t, .refl t, slot_wf_of_sf hsl htsf, by rw [(refX_repr H db false hr).2 hnh]; rfl⟩
    | tail _ h => exact storeList_sub H db hr hsl kv h
  -- whatever ended up under a listed hash is the listed encoding: an older blob by `hold`, a newer one by `hcf`
  have hall : ∀ kv ∈ (H (enc (bodyX H x)), enc (bodyX H x)) :: storeList H x, commitDb H db x kv.1 = some kv.2 := by
    intro kv hkv
    obtain ⟨m, hm, hmw, rfl⟩ := hgen kv hkv
    obtain ⟨b, hbb⟩ := f3 _ hkv
    rcases f2 _ _ hbb with h | h
    · rw [hbb, hold m hm hmw b h]
    · obtain ⟨m', hm', hmw', he⟩ := hgen _ h
      rw [hbb, (Prod.mk.inj he).2, ← hcf m m' hm hm' hmw hmw' (Prod.mk.inj he).1]
  refine ⟨f1, fun kv hkv => hall kv (List.mem_cons_of_mem _ hkv), hall _ (List.mem_cons_self ..), fun k b hkb => ?_⟩
  rcases f2 k b hkb with h | h
  · exact Or.inl h
  · obtain ⟨m, hm, hmw, he⟩ := hgen _ h
    exact Or.inr ⟨m, hm, hmw, (Prod.mk.inj he).1, (Prod.mk.inj he).2⟩

theorem commit_reopen_repr {r : Bool} {x : PNode} {t : Node} (hr : Repr H db false r x t) (hsl : Slot t)
    (hs : SizeOk H t) (hsf : isSFX x = true)
    (hold : ∀ m, Sub m t → WF m → ∀ b, db (hashOf H m) = some b → b = enc (body H m)) (hcf : CFp H t t) :
    Repr H (commitDb H db x) false true x t ∧ Repr H (commitDb H db x) false true (.hash (hashRootX H x)) t := by
  have c := commit_stored H db hr hsl hsf hold hcf
  have hr' : Repr H (commitDb H db x) false true x t :=
    (hr.mono c.keeps).reroot fun e => by rw [(repr_sfx hr hsf).2] at e; cases e
  have hrx : hashRootX H x = H (enc (bodyX H x)) := by
    cases x with
    | short _ _ => rfl
    | full _ => rfl
    | _ => cases hsf
  rw [hrx]
  exact ⟨hr', unload_repr H _ (.here true x hsf (Or.inl rfl) c.root c.stored) hr' hsl hs⟩

def HistNode (ops : List Op) (m : Node) : Prop := ∃ pre t, pre <+: ops ∧ run pre = some t ∧ Sub m t ∧ WF m

/-- `H` is collision-free on the (finitely many) nodes of the tries this history passes through. -/
def CFHist (H : Bytes → Bytes) (ops : List Op) : Prop :=
  ∀ m₁ m₂, HistNode ops m₁ → HistNode ops m₂ → hashOf H m₁ = hashOf H m₂ → enc (body H m₁) = enc (body H m₂)

def SzHist (H : Bytes → Bytes) (ops : List Op) : Prop := ∀ pre t, pre <+: ops → run pre = some t → SizeOk H t

/-- the node database holds nothing but encodings of nodes of the tries the history passed through, each under its hash
    (so that `CFHist` covers every blob `Commit` can meet there). -/
def DbGen (H : Bytes → Bytes) (ops : List Op) (db : Bytes → Option Bytes) : Prop :=
  ∀ h b, db h = some b → ∃ m, HistNode ops m ∧ h = hashOf H m ∧ b = enc (body H m)

theorem histNode_mono {ops : List Op} (op : Op) {m : Node} (h : HistNode ops m) : HistNode (ops ++ [op]) m := by
  obtain ⟨pre, t, hp, hr, hs, hw⟩ := h
  exact ⟨pre, t, hp.trans (List.prefix_append _ _), hr, hs, hw⟩

section
variable {H} {db}

theorem cfHist_mono {ops : List Op} (op : Op) (h : CFHist H (ops ++ [op])) : CFHist H ops :=
  fun m₁ m₂ h₁ h₂ => h m₁ m₂ (histNode_mono op h₁) (histNode_mono op h₂)

theorem szHist_mono {ops : List Op} (op : Op) (h : SzHist H (ops ++ [op])) : SzHist H ops :=
  fun pre t hp hr => h pre t (hp.trans (List.prefix_append _ _)) hr

theorem dbGen_mono {ops : List Op} (op : Op) (h : DbGen H ops db) : DbGen H (ops ++ [op]) db := by
  intro hh b hd
  obtain ⟨m, hm, e1, e2⟩ := h hh b hd
  exact ⟨m, histNode_mono op hm, e1, e2⟩

end

/-- what `Reach` preserves: `s` stands for the trie `t` that the history `ops` yields on fully loaded nodes, over a database
    of genuine nodes. -/
structure XInv (ops : List Op) (s : XState) (t : Node) : Prop where
  run : Trie.run ops = some t
  repr : Repr H s.db false true s.root t
  gen : DbGen H ops s.db

theorem XInv.inv {H : Bytes → Bytes} {ops : List Op} {s : XState} {t : Node} (h : XInv H ops s t) : Inv t (absOf ops) :=
  inv_of_run h.run

theorem XInv.step {H : Bytes → Bytes} {ops : List Op} {s s' : XState} {t t' : Node} (h : XInv H ops s t) {op : Op}
    (hstep : step t op = some t') (hr : Repr H s'.db false true s'.root t') (hg : DbGen H (ops ++ [op]) s'.db) :
    XInv H (ops ++ [op]) s' t' :=
  ⟨by rw [run_snoc, h.run]; exact hstep, hr, hg⟩

/-- Every reachable partially loaded state stands for the canonical trie of the history's content, whatever Hash / Commit /
    unloading / reopen steps are interleaved.  `hcf` is needed at `Commit`: the database keeps the first blob stored under
    a hash. -/
theorem reach_xinv (hH : ∀ x, (H x).length = 32) {ops : List Op} {s : XState}
    (hr : Reach H ops s) (hcf : CFHist H ops) (hsz : SzHist H ops) : ∃ t, XInv H ops s t := by
  -- `TryDelete`, and `TryUpdate` with an empty value
  have del : ∀ {ops : List Op} {s : XState} {t : Node} (op : Op) (k : Bytes) {d : Bool} {n : PNode}, XInv H ops s t →
      xdelete s.db (xfuel (keybytesToHex k)) s.root (keybytesToHex k) = .ok (d, n) →
      Trie.step t op = (delete t (keybytesToHex k)).map (·.2) → ∃ t', XInv H (ops ++ [op]) ⟨s.db, n⟩ t' := by
    intro ops s t op k d n hi hx hstep
    obtain ⟨d₂, x', hdel, hx', hr', _⟩ := (xdelete_repr H s.db hH false hi.repr _ _
      (pos_of_wfroot hi.inv.wf (term_keybytesToHex k)) (need_le_xfuel _ _)).resolve_right (by simp)
    cases hx.symm.trans hx'
    exact ⟨_, hi.step (by rw [hstep, hdel]; rfl) (hr'.weaken true) (dbGen_mono _ hi.gen)⟩
  induction hr with
  | init => exact ⟨.nil, rfl, .nil _, fun h b hd => by cases hd⟩
  | @insert ops s k v d n hprev hv hx ih =>
    obtain ⟨t, hi⟩ := ih (cfHist_mono _ hcf) (szHist_mono _ hsz)
    obtain ⟨d₂, x', hins, hx', hr'⟩ := (xinsert_repr H s.db hH false hi.repr v _ _
      (pos_of_wfroot hi.inv.wf (term_keybytesToHex k)) (need_le_xfuel _ _)).resolve_right (by simp)
    cases hx.symm.trans hx'
    exact ⟨_, hi.step (by simp [Trie.step, tryUpdate, hv, hins]) (hr'.weaken true) (dbGen_mono _ hi.gen)⟩
  | @updateEmpty ops s k v d n hprev hv hx ih =>
    obtain ⟨t, hi⟩ := ih (cfHist_mono _ hcf) (szHist_mono _ hsz)
    exact del (.update k v) k hi hx (by simp [Trie.step, tryUpdate, hv])
  | @delete ops s k d n hprev hx ih =>
    obtain ⟨t, hi⟩ := ih (cfHist_mono _ hcf) (szHist_mono _ hsz)
    exact del (.delete k) k hi hx rfl
  | @get ops s k v n hprev hx ih =>
    obtain ⟨t, hi⟩ := ih (cfHist_mono _ hcf) (szHist_mono _ hsz)
    obtain ⟨x', hx', hr'⟩ := (xget_repr H s.db hH false hi.repr _ _
      (pos_of_wfroot hi.inv.wf (term_keybytesToHex k)) (need_le_xfuel _ _)).resolve_right (by simp)
    cases hx.symm.trans hx'
    exact ⟨t, hi.step rfl (hr'.weaken true) (dbGen_mono _ hi.gen)⟩
  | @commit ops s hprev ih =>
    obtain ⟨t, hi⟩ := ih (cfHist_mono _ hcf) (szHist_mono _ hsz)
    by_cases hsf : isSFX s.root = true
    · have hnode : ∀ m, Sub m t → WF m → HistNode ops m := fun m hm hw => ⟨ops, t, List.prefix_refl _, hi.run, hm, hw⟩
      have hold : ∀ m, Sub m t → WF m → ∀ b, s.db (hashOf H m) = some b → b = enc (body H m) := by
        intro m hm hw b hd
        obtain ⟨m', hm', e1, e2⟩ := hi.gen _ _ hd
        rw [e2]
        exact (cfHist_mono _ hcf m m' (hnode m hm hw) hm' e1).symm
      have c := commit_stored H s.db hi.repr (slot_of_wfroot hi.inv.wf) hsf hold
        fun m₁ m₂ h₁ h₂ w₁ w₂ e => cfHist_mono _ hcf m₁ m₂ (hnode m₁ h₁ w₁) (hnode m₂ h₂ w₂) e
      refine ⟨t, hi.step rfl (hi.repr.mono c.keeps) fun h b hd => ?_⟩
      rcases c.genuine h b hd with h' | ⟨m, hm, hw, e1, e2⟩
      · exact dbGen_mono _ hi.gen h b h'
      · exact ⟨m, histNode_mono _ (hnode m hm hw), e1, e2⟩
    · have : commitDb H s.db s.root = s.db := by
        cases hroot : s.root with
        | short _ _ => rw [hroot] at hsf; cases hsf rfl
        | full _ => rw [hroot] at hsf; cases hsf rfl
        | _ => rfl
      refine ⟨t, ?_⟩
      rw [this]
      exact hi.step rfl (s' := ⟨_, _⟩) hi.repr (dbGen_mono _ hi.gen)
  | @unload ops s x' hprev hu ih =>
    obtain ⟨t, hi⟩ := ih (cfHist_mono _ hcf) (szHist_mono _ hsz)
    exact ⟨t, hi.step rfl (s' := ⟨_, _⟩) (unload_repr H s.db hu hi.repr (slot_of_wfroot hi.inv.wf)
      (szHist_mono _ hsz ops t (List.prefix_refl _) hi.run)) (dbGen_mono _ hi.gen)⟩

end Aqv.Trie
