/-
  Canonicity of headers: a successful `readSize`/`readHead` has read exactly what `header` writes for the size returned.
-/
import Aqv.Lemmas.Rlp
namespace Aqv.Rlp
open Aqv

theorem readSize_ok (ll : Nat) (rest : Bytes) (n : Nat) (r : Bytes) (h : readSize ll rest = .ok (n, r)) :
    rest = beBytes n ++ r ∧ (beBytes n).length = ll ∧ 56 ≤ n := by
  unfold readSize at h
  split at h
  · cases h
  · rename_i hl
    dsimp only at h
    split at h
    · cases h
    · rename_i b0 t hb
      split at h
      · cases h
      · rename_i h0
        split at h
        · cases h
        · rename_i h56
          cases h
          have hcanon : beBytes (beNat (rest.take ll)) = rest.take ll :=
            beBytes_beNat _ (by rw [hb]; exact (head_ne_zero_cons b0 t).2 h0)
          rw [hcanon, List.take_append_drop, List.length_take]
          exact ⟨rfl, by omega, by omega⟩

theorem cons_eq_header_short (base : Nat) (c : UInt8) (rest : Bytes) (h1 : base ≤ c.toNat) (h2 : c.toNat < base + 56) :
    c :: rest = header base (c.toNat - base) ++ rest := by
  rw [header_short base (by omega), show base + (c.toNat - base) = c.toNat by omega, UInt8.ofNat_toNat]; rfl

theorem cons_eq_header_long (base : Nat) (c : UInt8) (tl : Bytes) (n : Nat) (r : Bytes)
    (h1 : base + 55 ≤ c.toNat) (h2 : c.toNat ≤ base + 63) (h : readSize (c.toNat - (base + 55)) tl = .ok (n, r)) :
    c :: tl = header base n ++ r ∧ n < 2 ^ 64 := by
  obtain ⟨htl, hlen, h56⟩ := readSize_ok _ _ _ _ h
  refine ⟨?_, Nat.lt_of_lt_of_le (lt_pow_of_beBytes_length_le n 8 (by omega)) (by decide)⟩
  rw [header_long base h56, hlen, show base + 55 + (c.toNat - (base + 55)) = c.toNat by omega, UInt8.ofNat_toNat, htl]
  rfl

theorem readHead_ok (bs : Bytes) (hd : Hd) (h : readHead bs = .ok hd) :
    match hd with
    | .byte b rest => bs = b :: rest ∧ b < 0x80
    | .str n rest => bs = header 0x80 n ++ rest ∧ n < 2 ^ 64
    | .list n rest => bs = header 0xC0 n ++ rest ∧ n < 2 ^ 64 := by
  cases bs with
  | nil => cases h
  | cons c cs =>
    have hc := c.toNat_lt
    rw [readHead_cons] at h
    split at h
    · cases h; exact ⟨rfl, UInt8.lt_iff_toNat_lt.2 (by assumption)⟩
    · split at h
      · cases h; exact ⟨cons_eq_header_short 0x80 c cs (by omega) (by omega), by omega⟩
      · split at h
        · split at h
          · rename_i hs; cases h; exact cons_eq_header_long 0x80 c cs _ _ (by omega) (by omega) hs
          · cases h
        · split at h
          · cases h; exact ⟨cons_eq_header_short 0xC0 c cs (by omega) (by omega), by omega⟩
          · split at h
            · rename_i hs; cases h; exact cons_eq_header_long 0xC0 c cs _ _ (by omega) (by omega) hs
            · cases h

theorem readHead_consumes (bs : Bytes) (hd : Hd) (h : readHead bs = .ok hd) :
    (match hd with | .byte _ r => r.length | .str _ r => r.length | .list _ r => r.length) < bs.length := by
  cases hd with
  | byte b r => simp [(readHead_ok bs _ h).1]
  | str n r =>
    have := header_length_pos 0x80 n
    simp only [(readHead_ok bs _ h).1, List.length_append]; omega
  | list n r =>
    have := header_length_pos 0xC0 n
    simp only [(readHead_ok bs _ h).1, List.length_append]; omega

end Aqv.Rlp
