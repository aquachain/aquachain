/-
  Aqv.Lemmas.ChainBridge — from a recovered image of the key-class store (C04, `Aqv.Model.ChainDb`) to a state of the
  chain model of C02/C03 (`Aqv.Model.Chain`): the abstraction function `absSt` and the proof that an archive image with
  the invariant `Inv` (which the image of any crash prefix of a valid history has) abstracts to a weakly invariant chain
  state (`Chain.WInv`), on which `Chain.refeed_matches_crashfree` applies.

  What the abstraction takes from the universe `U` rather than from the store: the content of a block beyond (parent,
  number, root) — difficulty and transactions — and the VALUE of a total-difficulty record (the store model of C04 only
  records that the record exists; that it holds parent's record + difficulty is C02's `td_recurrence`, and a single put is
  atomic, so a crash cannot tear it).
-/
import Aqv.Lemmas.ChainWriter
import Aqv.Lemmas.ChainReimport
namespace Aqv.ChainDb
open Aqv

/-- the header the importer vouches for: stored header `h` is block `h` of the universe -/
def VU (U : Chain.Map Chain.Blk) : Hash → Hdr → Prop :=
  fun h hd => ∃ x, U h = some x ∧ x.parent = hd.parent ∧ x.number = hd.num

def tdU (U : Chain.Map Chain.Blk) (x : Chain.Blk) : Nat := ((Chain.ancestry U (x.number + 1) x).map (·.diff)).sum

/-- the chain-model state a (recovered) image stands for; `head` is the head block `recover` exposed.  `archive` is read
    by `Chain.afterTd` (for `onDisk`) and `Chain.reopen` only. -/
def absSt (U : Chain.Map Chain.Blk) (g : Chain.Blk) (db : Db) (head : Hash) : Chain.St where
  genesis := g
  archive := true
  store := fun k => if (getBlockByHash db k).isSome then U k else none
  td := fun k => if (get db (.td k)).isSome then (U k).map (tdU U) else none
  canon := fun n => canonHash db n
  head := head
  hhead := head
  fhead := head
  lookup := fun _ => none
  receipts := fun k => (get db (.receipts k)).isSome
  hasState := fun k => match getBlockByHash db k with | some hd => hasState db hd.root | none => false
  onDisk := fun k => match getBlockByHash db k with | some hd => hasState db hd.root | none => false
  seen := fun k => (getBlockByHash db k).isSome

variable {U : Chain.Map Chain.Blk}

theorem tdU_path {g : Chain.Blk} (hg0 : g.number = 0) : ∀ {x : Chain.Blk} {l : List Chain.Blk},
    Chain.Path U x l g → tdU U x = g.diff + Chain.diffSum l := by
  intro x l hp
  unfold tdU
  induction hp with
  | nil x =>
    rw [hg0]
    simp [Chain.ancestry, Chain.parentOf, hg0, Chain.diffSum]
  | @cons x p l y hpar _ ih =>
    obtain ⟨_, hn⟩ := Chain.parentOf_some hpar
    have hx : x.number + 1 = (p.number + 1) + 1 := by omega
    have hstep : Chain.ancestry U ((p.number + 1) + 1) x = x :: Chain.ancestry U (p.number + 1) p := by
      show (x :: (match Chain.parentOf U x with | some q => Chain.ancestry U (p.number + 1) q | none => [])) = _
      rw [hpar]
    rw [hx, hstep, List.map_cons, List.sum_cons, ih hg0, Chain.diffSum_cons]
    omega

theorem stored_path {g : Chain.Blk} (hz : ∀ k x, U k = some x → x.number = 0 → x = g) {ar : Bool} {db : Db}
    {gh head : Hash} (hi : Inv ar (VU U) db gh) :
    ∀ (n : Nat) (k : Hash) (hd : Hdr), getBlock db k n = some hd →
      ∃ x l, U k = some x ∧ (absSt U g db head).store k = some x ∧ Chain.Path (absSt U g db head).store x l g := by
  have blk : ∀ n k hd, getBlock db k n = some hd →
      ∃ x, U k = some x ∧ x.parent = hd.parent ∧ x.number = n ∧ (absSt U g db head).store k = some x := by
    intro n k hd hb
    obtain ⟨x, hx, hxp, hnum⟩ := hi.ext.valid k n hd (getBlock_header hb)
    have hk := hi.hnum k n hd (getBlock_header hb)
    exact ⟨x, hx, hxp, by rw [hnum, getBlock_num hb], by simp [absSt, getBlockByHash_eq_some.mpr ⟨_, hk, hb⟩, hx]⟩
  intro n
  induction n with
  | zero =>
    intro k hd hb
    obtain ⟨x, hx, _, hx0, hs⟩ := blk 0 k hd hb
    obtain rfl := hz k x hx hx0
    exact ⟨x, [], hx, hs, .nil x⟩
  | succ n ih =>
    intro k hd hb
    obtain ⟨x, hx, hxp, hxn, hs⟩ := blk (n + 1) k hd hb
    obtain ⟨hd', hb'⟩ := hi.ext.pclosed k n hd hb
    obtain ⟨p, l, hp, hps, hpath⟩ := ih hd.parent hd' hb'
    obtain ⟨p', hp', _, hpn, _⟩ := blk n hd.parent hd' hb'
    rw [hp] at hp'; cases hp'
    exact ⟨x, x :: l, hx, hs, .cons (Chain.parentOf_of (hxp ▸ hps) (by rw [hpn, hxn])) hpath⟩

theorem winv_abs {g : Chain.Blk} (hg0 : g.number = 0)
    (hz : ∀ k x, U k = some x → x.number = 0 → x = g) {db : Db} {gh : Hash} (hi : Inv true (VU U) db gh) :
    Chain.WInv U g (absSt U g db gh) := by
  have hstored : ∀ k x, (absSt U g db gh).store k = some x → ∃ hd n l, getBlockByHash db k = some hd ∧
      getBlock db k n = some hd ∧ U k = some x ∧ Chain.Path (absSt U g db gh).store x l g := by
    intro k x hx
    simp only [absSt] at hx
    split at hx
    · rename_i hs
      obtain ⟨hd, hhd⟩ := Option.isSome_iff_exists.mp hs
      obtain ⟨n, _, hb⟩ := getBlockByHash_eq_some.mp hhd
      obtain ⟨x', l, hU, _, hp⟩ := stored_path hz (head := gh) hi n k hd hb
      rw [hx] at hU; cases hU
      exact ⟨hd, n, l, hhd, hb, hx, hp⟩
    · cases hx
  have hsub : Chain.StoreExt (absSt U g db gh).store U := fun k x hx => by
    obtain ⟨_, _, _, _, _, hU, _⟩ := hstored k x hx
    exact hU
  -- `closed` is `Chain.Closed` (every stored block has its ancestry stored), not the `Closed` of the trie store in `hi.closed`
  exact {
    gen := rfl
    gnum := hg0
    sub := hsub
    closed := fun k x hx => by
      obtain ⟨_, _, l, _, _, _, hp⟩ := hstored k x hx
      exact ⟨l, hp⟩
    tdOk := fun k x hx => by
      obtain ⟨hd, n, l, _, hb, hU, hp⟩ := hstored k x hx
      have hpU := hp.mono hsub
      exact ⟨tdU U x, by simp [absSt, hi.ext.storedTd k n hd hb, hU], l, hpU, tdU_path hg0 hpU⟩
    headStored := by
      obtain ⟨n, hn, hc⟩ := hi.chain
      obtain ⟨hd, hb⟩ := canonAgrees_block hc
      obtain ⟨x, _, _, hs, _⟩ := stored_path hz (head := gh) hi n gh hd hb
      exact ⟨x, hs⟩
    state := fun k x hx => by
      obtain ⟨hd, n, _, hbh, hb, _, _⟩ := hstored k x hx
      simp only [absSt, hbh]
      exact hi.arch rfl k n hd hb }

end Aqv.ChainDb
