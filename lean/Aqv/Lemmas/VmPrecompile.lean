/- C07, precompiled contracts: the buffers bigModExp.Run materialises from announced lengths are bounded linearly by the gas
  RequiredGas charges; the other precompiles materialise a constant and do work linear in the gas. -/
import Aqv.Model.VmPrecompile
namespace Aqv.Vm.Pre
open Aqv.Gen.VmFlags

theorem le_modexpMult (x : Nat) : x ≤ modexpMult x := by
  unfold modexpMult
  split
  · exact Nat.le_mul_self x
  · next h64 =>
    have hx : 64 * x ≤ x * x := Nat.mul_le_mul_right x (by omega)
    split <;> omega

/-- `hlt`: the charged gas is not the MaxUint64 saturation value of RequiredGas -/
theorem modexp_core (b e m msb g : Nat) (hg : modexpGas b e m msb = g) (hlt : g < two64 - 1) :
    modexpRunBuffers b e m ≤ 64 * (g + 1) + 32 := by
  unfold modexpRunBuffers
  simp only
  split
  · omega
  · next hne =>
    have hb : b % two64 ≤ b := Nat.mod_le _ _
    have he : e % two64 ≤ e := Nat.mod_le _ _
    have hm : m % two64 ≤ m := Nat.mod_le _ _
    have hx : 1 ≤ max m b := by
      by_cases h0 : b % two64 = 0
      · have : m % two64 ≠ 0 := fun h => hne ⟨h0, h⟩
        omega
      · omega
    have hM := le_modexpMult (max m b)
    unfold modexpGas at hg
    simp only at hg
    generalize hA : max ((if e > 32 then 8 * (e - 32) else 0) + msb) 1 = A at hg
    generalize hMM : modexpMult (max m b) = M at hg hM
    have hA1 : 1 ≤ A := by omega
    have hM1 : 1 ≤ M := by omega
    have h1 : M ≤ M * A := Nat.le_mul_of_pos_right M hA1
    have h2 : A ≤ M * A := Nat.le_mul_of_pos_left A hM1
    have hq : modExpQuadCoeffDiv = 20 := rfl
    rw [hq] at hg
    have hadj : e ≤ 32 + A / 8 := by
      by_cases h32 : e > 32
      · simp only [h32, if_true] at hA; omega
      · omega
    generalize hP : M * A = P at hg h1 h2
    split at hg
    · omega
    · omega

theorem runBuffers_const (addr : Nat) (h5 : addr ≠ 5) (input : Bytes) : runBuffers addr input ≤ 225 := by
  unfold runBuffers
  split
  · split <;> omega  -- ecrecover: the padding (128 or nothing), v appended to a 64-byte copy, the padded hash
  · omega
  · omega
  · omega
  · contradiction  -- modexp is `modexp_core`
  · omega

theorem outLen_le (addr : Nat) (h5 : addr ≠ 5) (input : Bytes) (n : Nat) (h : outLen addr input = some n) :
    n ≤ max 32 input.length := by
  unfold outLen at h
  split at h
  · cases h  -- ecrecover's output is not a function of the input length alone
  · cases h; omega
  · cases h; omega
  · cases h; omega  -- identity: the input itself
  · contradiction
  · cases h; omega

theorem runSteps_le_gas (addr : Nat) (h5 : addr ≠ 5) (h1 : 1 ≤ addr) (h8 : addr ≤ 8) (input : Bytes) :
    runSteps addr input ≤ requiredGas addr input := by
  unfold runSteps requiredGas words
  rcases (by omega : addr = 1 ∨ addr = 2 ∨ addr = 3 ∨ addr = 4 ∨ addr = 6 ∨ addr = 7 ∨ addr = 8) with h | h | h | h | h | h | h <;>
    subst h <;>
    simp only [ecrecoverGas, sha256PerWordGas, sha256BaseGas, ripemd160PerWordGas, ripemd160BaseGas, identityPerWordGas,
      identityBaseGas, bn256AddGas, bn256ScalarMulGas, bn256PairingBaseGas] <;> omega

end Aqv.Vm.Pre
