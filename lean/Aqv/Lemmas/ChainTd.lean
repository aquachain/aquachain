/-
  Aqv.Lemmas.ChainTd — the C02 invariants of import-only histories: the store is ancestor-closed (so `reorg` never
  fails), the head is at least as heavy as every fully validated block, the head's total difficulty never decreases.
-/
import Aqv.Lemmas.ChainImport
import Aqv.Lemmas.ChainRewind
namespace Aqv.Chain

/-- ancestor-closed: no rewind has orphaned anything -/
def Closed (s : St) : Prop := ∀ k x, s.store k = some x → ∃ l, Path s.store x l s.genesis

/-- C02 as stated: the head's record is at least that of every fully validated block -/
def HeadMax (s : St) : Prop :=
  ∀ k t, s.seen k = true → s.td k = some t → ∃ th, s.td s.head = some th ∧ t ≤ th

/-- every fully validated block has a record (so `HeadMax` speaks of all of them) -/
def SeenTd (s : St) : Prop := ∀ k, s.seen k = true → (s.td k).isSome = true

/-- the head's record is at least `t0`: kept by every import for every `t0`, which is how "never decreases" is carried -/
def HeadTdGe (s : St) (t0 : Nat) : Prop := ∃ th, s.td s.head = some th ∧ t0 ≤ th

/-- the invariant of import-only histories behind C02 -/
def Good (U : Map Blk) (g : Blk) (t0 : Nat) (s : St) : Prop :=
  Inv U s ∧ Closed s ∧ HeadMax s ∧ SeenTd s ∧ HeadTdGe s t0 ∧ s.genesis = g

namespace Good
variable {U : Map Blk} {g : Blk} {t0 : Nat} {s : St} (h : Good U g t0 s)
include h

theorem inv : Inv U s := h.1
theorem closed : Closed s := h.2.1
theorem headMax : HeadMax s := h.2.2.1
theorem seenTd : SeenTd s := h.2.2.2.1
theorem headTdGe : HeadTdGe s t0 := h.2.2.2.2.1
theorem gen : s.genesis = g := h.2.2.2.2.2

end Good

variable {U : Map Blk}

theorem reorg_ok_of_closedK {s : St} (hsub : StoreExt s.store U) (hc : Closed s) (hg0 : s.genesis.number = 0)
    {k : Nat} {hb : Blk} (hhb : s.store k = some hb)
    {b p : Blk} (hbU : U b.id = some b) (hpar : parentOf s.store b = some p) (ptd : Nat) :
    reorg (afterStored s b ptd) hb b ≠ none := by
  have hext : StoreExt s.store (afterStored s b ptd).store := (storeExt_updK hsub hbU).1
  obtain ⟨lp, hlp⟩ := hc _ _ (parentOf_some hpar).1
  obtain ⟨C, hC⟩ := hc _ _ hhb
  have hbp : Path (afterStored s b ptd).store b (b :: lp) s.genesis :=
    .cons (parentOf_mono hext hpar) (hlp.mono hext)
  have hhp : Path (afterStored s b ptd).store hb C s.genesis := hC.mono hext
  have hg := hg0
  have hm1 : min hb.number b.number ≤ hb.number := Nat.min_le_left _ _
  have hm2 : min hb.number b.number ≤ b.number := Nat.min_le_right _ _
  obtain ⟨O1, O2, o, hO, hO1, hO2, hon⟩ := hhp.split (min hb.number b.number) (by rw [hg]; omega) hm1
  obtain ⟨N1, N2, n, hN, hN1, hN2, hnn⟩ := hbp.split (min hb.number b.number) (by rw [hg]; omega) hm2
  have hr1 : reduce (afterStored s b ptd).store (hb.number + 1) hb (min hb.number b.number) = some (o, O1) := by
    rw [← hon]; exact reduce_of_path hO1 _ (by have := hO1.number; omega)
  have hr2 : reduce (afterStored s b ptd).store (b.number + 1) b (min hb.number b.number) = some (n, N1) := by
    rw [← hnn]; exact reduce_of_path hN1 _ (by have := hN1.number; omega)
  have hlen : O2.length = N2.length := by
    have h1 := hO2.number
    have h2 := hN2.number
    omega
  obtain ⟨r, hr⟩ := walkBoth_of_paths hO2 n N2 hN2 hlen (min hb.number b.number + 1) (by have := hO2.number; omega)
  unfold reorg
  simp only [hr1, hr2, hr]
  simp

theorem wbws_no_reorgFail {s : St} (hsub : StoreExt s.store U) (hc : Closed s) (hg0 : s.genesis.number = 0) {b p : Blk}
    (hbU : U b.id = some b) (hpar : parentOf s.store b = some p) (coin : Bool) :
    (writeBlockWithState s b coin).err ≠ some .reorgFail := by
  intro herr
  rcases wbws_err_eq herr with ⟨_, hne, _⟩ | ⟨_, ptd, _, _, hcur, hr, _⟩
  · exact hne rfl
  · exact reorg_ok_of_closedK hsub hc hg0 hcur hbU hpar ptd hr

theorem good_wbws_ok (W : World U) {g : Blk} {t0 : Nat} {s : St} (hG : Good U g t0 s) {b p : Blk}
    (hbU : U b.id = some b) (hpar : parentOf s.store b = some p) (hps : s.hasState b.parent = true) (coin : Bool)
    (herr : (writeBlockWithState s b coin).err = none) : Good U g t0 (writeBlockWithState s b coin).st := by
  obtain ⟨⟨hb, C, hI⟩, hcl, hmax, hstd, hge, hgg⟩ := hG
  have hinv := inv_wbws W ⟨hb, C, hI⟩ hbU hpar hps coin (by rw [herr]; simp)
  obtain ⟨ptd, lt, hptd, hlt, c, lk, hd, hhd, fh, e, hch⟩ := wbws_ok_eq herr
  rw [e] at hinv ⊢
  obtain ⟨th, hth, hle1, hle2⟩ := hch.headTd (TdIntr.rewrite hI.tdIntr hI.sub hbU hpar hptd hlt)
  refine ⟨hinv, closed_upd hcl hpar (storeExt_updK hI.sub hbU).1 (fun _ _ => upd_some_cases), ?_, ?_, ⟨th, hth, ?_⟩, hgg⟩
  · intro k t (hk : updB s.seen b.id true k = true) (ht : upd s.td b.id (some (ptd + b.diff)) k = some t)
    refine ⟨th, hth, upd_le (fun hkb t ht => ?_) hle2 ht⟩
    rw [updB_other _ _ _ _ hkb] at hk
    exact Nat.le_trans (le_headTd (hmax k t hk ht) hlt) hle1
  · intro k (hk : updB s.seen b.id true k = true)
    show (upd s.td b.id (some (ptd + b.diff)) k).isSome = true
    by_cases hkb : k = b.id
    · subst hkb; rw [upd_same]; rfl
    · rw [updB_other _ _ _ _ hkb] at hk
      rw [upd_other _ _ _ _ hkb]; exact hstd k hk
  · exact Nat.le_trans (le_headTd hge hlt) hle1

theorem good_stable (W : World U) (g : Blk) (t0 : Nat) : Stable U (Good U g t0) True where
  base := fun _ h => inv_base h.inv
  wbws := by
    intro s b p coin hG hbU hpar hps
    obtain ⟨hb, C, hI⟩ := hG.inv
    have hnf := wbws_no_reorgFail hI.sub hG.closed hI.genNum hbU hpar coin
    refine ⟨fun _ => ?_, fun _ => hnf⟩
    cases herr : (writeBlockWithState s b coin).err with
    | none => exact good_wbws_ok W hG hbU hpar hps coin herr
    | some e => rw [wbws_err_st herr (fun he => hnf (by rw [herr, he]))]; exact hG
  without := by
    intro s b p ptd ⟨⟨hb, C, hI⟩, hcl, hmax, hstd, hge, hgg⟩ hbU hpar hptd
    -- the record of `b`, if there was one, is written again with the same value
    have hrw : ∀ {k t : Nat}, s.td k = some t → upd s.td b.id (some (ptd + b.diff)) k = some t :=
      TdIntr.rewrite hI.tdIntr hI.sub hbU hpar hptd
    refine ⟨⟨hb, C, invC_withoutState W hI hbU hpar hptd⟩,
      closed_upd hcl hpar (storeExt_updK hI.sub hbU).1 (fun _ _ => upd_some_cases), ?_, ?_, ?_, hgg⟩
    · intro k t hk ht
      obtain ⟨t1, ht1⟩ := Option.isSome_iff_exists.mp (hstd k hk)
      obtain ⟨th, hth, hle⟩ := hmax k t1 hk ht1
      have htt : t = t1 := Option.some.inj (ht.symm.trans (hrw ht1))
      exact ⟨th, hrw hth, by omega⟩
    · intro k hk
      obtain ⟨t1, ht1⟩ := Option.isSome_iff_exists.mp (hstd k hk)
      show (upd s.td b.id (some (ptd + b.diff)) k).isSome = true
      rw [hrw ht1]; rfl
    · obtain ⟨th, hth, hle⟩ := hge
      exact ⟨th, hrw hth, hle⟩

theorem good_init (g : Blk) (archive : Bool) (hgU : U g.id = some g) (hg0 : g.number = 0) (hgt : g.txs = []) :
    Good U g g.diff (init g archive) := by
  refine ⟨⟨g, [], invC_init g archive hgU hg0 hgt⟩, ancClosed_init g, ?_, ?_, ⟨g.diff, by simp [init], Nat.le_refl _⟩, rfl⟩
  · intro k t _ ht
    obtain ⟨rfl, rfl⟩ := upd_empty_some.mp ht
    exact ⟨g.diff, by simp [init], Nat.le_refl _⟩
  · intro k hk
    rw [updB_empty_true.mp hk]
    simp [init]

theorem good_reopen (W : World U) {g : Blk} {t0 : Nat} {s : St} (h : Good U g t0 s) : Good U g t0 (reopen s) := by
  have hinv := inv_reopen W h.inv
  obtain ⟨hb, C, hI⟩ := h.inv
  obtain ⟨d, hs, he⟩ := reopen_frame s hI.headStored
  rw [he] at hinv ⊢
  exact ⟨hinv, h.closed, h.headMax, h.seenTd, h.headTdGe, h.gen⟩

theorem good_retarget {g : Blk} {t0 t1 : Nat} {s : St} (h : Good U g t0 s) (h1 : HeadTdGe s t1) : Good U g t1 s :=
  ⟨h.inv, h.closed, h.headMax, h.seenTd, h1, h.gen⟩

theorem good_weaken {g : Blk} {t0 t1 : Nat} {s : St} (h : Good U g t0 s) (hle : t1 ≤ t0) : Good U g t1 s := by
  obtain ⟨th, hth, hge⟩ := h.headTdGe
  exact good_retarget h ⟨th, hth, by omega⟩

end Aqv.Chain
