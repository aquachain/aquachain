/-
  Aqv.Lemmas.LogFilterBloom — blooms and the bloom test of a filter (C16): bit `j` of the integer `CreateBloom` accumulates is set
  exactly when `bloom9` of the address or of a topic of one of the logs sets it, so a bloom tests positive for everything folded
  into it and stays below 2^2048 (`BytesToBloom(bin.Bytes())` round-trips through `Big()`); `BloomLookup` as three bit tests at the
  positions `calcBloomIndexes` computes.
-/
import Aqv.Lemmas.LogFilterBits
import Aqv.Lemmas.Bytes
namespace Aqv.LogFilter

/-- what `BloomLookup` tests -/
def Covers (x c : Nat) : Prop := x &&& c = c

theorem covers_iff (x c : Nat) : Covers x c ↔ ∀ j, c.testBit j = true → x.testBit j = true := by
  unfold Covers
  constructor
  · intro h j hc
    have := congrArg (fun v => v.testBit j) h
    simpa only [Nat.testBit_and, hc, Bool.and_true] using this
  · intro h
    apply Nat.eq_of_testBit_eq
    intro j
    rw [Nat.testBit_and]
    cases hc : c.testBit j
    · simp
    · simp [h j hc]

theorem bloom9Idx_lt (h : Bytes) (i : Nat) : bloom9Idx h i < 2048 := by
  unfold bloom9Idx
  have := @Nat.and_le_right ((h.getD (i + 1) 0).toNat + ((h.getD i 0).toNat <<< 8)) 2047
  omega

theorem bloom9_testBit (H : HashFn) (b : Bytes) (j : Nat) :
    (bloom9 H b).testBit j = (decide (bloom9Idx (H b) 0 = j) || decide (bloom9Idx (H b) 2 = j) || decide (bloom9Idx (H b) 4 = j)) := by
  unfold bloom9
  simp only [List.foldl_cons, List.foldl_nil, Nat.testBit_or, Nat.one_shiftLeft, Nat.testBit_two_pow, Nat.zero_testBit,
    Bool.false_or]

theorem testBit_foldl {α : Type} {g : Nat → α → Nat} {h : α → Bool} {j : Nat} (hg : ∀ b a, (g b a).testBit j = (b.testBit j || h a))
    (xs : List α) (init : Nat) : (xs.foldl g init).testBit j = (init.testBit j || xs.any h) := by
  induction xs generalizing init with
  | nil => simp
  | cons x xs ih => rw [List.foldl_cons, ih, hg, List.any_cons, Bool.or_assoc]

/-- the bits `LogsBloom` sets for one log. -/
def logBit (H : HashFn) (j : Nat) (log : Log) : Bool := (log.address :: log.topics).any (fun x => (bloom9 H x).testBit j)

theorem logsBloom_testBit (H : HashFn) (logs : List Log) (j : Nat) : (logsBloom H logs).testBit j = logs.any (logBit H j) :=
  -- the step of `LogsBloom` for one log is the OR-fold over `address :: topics`
  (testBit_foldl (g := fun bin (l : Log) => (l.address :: l.topics).foldl (fun bin t => bin ||| bloom9 H t) bin)
    (fun b l => testBit_foldl (fun b t => Nat.testBit_or b (bloom9 H t) j) (l.address :: l.topics) b) logs 0).trans
    (by rw [Nat.zero_testBit, Bool.false_or]; rfl)

theorem createBloomNat_testBit (H : HashFn) (receipts : List (List Log)) (j : Nat) :
    (createBloomNat H receipts).testBit j = receipts.any (fun r => r.any (logBit H j)) :=
  (testBit_foldl (fun b r => by rw [Nat.testBit_or, logsBloom_testBit]) receipts 0).trans (by rw [Nat.zero_testBit, Bool.false_or])

theorem createBloomNat_covers (H : HashFn) (receipts : List (List Log)) (r : List Log) (hr : r ∈ receipts) :
    Covers (createBloomNat H receipts) (logsBloom H r) := by
  rw [covers_iff]
  intro j hj
  rw [logsBloom_testBit] at hj
  rw [createBloomNat_testBit]
  exact List.any_eq_true.mpr ⟨r, hr, hj⟩

theorem createBloomNat_covers_item (H : HashFn) (receipts : List (List Log)) (r : List Log) (hr : r ∈ receipts) (log : Log)
    (hlog : log ∈ r) (x : Bytes) (hx : x ∈ log.address :: log.topics) : Covers (createBloomNat H receipts) (bloom9 H x) := by
  rw [covers_iff]
  intro j hj
  refine (covers_iff _ _).mp (createBloomNat_covers H receipts r hr) j ?_
  rw [logsBloom_testBit]
  exact List.any_eq_true.mpr ⟨log, hlog, List.any_eq_true.mpr ⟨x, hx, hj⟩⟩

theorem bloom9_lt (H : HashFn) (b : Bytes) : bloom9 H b < 2 ^ 2048 := by
  apply Nat.lt_pow_two_of_testBit
  intro j hj
  rw [bloom9_testBit]
  have := bloom9Idx_lt (H b)
  simp only [Bool.or_eq_false_iff, decide_eq_false_iff_not]
  exact ⟨⟨by have := this 0; omega, by have := this 2; omega⟩, by have := this 4; omega⟩

theorem createBloomNat_lt (H : HashFn) (receipts : List (List Log)) : createBloomNat H receipts < 2 ^ 2048 := by
  apply Nat.lt_pow_two_of_testBit
  intro j hj
  rw [createBloomNat_testBit]
  have h9 : ∀ x, (bloom9 H x).testBit j = false := fun x =>
    Nat.testBit_lt_two_pow (Nat.lt_of_lt_of_le (bloom9_lt H x) (Nat.pow_le_pow_right (by decide) hj))
  simp [logBit, h9]

/-- `len(bin.Bytes()) ≤ 256`: the panic branch of `SetBytes` is unreachable from `CreateBloom`. -/
theorem createBloom_fits (H : HashFn) (receipts : List (List Log)) : (beBytes (createBloomNat H receipts)).length ≤ 256 :=
  beBytes_length_le _ _ (by rw [show (256 : Nat) ^ 256 = 2 ^ 2048 from (Nat.pow_mul 2 8 256).symm]; exact createBloomNat_lt H receipts)

theorem bytesToBloom_length (d : Bytes) (h : d.length ≤ 256) : (bytesToBloom d).length = 256 := by
  unfold bytesToBloom
  simp only [List.length_append, List.length_replicate]
  omega

theorem createBloom_length (H : HashFn) (receipts : List (List Log)) : (createBloom H receipts).length = 256 :=
  bytesToBloom_length _ (createBloom_fits H receipts)

theorem beNat_bytesToBloom (d : Bytes) : beNat (bytesToBloom d) = beNat d := beNat_replicate_zero_append _ _

theorem beNat_createBloom (H : HashFn) (receipts : List (List Log)) : beNat (createBloom H receipts) = createBloomNat H receipts := by
  unfold createBloom
  rw [beNat_bytesToBloom, beNat_beBytes]

theorem bloomLookup_iff_covers (H : HashFn) (bin topic : Bytes) : bloomLookup H bin topic = true ↔ Covers (beNat bin) (bloom9 H topic) := by
  unfold bloomLookup Covers
  simp

def BloomHasLog (H : HashFn) (bloom : Bytes) (log : Log) : Prop :=
  bloomLookup H bloom log.address = true ∧ ∀ t ∈ log.topics, bloomLookup H bloom t = true

/-- no false negatives (bloom level). -/
theorem createBloom_hasLog (H : HashFn) (receipts : List (List Log)) (r : List Log) (hr : r ∈ receipts) (log : Log) (hlog : log ∈ r) :
    BloomHasLog H (createBloom H receipts) log := by
  have h : ∀ x ∈ log.address :: log.topics, bloomLookup H (createBloom H receipts) x = true := by
    intro x hx
    rw [bloomLookup_iff_covers, beNat_createBloom]
    exact createBloomNat_covers_item H receipts r hr log hlog x hx
  exact ⟨h _ List.mem_cons_self, fun t ht => h t (List.mem_cons_of_mem _ ht)⟩

theorem bloomLookup_eq_bits (H : HashFn) (bloom x : Bytes) :
    bloomLookup H bloom x =
      ((beNat bloom).testBit (bloom9Idx (H x) 0) && (beNat bloom).testBit (bloom9Idx (H x) 2) && (beNat bloom).testBit (bloom9Idx (H x) 4)) := by
  rw [Bool.eq_iff_iff, bloomLookup_iff_covers, covers_iff]
  simp only [bloom9_testBit, Bool.or_eq_true, decide_eq_true_eq, Bool.and_eq_true]
  constructor
  · intro h
    exact ⟨⟨h _ (Or.inl (Or.inl rfl)), h _ (Or.inl (Or.inr rfl))⟩, h _ (Or.inr rfl)⟩
  · intro h j hj
    rcases hj with (hj | hj) | hj <;> subst hj
    · exact h.1.1
    · exact h.1.2
    · exact h.2

theorem idx_arith (x y : UInt8) : ((x.toNat <<< 8) &&& 2047) + y.toNat = (y.toNat + (x.toNat <<< 8)) &&& 2047 := by
  have hx := x.toNat_lt
  have hy := y.toNat_lt
  rw [show (2047 : Nat) = 2 ^ 11 - 1 by decide, Nat.and_two_pow_sub_one_eq_mod, Nat.and_two_pow_sub_one_eq_mod, Nat.shiftLeft_eq]
  omega

/-- `calcBloomIndexes` (matcher.go) computes the three bit positions `bloom9` (bloom9.go) sets. -/
theorem calcBloomIndexes_eq (H : HashFn) (b : Bytes) :
    calcBloomIndexes H b = (bloom9Idx (H b) 0, bloom9Idx (H b) 2, bloom9Idx (H b) 4) := by
  unfold calcBloomIndexes bloom9Idx
  simp only [Prod.mk.injEq]
  exact ⟨idx_arith _ _, idx_arith _ _, idx_arith _ _⟩

theorem calcBloomIndexes_lt (H : HashFn) (x : Bytes) :
    ∀ k ∈ [(calcBloomIndexes H x).1, (calcBloomIndexes H x).2.1, (calcBloomIndexes H x).2.2], k < 2048 := by
  rw [calcBloomIndexes_eq]
  intro k hk
  simp only [List.mem_cons, List.not_mem_nil, or_false] at hk
  rcases hk with h | h | h <;> subst h <;> exact bloom9Idx_lt _ _

theorem logMatches_iff (c : Criteria) (log : Log) :
    logMatches c log = true ↔
      (0 < c.addresses.length → log.address ∈ c.addresses) ∧ c.topics.length ≤ log.topics.length ∧
        topicsOk log.topics 0 c.topics = true := by
  have hinc : includes c.addresses log.address = c.addresses.contains log.address := List.any_beq'
  unfold logMatches
  rw [hinc]
  by_cases h1 : 0 < c.addresses.length <;> by_cases h2 : c.topics.length ≤ log.topics.length <;>
    simp [h1, h2, Nat.not_lt.mpr, Nat.lt_of_not_le]

theorem topics_all_of_topicsOk (p : Bytes → Bool) (lt : List Bytes) (hlt : ∀ t ∈ lt, p t = true)
    (ts : List (List Bytes)) (i : Nat) (hlen : i + ts.length ≤ lt.length) (hok : topicsOk lt i ts = true) :
    ts.all (fun sub => sub.length == 0 || sub.any p) = true := by
  induction ts generalizing i with
  | nil => rfl
  | cons sub rest ih =>
    simp only [topicsOk, Bool.and_eq_true, Bool.or_eq_true] at hok
    simp only [List.length_cons] at hlen
    simp only [List.all_cons, Bool.and_eq_true, Bool.or_eq_true]
    refine ⟨hok.1.imp_right fun h => ?_, ih (i + 1) (by omega) hok.2⟩
    rw [List.any_beq, List.contains_iff_mem] at h
    exact List.any_eq_true.mpr ⟨_, h, hlt _ (getD_mem [] (by omega))⟩

/-- no false negatives (filter level). -/
theorem bloomFilter_of_logMatches (H : HashFn) (bloom : Bytes) (c : Criteria) (log : Log) (hb : BloomHasLog H bloom log)
    (hm : logMatches c log = true) : bloomFilter H bloom c = true := by
  obtain ⟨ha, hlen, hok⟩ := (logMatches_iff c log).mp hm
  unfold bloomFilter
  rw [Bool.and_eq_true]
  refine ⟨?_, topics_all_of_topicsOk _ log.topics hb.2 c.topics 0 (by omega) hok⟩
  split
  · rename_i hpos
    exact List.any_eq_true.mpr ⟨_, ha hpos, hb.1⟩
  · rfl

theorem filterLogs_nil_of_bloomFilter_false (H : HashFn) (bloom : Bytes) (c : Criteria) (logs : List Log)
    (hb : ∀ log ∈ logs, BloomHasLog H bloom log) (hf : bloomFilter H bloom c = false) : filterLogs logs c = [] := by
  unfold filterLogs
  rw [List.filter_eq_nil_iff]
  intro log hmem hm
  rw [bloomFilter_of_logMatches H bloom c log (hb log hmem) hm] at hf
  cases hf

theorem topicsOk_eq_range (lt : List Bytes) (ts : List (List Bytes)) (k : Nat) :
    topicsOk lt k ts =
      (List.range ts.length).all (fun i => (ts.getD i []).isEmpty || (ts.getD i []).contains (lt.getD (k + i) [])) := by
  induction ts generalizing k with
  | nil => rfl
  | cons sub rest ih =>
    rw [topicsOk, ih (k + 1), List.length_cons, List.range_succ_eq_map, List.all_cons, List.all_map]
    congr 1
    · simp only [List.getD_cons_zero, Nat.add_zero, List.any_beq]
      cases sub <;> rfl
    · apply List.all_congr rfl
      intro i
      simp only [Function.comp, List.getD_cons_succ, show k + 1 + i = k + (i + 1) by omega]

theorem logMatches_eq_spec (c : Criteria) (log : Log) : logMatches c log = Spec.logMatches c log := by
  rw [Bool.eq_iff_iff, logMatches_iff, Spec.logMatches, topicsOk_eq_range]
  cases c.addresses <;> simp [and_assoc]

end Aqv.LogFilter
