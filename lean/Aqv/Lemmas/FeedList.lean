/-
  Aqv.Lemmas.FeedList — list facts behind the index arithmetic of `caseList.deactivate` (swap with the last active
  case) and `caseList.delete(find(ch))` as used by Feed.Send / Feed.remove, plus facts about appending one element to a
  list (`Nodup`, `Pairwise`, and two-element sublists = "a happens before b" on a chronological list).
-/
import Aqv.Model.Feed
import Aqv.Lemmas.Basic
namespace Aqv.Feed

theorem swapAt_length (l : List Chan) (i j : Nat) : (swapAt l i j).length = l.length := by simp [swapAt]

theorem getElem_swapAt (l : List Chan) (i j k : Nat) (hi : i < l.length) (hj : j < l.length) (hk : k < l.length) :
    (swapAt l i j)[k]'(by rw [swapAt_length]; exact hk) = if k = j then l[i] else if k = i then l[j] else l[k] := by
  simp only [swapAt, List.getElem_set, getD_of_lt, hi, hj]
  grind

theorem swapAt_perm (l : List Chan) {i j : Nat} (hi : i < l.length) (hj : j < l.length) : (swapAt l i j).Perm l := by
  unfold swapAt
  rw [getD_of_lt _ hi, getD_of_lt _ hj]
  exact List.set_set_perm hi hj

theorem mem_swapAt (l : List Chan) (i j : Nat) (hi : i < l.length) (hj : j < l.length) (x : Chan) :
    x ∈ swapAt l i j ↔ x ∈ l :=
  (swapAt_perm l hi hj).mem_iff

theorem nodup_swapAt (l : List Chan) (i j : Nat) (hi : i < l.length) (hj : j < l.length) (h : l.Nodup) :
    (swapAt l i j).Nodup :=
  (swapAt_perm l hi hj).nodup_iff.2 h

/-! `deactivate`: case `i` of the `a` active ones (`i < a ≤ len`) changes places with the last active one. -/

theorem mem_swapAt_last (l : List Chan) {i a : Nat} (hi : i < a) (ha : a ≤ l.length) (x : Chan) :
    x ∈ swapAt l i (a - 1) ↔ x ∈ l :=
  mem_swapAt l i (a - 1) (by omega) (by omega) x

theorem nodup_swapAt_last (l : List Chan) {i a : Nat} (hi : i < a) (ha : a ≤ l.length) (h : l.Nodup) :
    (swapAt l i (a - 1)).Nodup :=
  nodup_swapAt l i (a - 1) (by omega) (by omega) h

theorem getD_mem_take (l : List Chan) {i a : Nat} (hi : i < a) (ha : a ≤ l.length) : l.getD i 0 ∈ l.take a := by
  rw [getD_of_lt (l := l) 0 (by omega : i < l.length)]; exact List.mem_take_iff_getElem.mpr ⟨i, by omega, rfl⟩

theorem mem_take_swapAt (l : List Chan) {i a : Nat} (hn : l.Nodup) (hi : i < a) (ha : a ≤ l.length) (x : Chan) :
    x ∈ (swapAt l i (a - 1)).take (a - 1) ↔ x ∈ l.take a ∧ x ≠ l.getD i 0 := by
  rw [List.nodup_iff_pairwise_ne, List.pairwise_iff_getElem] at hn
  rw [getD_of_lt (l := l) 0 (by omega : i < l.length)]
  simp only [List.mem_take_iff_getElem, swapAt_length]
  constructor
  · rintro ⟨k, hk, rfl⟩
    have hk' : k < l.length := by omega
    rw [getElem_swapAt l i (a-1) k (by omega) (by omega) hk']
    by_cases h1 : k = a - 1
    · omega
    · by_cases h2 : k = i
      · subst h2
        simp only [h1, if_false, if_true]
        refine ⟨⟨a - 1, by omega, rfl⟩, ?_⟩
        exact fun e => hn k (a-1) (by omega) (by omega) (by omega) e.symm
      · simp only [h1, h2, if_false]
        refine ⟨⟨k, by omega, rfl⟩, ?_⟩
        intro e
        rcases Nat.lt_or_gt_of_ne h2 with h | h
        · exact hn k i (by omega) (by omega) h e
        · exact hn i k (by omega) (by omega) h e.symm
  · rintro ⟨⟨k, hk, rfl⟩, hne⟩
    have hk' : k < l.length := by omega
    by_cases h1 : k = a - 1
    · subst h1
      refine ⟨i, by grind, ?_⟩
      rw [getElem_swapAt l i (a-1) i (by omega) (by omega) (by omega)]
      have : i ≠ a - 1 := by intro e; subst e; exact hne rfl
      simp [this]
    · refine ⟨k, by omega, ?_⟩
      rw [getElem_swapAt l i (a-1) k (by omega) (by omega) hk']
      have : k ≠ i := by intro e; subst e; exact hne rfl
      simp [h1, this]

/-- `delete(find(c))` for a `c` that is found: the model's `eraseIdx (idxOf c)` is `erase c` -/
theorem eraseIdx_idxOf (l : List Nat) (c : Nat) : l.eraseIdx (l.idxOf c) = l.erase c :=
  (List.erase_eq_eraseIdx_of_idxOf rfl).symm

/-- `delete(find(c))`; the `if` is the adjustment `len(cases)-1` when `c` was among the `a` active cases -/
theorem mem_take_erase (l : List Chan) (a : Nat) {c x : Chan} (hx : x ≠ c) :
    x ∈ (l.erase c).take (if l.idxOf c < a then a - 1 else a) ↔ x ∈ l.take a := by
  induction l generalizing a with
  | nil => simp
  | cons y ys ih =>
    cases a with
    | zero => simp
    | succ b =>
      by_cases hy : y = c
      · subst hy; simp [hx]
      · have := ih b
        have hi : (y :: ys).idxOf c = ys.idxOf c + 1 := by simp [List.idxOf_cons, beq_false_of_ne hy]
        have he : (y :: ys).erase c = y :: ys.erase c := by simp [hy]
        rw [hi, he]
        by_cases hlt : ys.idxOf c < b
        · obtain ⟨b', rfl⟩ : ∃ b', b = b' + 1 := ⟨b - 1, by omega⟩
          rw [if_pos hlt, Nat.add_sub_cancel] at this
          simp [hlt, this]
        · rw [if_neg hlt] at this
          simp [hlt, this]

theorem nodup_snoc {α : Type} (l : List α) (x : α) : (l ++ [x]).Nodup ↔ l.Nodup ∧ x ∉ l := by
  rw [List.nodup_append]
  simp only [List.nodup_cons, List.not_mem_nil, not_false_eq_true, List.nodup_nil, and_self, List.mem_singleton, true_and]
  constructor
  · rintro ⟨h1, h2⟩; exact ⟨h1, fun hx => h2 x hx x rfl rfl⟩
  · rintro ⟨h1, h2⟩; exact ⟨h1, fun a ha b hb e => h2 (hb ▸ e ▸ ha)⟩

theorem mem_snoc {α : Type} {l : List α} {x e : α} : x ∈ l ++ [e] ↔ x ∈ l ∨ x = e := by
  rw [List.mem_append, List.mem_singleton]

theorem sub2_snoc {α : Type} (l : List α) (a b e : α) : List.Sublist [a, b] (l ++ [e]) ↔ List.Sublist [a, b] l ∨ (a ∈ l ∧ b = e) := by
  rw [List.sublist_append_iff]
  constructor
  · rintro ⟨l1, l2, e12, h1, h2⟩
    have hl2 : l2 = [] ∨ l2 = [e] := by
      cases l2 with
      | nil => exact Or.inl rfl
      | cons y ys =>
        have := h2.length_le
        cases ys with
        | nil => right; simpa using h2
        | cons z zs => simp at this
    rcases hl2 with rfl | rfl
    · left; simp at e12; exact e12 ▸ h1
    · right
      have : l1 = [a] ∧ b = e := by
        cases l1 with
        | nil => simp at e12
        | cons y ys =>
          cases ys with
          | nil => simp at e12; exact ⟨by rw [e12.1], e12.2⟩
          | cons z zs => simp at e12
      exact ⟨by simpa [this.1] using h1, this.2⟩
  · rintro (h | ⟨h, rfl⟩)
    · exact ⟨[a, b], [], by simp, h, List.nil_sublist _⟩
    · exact ⟨[a], [b], by simp, by simpa using h, List.Sublist.refl _⟩

theorem sub2_mem {α : Type} {l : List α} {a b : α} (h : List.Sublist [a, b] l) : a ∈ l ∧ b ∈ l :=
  ⟨h.subset (by simp), h.subset (by simp)⟩

theorem pairwise_snoc {α : Type} {R : α → α → Prop} (l : List α) (e : α) :
    (l ++ [e]).Pairwise R ↔ l.Pairwise R ∧ ∀ a ∈ l, R a e := by
  rw [List.pairwise_append]; simp

end Aqv.Feed
