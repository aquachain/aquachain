/- C08: the per-step prologue of Interpreter.Run (memory size, memory fee, gas function, lastGasCost) as the Go code computes it
  on UInt64 (`implPre`) against the Yellow Paper on Nat (`specPre`). -/
import Aqv.Lemmas.EvmTable
import Aqv.Lemmas.EvmMemTotal
namespace Aqv.Evm
open Aqv Aqv.Big Aqv.Gen.VmTable

def InRange (v : Int) : Prop := 0 ≤ v ∧ v < 2 ^ 256

structure Inv (m : Machine) : Prop where
  stackOk : ∀ v ∈ m.stack, InRange v
  memWords : m.mem.length % 32 = 0
  memSmall : m.mem.length ≤ 0x1fffffffe0
  lastOk : m.last.toNat = EvmSpec.cmem (m.mem.length / 32)
  gasSmall : m.gas < 2 ^ 60

theorem InRange.cast_toNat {v : Int} (h : InRange v) : ((v.toNat : Nat) : Int) = v := Int.toNat_of_nonneg h.1

theorem InRange.toNat_lt {v : Int} (h : InRange v) : v.toNat < 2 ^ 256 := by
  have := h.cast_toNat; have := h.2; omega

theorem inRange_natCast {n : Nat} (h : n < 2 ^ 256) : InRange (n : Int) := ⟨Int.natCast_nonneg n, by omega⟩

theorem back_inRange (st : List Int) (h : ∀ v ∈ st, InRange v) (i : Nat) : InRange (back st i) := by
  unfold back
  rw [List.getD_eq_getElem?_getD]
  cases hi : st[i]? with
  | none => exact ⟨by decide, by decide⟩
  | some v => exact h v (List.mem_of_getElem? hi)

theorem touch_inRange (k : MemKind) (st : List Int) (h : ∀ v ∈ st, InRange v) :
    InRange (touchOf k st).1 ∧ InRange (touchOf k st).2 := by
  have hb := back_inRange st h
  have hc : ∀ n : Nat, n ≤ 32 → InRange (n : Int) := fun n hn => inRange_natCast (by omega)
  cases k with
  | b0b1 | b0b2 => exact ⟨hb _, hb _⟩
  | b0c32 => exact ⟨hb _, hc 32 (by decide)⟩
  | b0c1 => exact ⟨hb _, hc 1 (by decide)⟩
  | none | unknown => exact ⟨hc 0 (by decide), hc 0 (by decide)⟩

/-- gas = the gas the step has; F = what is known about an accepted memory size / lastGasCost -/
inductive PreRel (gas : Nat) (F : Nat → UInt64 → Prop) : Except Outcome Pre → Except Outcome Pre → Prop where
  | ok (p : Pre) : p.cost ≤ gas → F p.memorySize p.last → PreRel gas F (.ok p) (.ok p)
  | failL (f : Fail) : PreRel gas F (.error (.fail f)) (.error (.fail .oog))
  | failR (p : Pre) : p.cost > gas → PreRel gas F (.ok p) (.error (.fail .oog))
  | skip (op : Nat) : PreRel gas F (.error (.skip op)) (.error (.skip op))

def PreFacts (en : Entry) (m : Machine) (ms : Nat) (last : UInt64) : Prop :=
  let off := (touchOf en.memK m.stack).1.toNat
  let len := (touchOf en.memK m.stack).2.toNat
  let new := EvmSpec.memExpand (m.mem.length / 32) off len
  ms = (if len = 0 then 0 else 32 * EvmSpec.words (off + len)) ∧ ms ≤ 0x1fffffffe0 ∧
  last = UInt64.ofNat (EvmSpec.cmem new) ∧ new ≤ 0xffffffff

section
variable {en : Entry} {m : Machine} {ms : Nat} {last : UInt64} (h : PreFacts en m ms last)
include h

theorem PreFacts.size_eq : ms = if (touchOf en.memK m.stack).2.toNat = 0 then 0
    else 32 * EvmSpec.words ((touchOf en.memK m.stack).1.toNat + (touchOf en.memK m.stack).2.toNat) := h.1

theorem PreFacts.last_eq : last = UInt64.ofNat (EvmSpec.cmem
    (EvmSpec.memExpand (m.mem.length / 32) (touchOf en.memK m.stack).1.toNat (touchOf en.memK m.stack).2.toNat)) := h.2.2.1

theorem PreFacts.words_le :
    EvmSpec.memExpand (m.mem.length / 32) (touchOf en.memK m.stack).1.toNat (touchOf en.memK m.stack).2.toNat ≤ 0xffffffff :=
  h.2.2.2
end

/-- a machine outside `devSet`: neither SAR's operand set nor a memory request in the wrap range -/
theorem devSet_eq_false {en : Entry} {opc : Nat} {m : Machine} (h : devSet en opc m = false) :
    ¬ (opc = 0x1d ∧ back m.stack 0 ≥ 256 ∧ back m.stack 1 = 0) ∧
    (let t := touchOf en.memK m.stack
     ¬ (t.2.toNat ≠ 0 ∧ 0x1fffffffe0 < 32 * EvmSpec.words (t.1.toNat + t.2.toNat) ∧
       32 * EvmSpec.words (t.1.toNat + t.2.toNat) ≤ 0xffffffffe0)) := by
  unfold devSet at h
  simp only [Bool.or_eq_false_iff, Bool.and_eq_false_iff, decide_eq_false_iff_not, beq_eq_false_iff_ne] at h
  constructor
  · intro ⟨ha, hb, hc⟩
    rcases h.1 with (hs | hs) | hs
    · exact hs ha
    · exact hs hb
    · exact hs hc
  · intro t ⟨hl, ha, hb⟩
    rcases h.2 with hm | hm | hm
    · exact hm fun hz => hl (by rw [hz]; rfl)
    · exact hm ha
    · exact hm hb

theorem touch_growth (en : Entry) (opc : Nat) (m : Machine) (hinv : Inv m) (hdev : devSet en opc m = false) :
    let t := touchOf en.memK m.stack
    let cur := m.mem.length / 32
    let fee := EvmSpec.cmem (EvmSpec.memExpand cur t.1.toNat t.2.toNat) - EvmSpec.cmem cur
    let mem : Mem := ⟨UInt64.ofNat m.mem.length, m.last⟩
    let ms? : Option UInt64 := if en.memK = .none then some 0 else memorySizeOf (calcMemSize t.1 t.2)
    MemGrowth ms? mem fee fun r mem' => PreFacts en m r.toNat mem'.lastGasCost := by
  intro t cur fee mem ms?
  obtain ⟨h1, h2⟩ := touch_inRange en.memK m.stack hinv.stackOk
  have hsmall := hinv.memSmall
  have hcur : cur ≤ 0xffffffff := by omega
  have hok : MemOk mem cur := by
    refine ⟨?_, hinv.lastOk⟩
    show (UInt64.ofNat m.mem.length).toNat = 32 * cur
    have := hinv.memWords
    rw [UInt64.toNat_ofNat']; omega
  -- without a memory operand the Go loop skips the size computation; the request (0, 0) gives the same size
  have hms : ms? = memorySizeOf (calcMemSize (t.1.toNat : Int) (t.2.toNat : Int)) := by
    rw [h1.cast_toNat, h2.cast_toNat]
    show (if _ then _ else _) = _
    split
    · rename_i hn
      show _ = memorySizeOf (calcMemSize (touchOf en.memK m.stack).1 (touchOf en.memK m.stack).2)
      rw [hn]
      show some 0 = memorySizeOf (calcMemSize 0 0)
      decide
    · rfl
  rw [hms]
  refine (memory_growth_total mem cur t.1.toNat t.2.toNat hok hcur (devSet_eq_false hdev).2).imp
    fun r mem' ⟨hmo, hrv, hsm⟩ => ⟨?_, hsm, ?_, ?_⟩
  · rw [hrv]; split
    · rfl
    · rfl
  · have := hmo.2
    rw [memResize_lastGasCost] at this
    have hlt := cmem_lt_of_small (w := EvmSpec.memExpand cur t.1.toNat t.2.toNat) (by rw [memExpand_eq]; omega)
    apply UInt64.toNat_inj.1
    exact this.trans (UInt64.toNat_ofNat' ▸ (Nat.mod_eq_of_lt (Nat.lt_trans hlt (by decide))).symm)
  · show EvmSpec.memExpand cur t.1.toNat t.2.toNat ≤ _
    rw [memExpand_eq]; omega

theorem finish_agree (gas : Nat) (hgas : gas < 2 ^ 60) (F : Nat → UInt64 → Prop) (co : Option UInt64) (sc ms : Nat) (last : UInt64)
    (hF : F ms last) (hc : Computes co sc (2 ^ 60)) :
    PreRel gas F (implFinish co ms last) (specFinish gas sc ms last) := by
  unfold implFinish specFinish
  cases co with
  | none =>
    have := hc.2 rfl
    rw [if_pos (by omega)]; exact .failL .oog
  | some c =>
    have hc := hc.1 c rfl
    simp only []
    split
    · exact .failR _ (by show c.toNat > gas; omega)
    · rw [hc]; exact .ok _ (by show sc ≤ gas; omega) hF

/-- operation.gasCost once the memory fee is known -/
theorem implCost_computes (gt : GasTable) (eb : Nat) (hgt : gt.expByte = eb) (heb : 32 * eb + 10 < 2 ^ 64)
    (en : Entry) (hwf : wfEntry en) (hk : en.gasK ≠ .unknown) (st : List Int) (hst : ∀ v ∈ st, InRange v)
    (mem : Mem) (r fee : UInt64) (mem' : Mem) (hm : memoryGasCost mem r = some (fee, mem'))
    (hfee0 : en.memK = .none → fee.toNat = 0) :
    Computes (implCost gt en.gasK mem r st) (fee.toNat + specExtra eb en.gasK st) (2 ^ 60) := by
  have hb := back_inRange st hst
  unfold implCost specExtra wfEntry at *
  cases hgk : en.gasK with
  | const c =>
    rw [hgk] at hwf
    refine .of_some ?_
    rw [hfee0 hwf.1, UInt64.toNat_ofNat', Nat.mod_eq_of_lt (by have := hwf.2; omega), Nat.zero_add]
  | exp =>
    rw [hgk] at hwf
    have hebn : (UInt64.ofNat eb).toNat = eb := by
      rw [UInt64.toNat_ofNat']; exact Nat.mod_eq_of_lt (by omega)
    obtain ⟨g, hg, hv⟩ := gasExp_spec (UInt64.ofNat eb) _ (hb 1).toNat_lt (by rw [hebn]; exact heb)
    simp only []
    rw [hgt, ← (hb 1).cast_toNat, hg, hfee0 hwf, Nat.zero_add, ← hebn]
    exact .of_some hv
  | sha3 =>
    have := gasSha3_spec mem r fee mem' (back st 1).toNat hm
    rwa [(hb 1).cast_toNat] at this
  | copy =>
    have := gasCopy_spec gasFastestStep mem r fee mem' (back st 2).toNat hm
    rwa [(hb 2).cast_toNat] at this
  | veryLowMem => exact (gasMemVeryLow_spec mem r fee mem' hm).mono (by decide)
  | memOnly => exact gasReturn_spec mem r fee mem' hm ▸ .of_some rfl
  | unknown => exact absurd hgk hk

theorem implCost_none (gt : GasTable) (k : GasKind) (mem : Mem) (r : UInt64) (st : List Int) (hm : memoryGasCost mem r = none) :
    implCost gt k mem r st = none ∨ (∃ c, k = .const c) ∨ k = .exp := by
  cases k <;> simp [implCost, gasSha3, gasCopy, gasMemVeryLow, gasReturn, hm]

theorem pre_agree (gt : GasTable) (eb : Nat) (hgt : gt.expByte = eb) (heb : 32 * eb + 10 < 2 ^ 64)
    (en : Entry) (hwf : wfEntry en) (opc : Nat) (m : Machine) (hinv : Inv m) (hdev : devSet en opc m = false) :
    PreRel m.gas (PreFacts en m) (implPre gt en opc m) (specPre eb en opc m) := by
  unfold implPre specPre
  by_cases hskip : en.memK = .unknown ∨ en.gasK = .unknown
  · rw [if_pos hskip, if_pos hskip]; exact .skip opc
  rw [if_neg hskip, if_neg hskip]
  have hgas := hinv.gasSmall
  -- without a memory operand the Go loop charges for size 0: accepted, free, lastGasCost left alone
  have hzero : en.memK = .none → ∀ r o,
      (if en.memK = .none then some 0 else memorySizeOf (calcMemSize (touchOf en.memK m.stack).1 (touchOf en.memK m.stack).2)) = some r →
      memoryGasCost ⟨UInt64.ofNat m.mem.length, m.last⟩ r = o → o = some (0, ⟨UInt64.ofNat m.mem.length, m.last⟩) := by
    intro hn r o hr ho
    rw [if_pos hn] at hr
    cases hr
    exact ho.symm
  simp only []
  rcases touch_growth en opc m hinv hdev with ⟨hms, hbig⟩ | ⟨r, hms, hg, hbig⟩ | ⟨r, fee, mem', hms, hg, hfee, hF⟩ <;>
    rw [hms] <;> simp only []
  · unfold specFinish
    rw [if_pos (by omega)]
    exact .failL .overflow
  · unfold wfEntry at hwf
    rcases implCost_none gt en.gasK _ r m.stack hg with hco | ⟨c, hk⟩ | hk
    · rw [hco]
      unfold implFinish specFinish
      rw [if_pos (by omega)]
      exact .failL .oog
    · rw [hk] at hwf
      cases hzero hwf.1 r _ hms hg
    · rw [hk] at hwf
      cases hzero hwf r _ hms hg
  · have hl : implLast ⟨UInt64.ofNat m.mem.length, m.last⟩ r = mem'.lastGasCost := by unfold implLast; rw [hg]
    rw [hl, ← hF.size_eq, ← hF.last_eq, ← hfee]
    exact finish_agree _ hgas _ _ _ _ _ hF
      (implCost_computes gt eb hgt heb en hwf (fun h => hskip (.inr h)) _ hinv.stackOk _ r fee mem' hg
        fun hn => by cases hzero hn r _ hms hg; rfl)
end Aqv.Evm
