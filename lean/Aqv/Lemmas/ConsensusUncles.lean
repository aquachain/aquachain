/- C13: VerifyUncles (set/map bookkeeping as written) against the declarative uncle rules with the grandfather clauses; above
  their reach these are the plain rules. -/
import Aqv.Lemmas.ConsensusHeader
namespace Aqv.Consensus

/-- the (at most seven) stored ancestors of `block`, nearest first: the window `VerifyUncles` walks and `UncleOk` / `UnclesOkFromEx`
    speak of (written out in full there). -/
abbrev blockAncestors (chain : Chain) (block : Block) : List Block :=
  ancestorsOf chain 7 block.header.parentHash (subU64 block.header.number 1)

theorem gatherFamily_ancestors (chain : Chain) : ∀ (fuel parent number : Nat) (f : Family),
    (gatherFamily chain fuel parent number f).ancestors = ((ancestorsOf chain fuel parent number).map (·.header)).reverse ++ f.ancestors
  | 0, _, _, _ => by simp [gatherFamily, ancestorsOf]
  | fuel + 1, parent, number, f => by
    unfold gatherFamily ancestorsOf
    cases chain.getBlock parent number with
    | none => simp
    | some a => simp [gatherFamily_ancestors chain fuel]

theorem gatherFamily_pastUncles (chain : Chain) (x : Nat) : ∀ (fuel parent number : Nat) (f : Family),
    x ∈ (gatherFamily chain fuel parent number f).pastUncles ↔
      (x ∈ f.pastUncles ∨ ∃ a ∈ ancestorsOf chain fuel parent number, ∃ v ∈ a.uncles, v.hash = x)
  | 0, _, _, _ => by simp [gatherFamily, ancestorsOf]
  | fuel + 1, parent, number, f => by
    unfold gatherFamily ancestorsOf
    cases chain.getBlock parent number with
    | none => simp
    | some a =>
      simp only [gatherFamily_pastUncles chain x fuel, List.mem_append, List.mem_reverse, List.mem_map, List.mem_cons,
        exists_eq_or_imp, or_assoc, or_left_comm]

theorem gatherFamily_number (chain : Chain) : ∀ (fuel parent number : Nat) (f : Family), fuel ≤ number → number < two64 →
    number - fuel ≤ (gatherFamily chain fuel parent number f).number
  | 0, _, _, _, _, _ => by simp [gatherFamily]
  | fuel + 1, parent, number, f, h1, h2 => by
    unfold gatherFamily
    cases chain.getBlock parent number with
    | none => simp
    | some a =>
      have := gatherFamily_number chain fuel a.header.parentHash (number - 1)
        { f with ancestors := a.header :: f.ancestors, pastUncles := (a.uncles.map (·.hash)).reverse ++ f.pastUncles } (by omega) (by omega)
      simp only [subU64_of_le number 1 (by omega) h2]
      omega

theorem lookupAnc_cons (a : Header) (l : List Header) (x : Nat) :
    lookupAnc (a :: l) x = if a.hash = x then some a else lookupAnc l x := by
  by_cases h : a.hash = x <;> simp [lookupAnc, h]

theorem lookupAnc_isSome (l : List Header) (x : Nat) : (lookupAnc l x).isSome = true ↔ ∃ a ∈ l, a.hash = x := by
  simp [lookupAnc, List.find?_isSome]

theorem lookupAnc_mem {l : List Header} {x : Nat} {p : Header} (h : lookupAnc l x = some p) : p ∈ l :=
  List.mem_of_find?_eq_some h

/-- uncles are not held against the clock. -/
theorem headerValid_uncle_now (S : DiffParams) (cfg : Config) (n m : Nat) (sb : Header → Bool) (u p : Header) (d : Bool) :
    HeaderValid S cfg n sb u p true d ↔ HeaderValid S cfg m sb u p true d := Iff.rfl

theorem loopCont_ite_reject {c : Prop} [Decidable c] (e : VErr) (r : UStep) (k : List Nat → Option VErr) :
    loopCont (if c then .reject e else r) k = none ↔ ¬ c ∧ loopCont r k = none := by
  by_cases hc : c <;> simp [hc, loopCont]

theorem loopCont_ite_accept {c : Prop} [Decidable c] (r : UStep) (k : List Nat → Option VErr) :
    loopCont (if c then .accept else r) k = none ↔ c ∨ loopCont r k = none := by
  by_cases hc : c <;> simp [hc, loopCont]

theorem dupOk_iff (block : Block) (number : Nat) (seen : List Nat) (u : Header) :
    dupOk block number seen u = true ↔
      u.hash ∉ seen ∨ (decide (number ≤ 15000) = true ∧ (block.header.hash, u.number) ∈ dupExemptions) := by
  unfold dupOk
  by_cases hs : u.hash ∈ seen <;> by_cases hn : number > 15000 <;> simp [hs, hn, Nat.not_le.2, Nat.le_of_not_lt]

/-- `k` is the rest of the loop -/
theorem uncleTail_none_iff (env : Env) (chain : Chain) (block : Block) (A : List Block) (number : Nat) (seen : List Nat) (u : Header)
    (k : List Nat → Option VErr) (hV : env.V = Spec.vParams) (hord : env.cfg.ordered = true)
    (hgas : ∀ a ∈ A, a.header.gasLimit < two63) (hu : u.parentHash ≠ block.header.hash ∧ u.time < two64) :
    loopCont (uncleTail env chain block (block.header :: (A.map (·.header)).reverse) number seen u) k = none ↔
      u.hash ≠ block.header.hash ∧ (∀ a ∈ A, a.header.hash ≠ u.hash) ∧
      (match (if u.parentHash = block.header.parentHash then none else lookupAnc (A.map (·.header)).reverse u.parentHash) with
       | some p => HeaderValid env.P env.cfg 0 env.sealBad u p true true ∧ k seen = none
       | none => decide (number ≤ 15000) = true ∧
           ((u.parentHash, u.number) ∈ danglingParentExemptions ∨ (u.hash, u.number) ∈ danglingHashExemptions)) := by
  unfold uncleTail
  rw [loopCont_ite_reject, lookupAnc_isSome, lookupAnc_cons, if_neg (Ne.symm hu.1)]
  simp only [List.mem_cons, List.mem_reverse, List.mem_map, exists_eq_or_imp, not_or, not_exists, not_and, ← and_assoc,
    forall_exists_index, and_imp, forall_apply_eq_imp_iff₂, ne_eq, eq_comm (a := block.header.hash)]
  refine and_congr_right fun _ => ?_
  generalize hl : (if u.parentHash = block.header.parentHash then none else lookupAnc (A.map (·.header)).reverse u.parentHash) = par
  cases par with
  | none =>
    rw [loopCont_ite_reject, loopCont_ite_accept, loopCont_ite_accept]
    simp [loopCont]
  | some p =>
    have hp : p ∈ (A.map (·.header)).reverse := by
      split at hl
      · cases hl
      · exact lookupAnc_mem hl
    simp only [List.mem_reverse, List.mem_map] at hp
    obtain ⟨b, hb, rfl⟩ := hp
    simp only
    rw [verifyHeader_eq_rule env u b.header _ true true hV hord (hgas b hb) (fun h => by cases h) (fun _ => hu.2),
      ← headerValid_uncle_now _ _ env.now, ← headerRule_none_iff]
    cases headerRule env.P env.cfg env.now env.sealBad u b.header true true <;> simp [loopCont]

/-- the list handed to `uncleLoop` is the `uncles` set of the code -/
theorem uncleLoop_none_iff (env : Env) (chain : Chain) (block : Block) (number : Nat) (past : List Nat)
    (hV : env.V = Spec.vParams) (hord : env.cfg.ordered = true)
    (hpast : ∀ x, x ∈ past ↔ ∃ a ∈ blockAncestors chain block, ∃ v ∈ a.uncles, v.hash = x)
    (hgas : ∀ a ∈ blockAncestors chain block, a.header.gasLimit < two63) :
    ∀ (us earlier : List Header), (∀ u ∈ us, u.parentHash ≠ block.header.hash ∧ u.time < two64) →
      (uncleLoop env chain block
          (block.header :: ((blockAncestors chain block).map (·.header)).reverse)
          number ((earlier.map (·.hash)).reverse ++ block.header.hash :: past) us = none ↔
        UnclesOkFromEx env.P env.cfg env.sealBad chain block (decide (number ≤ 15000)) earlier us)
  | [], _, _ => by simp [uncleLoop, UnclesOkFromEx]
  | u :: rest, earlier, hu => by
    have ih := uncleLoop_none_iff env chain block number past hV hord hpast hgas rest (earlier ++ [u])
      (fun v hv => hu v (List.mem_cons_of_mem _ hv))
    rw [show ((earlier ++ [u]).map (·.hash)).reverse ++ block.header.hash :: past =
      u.hash :: ((earlier.map (·.hash)).reverse ++ block.header.hash :: past) by simp] at ih
    have hnew : u.hash ∉ (earlier.map (·.hash)).reverse ++ block.header.hash :: past ↔
        (∀ a ∈ blockAncestors chain block, ∀ v ∈ a.uncles, v.hash ≠ u.hash) ∧
          u.hash ≠ block.header.hash ∧ ∀ v ∈ earlier, v.hash ≠ u.hash := by
      simp only [List.mem_append, List.mem_reverse, List.mem_map, List.mem_cons, hpast, not_or, not_exists, not_and, ne_eq]
      exact ⟨fun ⟨h1, h2, h3⟩ => ⟨h3, h2, h1⟩, fun ⟨h3, h2, h1⟩ => ⟨h1, h2, h3⟩⟩
    unfold uncleLoop UnclesOkFromEx uncleStep
    rw [loopCont_ite_reject, uncleTail_none_iff env chain block _ number _ u _ hV hord hgas (hu u List.mem_cons_self)]
    simp only [ih, Bool.not_eq_true', Bool.not_eq_false, dupOk_iff, hnew]
    exact Iff.rfl  -- the two sides differ in the auxiliary matcher only

theorem verifyUncles_eq (env : Env) (chain : Chain) (block : Block) (hV : env.V = Spec.vParams) :
    verifyUncles env chain block =
      if uncleLimit env.cfg block.header.number < block.uncles.length then some .tooManyUncles
      else
        let f := gatherFamily chain 7 block.header.parentHash (subU64 block.header.number 1) { ancestors := [], pastUncles := [], number := 0 }
        uncleLoop env chain block (block.header :: f.ancestors) f.number (block.header.hash :: f.pastUncles) block.uncles := by
  unfold verifyUncles uncleLimit
  rw [hV]
  cases env.cfg.isHF 5 block.header.number
  · simp [Spec.vParams]
  · by_cases h1 : 1 < block.uncles.length
    · simp [Spec.vParams, h1]
    · simp [Spec.vParams, h1, show ¬ 2 < block.uncles.length by omega]

theorem verifyUncles_none_iff (env : Env) (chain : Chain) (block : Block)
    (hV : env.V = Spec.vParams) (hord : env.cfg.ordered = true)
    (hgas : ∀ a ∈ blockAncestors chain block, a.header.gasLimit < two63)
    (hu : ∀ u ∈ block.uncles, u.parentHash ≠ block.header.hash ∧ u.time < two64) :
    verifyUncles env chain block = none ↔ UnclesValidEx env.P env.cfg env.sealBad chain block := by
  rw [verifyUncles_eq env chain block hV, ite_some_eq_none, Nat.not_lt]
  refine and_congr_right fun _ => ?_
  simp only [gatherFamily_ancestors, List.append_nil]
  exact uncleLoop_none_iff env chain block _ _ hV hord (fun x => by simp [gatherFamily_pastUncles]) hgas block.uncles [] hu

theorem unclesOkFromEx_false (S : DiffParams) (cfg : Config) (sealBad : Header → Bool) (chain : Chain) (block : Block) :
    ∀ (us earlier : List Header),
      UnclesOkFromEx S cfg sealBad chain block false earlier us ↔ UnclesOkFrom S cfg sealBad chain block earlier us
  | [], _ => Iff.rfl
  | u :: rest, earlier => by
    unfold UnclesOkFromEx UnclesOkFrom UncleOk
    simp only [unclesOkFromEx_false S cfg sealBad chain block rest]
    by_cases hp : u.parentHash = block.header.parentHash
    · simp [hp]
    · simp only [hp, if_false, Bool.false_eq_true, false_and, or_false]
      cases lookupAnc ((blockAncestors chain block).map (·.header)).reverse u.parentHash with
      | none => simp
      | some p =>
        simp only [and_assoc]
        exact ⟨fun ⟨a, b, c, _, d, e⟩ => ⟨a, b, c, d, hp, e⟩, fun ⟨a, b, c, d, _, e⟩ => ⟨a, b, c, b, d, e⟩⟩

theorem unclesValidEx_iff_of_high (S : DiffParams) (cfg : Config) (sealBad : Header → Bool) (chain : Chain) (block : Block)
    (hnum : 15000 < (gatherFamily chain 7 block.header.parentHash (subU64 block.header.number 1) { ancestors := [], pastUncles := [], number := 0 }).number) :
    UnclesValidEx S cfg sealBad chain block ↔ UnclesValid S cfg sealBad chain block := by
  unfold UnclesValidEx UnclesValid
  rw [decide_eq_false (Nat.not_le.2 hnum), unclesOkFromEx_false]

end Aqv.Consensus
