/-
  Aqv.Lemmas.TrieCodec — the three key encodings of trie/encoding.go round-trip.
-/
import Aqv.Lemmas.Trie
import Aqv.Lemmas.Basic
namespace Aqv.Trie
open Aqv

theorem nib_pair_roundtrip : ∀ a b : Nib, a ≠ T → b ≠ T →
    nibOf (((nibByte a <<< 4) ||| nibByte b).toNat / 16) = a ∧ nibOf ((nibByte a <<< 4) ||| nibByte b).toNat = b := by
  decide

theorem bytesToNibs_decodeNibbles : ∀ (h : List Nib), Hex h → h.length % 2 = 0 → bytesToNibs (decodeNibbles h) = h
  | [], _, _ => rfl
  | [_], _, hl => by simp at hl
  | a :: b :: rest, hh, hl => by
    have h1 := hex_cons.1 hh
    have h2 := hex_cons.1 h1.2
    have hp := nib_pair_roundtrip a b h1.1 h2.1
    simp only [decodeNibbles, bytesToNibs, hp.1, hp.2]
    rw [bytesToNibs_decodeNibbles rest h2.2 (by simp at hl; omega)]

theorem nibOf_ne_T (n : Nat) : nibOf n ≠ T := by
  intro h
  have h2 : n % 16 = 16 := congrArg Fin.val h
  omega

theorem byte_eq_of_nibs {x y : UInt8} (h1 : nibOf (x.toNat / 16) = nibOf (y.toNat / 16))
    (h2 : nibOf x.toNat = nibOf y.toNat) : x = y := by
  have e1 : x.toNat / 16 % 16 = y.toNat / 16 % 16 := congrArg Fin.val h1
  have e2 : x.toNat % 16 = y.toNat % 16 := congrArg Fin.val h2
  have := x.toNat_lt
  have := y.toNat_lt
  exact UInt8.toNat_inj.1 (by omega)

theorem byte_nibs_roundtrip (x : UInt8) : (nibByte (nibOf (x.toNat / 16)) <<< 4) ||| nibByte (nibOf x.toNat) = x := by
  have h := nib_pair_roundtrip _ _ (nibOf_ne_T (x.toNat / 16)) (nibOf_ne_T x.toNat)
  exact byte_eq_of_nibs h.1 h.2

theorem decodeNibbles_bytesToNibs : ∀ (s : Bytes), decodeNibbles (bytesToNibs s) = s
  | [] => rfl
  | x :: s => by
    simp only [bytesToNibs, decodeNibbles, byte_nibs_roundtrip, decodeNibbles_bytesToNibs s]

theorem hex_bytesToNibs : ∀ (s : Bytes), Hex (bytesToNibs s)
  | [] => hex_nil
  | x :: s => by
    simp only [bytesToNibs]
    exact hex_cons.2 ⟨nibOf_ne_T _, hex_cons.2 ⟨nibOf_ne_T _, hex_bytesToNibs s⟩⟩

theorem bytesToNibs_length_even : ∀ (s : Bytes), (bytesToNibs s).length % 2 = 0
  | [] => rfl
  | x :: s => by simp only [bytesToNibs, List.length_cons]; have := bytesToNibs_length_even s; omega

theorem term_keybytesToHex (s : Bytes) : Term (keybytesToHex s) :=
  term_iff.2 ⟨bytesToNibs s, hex_bytesToNibs s, rfl⟩

theorem keybytes_hex_roundtrip' (s : Bytes) : hexToKeybytes (keybytesToHex s) = some s := by
  unfold hexToKeybytes keybytesToHex
  simp only [hasTerm_append_T, if_true, List.dropLast_concat]
  have := bytesToNibs_length_even s
  simp [this, decodeNibbles_bytesToNibs]

theorem keybytesToHex_injective {a b : Bytes} (h : keybytesToHex a = keybytesToHex b) : a = b :=
  Option.some.inj (by rw [← keybytes_hex_roundtrip' a, h, keybytes_hex_roundtrip' b])

theorem first_byte_odd : ∀ (t : UInt8) (h0 : Nib), (t = 0 ∨ t = 1) → h0 ≠ T →
    nibOf (((t <<< 5) ||| ((1 : UInt8) <<< 4) ||| nibByte h0).toNat / 16) = nibOf (2 * t.toNat + 1) ∧
      nibOf ((t <<< 5) ||| ((1 : UInt8) <<< 4) ||| nibByte h0).toNat = h0 := by
  intro t h0 ht
  rcases ht with rfl | rfl <;> revert h0 <;> decide

theorem first_byte_even : ∀ (t : UInt8), (t = 0 ∨ t = 1) →
    nibOf ((t <<< 5).toNat / 16) = nibOf (2 * t.toNat) ∧ nibOf (t <<< 5).toNat = 0 := by
  intro t ht
  rcases ht with rfl | rfl <;> decide

theorem hexToCompact_hex {h : List Nib} (hh : Hex h) : hexToCompact h = compactOf 0 h := by
  simp [hexToCompact, hex_not_hasTerm hh]

theorem hexToCompact_term (h : List Nib) : hexToCompact (h ++ [T]) = compactOf 1 h := by
  simp [hexToCompact, hasTerm_append_T]

theorem compactToHex_compactOf (t : UInt8) (ht : t = 0 ∨ t = 1) (h : List Nib) (hh : Hex h) :
    compactToHex (compactOf t h) = some (if t = 1 then h ++ [T] else h) := by
  unfold compactOf
  by_cases hodd : h.length % 2 = 1
  · rw [if_pos hodd]
    obtain ⟨h0, rest, rfl⟩ : ∃ h0 rest, h = h0 :: rest := by
      cases h with
      | nil => simp at hodd
      | cons a r => exact ⟨a, r, rfl⟩
    have hc := hex_cons.1 hh
    have hev : rest.length % 2 = 0 := by simp at hodd; omega
    have fb := first_byte_odd t h0 ht hc.1
    simp only [compactToHex, bytesToNibs, fb.1, fb.2, bytesToNibs_decodeNibbles rest hc.2 hev]
    rcases ht with rfl | rfl <;> rfl
  · rw [if_neg hodd]
    have hev : h.length % 2 = 0 := by omega
    have fb := first_byte_even t ht
    simp only [compactToHex, bytesToNibs, fb.1, fb.2, bytesToNibs_decodeNibbles h hh hev]
    rcases ht with rfl | rfl <;> rfl

/-- `Hex k ∨ Term k`: every key a node can carry. -/
theorem compact_hex_roundtrip' (k : List Nib) (hk : Hex k ∨ Term k) : compactToHex (hexToCompact k) = some k := by
  rcases hk with h | h
  · rw [hexToCompact_hex h, compactToHex_compactOf 0 (Or.inl rfl) k h]; simp
  · obtain ⟨hx, hh, rfl⟩ := term_iff.1 h
    rw [hexToCompact_term, compactToHex_compactOf 1 (Or.inr rfl) hx hh]; simp

theorem hexToCompact_injective {a b : List Nib} (ha : Hex a ∨ Term a) (hb : Hex b ∨ Term b)
    (h : hexToCompact a = hexToCompact b) : a = b :=
  inj_of_leftInv compact_hex_roundtrip' ha hb h

end Aqv.Trie
