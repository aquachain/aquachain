/-
  Aqv.Lemmas.FeedInvC — order invariants: Send calls are ranked by the order in which they took the sendLock token;
  the global placement log is sorted by rank (so every channel sees the sends in token order), and every channel is a
  FIFO: what its receiver took, followed by what is still buffered, is exactly what was placed into it, in order.
-/
import Aqv.Lemmas.FeedInvB
namespace Aqv.Feed
variable {s s' : St} {a : Act}

structure InvC (s : St) : Prop where
  rank_lt : ∀ g, s.spc g ≠ .idle → s.spc g ≠ .start → s.rank g < s.nextRank
  rank_inj : ∀ g g', s.spc g ≠ .idle → s.spc g ≠ .start → s.spc g' ≠ .idle → s.spc g' ≠ .start →
    s.rank g = s.rank g' → g = g'
  rank_holder : ∀ g, (s.spc g).held = true → s.rank g + 1 = s.nextRank
  sorted : ∀ p q, List.Sublist [p, q] s.placed → s.rank p.2 ≤ s.rank q.2
  fifo : ∀ c, s.rcvd c ++ s.buf c = placedOn s c

theorem Step.ranked_of_ranked (st : Step s a s') (ha : ∀ g, a ≠ .acquire g) :
    ∀ g, s'.spc g ≠ .idle → s'.spc g ≠ .start → s.spc g ≠ .idle ∧ s.spc g ≠ .start := by
  cases st with
  | acquire => exact absurd rfl (ha _)
  | _ => first | exact fun _ a b => ⟨a, b⟩ | grind

theorem rank_lt_step (h : ∀ g, s.spc g ≠ .idle → s.spc g ≠ .start → s.rank g < s.nextRank) (st : Step s a s') :
    ∀ g, s'.spc g ≠ .idle → s'.spc g ≠ .start → s'.rank g < s'.nextRank := by
  have hm := st.ranked_of_ranked
  cases st with
  | acquire => grind
  | _ =>
    have hm := hm (by simp)
    exact fun g a b => h g (hm g a b).1 (hm g a b).2

theorem rank_inj_step (hlt : ∀ g, s.spc g ≠ .idle → s.spc g ≠ .start → s.rank g < s.nextRank)
    (h : ∀ g g', s.spc g ≠ .idle → s.spc g ≠ .start → s.spc g' ≠ .idle → s.spc g' ≠ .start →
      s.rank g = s.rank g' → g = g') (st : Step s a s') :
    ∀ g g', s'.spc g ≠ .idle → s'.spc g ≠ .start → s'.spc g' ≠ .idle → s'.spc g' ≠ .start →
      s'.rank g = s'.rank g' → g = g' := by
  have hm := st.ranked_of_ranked
  cases st with
  | acquire => grind
  | _ =>
    have hm := hm (by simp)
    exact fun g g' a b c d => h g g' (hm g a b).1 (hm g a b).2 (hm g' c d).1 (hm g' c d).2

theorem rank_holder_step (ha : Own s) (h : ∀ g, (s.spc g).held = true → s.rank g + 1 = s.nextRank) (st : Step s a s') :
    ∀ g, (s'.spc g).held = true → s'.rank g + 1 = s'.nextRank := by
  have hm := st.held_of_held
  cases st with
  | @acquire g hg hf =>
    have := ha.sender_busy
    grind
  | _ => exact fun g hg => h g (hm (by simp) g hg)

theorem sorted_step (hun : ∀ g c, (s.spc g = .idle ∨ s.spc g = .start ∨ s.spc g = .locked) → (c, g) ∉ s.placed)
    (hlt : ∀ g, s.spc g ≠ .idle → s.spc g ≠ .start → s.rank g < s.nextRank)
    (hh : ∀ g, (s.spc g).held = true → s.rank g + 1 = s.nextRank)
    (h : ∀ p q, List.Sublist [p, q] s.placed → s.rank p.2 ≤ s.rank q.2) (st : Step s a s') :
    ∀ p q, List.Sublist [p, q] s'.placed → s'.rank p.2 ≤ s'.rank q.2 := by
  cases st with
  | @acquire g hg =>
    -- `g` is given a new rank, but it stands at `start` and has placed nothing: no pair in `placed` is its own
    intro p q hpq
    have ne : ∀ r ∈ s.placed, r.2 ≠ g := fun r hr e => hun g r.1 (.inr (.inl hg)) (e ▸ hr)
    have ⟨hp, hq⟩ := sub2_mem hpq
    simpa only [upd_apply, if_neg (ne p hp), if_neg (ne q hq)] using h p q hpq
  | @tryOk g i hg | @selPlace g i hg =>
    have := hh g (by rw [hg]; rfl)
    simp only [sub2_snoc]
    grind
  | _ => exact h

theorem fifo_step (h : ∀ c, s.rcvd c ++ s.buf c = placedOn s c) (st : Step s a s') :
    ∀ c, s'.rcvd c ++ s'.buf c = placedOn s' c := by
  simp only [placedOn] at h ⊢
  cases st with
  | tryOk | selPlace => grind
  | recvTake => grind
  | _ => exact h

theorem invC_init : InvC init := by
  constructor <;> simp [init, SPc.held, placedOn]

theorem invC_step (ha : InvA s) (hb : InvB s) (h : InvC s) (st : Step s a s') : InvC s' where
  rank_lt := rank_lt_step h.rank_lt st
  rank_inj := rank_inj_step h.rank_lt h.rank_inj st
  rank_holder := rank_holder_step ha.toOwn h.rank_holder st
  sorted := sorted_step hb.unmerged h.rank_lt h.rank_holder h.sorted st
  fifo := fifo_step h.fifo st

theorem invC_reach {s : St} (h : Reach s) : InvC s := by
  induction h with
  | init => exact invC_init
  | step a hr hs ih => exact invC_step (invA_reach hr) (invB_reach hr) ih (.of_step hs)

end Aqv.Feed
