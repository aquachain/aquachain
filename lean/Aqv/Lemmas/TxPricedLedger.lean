/-
  Aqv.Lemmas.TxPricedLedger — the bookkeeping events of every pool function reproduce its `all`, and the heap keeps
  covering `all` (`priced_consistent`); the concrete machine refines the oracle machine.
-/
import Aqv.Lemmas.TxPriced
import Aqv.Lemmas.TxPoolOps
namespace Aqv.TxPool

def allStep (all : List Tx) : LEv → List Tx
  | .insPut t => insertAll t all
  | .insIfNew t => insertAll t all
  | .del t => delAll t all

def allRun (all : List Tx) (evs : List LEv) : List Tx := evs.foldl allStep all

/-- promoteTx's failsafe -/
theorem Ledger.step_insIfNew (L : Ledger) (t : Tx) : L.step (.insIfNew t) = if t ∈ L.all then L else L.step (.insPut t) := rfl

theorem ledger_step_all (L : Ledger) (e : LEv) : (L.step e).all = allStep L.all e := by
  cases e with
  | insIfNew t =>
    rw [Ledger.step_insIfNew]
    split
    · exact (if_pos ‹_›).symm
    · rfl
  | _ => rfl

theorem ledger_run_all (L : Ledger) (evs : List LEv) : (L.run evs).all = allRun L.all evs := by
  induction evs generalizing L with
  | nil => rfl
  | cons e rest ih => exact (ih _).trans (congrArg (allRun · rest) (ledger_step_all L e))

theorem allRun_append (all : List Tx) (e1 e2 : List LEv) : allRun all (e1 ++ e2) = allRun (allRun all e1) e2 :=
  List.foldl_append

theorem ledger_run_append (L : Ledger) (e1 e2 : List LEv) : L.run (e1 ++ e2) = (L.run e1).run e2 :=
  List.foldl_append

theorem allRun_dels (all : List Tx) (ts : List Tx) : allRun all (evDels ts) = all.filter (fun t => !decide (t ∈ ts)) := by
  induction ts generalizing all with
  | nil => exact (List.filter_eq_self.mpr (by simp)).symm
  | cons x xs ih =>
    show allRun (delAll x all) (evDels xs) = _
    rw [ih, delAll, List.filter_filter]
    apply List.filter_congr
    intro t _
    by_cases h1 : t = x <;> by_cases h2 : t ∈ xs <;> simp [h1, h2]

theorem allRun_fold {α : Type} (ev : Pool → α → List LEv) (f : Pool → α → Pool)
    (h : ∀ s x, allRun s.all (ev s x) = (f s x).all) :
    ∀ (xs : List α) (s : Pool), allRun s.all (evFold ev f s xs) = (xs.foldl f s).all
  | [], _ => rfl
  | x :: rest, s => by
    show allRun s.all (ev s x ++ evFold ev f (f s x) rest) = _
    rw [allRun_append, h s x]
    exact allRun_fold ev f h rest (f s x)

/-- the same from a start list that is `s.all` only up to unfolding -/
theorem allRun_fold_from {α : Type} (ev : Pool → α → List LEv) (f : Pool → α → Pool)
    (h : ∀ s x, allRun s.all (ev s x) = (f s x).all) (xs : List α) (s : Pool) (A : List Tx) (hA : A = s.all) :
    allRun A (evFold ev f s xs) = (xs.foldl f s).all := hA ▸ allRun_fold ev f h xs s

theorem all_enqueueTx (s : Pool) (t : Tx) : allRun s.all (evEnqueueTx s t) = (s.enqueueTx t).2.2.all := by
  unfold evEnqueueTx Pool.enqueueTx
  simp only
  split
  · rfl
  · cases ((s.queue t.sender).add t s.cfg.priceBump).2.1 <;> rfl

theorem all_promoteTx (a : Addr) (s : Pool) (t : Tx) : allRun s.all (evPromoteTx a s t) = (s.promoteTx a t).all := by
  unfold evPromoteTx Pool.promoteTx
  simp only
  split
  · rfl
  · cases ((s.pending a).add t s.cfg.priceBump).2.1 <;> rfl

theorem all_enqueueAll (s : Pool) (us : List Tx) :
    allRun s.all (evFold evEnqueueTx (fun s u => (s.enqueueTx u).2.2) s us) = (enqueueAll s us).all :=
  allRun_fold _ _ all_enqueueTx us s

theorem all_removeTx (s : Pool) (t : Tx) : allRun s.all (evRemoveTx s t) = (s.removeTx t).all := by
  unfold evRemoveTx Pool.removeTx Pool.removeTxG
  split
  · rfl
  · simp only [Bool.true_or, if_true]
    split
    · exact (all_enqueueAll (({ s with all := delAll t s.all } : Pool).setP t.sender
        (dropIfEmpty ((s.pending t.sender).remove t).2.2)) ((s.pending t.sender).remove t).2.1).trans (lowerN_all _ _ _).symm
    · rfl

theorem all_dropQueued (s : Pool) (a : Addr) (ts : List Tx) : allRun s.all (evDropQueued s ts) = (s.dropQueued a ts).all :=
  allRun_fold _ _ all_removeTx ts s

theorem all_capOne (s : Pool) (a : Addr) : allRun s.all (evCapOne s a) = (s.capOne a).all := by
  rw [capOne_all]; exact allRun_dels _ _

/- `evPromoteAcct` and `promoteAcct` (likewise `evDemoteAcct` and `demoteAcct`) are written with the same chain of `let`s:
   unfolded side by side their stages agree syntactically, which is cheap to check; going through the named stages of
   `TxPoolAcct` is not. -/
theorem all_promoteAcct (s : Pool) (a : Addr) : allRun s.all (evPromoteAcct s a) = (s.promoteAcct a).all := by
  unfold evPromoteAcct Pool.promoteAcct
  simp only [allRun_append, allRun_dels]
  rw [allRun_fold_from (evPromoteTx a) _ (all_promoteTx a)]
  · split
    · rw [allRun_dels]; rfl
    · rfl
  · rfl

theorem all_slotFinish : ∀ (fuel : Nat) (s : Pool), allRun s.all (evSlotFinish fuel s) = (Pool.slotFinish fuel s).all
  | 0, _ => rfl
  | n + 1, s => by
    unfold evSlotFinish Pool.slotFinish
    split
    · rfl
    · cases s.accts.find? (fun a => s.offender a) with
      | none => rfl
      | some a => simp only; rw [allRun_append, all_capOne, all_slotFinish n]

theorem all_slotEvict (s : Pool) (sched : List Addr) : allRun s.all (evSlotEvict s sched) = (s.slotEvict sched).all := by
  unfold evSlotEvict Pool.slotEvict
  split
  · rfl
  · simp only
    rw [allRun_append, allRun_fold _ _ (fun s a => by split; exact all_capOne s a; rfl), all_slotFinish]

theorem all_queueDrop : ∀ (as : List Addr) (d : Nat) (s : Pool), allRun s.all (evQueueDrop d as s) = (Pool.queueDrop d as s).all
  | [], d, s => by unfold evQueueDrop Pool.queueDrop; rfl
  | _ :: _, 0, s => by unfold evQueueDrop Pool.queueDrop; rfl
  | a :: rest, d + 1, s => by
    unfold evQueueDrop Pool.queueDrop
    simp only
    split
    · rw [allRun_append, all_dropQueued s a, all_queueDrop rest]
    · exact all_dropQueued s a _

theorem all_queueEvict (s : Pool) (order : List Addr) : allRun s.all (evQueueEvict s order) = (s.queueEvict order).all := by
  unfold evQueueEvict Pool.queueEvict
  split
  · rfl
  · exact all_queueDrop _ _ _

theorem all_promoteExecutables (s : Pool) (accounts : Option (List Addr)) (slots qorder : List Addr) :
    allRun s.all (evPromoteExecutables s accounts slots qorder) = (s.promoteExecutables accounts slots qorder).all := by
  unfold evPromoteExecutables Pool.promoteExecutables
  simp only
  rw [allRun_append, allRun_append, allRun_fold _ _ all_promoteAcct, all_slotEvict, all_queueEvict]
  rfl

theorem all_demoteAcct (s : Pool) (a : Addr) : allRun s.all (evDemoteAcct s a) = (s.demoteAcct true a).all := by
  unfold evDemoteAcct Pool.demoteAcct
  simp only [allRun_append, allRun_dels, if_true]
  rw [allRun_fold_from evEnqueueTx _ all_enqueueTx]
  · rfl
  · exact allRun_fold_from evEnqueueTx _ all_enqueueTx _ _ _ rfl

theorem all_demoteUnexecutables (s : Pool) : allRun s.all (evDemoteUnexecutables s) = (s.demoteUnexecutables true).all :=
  allRun_fold _ _ all_demoteAcct s.accts s

theorem all_addCore (s : Pool) (t : Tx) (loc : Bool) : allRun s.all (evAddCore s t) = (s.addCore t loc).2.2.all := by
  unfold evAddCore Pool.addCore
  split
  · simp only
    split
    · rfl
    · cases ((s.pending t.sender).add t s.cfg.priceBump).2.1 <;> rfl
  · simp only
    rw [all_enqueueTx]
    split
    · -- not inserted: enqueueTx left the pool as it was
      rename_i h
      rw [enqueueTx_flag, Bool.not_eq_true'] at h
      rw [enqueueTx_refused h]
    · simp only; split <;> rfl

/-- Every event keeps this, for each `x` separately, and `del x` establishes it: so a victim popped by Discard / Cap, which
    has left the heap, is covered again once its `removeTx` has run. -/
def Covers (L : Ledger) (x : Tx) : Prop := x ∈ L.all → x ∈ L.priced.items

theorem Covers.step {L : Ledger} {x : Tx} (e : LEv) (h : Covers L x) : Covers (L.step e) x := by
  have hput : ∀ t, x ∈ insertAll t L.all → x ∈ (L.priced.put t).items := fun t hx =>
    (put_mem _ t x).mpr ((mem_insertAll.mp hx).imp_right h)
  cases e with
  | insPut t => exact hput t
  | insIfNew t =>
    rw [Ledger.step_insIfNew]
    split
    · exact h
    · exact hput t
  | del t => exact fun hx => removed_mem _ hx (h (mem_delAll.mp hx).1)

theorem Covers.run {L : Ledger} {x : Tx} (evs : List LEv) (h : Covers L x) : Covers (L.run evs) x :=
  foldl_pres (Covers · x) _ (fun _ e h => h.step e) evs L h

theorem covers_del (L : Ledger) (x : Tx) : Covers (L.step (.del x)) x := fun hx => absurd rfl (mem_delAll.mp hx).2

theorem covers_dropQueued (x : Tx) : ∀ (d : List Tx) (s : Pool) (L : Ledger), L.all = s.all → x ∈ d ∨ Covers L x →
    Covers (L.run (evDropQueued s d)) x
  | [], _, _, _, h => h.resolve_left (by simp)
  | v :: rest, s, L, hall, h => by
    show Covers (L.run (evRemoveTx s v ++ evDropQueued (s.removeTx v) rest)) x
    rw [ledger_run_append]
    refine covers_dropQueued x rest (s.removeTx v) _ (by rw [ledger_run_all, hall, all_removeTx]) ?_
    rcases h with hx | hc
    · rcases List.mem_cons.mp hx with rfl | hx
      · -- `removeTx x` either finds `x` pooled and begins with `del x`, or `x` is not pooled
        right
        unfold evRemoveTx
        split
        · exact fun hx => absurd (hall ▸ hx) ‹_›
        · exact (covers_del L x).run _
      · exact Or.inl hx
    · exact Or.inr (hc.run _)

theorem ledger_run_ok (evs : List LEv) (L : Ledger) (h : PricedOK true L.priced) : PricedOK true (L.run evs).priced :=
  foldl_pres (fun L => PricedOK true L.priced) _ (fun L e h => by
    cases e with
    | insPut t => exact put_ok _ t h
    | insIfNew t => rw [Ledger.step_insIfNew]; split; exact h; exact put_ok _ t h
    | del t => exact removed_ok _ _ h) evs L h

/-- the invariant that C15 `priced_consistent` proves of every reachable state of the concrete machine -/
def Cov (c : CPool) : Prop := (∀ x ∈ c.pool.all, x ∈ c.priced.items) ∧ PricedOK true c.priced

theorem Cov.covers {c : CPool} (h : Cov c) : ∀ x ∈ c.pool.all, x ∈ c.priced.items := h.1
theorem Cov.ok {c : CPool} (h : Cov c) : PricedOK true c.priced := h.2
theorem Cov.heap {c : CPool} (h : Cov c) : IsHeap c.priced.items := h.2.1
theorem Cov.exact {c : CPool} (h : Cov c) : c.priced.exact = true := h.2.2 rfl

theorem with_cov {c : CPool} {s' : Pool} {evs : List LEv} (hok : PricedOK true c.priced) (hall : allRun c.pool.all evs = s'.all)
    (h : ∀ x, Covers (c.ledger.run evs) x) : Cov (c.with s' evs) :=
  ⟨fun x hx => h x (((ledger_run_all c.ledger evs).trans hall).symm ▸ hx), ledger_run_ok evs c.ledger hok⟩

theorem Cov.with {c : CPool} {s' : Pool} {evs : List LEv} (h : Cov c) (hall : allRun c.pool.all evs = s'.all) :
    Cov (c.with s' evs) :=
  with_cov h.ok hall (fun x => Covers.run evs (h.covers x))

theorem cov_evict {s : Pool} {P : Priced} {d : List Tx} (hcov : ∀ u ∈ s.all, u ∉ d → u ∈ P.items) (hok : PricedOK true P) :
    Cov ((⟨s, P⟩ : CPool).with (d.foldl (fun s v => s.removeTx v) s) (evDropQueued s d)) :=
  with_cov hok (allRun_fold _ _ all_removeTx d s) (fun x => covers_dropQueued x d s ⟨s.all, P⟩ rfl
    ((Decidable.em (x ∈ d)).imp_right fun hn hx => hcov x hx hn))

theorem Cov.congr {c : CPool} (h : Cov c) {s' : Pool} (e : s'.all = c.pool.all) : Cov ⟨s', c.priced⟩ :=
  ⟨fun x hx => h.covers x (e ▸ hx), h.ok⟩

theorem CPool.with_pool (c : CPool) (s' : Pool) (evs : List LEv) : (c.with s' evs).pool = s' := rfl

theorem CPool.promoteExecutables_pool (c : CPool) (accounts : Option (List Addr)) (slots qorder : List Addr) :
    (c.promoteExecutables accounts slots qorder).pool = c.pool.promoteExecutables accounts slots qorder :=
  CPool.with_pool _ _ _

theorem cpromote_cov (c : CPool) (accounts : Option (List Addr)) (slots qorder : List Addr) (h : Cov c) :
    Cov (c.promoteExecutables accounts slots qorder) :=
  h.with (all_promoteExecutables _ _ _ _)

theorem cadd_refines (c : CPool) (t : Tx) (loc : Bool) (sh : Shape) (h : Cov c) :
    let r := c.add t loc sh
    c.pool.add t loc sh r.2.2.1 = (r.1, r.2.1, r.2.2.2.pool) ∧ Cov r.2.2.2 := by
  simp only
  rw [add_eq_addCore]
  unfold CPool.add Pool.afterDiscard
  simp only
  by_cases hk : sh = .wellformed ∧ t ∈ c.pool.all
  · simp only [if_pos hk, true_and]; exact h
  · simp only [if_neg hk]
    by_cases hv : c.pool.validateTx t loc sh ≠ .ok
    · simp only [if_pos hv, true_and]; exact h
    · simp only [if_neg hv]
      by_cases hfull : c.pool.cfg.globalSlots + c.pool.cfg.globalQueue ≤ c.pool.all.length
      · obtain ⟨hu1, hu2, hu3⟩ := underpriced_refines c.pool c.priced t h.covers h.ok
        simp only [if_pos hfull, decide_eq_true hfull, Bool.true_and, hu1, if_true]
        by_cases hup : c.pool.underpriced t = true
        · simp only [if_pos hup, true_and]; exact ⟨hu2, hu3⟩
        · simp only [if_neg hup]
          have hd := discard_refines c.pool (c.priced.underpriced c.pool.all c.pool.locals t).2
            (c.pool.all.length + 1 - (c.pool.cfg.globalSlots + c.pool.cfg.globalQueue)) hu2 hu3
          simp only [hd.sane, CPool.with_pool, true_and]
          exact (cov_evict hd.covers hd.ok).with (all_addCore _ t loc)
      · simp only [if_neg hfull, decide_eq_false hfull, Bool.false_and, Bool.false_eq_true, if_false, CPool.with_pool, true_and]
        exact h.with (all_addCore _ t loc)

theorem caddTx_refines (c : CPool) (t : Tx) (loc : Bool) (sh : Shape) (sl qo : List Addr) (h : Cov c) :
    let r := c.addTx t loc sh sl qo
    c.pool.addTx t loc sh r.2.1 sl qo = (r.1, r.2.2.pool) ∧ Cov r.2.2 := by
  simp only
  obtain ⟨he, hc⟩ := cadd_refines c t (loc && !c.pool.cfg.noLocals) sh h
  unfold CPool.addTx Pool.addTx
  simp only
  generalize c.add t (loc && !c.pool.cfg.noLocals) sh = r at he hc ⊢
  by_cases hok : r.1 ≠ .ok
  · simp only [if_pos hok, he, true_and]; exact hc
  · simp only [if_neg hok]
    by_cases hrep : (!r.2.1) = true
    · simp only [if_pos hrep, he, if_neg hok, CPool.promoteExecutables_pool, true_and]; exact cpromote_cov _ _ _ _ hc
    · simp only [if_neg hrep, he, if_neg hok, true_and]; exact hc

theorem caddMany_refines (loc : Bool) : ∀ (ts : List Tx) (c : CPool), Cov c →
    let r := c.addMany loc ts
    c.pool.addMany loc ts r.2.2.1 = (r.1, r.2.1, r.2.2.2.pool) ∧ Cov r.2.2.2
  | [], _, h => ⟨rfl, h⟩
  | t :: ts, c, h => by
    obtain ⟨he, hc⟩ := cadd_refines c t loc .wellformed h
    obtain ⟨ie, ic⟩ := caddMany_refines loc ts _ hc
    refine ⟨?_, ic⟩
    simp only [CPool.addMany, Pool.addMany, List.headD_cons, List.tail_cons, he, ie]

theorem caddTxs_refines (c : CPool) (ts : List Tx) (loc : Bool) (sl qo : List Addr) (h : Cov c) :
    let r := c.addTxs ts loc sl qo
    c.pool.addTxs ts loc r.2.1 sl qo = (r.1, r.2.2.pool) ∧ Cov r.2.2 := by
  simp only
  obtain ⟨he, hc⟩ := caddMany_refines loc ts c h
  unfold CPool.addTxs Pool.addTxs
  simp only
  generalize c.addMany loc ts = r at he hc ⊢
  by_cases hemp : r.2.1.isEmpty = true
  · simp only [if_pos hemp, he, true_and]; exact hc
  · simp only [if_neg hemp, he, CPool.promoteExecutables_pool, true_and]; exact cpromote_cov _ _ _ _ hc

theorem csetGasPrice_refines (c : CPool) (p : Nat) (h : Cov c) :
    let r := c.setGasPrice p
    r.2.pool = c.pool.setGasPriceO p r.1 ∧
    (∀ v, v ∈ r.1 ↔ v ∈ c.pool.all ∧ v.price < p ∧ v.sender ∉ c.pool.locals) ∧ Cov r.2 := by
  simp only
  have hd := cap_refines ({ c.pool with gasPrice := p } : Pool) c.priced p h.covers h.ok
  simp only at hd
  unfold CPool.setGasPrice Pool.setGasPriceO
  simp only
  generalize c.priced.cap c.pool.all c.pool.locals p = d at hd ⊢
  obtain ⟨hmem, hcov, hokd⟩ := hd
  refine ⟨?_, hmem, cov_evict hcov hokd⟩
  rw [List.filter_eq_self.mpr]
  · rfl
  · intro v hv
    simp [isLocal_false, (hmem v).mp hv]

theorem creset_tail (c : CPool) (sl qo : List Addr) (h : Cov c) :
    Cov ((⟨(c.pool.demoteUnexecutables true).syncNonces,
      (c.with (c.pool.demoteUnexecutables true) (evDemoteUnexecutables c.pool)).priced⟩ : CPool).promoteExecutables none sl qo) :=
  cpromote_cov _ _ _ _ ((h.with (all_demoteUnexecutables c.pool)).congr (syncNonces_all _).1)

theorem creset_refines (c : CPool) (v : View) (o n : Nat) (rg : Bool) (d i : List Tx) (sl1 qo1 sl2 qo2 : List Addr) (h : Cov c) :
    let r := c.reset v o n rg d i sl1 qo1 sl2 qo2
    r.2.pool = c.pool.reset true v o n rg d i ⟨r.1, sl1, qo1, sl2, qo2⟩ ∧ Cov r.2 := by
  simp only
  unfold CPool.reset Pool.reset
  simp only
  have h0 : Cov (⟨{ c.pool with cnonce := v.nonce, balance := v.balance, maxGas := v.maxGas, pnonce := v.nonce }, c.priced⟩ : CPool) :=
    h.congr rfl
  generalize (if (rg && decide ((if o ≤ n then n - o else o - n) ≤ 64)) = true then txDifference d i else []) = reinject
  by_cases he : reinject.isEmpty = true
  · simp only [if_pos he, CPool.promoteExecutables_pool, CPool.with_pool, true_and]
    exact creset_tail ⟨_, c.priced⟩ sl2 qo2 h0
  · obtain ⟨ae, ac⟩ := caddTxs_refines _ reinject false sl1 qo1 h0
    simp only [if_neg he, CPool.promoteExecutables_pool, CPool.with_pool, ae, true_and]
    exact creset_tail _ sl2 qo2 ac

theorem cevictIdle_refines (c : CPool) (a : Addr) (h : Cov c) :
    (c.evictIdle a).pool = c.pool.evictIdle a ∧ Cov (c.evictIdle a) := by
  unfold CPool.evictIdle Pool.evictIdle
  split
  · exact ⟨rfl, h⟩
  · exact ⟨rfl, h.with (all_dropQueued c.pool a _)⟩

/-- `(c.step op).1` is the same operation with the heap's victims filled in as the oracle -/
theorem cstep_refines (c : CPool) (op : COp) (h : Cov c) :
    (c.step op).2.pool = c.pool.step true (c.step op).1 ∧ Cov (c.step op).2 := by
  cases op with
  | add t loc sh sl qo => exact (caddTx_refines c t loc sh sl qo h).imp (fun e => (congrArg Prod.snd e).symm) id
  | adds ts loc sl qo =>
    exact (caddTxs_refines c ts (loc && !c.pool.cfg.noLocals) sl qo h).imp (fun e => (congrArg Prod.snd e).symm) id
  | setGasPrice p => exact ⟨(csetGasPrice_refines c p h).1, (csetGasPrice_refines c p h).2.2⟩
  | reset v o n rg d i sl1 qo1 sl2 qo2 => exact creset_refines c v o n rg d i sl1 qo1 sl2 qo2 h
  | evictIdle a => exact cevictIdle_refines c a h

theorem cinit_cov (cfg : Cfg) (v : View) : Cov (CPool.init cfg v) :=
  ⟨fun _ hx => (nomatch hx), isHeap_nil, fun _ => rfl⟩

def CPool.runOps : CPool → List COp → List Op × CPool
  | c, [] => ([], c)
  | c, op :: rest =>
    let r := c.step op
    let rr := CPool.runOps r.2 rest
    (r.1 :: rr.1, rr.2)

theorem crun_refines : ∀ (cops : List COp) (c : CPool), Cov c →
    (c.runOps cops).2.pool = (c.runOps cops).1.foldl (Pool.step true) c.pool ∧ Cov (c.runOps cops).2
  | [], _, h => ⟨rfl, h⟩
  | op :: rest, c, h => by
    obtain ⟨h1, h2⟩ := cstep_refines c op h
    obtain ⟨i1, i2⟩ := crun_refines rest (c.step op).2 h2
    exact ⟨i1.trans (by rw [h1]; rfl), i2⟩

end Aqv.TxPool
