/-
  Facts about core types that more than one area uses and core does not state in this form.
-/
namespace Aqv

theorem inj_of_leftInv {α β : Type} {d : β → Option α} {e : α → β} {P : α → Prop} (h : ∀ a, P a → d (e a) = some a)
    {a b : α} (ha : P a) (hb : P b) (hab : e a = e b) : a = b :=
  Option.some.inj (by rw [← h a ha, hab, h b hb])

theorem getD_of_lt {α : Type} {l : List α} {n : Nat} (d : α) (h : n < l.length) : l.getD n d = l[n] :=
  (List.getElem_eq_getD d).symm

theorem getD_of_le {α : Type} {l : List α} {n : Nat} (d : α) (h : l.length ≤ n) : l.getD n d = d := by
  rw [List.getD_eq_getElem?_getD, List.getElem?_eq_none h]; rfl

theorem getD_mem {α : Type} {l : List α} {n : Nat} (d : α) (h : n < l.length) : l.getD n d ∈ l := by
  rw [getD_of_lt d h]; exact List.getElem_mem h

/-- a chain of checks, each returning its error or passing on, accepts iff every check passes. -/
theorem ite_some_eq_none {α : Type} {c : Prop} [Decidable c] (e : α) (r : Option α) :
    (if c then some e else r) = none ↔ ¬ c ∧ r = none := by
  by_cases hc : c <;> simp [hc]

end Aqv
