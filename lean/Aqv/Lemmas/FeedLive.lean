/-
  Aqv.Lemmas.FeedLive — liveness of the Feed model on infinite fair executions: "leads to" on an execution
  (`Exec.LeadsTo`), the rules `ensures` (weak fairness of one goroutine), `unblocks` (a wait that cannot last forever)
  and `wf` (a measure that falls), and from them: the token holder returns the token, so the token recurs, so every
  Send and every `remove` that has been called returns.
  `Fair` assumes three things from outside `feed.go` (spelt out above the liveness theorems of Props/C19): the scheduler is
  weakly fair to a goroutine that holds the token or is at a step that needs nobody else (`sched_*`; which ready case
  `reflect.Select` picks is irrelevant); no channel stays forever both in `f.sendCases` and unable to accept a value (`recv`);
  the hand-off of the sendLock token is strongly fair (`token_*`: in Go, the FIFO wait queue of a channel), the only place
  where more than weak fairness is assumed.
-/
import Aqv.Lemmas.FeedInvD
import Aqv.Lemmas.FeedFrame
namespace Aqv.Feed

def SendEnabled (s : St) (g : Sid) : Prop := ∃ x, IsSendAct g x ∧ (step s x).isSome
def RemEnabled (s : St) (c : Chan) : Prop := ∃ x, IsRemAct c x ∧ (step s x).isSome

/-- `a n = none` is a stuttering step -/
structure Exec where
  σ : Nat → St
  a : Nat → Option Act
  init : Reach (σ 0)
  next : ∀ n, (∃ x, a n = some x ∧ step (σ n) x = some (σ (n + 1))) ∨ (a n = none ∧ σ (n + 1) = σ n)

def SendSteps (e : Exec) (g : Sid) (m : Nat) : Prop := ∃ x, e.a m = some x ∧ IsSendAct g x
def RemSteps (e : Exec) (c : Chan) (m : Nat) : Prop := ∃ x, e.a m = some x ∧ IsRemAct c x
def TokenRecurs (e : Exec) (n : Nat) : Prop := ∀ k, n ≤ k → ∃ m, k ≤ m ∧ (e.σ m).tokenFree = true

structure Fair (e : Exec) : Prop where
  sched_send : ∀ g n, (∀ m, n ≤ m → SendEnabled (e.σ m) g) → ∃ m, n ≤ m ∧ SendSteps e g m
  sched_rem : ∀ c n, (∀ m, n ≤ m → RemEnabled (e.σ m) c) → ∃ m, n ≤ m ∧ RemSteps e c m
  recv : ∀ c n, ∃ m, n ≤ m ∧ (canPlace (e.σ m) c = true ∨ c ∉ (e.σ m).sendCases)
  token_send : ∀ g n, (∀ m, n ≤ m → (e.σ m).spc g = .start) → TokenRecurs e n → False
  token_rem : ∀ c n, (∀ m, n ≤ m → (e.σ m).rpc c = .sel) → TokenRecurs e n → False

theorem Exec.reach (e : Exec) : ∀ n, Reach (e.σ n) := by
  intro n
  induction n with
  | zero => exact e.init
  | succ k ih =>
    rcases e.next k with ⟨x, _, hx⟩ | ⟨_, h⟩
    · exact Reach.step x ih hx
    · rw [h]; exact ih

theorem Exec.step_of (e : Exec) {m : Nat} {x : Act} (h : e.a m = some x) : step (e.σ m) x = some (e.σ (m + 1)) := by
  rcases e.next m with ⟨y, hy, hs⟩ | ⟨hn, _⟩
  · rw [h] at hy; cases hy; exact hs
  · rw [h] at hn; cases hn

theorem exists_first {P : Nat → Prop} {n : Nat} :
    ∀ {m}, n ≤ m → P m → ∃ k, n ≤ k ∧ P k ∧ ∀ j, n ≤ j → j < k → ¬ P j := by
  intro m
  induction m using Nat.strongRecOn with
  | _ m ih =>
    intro hnm hm
    by_cases h : ∃ j, n ≤ j ∧ j < m ∧ P j
    · obtain ⟨j, h1, h2, h3⟩ := h; exact ih j h2 h1 h3
    · exact ⟨m, hnm, hm, fun j h1 h2 h3 => h ⟨j, h1, h2, h3⟩⟩

theorem exists_change (P : Nat → Prop) (n : Nat) (hn : P n) (h : ¬ ∀ m, n ≤ m → P m) :
    ∃ m, n ≤ m ∧ P m ∧ ¬ P (m + 1) := by
  apply Classical.byContradiction
  intro hc
  apply h
  intro m hm
  induction hm with
  | refl => exact hn
  | step hk ih => exact Classical.byContradiction fun hnp => hc ⟨_, hk, ih, hnp⟩

theorem Exec.stable (e : Exec) {S : Nat → Prop} {P : St → Prop}
    (hP : ∀ k x, P (e.σ k) → ¬ S k → e.a k = some x → P (e.σ (k + 1))) {n : Nat} (hn : P (e.σ n)) :
    ∀ m, n ≤ m → (∀ k, n ≤ k → k < m → ¬ S k) → P (e.σ m) := by
  intro m hm
  induction hm with
  | refl => exact fun _ => hn
  | @step k hk ih =>
    intro hno
    have ihk := ih fun j h1 h2 => hno j h1 (Nat.lt_succ_of_lt h2)
    rcases e.next k with ⟨x, hx, _⟩ | ⟨_, h⟩
    · exact hP k x ihk (hno k hk (Nat.lt_succ_self k)) hx
    · rw [h]; exact ihk

def Exec.LeadsTo (e : Exec) (P Q : St → Prop) : Prop := ∀ n, P (e.σ n) → ∃ m, n ≤ m ∧ Q (e.σ m)

namespace Exec.LeadsTo
variable {e : Exec} {P P' Q Q' R : St → Prop}

theorem of_imp (h : ∀ n, P (e.σ n) → Q (e.σ n)) : e.LeadsTo P Q := fun n hp => ⟨n, Nat.le_refl n, h n hp⟩

theorem trans (h₁ : e.LeadsTo P Q) (h₂ : e.LeadsTo Q R) : e.LeadsTo P R := fun n hp =>
  let ⟨m, hm, hq⟩ := h₁ n hp
  let ⟨k, hk, hr⟩ := h₂ m hq
  ⟨k, Nat.le_trans hm hk, hr⟩

theorem or (h₁ : e.LeadsTo P R) (h₂ : e.LeadsTo Q R) : e.LeadsTo (fun s => P s ∨ Q s) R :=
  fun n h => h.elim (h₁ n) (h₂ n)

theorem mono (h : e.LeadsTo P Q) (hp : ∀ s, P' s → P s) (hq : ∀ s, Q s → Q' s) : e.LeadsTo P' Q' := fun n h' =>
  let ⟨m, hm, h⟩ := h n (hp _ h')
  ⟨m, hm, hq _ h⟩

theorem wf {α : Type} {r : α → α → Prop} (hwf : WellFounded r) (μ : St → α)
    (h : ∀ v, e.LeadsTo (fun s => P s ∧ μ s = v) (fun s => Q s ∨ (P s ∧ r (μ s) v))) : e.LeadsTo P Q := by
  intro n hp
  generalize hv : μ (e.σ n) = v
  induction v using hwf.induction generalizing n with
  | _ v ih =>
    obtain ⟨m, hm, hq | ⟨hp', hr⟩⟩ := h v n ⟨hp, hv⟩
    · exact ⟨m, hm, hq⟩
    · obtain ⟨k, hk, hq⟩ := ih _ hr m hp' rfl
      exact ⟨k, Nat.le_trans hm hk, hq⟩

end Exec.LeadsTo

/-- `S k`: the goroutine in question takes step `k` -/
theorem Exec.ensures (e : Exec) {P Q : St → Prop} {S : Nat → Prop}
    (frame : ∀ k x, P (e.σ k) → ¬ S k → e.a k = some x → P (e.σ (k + 1)))
    (fair : ∀ n, (∀ m, n ≤ m → P (e.σ m)) → (∀ m, n ≤ m → ¬ S m) → False)
    (post : ∀ k, P (e.σ k) → S k → Q (e.σ (k + 1))) : e.LeadsTo P Q := by
  intro n hn
  have hex : ∃ m, n ≤ m ∧ S m := Classical.byContradiction fun hne =>
    have hno : ∀ m, n ≤ m → ¬ S m := fun m hm hs => hne ⟨m, hm, hs⟩
    fair n (fun m hm => e.stable frame hn m hm fun k hk _ => hno k hk) hno
  obtain ⟨m, hm, hs⟩ := hex
  obtain ⟨k, hk, hsk, hfirst⟩ := exists_first hm hs
  exact ⟨k + 1, Nat.le_succ_of_le hk, post k (e.stable frame hn k hk hfirst) hsk⟩

theorem Exec.unblocks (e : Exec) {P Q : St → Prop} (never : ∀ n, (∀ m, n ≤ m → P (e.σ m)) → False)
    (exit : ∀ k x, P (e.σ k) → step (e.σ k) x = some (e.σ (k + 1)) → P (e.σ (k + 1)) ∨ Q (e.σ (k + 1))) :
    e.LeadsTo P Q := by
  intro n hn
  obtain ⟨m, hnm, hp, hch⟩ := exists_change (fun m => P (e.σ m)) n hn (never n)
  rcases e.next m with ⟨x, _, hs⟩ | ⟨_, h⟩
  · exact ⟨m + 1, Nat.le_succ_of_le hnm, (exit m x hp hs).resolve_left hch⟩
  · exact absurd (h ▸ hp) hch

theorem HolderView.frame (e : Exec) {g : Sid} {p : SPc} {L : List Chan} {A : Nat} {C : Chan → Prop}
    (hp : p.held = true) (hC : ∀ c, C c → c ∈ L) (k : Nat) (x : Act) (h : HolderView g p L A C (e.σ k))
    (hno : ¬ SendSteps e g k) (hx : e.a k = some x) : HolderView g p L A C (e.σ (k + 1)) :=
  h.step (invA_reach (e.reach k)) hp hC (fun hi => hno ⟨x, hx, hi⟩) (.of_step (e.step_of hx))

theorem sendEnabled_locked {s : St} {g : Sid} (hg : s.spc g = .locked) : SendEnabled s g :=
  ⟨.merge g, rfl, can_merge g hg⟩

theorem sendEnabled_sweep {s : St} {g : Sid} {i : Nat} (hg : s.spc g = .sweep i) : SendEnabled s g := by
  rcases can_sweep g i hg with e | e | e
  · exact ⟨.tryOk g, rfl, e⟩
  · exact ⟨.tryFail g, rfl, e⟩
  · exact ⟨.sweepEnd g, rfl, e⟩

theorem sendEnabled_removing {s : St} (h : Reach s) {g : Sid} {c : Chan} (hg : s.spc g = .removing c) :
    SendEnabled s g :=
  ⟨.doRemove g, rfl, (Step.doRemove hg ((invA_reach h).removing g c hg).1).isSome⟩

theorem sendEnabled_sel {s : St} (h : Reach s) {g : Sid} (hg : s.spc g = .sel)
    (hp : canPlace s (s.sendCases.getD 0 0) = true) : SendEnabled s g :=
  ⟨.selPlace g 0, rfl, (Step.selPlace hg ((invD_reach h).sel_pos g hg) hp).isSome⟩

/-- work left for the token-holding Send g after the merge.  The first component falls on every placement and on
    `doRemove`; inside a round `sweep i ↦ 2 + (active - i)` > `sel ↦ 1` > `removing ↦ 0`; `selPlace` and `doRemove` restart
    at `sweep 0`, paid for by the first component. -/
def sendMeasure (s : St) (g : Sid) : Nat × Nat :=
  (s.sendCases.length + s.active,
   match s.spc g with
   | .sweep i => 2 + (s.active - i)
   | .sel => 1
   | _ => 0)

theorem sendMeasure_lt {s s' : St} {g : Sid} {x : Act} (hx : IsSendAct g x) (hne : x ≠ .merge g)
    (hs : step s x = some s') (hm : (s'.spc g).merged = true) :
    Prod.Lex (· < ·) (· < ·) (sendMeasure s' g) (sendMeasure s g) := by
  rw [Prod.lex_def]
  rcases isSendAct_iff.mp hx with rfl | rfl | rfl | rfl | ⟨i, rfl⟩ | ⟨c, rfl⟩ | rfl <;> cases Step.of_step hs <;>
    simp only [sendMeasure, upd_apply, if_true, swapAt_length, SPc.merged] at hm ⊢
  case merge => exact absurd rfl hne
  -- a placement deactivates a case and `doRemove` deletes one: the first component falls
  case tryOk | selPlace => exact .inl (by omega)
  case doRemove hc _ =>
    have := List.idxOf_lt_length_iff.mpr hc
    exact .inl (by simp only [List.length_erase_of_mem hc]; split <;> omega)
  -- `tryFail`, `toSelect` and `selRecv` keep the lists and move the pc down inside the round; `sendRet` and `sendPanic`
  -- leave the loop
  all_goals grind

/-- the token holder takes its next step, from the view it had; `post` says what such a step establishes -/
theorem send_round (e : Exec) (hf : Fair e) (g : Sid) {p : SPc} {L : List Chan} {A : Nat} (hp : p.held = true)
    {Q : St → Prop} (post : ∀ {s x s'}, Reach s → HolderView g p L A (fun _ => False) s → IsSendAct g x →
      step s x = some s' → Q s') : e.LeadsTo (HolderView g p L A fun _ => False) Q := by
  refine e.ensures (S := SendSteps e g) (HolderView.frame e hp fun _ => False.elim) (fun n hall hno => ?_)
    (fun k h ⟨x, hx, hix⟩ => post (e.reach k) h hix (e.step_of hx))
  -- from some point on it is able to step, so the scheduler lets it
  suffices ∃ n0, n ≤ n0 ∧ ∀ m, n0 ≤ m → SendEnabled (e.σ m) g by
    obtain ⟨n0, hn0, hen⟩ := this
    obtain ⟨m, hm, hs⟩ := hf.sched_send g n0 hen
    exact hno m (Nat.le_trans hn0 hm) hs
  cases p with
  | idle | start | done r => cases hp
  | panicked => exact absurd (hall n (Nat.le_refl n)).pc ((invA_reach (e.reach n)).no_panic_s g)
  | locked => exact ⟨n, Nat.le_refl n, fun m hm => sendEnabled_locked (hall m hm).pc⟩
  | sweep i => exact ⟨n, Nat.le_refl n, fun m hm => sendEnabled_sweep (hall m hm).pc⟩
  | removing c => exact ⟨n, Nat.le_refl n, fun m hm => sendEnabled_removing (e.reach m) (hall m hm).pc⟩
  | sel =>
    -- blocked in Select: receiver fairness makes the first active case ready, and it stays ready
    have hn := hall n (Nat.le_refl n)
    have hc0 : L.getD 0 0 ∈ L :=
      hn.sendCases ▸ (invA_reach (e.reach n)).getD_mem hn.pc rfl ((invD_reach (e.reach n)).sel_pos g hn.pc)
    obtain ⟨m0, hm0, hcp | hgone⟩ := hf.recv (L.getD 0 0) n
    · refine ⟨m0, hm0, fun m hm => ?_⟩
      have h0 := hall m0 hm0
      have hv : HolderView g .sel L A (· = L.getD 0 0) (e.σ m) :=
        e.stable (S := SendSteps e g) (HolderView.frame e hp fun c (hc : c = _) => hc ▸ hc0)
          { h0 with ready := fun c (hc : c = _) => hc ▸ hcp } m hm fun k hk _ => hno k (Nat.le_trans hm0 hk)
      exact sendEnabled_sel (e.reach m) hv.pc (by rw [hv.sendCases]; exact hv.ready _ rfl)
    · exact absurd ((hall m0 hm0).sendCases ▸ hc0) hgone

theorem held_leads (e : Exec) (hf : Fair e) (g : Sid) :
    e.LeadsTo (fun s => (s.spc g).held = true) (fun s => ∃ r, s.spc g = .done r ∧ s.tokenFree = true) := by
  -- after the merge every step but the last makes `sendMeasure` fall
  have merged : e.LeadsTo (fun s => (s.spc g).merged = true) (fun s => ∃ r, s.spc g = .done r ∧ s.tokenFree = true) :=
    .wf (r := Prod.Lex (· < ·) (· < ·)) (Prod.lex Nat.lt_wfRel Nat.lt_wfRel).wf (sendMeasure · g) fun v n ⟨hm, hv⟩ => by
      refine send_round e hf g (merged_held _ hm) (Q := fun s' => (∃ r, s'.spc g = .done r ∧ s'.tokenFree = true) ∨
        ((s'.spc g).merged = true ∧ Prod.Lex (· < ·) (· < ·) (sendMeasure s' g) v))
        (fun {s x s'} hr view hix hs => ?_) n ⟨rfl, rfl, rfl, fun _ => False.elim⟩
      refine (send_step_result hr g x hix hs).symm.imp_right fun hm' => ⟨hm', ?_⟩
      have hne : x ≠ .merge g := by
        rintro rfl
        rw [← view.pc, merge_locked hs] at hm
        cases hm
      rw [← hv, show sendMeasure (e.σ n) g = sendMeasure s g by
        simp only [sendMeasure, view.pc, view.sendCases, view.active]]
      exact sendMeasure_lt hix hne hs hm'
  -- the first step may be the merge
  refine fun n hh => ((send_round e hf g hh fun hr _ hix hs => send_step_result hr g _ hix hs).trans
    (.or merged (.of_imp fun _ h => h))) n ⟨rfl, rfl, rfl, fun _ => False.elim⟩

theorem remEnabled_of_pc (s : St) (c : Chan) (hp : soloPhase (s.rpc c)) : RemEnabled s c := by
  rcases hp with h0 | h0 | h0
  · exact ⟨.rmInbox c, rfl, can_rmInbox c h0⟩
  · exact ⟨.rmDelete c, rfl, can_rmDelete c h0⟩
  · exact ⟨.rmRelease c, rfl, can_rmRelease c h0⟩

/-- a `remove` in a phase in which it needs nobody else takes its next step; `post` says what that step establishes -/
theorem rem_solo (e : Exec) (hf : Fair e) (c : Chan) {p : RPc} (hp : soloPhase p) {Q : St → Prop}
    (post : ∀ {s x s'}, Reach s → s.rpc c = p → IsRemAct c x → step s x = some s' → Q s') :
    e.LeadsTo (fun s => s.rpc c = p) Q := by
  refine e.ensures (S := RemSteps e c) (fun k x h hno hx => ?_) (fun n hall hno => ?_)
    (fun k h ⟨x, hx, hix⟩ => post (e.reach k) h hix (e.step_of hx))
  · exact (rpc_solo_frame (h ▸ hp) (fun hi => hno ⟨x, hx, hi⟩) (e.step_of hx)).trans h
  · obtain ⟨m, hm, hs⟩ := hf.sched_rem c n fun m hm => remEnabled_of_pc _ c (hall m hm ▸ hp)
    exact hno m hm hs

theorem rem_holder_leads (e : Exec) (hf : Fair e) (c : Chan) :
    e.LeadsTo (fun s => s.rpc c = .token ∨ s.rpc c = .deleted) (fun s => s.rpc c = .done ∧ s.tokenFree = true) :=
  have del := rem_solo e hf c (.inr (.inr rfl)) fun _ h0 hx hs => rem_deleted_result h0 hx hs
  .or ((rem_solo e hf c (.inr (.inl rfl)) fun hr h0 hx hs => rem_token_result hr h0 hx hs).trans del) del

theorem token_recurs (e : Exec) (hf : Fair e) (n : Nat) : TokenRecurs e n := by
  intro k _
  have ha := invA_reach (e.reach k)
  cases hh : (e.σ k).holder with
  | none => exact ⟨k, Nat.le_refl _, ha.tok.mpr hh⟩
  | sender g =>
    obtain ⟨m, h1, _, _, h3⟩ := held_leads e hf g k ((ha.hs g).mpr hh)
    exact ⟨m, h1, h3⟩
  | remover c =>
    have hheld := (ha.hr c).mpr hh
    have hnp := ha.no_panic_r c
    have : (e.σ k).rpc c = .token ∨ (e.σ k).rpc c = .deleted := by
      cases hpc : (e.σ k).rpc c <;> simp_all [RPc.held]
    obtain ⟨m, h1, _, h3⟩ := rem_holder_leads e hf c k this
    exact ⟨m, h1, h3⟩

theorem send_leads (e : Exec) (hf : Fair e) (g : Sid) :
    e.LeadsTo (fun s => s.spc g ≠ .idle) (fun s => ∃ r, s.spc g = .done r) := by
  have held : e.LeadsTo (fun s => (s.spc g).held = true) (fun s => ∃ r, s.spc g = .done r) :=
    (held_leads e hf g).mono (fun _ h => h) (fun _ ⟨r, h, _⟩ => ⟨r, h⟩)
  -- blocked in `<-f.sendLock`: it cannot wait forever because the token recurs
  have start : e.LeadsTo (fun s => s.spc g = .start) (fun s => ∃ r, s.spc g = .done r) :=
    (e.unblocks (Q := fun s => (s.spc g).held = true) (fun n hall => hf.token_send g n hall (token_recurs e hf n))
      (fun _ x h hs => by
        by_cases hx : x = .acquire g
        · subst hx; exact .inr (acquire_result hs)
        · exact .inl (start_frame g x h hx hs))).trans held
  intro n h0
  by_cases hheld : ((e.σ n).spc g).held = true
  · exact held n hheld
  · cases hpc : (e.σ n).spc g with
    | idle => exact absurd hpc h0
    | done r => exact ⟨n, Nat.le_refl _, r, hpc⟩
    | start => exact start n hpc
    | panicked | locked | sweep i | sel | removing c => simp [hpc, SPc.held] at hheld

theorem remove_leads (e : Exec) (hf : Fair e) (c : Chan) :
    e.LeadsTo (fun s => s.rpc c ≠ .idle) (fun s => s.rpc c = .done) := by
  have holder := (rem_holder_leads e hf c).mono (fun _ h => h) (fun _ h => h.1)
  -- from the select: either the token is taken, or a Send receives on removeSub
  have sel : e.LeadsTo (fun s => s.rpc c = .sel) (fun s => s.rpc c = .done) :=
    (e.unblocks (Q := fun s => s.rpc c = .token ∨ s.rpc c = .done) (fun n hall => hf.token_rem c n hall (token_recurs e hf n))
      (fun _ _ h hs => rpc_sel_step h hs)).trans
      (.or (holder.mono (fun _ => .inl) (fun _ h => h)) (.of_imp fun _ h => h))
  have start := (rem_solo e hf c (.inl rfl) fun _ h0 hx hs => rem_start_result h0 hx hs).trans
    (.or (.of_imp fun _ h => h) sel)
  intro n h0
  cases hpc : (e.σ n).rpc c with
  | idle => exact absurd hpc h0
  | done => exact ⟨n, Nat.le_refl _, hpc⟩
  | panicked => exact absurd hpc ((invA_reach (e.reach n)).no_panic_r c)
  | sel => exact sel n hpc
  | token => exact holder n (.inl hpc)
  | deleted => exact holder n (.inr hpc)
  | start => exact start n hpc

end Aqv.Feed
