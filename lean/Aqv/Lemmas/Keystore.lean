/-
  Facts about the keystore model (C20): the hex codec (also behind the hexutil codecs of C12, `Lemmas/TxSign`) and the CTR stream
  invert themselves, the file EncryptKey writes (`sealedFile`), and the decryption pipeline layer by layer (checkMac,
  decryptBytes = `gate` + checkMac + `plain`, decryptKey, GetKey, Import), each in terms of the layer below; last, what Unlock
  does to the unlocked-key table and Update to the key directory.
-/
import Aqv.Model.Keystore
import Aqv.Lemmas.Bytes
namespace Aqv.Keystore
open Aqv

theorem hexNib_toNat (n : Nat) (h : n < 16) : (hexNib n).toNat = if n < 10 then 48 + n else 87 + n := by
  unfold hexNib
  split <;> simp only [UInt8.toNat_ofNat'] <;> omega

theorem nibVal_hexNib (n : Nat) (h : n < 16) : nibVal (hexNib n) = some n := by
  unfold nibVal
  rw [hexNib_toNat n h]
  split
  · rw [if_pos (by omega)]; congr 1; omega
  · rw [if_neg (by omega), if_pos (by omega)]; congr 1; omega

theorem UInt8.ofNat_div_mod (b : UInt8) : UInt8.ofNat (b.toNat / 16 * 16 + b.toNat % 16) = b := by
  have : b.toNat / 16 * 16 + b.toNat % 16 = b.toNat := by omega
  rw [this]
  exact UInt8.ofNat_toNat

/-- encoding/hex: DecodeString (EncodeToString b) = b. -/
theorem hexDecode_hexEncode (b : Bytes) : hexDecode (hexEncode b) = some b := by
  induction b with
  | nil => rfl
  | cons x r ih =>
    have hx := x.toNat_lt
    simp only [hexEncode, hexDecode]
    rw [nibVal_hexNib _ (by omega), nibVal_hexNib _ (by omega), ih]
    simp only [UInt8.ofNat_div_mod]

theorem hexEncode_length (b : Bytes) : (hexEncode b).length = 2 * b.length := by
  induction b with
  | nil => rfl
  | cons x r ih => simp only [hexEncode, List.length_cons, ih]; omega

theorem ascii_0x : ascii "0x" = [48, 120] := by decide

theorem hexNib_ne_of_toNat {c : UInt8} (n : Nat) (h : n < 16) (hc : c.toNat ∉ [48, 49, 50, 51, 52, 53, 54, 55, 56, 57, 97, 98, 99, 100, 101, 102]) :
    hexNib n ≠ c := by
  intro e
  subst e
  rw [hexNib_toNat n h] at hc
  simp only [List.mem_cons, List.not_mem_nil, or_false] at hc
  split at hc <;> omega

/-- the hex text of an address carries no "0x"/"0X" prefix, so nothing is trimmed. -/
theorem fileAddr_hexEncode (b : Bytes) : fileAddr (hexEncode b) = some b := by
  unfold fileAddr
  have h0x := ascii_0x
  have h0X : ascii "0X" = [48, 88] := by decide
  have key : ∀ c : UInt8, (∀ n < 16, hexNib n ≠ c) → trimPrefix [48, c] (hexEncode b) = hexEncode b := by
    intro c hc
    unfold trimPrefix
    cases b with
    | nil => rfl
    | cons x r =>
      have hx := x.toNat_lt
      rw [if_neg]
      simp only [hexEncode, List.isPrefixOf, Bool.and_eq_true, beq_iff_eq, Bool.and_true, not_and]
      exact fun _ e => hc _ (by omega) e.symm
  rw [h0x, h0X, key _ (fun n h => hexNib_ne_of_toNat n h (by decide)),
    key _ (fun n h => hexNib_ne_of_toNat n h (by decide)), hexDecode_hexEncode]

theorem xorStream_length (f : Nat → UInt8) (off : Nat) (b : Bytes) : (xorStream f off b).length = b.length := by
  induction b generalizing off with
  | nil => rfl
  | cons x r ih => simp [xorStream, ih]

/-- AES-CTR is an involution. -/
theorem xorStream_xorStream (f : Nat → UInt8) (off : Nat) (b : Bytes) : xorStream f off (xorStream f off b) = b := by
  induction b generalizing off with
  | nil => rfl
  | cons x r ih =>
    simp only [xorStream, ih]
    congr 1
    rw [UInt8.xor_assoc, UInt8.xor_self, UInt8.xor_zero]

theorem xorStream_eq_iff (f g : Nat → UInt8) (off : Nat) (b : Bytes) :
    xorStream f off b = xorStream g off b ↔ ∀ i, i < b.length → f (off + i) = g (off + i) := by
  induction b generalizing off with
  | nil => simp [xorStream]
  | cons x r ih =>
    simp only [xorStream, List.cons.injEq, UInt8.xor_right_inj, ih, List.length_cons, Nat.forall_lt_succ_left, Nat.add_zero]
    simp only [Nat.add_assoc, Nat.add_comm 1]

theorem xorStream_congr (f g : Nat → UInt8) (off : Nat) (b : Bytes)
    (h : ∀ i, i < b.length → f (off + i) = g (off + i)) : xorStream f off b = xorStream g off b :=
  (xorStream_eq_iff f g off b).2 h

theorem paddedBigBytes_length (d n : Nat) (h : d < 256 ^ n) : (paddedBigBytes d n).length = n := by
  have := beBytes_length_le d n h
  simp only [paddedBigBytes, List.length_append, List.length_replicate]
  omega

theorem beNat_paddedBigBytes (d n : Nat) : beNat (paddedBigBytes d n) = d := by
  simp only [paddedBigBytes, beNat_replicate_zero_append, beNat_beBytes]

theorem secpN_lt : secpN < 256 ^ 32 := by decide

/-- a key blob of at most 32 bytes is read big-endian, i.e. as if zero-padded ON THE LEFT, so any width n ≤ 32 gives
    back the scalar. -/
theorem scalarOfBytes_padded_any (d n : Nat) (h : d < secpN) (hn : n ≤ 32) : scalarOfBytes (paddedBigBytes d n) = d := by
  have hL := beBytes_length_le d 32 (Nat.lt_trans h secpN_lt)
  have hl : (paddedBigBytes d n).length ≤ 32 := by
    simp only [paddedBigBytes, List.length_append, List.length_replicate]
    omega
  unfold scalarOfBytes
  rw [List.take_of_length_le hl, beNat_paddedBigBytes, Nat.mod_eq_of_lt h]

/-- ToECDSAUnsafe (PaddedBigBytes d 32) = d. -/
theorem scalarOfBytes_padded (d : Nat) (h : d < secpN) : scalarOfBytes (paddedBigBytes d 32) = d :=
  scalarOfBytes_padded_any d 32 h (Nat.le_refl 32)

theorem paddedBigBytes_beNat (l : Bytes) : paddedBigBytes (beNat l) l.length = l :=
  beNat_inj_of_length _ _ (paddedBigBytes_length _ _ (beNat_lt l)) (beNat_paddedBigBytes _ _)

def scryptParams (n p : Int) (salt : Bytes) : List (Bytes × JVal) :=
  [(ascii "dklen", .num scryptDKLen), (ascii "n", .num n), (ascii "p", .num p),
   (ascii "r", .num scryptR), (ascii "salt", .str (hexEncode salt))]

theorem lookup_scryptParams (n p : Int) (salt : Bytes) :
    lookup (scryptParams n p salt) (ascii "salt") = some (.str (hexEncode salt)) ∧
    lookup (scryptParams n p salt) (ascii "dklen") = some (.num scryptDKLen) ∧
    lookup (scryptParams n p salt) (ascii "n") = some (.num n) ∧
    lookup (scryptParams n p salt) (ascii "r") = some (.num scryptR) ∧
    lookup (scryptParams n p salt) (ascii "p") = some (.num p) :=
  ⟨rfl, rfl, rfl, rfl, rfl⟩

theorem getKDFKey_scryptParams (P : Prims) (c : Crypto) (auth salt : Bytes) (n p : Int) (hp0 : 0 < p)
    (hk : c.kdf = ascii "scrypt") (hp : c.kdfparams = scryptParams n p salt) :
    getKDFKey P c auth = kdfRes (P.kdf (.scrypt auth salt n scryptR p scryptDKLen)) := by
  obtain ⟨h1, h2, h3, h4, h5⟩ := lookup_scryptParams n p salt
  unfold getKDFKey
  simp only [hp, hk, h1, h2, h3, h4, h5, asString, ensureInt, hexDecode_hexEncode, if_true]
  rw [if_neg (by decide), if_neg (by simp only [scryptR]; omega)]

/-- the file EncryptKey writes once the KDF has delivered `buf`. -/
def sealedFile (P : Prims) (d : Nat) (addr id salt iv : Bytes) (n p : Int) (buf : Bytes) : KeyFile :=
  let ct := xorStream (P.ks (encKey buf) iv) 0 (paddedBigBytes d 32)
  { jsonOk := true, verTop := none, v1ok := false, v3ok := true, version3 := 3, address := hexEncode addr, id := id,
    crypto := { cipher := ascii "aes-128-ctr", ciphertext := hexEncode ct, iv := hexEncode iv, kdf := ascii "scrypt",
                kdfparams := scryptParams n p salt, mac := hexEncode (P.H (macKey buf ++ ct)) } }

theorem encryptKey_ok {P : Prims} {auth salt iv buf : Bytes} {n p : Int} {len : Nat} (d : Nat) (addr id : Bytes)
    (hk : P.kdf (.scrypt auth salt n scryptR p scryptDKLen) = .ok buf len) (hcap : 32 ≤ buf.length) (hiv : iv.length = 16) :
    encryptKey P d addr id auth salt iv n p = .ok (sealedFile P d addr id salt iv n p buf) := by
  unfold encryptKey
  rw [hk]
  simp only [if_neg (show ¬ buf.length < 32 by omega), hiv, ne_eq, not_true_eq_false, if_false]
  rfl

theorem macKey_length (buf : Bytes) (h : 32 ≤ buf.length) : (macKey buf).length = 16 := by
  simp only [macKey, List.length_take, List.length_drop]; omega

theorem macInput_inj {buf buf' ct ct' : Bytes} (h : 32 ≤ buf.length) (h' : 32 ≤ buf'.length)
    (e : macKey buf' ++ ct' = macKey buf ++ ct) : macKey buf' = macKey buf ∧ ct' = ct :=
  List.append_inj e (by rw [macKey_length _ h, macKey_length _ h'])

theorem checkMac_eq {P : Prims} {c : Crypto} {auth buf iv ct mac : Bytes} {len : Nat}
    (hmac : hexDecode c.mac = some mac) (hiv : hexDecode c.iv = some iv) (hct : hexDecode c.ciphertext = some ct)
    (hk : getKDFKey P c auth = .ok (buf, len)) :
    checkMac P c auth = if buf.length < 32 then .panic else if P.H (macKey buf ++ ct) ≠ mac then .err .decrypt
      else .ok (buf, iv, ct) := by
  unfold checkMac
  rw [hmac, hiv, hct, hk]

/-- the only panics: the KDF's own, and `derivedKey[16:32]` beyond capacity. -/
theorem checkMac_spec (P : Prims) (c : Crypto) (auth : Bytes) :
    match checkMac P c auth with
    | .ok (buf, iv, ct) => (∃ len, getKDFKey P c auth = .ok (buf, len)) ∧ 32 ≤ buf.length ∧ hexDecode c.iv = some iv ∧
        hexDecode c.ciphertext = some ct ∧ hexDecode c.mac = some (P.H (macKey buf ++ ct))
    | .panic => getKDFKey P c auth = .panic ∨ ∃ buf len, getKDFKey P c auth = .ok (buf, len) ∧ buf.length < 32
    | .err _ => True := by
  unfold checkMac
  rcases hexDecode c.mac with _ | mac
  · trivial
  rcases hexDecode c.iv with _ | iv
  · trivial
  rcases hexDecode c.ciphertext with _ | ct
  · trivial
  rcases getKDFKey P c auth with ⟨buf, len⟩ | e | _
  · dsimp only
    by_cases hl : buf.length < 32
    · rw [if_pos hl]
      exact Or.inr ⟨buf, len, rfl, hl⟩
    rw [if_neg hl]
    by_cases hm : P.H (macKey buf ++ ct) = mac
    · rw [if_neg (not_not_intro hm)]
      exact ⟨⟨len, rfl⟩, by omega, rfl, rfl, congrArg some hm.symm⟩
    · rw [if_pos hm]
      trivial
  · trivial
  · exact Or.inl rfl

/-- the checks of DecryptKey that do not look at the passphrase (JSON shape, version, cipher name): the error of the first
    one that fails. -/
def gate (f : KeyFile) : Option Err :=
  if !f.jsonOk then some .json
  else if isV1 f then (if !f.v1ok then some .json else none)
  else if !f.v3ok then some .json
  else if f.version3 ≠ 3 then some .version
  else if f.crypto.cipher ≠ ascii "aes-128-ctr" then some .cipher
  else none

/-- what decryptKeyV1 (`v1 = true`) / decryptKeyV3 do after the MAC check; of the derived buffer only `encKey` enters. -/
def plain (P : Prims) (v1 : Bool) (ek iv ct : Bytes) : Res Bytes :=
  if v1 then
    if iv.length ≠ 16 ∨ ct.length % 16 ≠ 0 then .err .ivLength
    else match pkcs7Unpad (P.cbc ((P.H ek).take 16) iv ct) with
      | none => .err .decrypt
      | some pt => .ok pt
  else if iv.length ≠ 16 then .err .ivLength else .ok (xorStream (P.ks ek iv) 0 ct)

theorem plain_v3 (P : Prims) (ek ct : Bytes) {iv : Bytes} (h : iv.length = 16) :
    plain P false ek iv ct = .ok (xorStream (P.ks ek iv) 0 ct) := by
  simp [plain, h]

theorem plain_ne_panic (P : Prims) (v1 : Bool) (ek iv ct : Bytes) : plain P v1 ek iv ct ≠ .panic := by
  unfold plain
  repeat' split
  all_goals intro h; cases h

theorem plain_ok_iv {P : Prims} {v1 : Bool} {ek iv ct pt : Bytes} (h : plain P v1 ek iv ct = .ok pt) : iv.length = 16 := by
  unfold plain at h
  cases v1 <;> simp only [Bool.false_eq_true, if_false, if_true] at h <;> split at h
  · cases h
  · omega
  · cases h
  · omega

theorem decryptBytes_eq (P : Prims) (f : KeyFile) (auth : Bytes) :
    decryptBytes P f auth = match gate f, checkMac P f.crypto auth with
      | some e, _ => .err e
      | none, .ok (buf, iv, ct) => plain P (isV1 f) (encKey buf) iv ct
      | none, .err e => .err e
      | none, .panic => .panic := by
  unfold decryptBytes gate
  cases f.jsonOk
  · rfl
  cases isV1 f
  · cases f.v3ok
    · rfl
    simp only [Bool.not_true, Bool.false_eq_true, if_false, decryptKeyV3, plain]
    split
    · rfl
    split
    · rfl
    rcases checkMac P f.crypto auth with ⟨buf, iv, ct⟩ | e | _ <;> rfl
  · cases f.v1ok
    · rfl
    simp only [Bool.not_true, Bool.false_eq_true, if_false, if_true, decryptKeyV1, plain]
    rcases checkMac P f.crypto auth with ⟨buf, iv, ct⟩ | e | _ <;> rfl

/-- what a successful `decryptBytes P f pw` went through (`decryptBytes_ok_iff`). -/
structure Opening (P : Prims) (f : KeyFile) (pw : Bytes) where
  buf : Bytes
  len : Nat
  iv : Bytes
  ct : Bytes
  pt : Bytes
  hgate : gate f = none
  hkdf : getKDFKey P f.crypto pw = .ok (buf, len)
  hcap : 32 ≤ buf.length
  hiv : hexDecode f.crypto.iv = some iv
  hct : hexDecode f.crypto.ciphertext = some ct
  hmac : hexDecode f.crypto.mac = some (P.H (macKey buf ++ ct))
  hplain : plain P (isV1 f) (encKey buf) iv ct = .ok pt

theorem Opening.checkMac {P : Prims} {f : KeyFile} {pw : Bytes} (o : Opening P f pw) :
    checkMac P f.crypto pw = .ok (o.buf, o.iv, o.ct) := by
  rw [checkMac_eq o.hmac o.hiv o.hct o.hkdf, if_neg (by have := o.hcap; omega), if_neg (by simp)]

theorem Opening.buf_eq {P : Prims} {f : KeyFile} {pw buf : Bytes} {len : Nat} (o : Opening P f pw)
    (h : getKDFKey P f.crypto pw = .ok (buf, len)) : o.buf = buf := by
  have := o.hkdf.symm.trans h
  injection this with this
  injection this

theorem Opening.mac_binds {P : Prims} {f f' : KeyFile} {pw pw' : Bytes} (o : Opening P f pw) (o' : Opening P f' pw')
    (hm : hexDecode f'.crypto.mac = hexDecode f.crypto.mac)
    (hcr : P.H (macKey o'.buf ++ o'.ct) = P.H (macKey o.buf ++ o.ct) → macKey o'.buf ++ o'.ct = macKey o.buf ++ o.ct) :
    macKey o'.buf = macKey o.buf ∧ o'.ct = o.ct := by
  rw [o'.hmac, o.hmac] at hm
  exact macInput_inj o.hcap o'.hcap (hcr (Option.some.inj hm))

theorem decryptBytes_ok_iff {P : Prims} {f : KeyFile} {pw pt : Bytes} :
    decryptBytes P f pw = .ok pt ↔ ∃ o : Opening P f pw, o.pt = pt := by
  constructor
  · intro h
    rw [decryptBytes_eq] at h
    split at h
    · cases h
    · rename_i buf iv ct hg hcm
      have hs := checkMac_spec P f.crypto pw
      rw [hcm] at hs
      obtain ⟨⟨len, hk⟩, hcap, hiv, hct, hmac⟩ := hs
      exact ⟨{ buf := buf, len := len, iv := iv, ct := ct, pt := pt, hgate := hg, hkdf := hk, hcap := hcap,
               hiv := hiv, hct := hct, hmac := hmac, hplain := h }, rfl⟩
    · cases h
    · cases h
  · rintro ⟨o, rfl⟩
    rw [decryptBytes_eq, o.hgate, o.checkMac]
    exact o.hplain

theorem decryptBytes_sealedFile {P : Prims} {auth salt iv buf : Bytes} {n p : Int} {len : Nat} (d : Nat) (addr id : Bytes)
    (hp0 : 0 < p) (hk : P.kdf (.scrypt auth salt n scryptR p scryptDKLen) = .ok buf len) (hcap : 32 ≤ buf.length)
    (hiv : iv.length = 16) :
    decryptBytes P (sealedFile P d addr id salt iv n p buf) auth = .ok (paddedBigBytes d 32) := by
  have hkdf : getKDFKey P (sealedFile P d addr id salt iv n p buf).crypto auth = .ok (buf, len) := by
    rw [getKDFKey_scryptParams P _ auth salt n p hp0 rfl rfl, hk]; rfl
  exact decryptBytes_ok_iff.2
    ⟨{ buf := buf, len := len, iv := iv, ct := _, pt := _
       hgate := rfl
       hkdf := hkdf
       hcap := hcap
       hiv := hexDecode_hexEncode _
       hct := hexDecode_hexEncode _
       hmac := hexDecode_hexEncode _
       hplain := (plain_v3 P _ _ hiv).trans (congrArg Res.ok (xorStream_xorStream _ _ _)) }, rfl⟩

theorem decryptBytes_panic {P : Prims} {f : KeyFile} {pw : Bytes} (h : decryptBytes P f pw = .panic) :
    getKDFKey P f.crypto pw = .panic ∨ ∃ buf len, getKDFKey P f.crypto pw = .ok (buf, len) ∧ buf.length < 32 := by
  rw [decryptBytes_eq] at h
  split at h
  · cases h
  · exact absurd h (plain_ne_panic _ _ _ _ _)
  · cases h
  · rename_i hcm
    have hs := checkMac_spec P f.crypto pw
    rw [hcm] at hs
    exact hs

theorem decryptKey_ok_iff {P : Prims} {f : KeyFile} {pw : Bytes} {k : Key} :
    decryptKey P f pw = .ok k ↔ ∃ pt, decryptBytes P f pw = .ok pt ∧
      (f.address = [] ∨ fileAddr f.address = some (P.addrOf (scalarOfBytes pt))) ∧ k = ⟨scalarOfBytes pt, P.addrOf (scalarOfBytes pt)⟩ := by
  unfold decryptKey
  cases decryptBytes P f pw with
  | ok pt =>
    simp only [Res.ok.injEq, exists_eq_left']
    split
    · rename_i hc
      simp only [reduceCtorEq, false_iff, not_and]
      intro h
      rcases h with h | h
      · exact absurd h hc.1
      · exact absurd h hc.2
    · rename_i hc
      simp only [Res.ok.injEq, eq_comm (a := k), iff_and_self]
      intro _
      by_cases h0 : f.address = []
      · exact Or.inl h0
      · exact Or.inr (Decidable.not_not.1 fun h1 => hc ⟨h0, h1⟩)
  | err e => simp
  | panic => simp

/-- DecryptKey reads "address" only in its final comparison. -/
theorem decryptBytes_address (P : Prims) (f : KeyFile) (pw a : Bytes) :
    decryptBytes P { f with address := a } pw = decryptBytes P f pw := rfl

/-- … so without the field whatever decrypts is handed out. -/
theorem decryptKey_no_address {P : Prims} {f : KeyFile} {pw pt : Bytes} (h : decryptBytes P f pw = .ok pt) :
    decryptKey P { f with address := [] } pw = .ok ⟨scalarOfBytes pt, P.addrOf (scalarOfBytes pt)⟩ :=
  decryptKey_ok_iff.2 ⟨pt, (decryptBytes_address P f pw []).trans h, Or.inl rfl, rfl⟩

theorem decryptKey_ok_opening {P : Prims} {f : KeyFile} {pw : Bytes} {k : Key} (h : decryptKey P f pw = .ok k) :
    ∃ o : Opening P f pw, k = ⟨scalarOfBytes o.pt, P.addrOf (scalarOfBytes o.pt)⟩ := by
  obtain ⟨pt, hpt, -, hk⟩ := decryptKey_ok_iff.1 h
  obtain ⟨o, rfl⟩ := decryptBytes_ok_iff.1 hpt
  exact ⟨o, hk⟩

theorem decryptKey_corrupted {P : Prims} {f : KeyFile} {auth pt : Bytes} (h : decryptBytes P f auth = .ok pt)
    (h0 : f.address ≠ []) (h1 : fileAddr f.address ≠ some (P.addrOf (scalarOfBytes pt))) :
    decryptKey P f auth = .err .corrupted := by
  unfold decryptKey; rw [h]
  simp only
  rw [if_pos ⟨h0, h1⟩]

theorem decryptKey_err {P : Prims} {f : KeyFile} {auth : Bytes} {e : Err} (h : decryptBytes P f auth = .err e) :
    decryptKey P f auth = .err e := by
  unfold decryptKey; rw [h]

theorem decryptKey_panic {P : Prims} {f : KeyFile} {auth : Bytes} (h : decryptKey P f auth = .panic) :
    decryptBytes P f auth = .panic := by
  unfold decryptKey at h
  split at h
  · cases h
  · assumption
  · simp only at h
    split at h <;> cases h

theorem decryptKey_addr {P : Prims} {f : KeyFile} {pw : Bytes} {k : Key} (h : decryptKey P f pw = .ok k) :
    k.addr = P.addrOf k.d := by
  obtain ⟨pt, _, _, rfl⟩ := decryptKey_ok_iff.1 h
  rfl

theorem key_eq_of_addr {P : Prims} {k k' : Key} (h : k.addr = P.addrOf k.d) (h' : k'.addr = P.addrOf k'.d)
    (e : k'.addr = k.addr) (hinj : P.addrOf k'.d = P.addrOf k.d → k'.d = k.d) : k' = k := by
  have hd : k'.d = k.d := hinj (by rw [← h', ← h, e])
  cases k; cases k'
  simp only at hd e
  subst hd e
  rfl

theorem getKey_of_ok {P : Prims} {f : KeyFile} {pw : Bytes} {k : Key} (a : Bytes) (h : decryptKey P f pw = .ok k) :
    getKey P a f pw = if k.addr ≠ a then .err .mismatch else .ok k := by
  unfold getKey
  rw [h]

theorem getKey_ok_iff (P : Prims) (a : Bytes) (f : KeyFile) (pw : Bytes) (k : Key) :
    getKey P a f pw = .ok k ↔ decryptKey P f pw = .ok k ∧ k.addr = a := by
  cases hd : decryptKey P f pw with
  | ok k0 =>
    rw [getKey_of_ok a hd]
    simp only [Res.ok.injEq]
    split
    · rename_i hne
      simp only [reduceCtorEq, false_iff, not_and]
      intro h; subst h; exact hne
    · rename_i he
      simp only [Res.ok.injEq]
      exact ⟨fun h => ⟨h, h ▸ Decidable.not_not.1 he⟩, And.left⟩
  | err e => simp [getKey, hd]
  | panic => simp [getKey, hd]

theorem getKey_panic {P : Prims} {a : Bytes} {f : KeyFile} {pw : Bytes} (h : getKey P a f pw = .panic) :
    decryptKey P f pw = .panic := by
  unfold getKey at h
  split at h
  · split at h <;> cases h
  · exact h

theorem importAccount_ok_iff {P : Prims} {f : KeyFile} {pw a : Bytes} :
    importAccount P f pw = .ok a ↔ ∃ k, decryptKey P f pw = .ok k ∧ k.addr = a := by
  unfold importAccount
  cases decryptKey P f pw <;> simp

theorem importAccount_err {P : Prims} {f : KeyFile} {pw : Bytes} {e : Err} (h : decryptKey P f pw = .err e) :
    importAccount P f pw = .err e := by
  unfold importAccount; rw [h]

theorem importAccount_panic {P : Prims} {f : KeyFile} {pw : Bytes} (h : importAccount P f pw = .panic) :
    decryptKey P f pw = .panic := by
  unfold importAccount at h
  split at h
  · cases h
  · cases h
  · assumption

theorem KsState.step_unlock (P : Prims) (s : KsState) (a pw : Bytes) (timed : Bool) :
    s.step P (.unlock a pw timed) = s ∨
    ∃ f k, s.store a = some f ∧ getKey P a f pw = .ok k ∧ (∀ k0, s.unlocked a ≠ some (k0, false)) ∧
      s.step P (.unlock a pw timed) = { s with unlocked := fun x => if x = a then some (k, timed) else s.unlocked x } := by
  simp only [KsState.step]
  cases hst : s.store a with
  | none => exact Or.inl rfl
  | some f =>
    simp only [Option.map_some]
    cases hg : getKey P a f pw with
    | ok k =>
      rcases hu : s.unlocked a with _ | ⟨k0, _ | _⟩
      · exact Or.inr ⟨f, k, rfl, hg, nofun, rfl⟩
      · exact Or.inl rfl
      · exact Or.inr ⟨f, k, rfl, hg, nofun, rfl⟩
    | err e => exact Or.inl rfl
    | panic => exact Or.inl rfl

/-- Update rewrites the account's file only with one that opens, under the new passphrase, to the key the old file opened to. -/
theorem KsState.step_update (P : Prims) (s : KsState) (a pwOld pwNew : Bytes) (fNew : KeyFile) :
    s.step P (.update a pwOld pwNew fNew) = s ∨
    ∃ f k, s.store a = some f ∧ getKey P a f pwOld = .ok k ∧ getKey P a fNew pwNew = .ok k ∧
      s.step P (.update a pwOld pwNew fNew) = { s with store := fun x => if x = a then some fNew else s.store x } := by
  simp only [KsState.step]
  cases hst : s.store a with
  | none => exact Or.inl rfl
  | some f =>
    simp only [Option.map_some]
    cases hg : getKey P a f pwOld with
    | ok k =>
      dsimp only
      by_cases hn : getKey P a fNew pwNew = .ok k
      · rw [if_pos hn]
        exact Or.inr ⟨f, k, rfl, hg, hn, rfl⟩
      · rw [if_neg hn]
        exact Or.inl rfl
    | err e => exact Or.inl rfl
    | panic => exact Or.inl rfl

end Aqv.Keystore
