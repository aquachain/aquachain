/-
  Aqv.Lemmas.TrieLoadFast — the driver's executable shortcuts equal the specification-level functions (`commitDb`,
  `storeList` of Model.TrieLoad; `loadP` of Model.TrieProof).
-/
import Aqv.Model.TrieLoadFast
namespace Aqv.Trie
open Aqv Aqv.Rlp

theorem storePass_spec (H : Bytes → Bytes) (x : PNode) :
    (storePass H x).1 = refX H x ∧ (storePass H x).2 = storeList H x := by
  induction x with
  | nil => exact ⟨rfl, rfl⟩
  | value v => exact ⟨rfl, rfl⟩
  | hash h => exact ⟨rfl, rfl⟩
  | short k c ih =>
    simp only [storePass, refX, storeList, bodyX, wrap, ih.1, ih.2]
    by_cases h : 32 ≤ (enc (Item.list [Item.str (hexToCompact k), refX H c])).length
    · simp [h, Nat.not_lt.2 h]
    · simp [h, Nat.lt_of_not_le h]
  | full cs ih =>
    have h1 : (List.finRange 17).map (fun i => (storePass H (cs i)).1) = (List.finRange 17).map fun i => refX H (cs i) :=
      List.map_congr_left fun i _ => (ih i).1
    have h2 : (List.finRange 17).flatMap (fun i => (storePass H (cs i)).2) =
        (List.finRange 17).flatMap fun i => storeList H (cs i) :=
      by
        have : (fun i => (storePass H (cs i)).2) = fun i => storeList H (cs i) := funext fun i => (ih i).2
        rw [this]
    simp only [storePass, refX, storeList, bodyX, wrap, List.map_map, Function.comp_def, List.flatMap_map, h1, h2]
    by_cases h : 32 ≤ (enc (Item.list ((List.finRange 17).map fun i => refX H (cs i)))).length
    · simp [h, Nat.not_lt.2 h]
    · simp [h, Nat.lt_of_not_le h]

theorem dbFun_insertIfNew (m : DbMap) (kv : Bytes × Bytes) :
    dbFun (m.insertIfNew kv.1 kv.2) = dbInsert (dbFun m) kv := by
  funext h
  simp only [dbFun, dbInsert, Std.HashMap.getElem?_insertIfNew, beq_iff_eq]
  cases hm : m[h]? with
  | some b =>
    simp only
    rw [if_neg]
    intro ⟨e, hn⟩
    subst e
    exact hn (Std.HashMap.mem_iff_isSome_getElem?.2 (by rw [hm]; rfl))
  | none =>
    simp only
    by_cases e : kv.1 = h
    · subst e
      have : ¬ kv.1 ∈ m := by
        intro hin
        have := Std.HashMap.mem_iff_isSome_getElem?.1 hin
        rw [hm] at this; cases this
      simp [this]
    · have : ¬ h = kv.1 := fun e' => e e'.symm
      simp [e, this]

theorem foldl_insertIfNew (L : List (Bytes × Bytes)) : ∀ (m : DbMap),
    dbFun (L.foldl (fun m kv => m.insertIfNew kv.1 kv.2) m) = L.foldl dbInsert (dbFun m) :=
  fun _ => (List.foldl_hom dbFun fun m kv => (dbFun_insertIfNew m kv).symm).symm

theorem commitMap_spec (H : Bytes → Bytes) (m : DbMap) (x : PNode) :
    dbFun (commitMap H m x) = commitDb H (dbFun m) x := by
  cases x with
  | nil => rfl
  | value _ => rfl
  | hash _ => rfl
  | short k c =>
    simp only [commitMap, commitDb, foldl_insertIfNew, (storePass_spec H (.short k c)).2]
    rw [← dbFun_insertIfNew m (H (enc (bodyX H (.short k c))), enc (bodyX H (.short k c)))]
  | full cs =>
    simp only [commitMap, commitDb, foldl_insertIfNew, (storePass_spec H (.full cs)).2]
    rw [← dbFun_insertIfNew m (H (enc (bodyX H (.full cs))), enc (bodyX H (.full cs)))]

theorem finRange17_getD {β : Type} (g : Nib → β) (d : β) (i : Nib) :
    (((List.finRange 17).map g).toArray.getD i.val d) = g i := by
  have hlt : i.val < ((List.finRange 17).map g).toArray.size := by simp
  rw [Array.getD, dif_pos hlt]
  simp [List.getElem_finRange]

theorem loadFast_spec (db : Bytes → Option Bytes) : ∀ (f : Nat) (x : PNode), loadFast db f x = loadP db f x := by
  intro f
  induction f with
  | zero => intro x; rfl
  | succ f ih =>
    intro x
    cases x with
    | nil => rfl
    | value v => rfl
    | hash h =>
      simp only [loadFast, loadP]
      cases db h with
      | none => rfl
      | some blob =>
        simp only
        cases decodeNode (blob.length + 1) blob with
        | ok pn => exact ih pn
        | error _ => rfl
    | short k c => simp only [loadFast, loadP, ih]
    | full cs =>
      simp only [loadFast, loadP]
      have hall : (((List.finRange 17).map fun i => loadFast db f (cs i)).toArray.all (·.isSome)) =
          (List.finRange 17).all (fun i => (loadP db f (cs i)).isSome) := by
        simp [List.all_map, Function.comp_def, ih]
      rw [hall]
      split
      · congr 2
        funext i
        rw [finRange17_getD (fun i => loadFast db f (cs i)) none i, ih]
      · rfl

end Aqv.Trie
