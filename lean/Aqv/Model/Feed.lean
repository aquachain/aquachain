/-
  Aqv.Model.Feed — small-step transition system of `event.Feed` (aqua/event/feed.go) for property C19.
  Core Lean only (linked into the driver).

  Granularity.  One model step = the code a goroutine executes between two points at which the real code can be
  interleaved with other goroutines in an observable way: channel operations (`<-f.sendLock`, `f.sendLock <- …`,
  `TrySend`, `reflect.Select`, the `removeSub` rendezvous, receiver `<-ch`) and `f.mu` critical sections.  Everything a
  goroutine does between two such points touches only state it owns exclusively at that moment (locals, or
  `f.sendCases` while holding the `sendLock` token), so executing it atomically loses no behaviour.  The five `verif`
  yield points of DESIGN §2.3 sit exactly on such boundaries (noted on the program counters below).

  Identification.  A subscription is identified with its channel (`Chan`); `Subscribe` is only enabled for a channel
  that is not subscribed yet (subscribing one channel twice is outside the model).  Every `Send` call has its own id
  `Sid`, which is also the value it sends (values are unique per call, as in the harness).  `Unsubscribe` is called at
  most once per subscription (`feedSub.errOnce` makes later calls wait for the first and then return).

  State that exists in the Go program: `tokenFree` (sendLock holds its token), `inbox`, `sendCases` (= f.sendCases[1:],
  index 0 is the removeSub receive case), `active` (= len(cases)-1: `cases` is `f.sendCases[:active+1]`, sharing the
  backing array, which is why `deactivate` is a swap inside `sendCases`), per channel `cap/buf/waiting`, per Send call
  the program counter and the local `nsent`, per subscription the program counter of `remove`.
  Ghost state (history only, never read by a guard): `holder`, `subscribed`, `atCall`, `atRet`, `placed`, `rcvd`,
  `rank`, `nextRank`, `tr`.
-/
namespace Aqv.Feed

abbrev Chan := Nat
abbrev Sid := Nat

/-- program counter of one `Feed.Send` call -/
inductive SPc
  | idle                 -- not called yet
  | start                -- called, blocked in `<-f.sendLock`
  | locked               -- holds the token; next: lock f.mu, merge inbox            (verifYield 1)
  | sweep (i : Nat)      -- in the TrySend loop, next index `i+1`                     (verifYield 2 on entry)
  | sel                  -- in `reflect.Select(cases)`                                (verifYield 3)
  | removing (c : Chan)  -- Select returned case 0 with `recv = c`; next: find/delete
  | done (n : Nat)       -- returned `n`
  | panicked             -- `caseList.delete(-1)` (slice bounds) — proved unreachable
  deriving DecidableEq, Repr

/-- program counter of `feedSub.Unsubscribe` / `Feed.remove` for one subscription -/
inductive RPc
  | idle                 -- Unsubscribe not called yet
  | start                -- called; next: lock f.mu, look in the inbox
  | sel                  -- inbox miss; in `select { removeSub <- ch ; <-sendLock }`   (verifYield 4)
  | token                -- took the token; next: find/delete in sendCases
  | deleted              -- deleted; next: put the token back                          (verifYield 5)
  | done                 -- Unsubscribe returned
  | panicked             -- `delete(-1)` — proved unreachable
  deriving DecidableEq, Repr

inductive Holder
  | none | sender (g : Sid) | remover (c : Chan)
  deriving DecidableEq, Repr

/-- observable events (plus the ghost event `place`); the chronological list `St.tr` is the history. -/
inductive Ev
  | subRet (c : Chan)              -- Subscribe(c) returned (call and return surround one f.mu section)
  | sendCall (g : Sid)
  | sendRet (g : Sid) (n : Nat)
  | unsubCall (c : Chan)
  | unsubRet (c : Chan)
  | place (c : Chan) (g : Sid)     -- value g was put into channel c (TrySend succeeded / Select chose the case)
  | recv (c : Chan) (g : Sid)      -- the receiver of c took value g out of the channel
  deriving DecidableEq, Repr

def upd {α : Type} (f : Nat → α) (a : Nat) (v : α) : Nat → α := fun x => if x = a then v else f x

/-- exchange positions i and j (caseList.deactivate: `cs[index], cs[last] = cs[last], cs[index]`) -/
def swapAt (l : List Chan) (i j : Nat) : List Chan := (l.set i (l.getD j 0)).set j (l.getD i 0)

structure St where
  tokenFree : Bool
  inbox : List Chan
  sendCases : List Chan
  active : Nat
  cap : Chan → Nat
  buf : Chan → List Sid
  waiting : Chan → Nat
  spc : Sid → SPc
  nsent : Sid → Nat
  rpc : Chan → RPc
  -- ghost
  holder : Holder
  subscribed : Chan → Bool
  atCall : Sid → Chan → Bool      -- snapshot of `subscribed` when Send g was called
  atRet : Sid → Chan → Bool       -- snapshot of "Unsubscribe(c) has been called" when Send g returned
  placed : List (Chan × Sid)      -- chronological log of placements
  rcvd : Chan → List Sid          -- chronological log of what the receiver of c took
  rank : Sid → Nat                -- position of Send g in the order in which the token was acquired
  nextRank : Nat
  tr : List Ev

def init : St where
  tokenFree := true
  inbox := []
  sendCases := []
  active := 0
  cap := fun _ => 0
  buf := fun _ => []
  waiting := fun _ => 0
  spc := fun _ => .idle
  nsent := fun _ => 0
  rpc := fun _ => .idle
  holder := .none
  subscribed := fun _ => false
  atCall := fun _ _ => false
  atRet := fun _ _ => false
  placed := []
  rcvd := fun _ => []
  rank := fun _ => 0
  nextRank := 0
  tr := []

inductive Act
  | subscribe (c : Chan) (cap : Nat)
  | sendCall (g : Sid)
  | acquire (g : Sid)
  | merge (g : Sid)
  | tryOk (g : Sid)
  | tryFail (g : Sid)
  | sweepEnd (g : Sid)
  | selPlace (g : Sid) (i : Nat)
  | selRecv (g : Sid) (c : Chan)
  | doRemove (g : Sid)
  | unsubCall (c : Chan)
  | rmInbox (c : Chan)
  | rmToken (c : Chan)
  | rmDelete (c : Chan)
  | rmRelease (c : Chan)
  | recvBegin (c : Chan)
  | recvTake (c : Chan)
  deriving DecidableEq, Repr

/-- a send on channel c can complete now: free buffer slot, or a receiver is blocked in `<-c` with nothing queued for it -/
def canPlace (s : St) (c : Chan) : Bool := (s.buf c).length < s.cap c + s.waiting c

/-- Send g puts its value into `cases[i+1]` and deactivates that case (`nsent++; cases = cases.deactivate(i)`). -/
def place (s : St) (g : Sid) (i : Nat) (pc : SPc) : St :=
  let c := s.sendCases.getD i 0
  { s with buf := upd s.buf c (s.buf c ++ [g]), nsent := upd s.nsent g (s.nsent g + 1),
           sendCases := swapAt s.sendCases i (s.active - 1), active := s.active - 1,
           spc := upd s.spc g pc,
           placed := s.placed ++ [(c, g)], tr := s.tr ++ [.place c g] }

def step (s : St) : Act → Option St
  -- Feed.Subscribe: under f.mu, `f.inbox = append(f.inbox, cas)`
  | .subscribe c k =>
    if s.subscribed c = false then
      some { s with inbox := s.inbox ++ [c], cap := upd s.cap c k, subscribed := upd s.subscribed c true,
                    tr := s.tr ++ [.subRet c] }
    else none
  | .sendCall g =>
    if s.spc g = .idle then
      some { s with spc := upd s.spc g .start, atCall := upd s.atCall g s.subscribed, tr := s.tr ++ [.sendCall g] }
    else none
  -- `<-f.sendLock`
  | .acquire g =>
    if s.spc g = .start ∧ s.tokenFree = true then
      some { s with tokenFree := false, holder := .sender g, spc := upd s.spc g .locked, nsent := upd s.nsent g 0,
                    rank := upd s.rank g s.nextRank, nextRank := s.nextRank + 1 }
    else none
  -- under f.mu: `f.sendCases = append(f.sendCases, f.inbox...); f.inbox = nil`; then `cases := f.sendCases`
  | .merge g =>
    if s.spc g = .locked then
      some { s with sendCases := s.sendCases ++ s.inbox, inbox := [], active := (s.sendCases ++ s.inbox).length,
                    spc := upd s.spc g (.sweep 0) }
    else none
  -- `cases[i].Chan.TrySend(rvalue)` succeeds
  | .tryOk g =>
    match s.spc g with
    | .sweep i => if i < s.active ∧ canPlace s (s.sendCases.getD i 0) = true then some (place s g i (.sweep i)) else none
    | _ => none
  -- TrySend fails: `i++`
  | .tryFail g =>
    match s.spc g with
    | .sweep i =>
      if i < s.active ∧ canPlace s (s.sendCases.getD i 0) = false then some { s with spc := upd s.spc g (.sweep (i + 1)) }
      else none
    | _ => none
  -- loop exit `i >= len(cases)`: `if len(cases) == firstSubSendCase { break }` → clear, release the token, return
  | .sweepEnd g =>
    match s.spc g with
    | .sweep i =>
      if s.active ≤ i then
        if s.active = 0 then
          some { s with tokenFree := true, holder := .none, spc := upd s.spc g (.done (s.nsent g)),
                        atRet := upd s.atRet g (fun c => s.rpc c != .idle), tr := s.tr ++ [.sendRet g (s.nsent g)] }
        else some { s with spc := upd s.spc g .sel }
      else none
    | _ => none
  -- reflect.Select chooses send case i+1 (any ready case may be chosen); back to the top of the `for`
  | .selPlace g i =>
    if s.spc g = .sel ∧ i < s.active ∧ canPlace s (s.sendCases.getD i 0) = true then some (place s g i (.sweep 0)) else none
  -- reflect.Select chooses case 0: rendezvous on removeSub with the `remove` of c, which then returns
  | .selRecv g c =>
    if s.spc g = .sel ∧ s.rpc c = .sel then
      some { s with spc := upd s.spc g (.removing c), rpc := upd s.rpc c .done, tr := s.tr ++ [.unsubRet c] }
    else none
  -- `index := f.sendCases.find(recv); f.sendCases = f.sendCases.delete(index); if index >= 0 && index < len(cases) {…}`
  | .doRemove g =>
    match s.spc g with
    | .removing c =>
      let idx := s.sendCases.idxOf c
      if idx < s.sendCases.length then
        some { s with sendCases := s.sendCases.eraseIdx idx, active := if idx < s.active then s.active - 1 else s.active,
                      spc := upd s.spc g (.sweep 0) }
      else some { s with spc := upd s.spc g .panicked }
    | _ => none
  | .unsubCall c =>
    if s.subscribed c = true ∧ s.rpc c = .idle then some { s with rpc := upd s.rpc c .start, tr := s.tr ++ [.unsubCall c] }
    else none
  -- remove: under f.mu, `index := f.inbox.find(ch); if index != -1 { f.inbox = f.inbox.delete(index); return }`
  | .rmInbox c =>
    if s.rpc c = .start then
      let idx := s.inbox.idxOf c
      if idx < s.inbox.length then
        some { s with inbox := s.inbox.eraseIdx idx, rpc := upd s.rpc c .done, tr := s.tr ++ [.unsubRet c] }
      else some { s with rpc := upd s.rpc c .sel }
    else none
  -- remove: `case <-f.sendLock:`
  | .rmToken c =>
    if s.rpc c = .sel ∧ s.tokenFree = true then
      some { s with tokenFree := false, holder := .remover c, rpc := upd s.rpc c .token }
    else none
  -- `f.sendCases = f.sendCases.delete(f.sendCases.find(ch))`
  | .rmDelete c =>
    if s.rpc c = .token then
      let idx := s.sendCases.idxOf c
      if idx < s.sendCases.length then some { s with sendCases := s.sendCases.eraseIdx idx, rpc := upd s.rpc c .deleted }
      else some { s with rpc := upd s.rpc c .panicked }
    else none
  -- `f.sendLock <- struct{}{}`; remove and Unsubscribe return
  | .rmRelease c =>
    if s.rpc c = .deleted then
      some { s with tokenFree := true, holder := .none, rpc := upd s.rpc c .done, tr := s.tr ++ [.unsubRet c] }
    else none
  -- a receiver arrives at `<-c`
  | .recvBegin c => some { s with waiting := upd s.waiting c (s.waiting c + 1) }
  -- … and takes the oldest queued value
  | .recvTake c =>
    match s.buf c with
    | v :: rest =>
      if 0 < s.waiting c then
        some { s with buf := upd s.buf c rest, waiting := upd s.waiting c (s.waiting c - 1),
                      rcvd := upd s.rcvd c (s.rcvd c ++ [v]), tr := s.tr ++ [.recv c v] }
      else none
    | [] => none

/-- run a schedule (list of actions); `none` if some action is not enabled. -/
def run (s : St) : List Act → Option St
  | [] => some s
  | a :: as => match step s a with
    | some s' => run s' as
    | none => none

/-- states reachable from `init` under ANY interleaving of any number of Send / Subscribe / Unsubscribe calls and receivers -/
inductive Reach : St → Prop
  | init : Reach init
  | step {s s' : St} (a : Act) : Reach s → step s a = some s' → Reach s'

theorem reach_run {s s' : St} (h : Reach s) : ∀ {as : List Act}, run s as = some s' → Reach s' := by
  intro as
  induction as generalizing s with
  | nil => intro e; cases e; exact h
  | cons a as ih =>
    intro e
    simp only [run] at e
    split at e
    · next s1 h1 => exact ih (Reach.step a h h1) e
    · cases e

/-- values placed into channel c, in order -/
def placedOn (s : St) (c : Chan) : List Sid := (s.placed.filter (fun p => p.1 == c)).map (·.2)

/-- number of placements made by Send g -/
def placedBy (s : St) (g : Sid) : Nat := s.placed.countP (fun p => p.2 == g)

/-- the part of `sendCases` that `cases` still covers -/
def activeCases (s : St) : List Chan := s.sendCases.take s.active


/-! ### Vocabulary for statements about the chronological history `tr` -/

/-- some occurrence of `a` strictly precedes some occurrence of `b` -/
def Before (tr : List Ev) (a b : Ev) : Prop := List.Sublist [a, b] tr

/-- the placements recorded in a history, in order -/
def placesOf (tr : List Ev) : List (Chan × Sid) :=
  tr.filterMap (fun e => match e with | .place c g => some (c, g) | _ => none)

/-- what the receiver of `c` took, in order -/
def recvsOf (c : Chan) (tr : List Ev) : List Sid :=
  tr.filterMap (fun e => match e with | .recv c' g => if c' = c then some g else none | _ => none)

/-- what was put into `c`, in order -/
def placesOn (c : Chan) (tr : List Ev) : List Sid :=
  tr.filterMap (fun e => match e with | .place c' g => if c' = c then some g else none | _ => none)

/-- number of placements made by Send g -/
def placesBy (g : Sid) (tr : List Ev) : Nat :=
  tr.countP (fun e => match e with | .place _ g' => g' == g | _ => false)

end Aqv.Feed
