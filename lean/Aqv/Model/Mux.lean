/-
  Aqv.Model.Mux — small-step model of `event.TypeMux` (aqua/event/event.go: Subscribe, Post, Stop, del/posdelete,
  TypeMuxSubscription.Unsubscribe/closewait/deliver), core Lean only.

  Memory.  `mux.subm[typ]` is a Go slice: a window `(array, len)` onto a backing array.  `Post` copies the slice HEADER
  under RLock and then iterates it without the lock, so whether a later `del` allocates a fresh array (as the code does:
  `posdelete` = make + copy, and Subscribe = make + copy + append) or compacts in place matters.  The model therefore has
  a heap of arrays; `step false` is the code as written (fresh arrays), `step true` is the in-place variant
  `append(slice[:pos], slice[pos+1:]...)`, used only for the witness that it breaks the property.

  Granularity.  Every `mux.mutex` section is one step except Stop's (it holds the write lock while it closes every
  subscription, one closewait at a time); `closewait` is two steps (set `closed`/close `closing` under closeMu; then, once
  no `deliver` holds `postMu.RLock`, close `postC` and set it nil); `Post` iterates its snapshot one element at a time:
  read the element, enter `deliver` (stale-event check, `postMu.RLock`), then either hand the event to the reader (the
  channel is unbuffered: delivery = receipt) or leave through the `closing` case.
  Simplifications (stated): a subscription has ONE type (the harness uses several); one Unsubscribe per subscription;
  one Stop.  Readers are the environment: a hand-off is possible whenever the channel has not been closed.
-/
namespace Aqv.Mux

abbrev Sub := Nat
abbrev Pid := Nat
abbrev Ty := Nat

inductive SPc | idle | made | registered
  deriving DecidableEq, Repr

/-- Unsubscribe: `s.mux.del(s); s.closewait()` -/
inductive UPc | idle | called | deleted | closing | done
  deriving DecidableEq, Repr

/-- Post -/
inductive PPc
  | idle | called
  | deliv (i : Nat)        -- top of `for _, sub := range subs`, next index i
  | inDeliver (i : Nat)    -- inside `subs[i].deliver(event)`, holding postMu.RLock, blocked in the select
  | done (ok : Bool)       -- returned nil (true) / ErrMuxClosed (false)
  deriving DecidableEq, Repr

inductive StopPc | idle | called | running (todo : List Sub) | closingSub (c : Sub) (todo : List Sub) | done
  deriving DecidableEq, Repr

inductive Ev
  | subRet (c : Sub) (t : Ty) | unsubCall (c : Sub) | unsubRet (c : Sub)
  | postCall (p : Pid) (t : Ty) | postRet (p : Pid) (ok : Bool)
  | stopCall | stopRet
  | deliver (c : Sub) (p : Pid)      -- the reader of c received event p
  deriving DecidableEq, Repr

def upd {α : Type} (f : Nat → α) (a : Nat) (v : α) : Nat → α := fun x => if x = a then v else f x

structure St where
  clock : Nat
  stopped : Bool
  stopping : Bool                  -- Stop holds mux.mutex for writing
  subm : Ty → Nat × Nat            -- slice header per type: (array, len); (0, 0) = no entry
  heap : Nat → List Sub            -- backing arrays; array 0 is the empty one
  nextArr : Nat
  live : List Sub                  -- subscriptions currently in some list of subm (what Stop iterates over)
  -- subscriptions
  spc : Sub → SPc
  sty : Sub → Ty
  created : Sub → Nat
  closed : Sub → Bool              -- `s.closed` / `closing` closed
  postNil : Sub → Bool             -- postC closed and set to nil
  closeMu : Sub → Bool             -- closeMu held (a closewait is between its two steps)
  inflight : Sub → Nat             -- number of `deliver` calls holding postMu.RLock
  upc : Sub → UPc
  -- posts
  ppc : Pid → PPc
  pty : Pid → Ty
  evtime : Pid → Nat
  snap : Pid → Nat × Nat           -- the copied slice header
  cur : Pid → Sub                  -- the loop variable `sub`
  stop : StopPc
  -- ghost
  snapL : Pid → List Sub           -- contents of the snapshot when it was taken
  tr : List Ev

def init : St where
  clock := 0
  stopped := false
  stopping := false
  subm := fun _ => (0, 0)
  heap := fun _ => []
  nextArr := 1
  live := []
  spc := fun _ => .idle
  sty := fun _ => 0
  created := fun _ => 0
  closed := fun _ => false
  postNil := fun _ => false
  closeMu := fun _ => false
  inflight := fun _ => 0
  upc := fun _ => .idle
  ppc := fun _ => .idle
  pty := fun _ => 0
  evtime := fun _ => 0
  snap := fun _ => (0, 0)
  cur := fun _ => 0
  stop := .idle
  snapL := fun _ => []
  tr := []

inductive Act
  | tick
  | subNew (c : Sub) (t : Ty)
  | subReg (c : Sub)
  | postCall (p : Pid) (t : Ty)
  | postSnap (p : Pid)
  | postNext (p : Pid)
  | deliverSend (p : Pid)
  | deliverSkip (p : Pid)
  | unsubCall (c : Sub)
  | unsubDel (c : Sub)
  | cwBegin (c : Sub)
  | cwEnd (c : Sub)
  | stopCall
  | stopBegin
  | stopCwBegin (c : Sub)
  | stopCwEnd
  | stopEnd
  deriving DecidableEq, Repr

/-- contents of a slice -/
def sliceOf (s : St) (h : Nat × Nat) : List Sub := (s.heap h.1).take h.2

def step (inplace : Bool) (s : St) : Act → Option St
  | .tick => some { s with clock := s.clock + 1 }
  -- newsub: `created: time.Now()`
  | .subNew c t =>
    if s.spc c = .idle then some { s with spc := upd s.spc c .made, sty := upd s.sty c t, created := upd s.created c s.clock }
    else none
  -- Subscribe under mux.mutex.Lock: closed at once if the mux is stopped, else `subs := make(len+1); copy; subs[len] = sub`
  | .subReg c =>
    if s.spc c = .made ∧ s.stopping = false then
      if s.stopped = true then
        some { s with spc := upd s.spc c .registered, closed := upd s.closed c true, postNil := upd s.postNil c true,
                      tr := s.tr ++ [.subRet c (s.sty c)] }
      else
        let h := s.subm (s.sty c)
        some { s with spc := upd s.spc c .registered,
                      heap := upd s.heap s.nextArr (sliceOf s h ++ [c]), subm := upd s.subm (s.sty c) (s.nextArr, h.2 + 1),
                      nextArr := s.nextArr + 1, live := s.live ++ [c], tr := s.tr ++ [.subRet c (s.sty c)] }
    else none
  -- Post: `event.Time = time.Now()`
  | .postCall p t =>
    if s.ppc p = .idle then
      some { s with ppc := upd s.ppc p .called, pty := upd s.pty p t, evtime := upd s.evtime p s.clock, tr := s.tr ++ [.postCall p t] }
    else none
  -- under RLock: `if mux.stopped { return ErrMuxClosed }; subs := mux.subm[rtyp]`
  | .postSnap p =>
    if s.ppc p = .called ∧ s.stopping = false then
      if s.stopped = true then some { s with ppc := upd s.ppc p (.done false), tr := s.tr ++ [.postRet p false] }
      else some { s with ppc := upd s.ppc p (.deliv 0), snap := upd s.snap p (s.subm (s.pty p)),
                         snapL := upd s.snapL p (sliceOf s (s.subm (s.pty p))) }
    else none
  -- `for _, sub := range subs { sub.deliver(event) }`: read subs[i]; deliver: stale check, then postMu.RLock
  | .postNext p =>
    match s.ppc p with
    | .deliv i =>
      if i < (s.snap p).2 then
        let c := (s.heap (s.snap p).1).getD i 0
        if s.evtime p < s.created c then some { s with ppc := upd s.ppc p (.deliv (i + 1)), cur := upd s.cur p c }
        else some { s with ppc := upd s.ppc p (.inDeliver i), cur := upd s.cur p c, inflight := upd s.inflight c (s.inflight c + 1) }
      else some { s with ppc := upd s.ppc p (.done true), tr := s.tr ++ [.postRet p true] }
    | _ => none
  -- `case s.postC <- event:` — the reader takes it (impossible once postC is nil)
  | .deliverSend p =>
    match s.ppc p with
    | .inDeliver i =>
      if s.postNil (s.cur p) = false then
        some { s with ppc := upd s.ppc p (.deliv (i + 1)), inflight := upd s.inflight (s.cur p) (s.inflight (s.cur p) - 1),
                      tr := s.tr ++ [.deliver (s.cur p) p] }
      else none
    | _ => none
  -- `case <-s.closing:`
  | .deliverSkip p =>
    match s.ppc p with
    | .inDeliver i =>
      if s.closed (s.cur p) = true then
        some { s with ppc := upd s.ppc p (.deliv (i + 1)), inflight := upd s.inflight (s.cur p) (s.inflight (s.cur p) - 1) }
      else none
    | _ => none
  | .unsubCall c =>
    if s.spc c = .registered ∧ s.upc c = .idle then some { s with upc := upd s.upc c .called, tr := s.tr ++ [.unsubCall c] }
    else none
  -- mux.del under Lock: `if pos := find(subs, s); pos >= 0 { if len(subs) == 1 { delete } else { subm[typ] = posdelete(subs, pos) } }`
  | .unsubDel c =>
    if s.upc c = .called ∧ s.stopping = false then
      let h := s.subm (s.sty c)
      let l := sliceOf s h
      let pos := l.idxOf c
      if pos < l.length then
        if l.length = 1 then
          some { s with upc := upd s.upc c .deleted, subm := upd s.subm (s.sty c) (0, 0), live := s.live.erase c }
        else if inplace then
          -- append(slice[:pos], slice[pos+1:]...): shifts the tail left inside the SAME array; the old last slot keeps its value
          some { s with upc := upd s.upc c .deleted,
                        heap := upd s.heap h.1 (l.eraseIdx pos ++ (s.heap h.1).drop (h.2 - 1)),
                        subm := upd s.subm (s.sty c) (h.1, h.2 - 1), live := s.live.erase c }
        else
          -- posdelete: `news := make(len-1); copy(news[:pos], slice[:pos]); copy(news[pos:], slice[pos+1:])`
          some { s with upc := upd s.upc c .deleted,
                        heap := upd s.heap s.nextArr (l.eraseIdx pos), subm := upd s.subm (s.sty c) (s.nextArr, h.2 - 1),
                        nextArr := s.nextArr + 1, live := s.live.erase c }
      else some { s with upc := upd s.upc c .deleted }
    else none
  -- closewait (from Unsubscribe): closeMu; `if s.closed { return }; close(s.closing); s.closed = true`
  | .cwBegin c =>
    if s.upc c = .deleted ∧ s.closeMu c = false then
      if s.closed c = true then some { s with upc := upd s.upc c .done, tr := s.tr ++ [.unsubRet c] }
      else some { s with upc := upd s.upc c .closing, closed := upd s.closed c true, closeMu := upd s.closeMu c true }
    else none
  -- `s.postMu.Lock()` (waits for every deliver to leave); `close(s.postC); s.postC = nil`; return
  | .cwEnd c =>
    if s.upc c = .closing ∧ s.inflight c = 0 then
      some { s with upc := upd s.upc c .done, postNil := upd s.postNil c true, closeMu := upd s.closeMu c false,
                    tr := s.tr ++ [.unsubRet c] }
    else none
  | .stopCall => if s.stop = .idle then some { s with stop := .called, tr := s.tr ++ [.stopCall] } else none
  -- Stop: mux.mutex.Lock(); then closewait on every subscription of every list
  | .stopBegin =>
    if s.stop = .called ∧ s.stopping = false then some { s with stopping := true, stop := .running s.live } else none
  | .stopCwBegin c =>
    match s.stop with
    | .running todo =>
      if c ∈ todo ∧ s.closeMu c = false then
        if s.closed c = true then some { s with stop := .running (todo.erase c) }
        else some { s with stop := .closingSub c (todo.erase c), closed := upd s.closed c true, closeMu := upd s.closeMu c true }
      else none
    | _ => none
  | .stopCwEnd =>
    match s.stop with
    | .closingSub c todo =>
      if s.inflight c = 0 then
        some { s with stop := .running todo, postNil := upd s.postNil c true, closeMu := upd s.closeMu c false }
      else none
    | _ => none
  -- `mux.subm = nil; mux.stopped = true; mux.mutex.Unlock()`
  | .stopEnd =>
    match s.stop with
    | .running todo =>
      if todo = [] then
        some { s with stop := .done, subm := fun _ => (0, 0), live := [], stopped := true, stopping := false, tr := s.tr ++ [.stopRet] }
      else none
    | _ => none

def run (inplace : Bool) (s : St) : List Act → Option St
  | [] => some s
  | a :: as => match step inplace s a with
    | some s' => run inplace s' as
    | none => none

/-- reachable states of the code as written (fresh arrays) under ANY interleaving -/
inductive Reach : St → Prop
  | init : Reach init
  | step {s s' : St} (a : Act) : Reach s → step false s a = some s' → Reach s'

theorem reach_run {s s' : St} (h : Reach s) : ∀ {as : List Act}, run false s as = some s' → Reach s' := by
  intro as
  induction as generalizing s with
  | nil => rintro ⟨⟩; exact h
  | cons a as ih =>
    intro e
    simp only [run] at e
    split at e
    · exact ih (Reach.step a h ‹_›) e
    · cases e

def Before (tr : List Ev) (a b : Ev) : Prop := List.Sublist [a, b] tr

/-- the deliveries recorded in a history, in order -/
def delivs (tr : List Ev) : List (Sub × Pid) :=
  tr.filterMap (fun e => match e with | .deliver c p => some (c, p) | _ => none)

end Aqv.Mux
