/-
  Aqv.Model.Scope — small-step model of `event.SubscriptionScope` (aqua/event/subscription.go: Track, Close, Count,
  scopeSub.Unsubscribe), core Lean only.

  `sc.mu` is explicit: Track, Count and the `delete` at the end of scopeSub.Unsubscribe are lock–op–unlock sections (one
  step each); Close holds `sc.mu` from its entry until it has called `Unsubscribe` on every tracked subscription (one step
  per subscription, in ANY order — Go iterates over a map) and set `sc.subs = nil` (`step false`, the code as written;
  `step true` is the variant that releases `sc.mu` before unsubscribing, used only for a witness).  An inner subscription is identified
  with the wrapper that Track returns for it; each inner subscription is offered to Track once and each wrapper's
  Unsubscribe is called at most once (further calls only repeat idempotent operations).  The inner `Unsubscribe` is the
  feed's (Aqv.Model.Feed: it returns, `remove_terminates`; `errOnce` makes repeated calls no-ops) and is a single step here.
-/
namespace Aqv.Scope

abbrev Sub := Nat
abbrev Cid := Nat

/-- program counter of one `Close` call -/
inductive CPc
  | idle | called | running (todo : List Sub) | done
  deriving DecidableEq, Repr

/-- program counter of one wrapper's `Unsubscribe` -/
inductive WPc
  | idle | inner | wait | done      -- `inner`: about to call s.s.Unsubscribe(); `wait`: about to lock sc.mu and delete
  deriving DecidableEq, Repr

inductive Ev
  | trackOk (i : Sub)       -- Track(i) returned a wrapper
  | trackNil (i : Sub)      -- Track(i) returned nil
  | closeCall (k : Cid)
  | closeRet (k : Cid)
  | unsub (i : Sub)         -- the inner Unsubscribe of i returned
  | wrapCall (i : Sub)
  | wrapRet (i : Sub)
  | count (n : Nat)         -- Count() returned n
  deriving DecidableEq, Repr

def upd {α : Type} (f : Nat → α) (a : Nat) (v : α) : Nat → α := fun x => if x = a then v else f x

structure St where
  muFree : Bool
  closed : Bool
  subs : List Sub
  cpc : Cid → CPc
  wpc : Sub → WPc
  -- ghost
  closer : Option Cid
  offered : Sub → Bool
  tracked : Sub → Bool
  unsubbed : Sub → Bool
  tr : List Ev

def init : St where
  muFree := true
  closed := false
  subs := []
  cpc := fun _ => .idle
  wpc := fun _ => .idle
  closer := none
  offered := fun _ => false
  tracked := fun _ => false
  unsubbed := fun _ => false
  tr := []

inductive Act
  | track (i : Sub)
  | closeCall (k : Cid)
  | closeEnter (k : Cid)
  | closeStep (k : Cid) (i : Sub)
  | closeExit (k : Cid)
  | wrapCall (i : Sub)
  | wrapInner (i : Sub)
  | wrapDelete (i : Sub)
  | count
  deriving DecidableEq, Repr

def step (early : Bool) (s : St) : Act → Option St
  -- Track: `sc.mu.Lock(); if sc.closed { return nil }; …; sc.subs[ss] = struct{}{}; return ss`
  | .track i =>
    if s.muFree = true ∧ s.offered i = false then
      if s.closed = true then some { s with offered := upd s.offered i true, tr := s.tr ++ [.trackNil i] }
      else some { s with offered := upd s.offered i true, tracked := upd s.tracked i true, subs := s.subs ++ [i],
                         tr := s.tr ++ [.trackOk i] }
    else none
  | .closeCall k =>
    if s.cpc k = .idle then some { s with cpc := upd s.cpc k .called, tr := s.tr ++ [.closeCall k] } else none
  -- Close: `sc.mu.Lock(); if sc.closed { return }; sc.closed = true; for s := range sc.subs {`
  | .closeEnter k =>
    if s.cpc k = .called ∧ s.muFree = true then
      if s.closed = true then some { s with cpc := upd s.cpc k .done, tr := s.tr ++ [.closeRet k] }
      else if early then
        -- seeded variant C19-9: `sc.closed = true; subs := sc.subs; sc.subs = nil; sc.mu.Unlock()` and unsubscribe afterwards
        some { s with closed := true, subs := [], cpc := upd s.cpc k (.running s.subs) }
      else some { s with muFree := false, closed := true, closer := some k, cpc := upd s.cpc k (.running s.subs) }
    else none
  -- `s.s.Unsubscribe()` for some not yet visited key of the map
  | .closeStep k i =>
    match s.cpc k with
    | .running todo =>
      if i ∈ todo then
        some { s with cpc := upd s.cpc k (.running (todo.erase i)), unsubbed := upd s.unsubbed i true, tr := s.tr ++ [.unsub i] }
      else none
    | _ => none
  -- `}; sc.subs = nil; sc.mu.Unlock()`
  | .closeExit k =>
    match s.cpc k with
    | .running todo =>
      if todo = [] then
        if early then some { s with cpc := upd s.cpc k .done, tr := s.tr ++ [.closeRet k] }
        else some { s with subs := [], muFree := true, closer := none, cpc := upd s.cpc k .done, tr := s.tr ++ [.closeRet k] }
      else none
    | _ => none
  | .wrapCall i =>
    if s.tracked i = true ∧ s.wpc i = .idle then some { s with wpc := upd s.wpc i .inner, tr := s.tr ++ [.wrapCall i] }
    else none
  -- scopeSub.Unsubscribe: `s.s.Unsubscribe()`
  | .wrapInner i =>
    if s.wpc i = .inner then
      some { s with wpc := upd s.wpc i .wait, unsubbed := upd s.unsubbed i true, tr := s.tr ++ [.unsub i] }
    else none
  -- `s.sc.mu.Lock(); delete(s.sc.subs, s); s.sc.mu.Unlock()`
  | .wrapDelete i =>
    if s.wpc i = .wait ∧ s.muFree = true then
      some { s with subs := s.subs.erase i, wpc := upd s.wpc i .done, tr := s.tr ++ [.wrapRet i] }
    else none
  -- Count: `sc.mu.Lock(); return len(sc.subs)`
  | .count => if s.muFree = true then some { s with tr := s.tr ++ [.count s.subs.length] } else none

def run (early : Bool) (s : St) : List Act → Option St
  | [] => some s
  | a :: as => match step early s a with
    | some s' => run early s' as
    | none => none

inductive Reach : St → Prop
  | init : Reach init
  | step {s s' : St} (a : Act) : Reach s → step false s a = some s' → Reach s'

theorem reach_run {s s' : St} (h : Reach s) : ∀ {as : List Act}, run false s as = some s' → Reach s' := by
  intro as
  induction as generalizing s with
  | nil => rintro ⟨⟩; exact h
  | cons a as ih =>
    intro e
    simp only [run] at e
    split at e
    · exact ih (Reach.step a h ‹_›) e
    · cases e

/-- some occurrence of `a` strictly precedes some occurrence of `b` in the history -/
def Before (tr : List Ev) (a b : Ev) : Prop := List.Sublist [a, b] tr

end Aqv.Scope
