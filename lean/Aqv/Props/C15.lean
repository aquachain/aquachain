/-
  Aqv.Props.C15 — "The pool's pending transactions are always executable, in order and bounded".

  Model: Aqv.Model.TxPool (txSortedMap/txList and the TxPool state machine of core/tx_list.go, core/tx_pool.go; the
  eviction policy is an oracle carried by every operation, so "for all ops" below means "under every resolution of the
  nondeterminism").  Spec: `Inv`, `Limits`, `ReplacementOK` in the model file — the clauses of the property statement.

  `Pool.step true`  = the code at HEAD (since commit c2af732 demoteUnexecutables postpones everything from the FIRST missing
  nonce on).  `inv_step` / `inv_reachable` are the full-strength invariant theorems for it.
  `Pool.step false` = the demotion before c2af732 (only a gap in FRONT of a pending list was detected), kept as
  documentation of the defect this property check found: `pre_c2af732_reset_gap_witness` (the statement was false,
  reproduced against the real code at the time) and `pre_c2af732_inv_step_partial` (it held on the histories in which no
  re-injection left a hole).  Likewise `removeTxG false` / `prefix_removeTx_witness` document the defect fixed by f30bc16.
  Sequential semantics under `pool.mu` only: data races are not expressible in this model (they are exercised by the
  harness with the race detector).
-/
import Aqv.Lemmas.TxPoolCount
import Aqv.Lemmas.TxPoolLimits
import Aqv.Lemmas.TxPricedLedger
import Aqv.Lemmas.TxSortedMap
namespace Aqv.Props.C15
open Aqv.TxPool

/-! ## list lemmas (txSortedMap / txList) -/

/-- txSortedMap.Ready on a sorted list whose nonces are all ≥ `start`: the ready part is a gap-free run starting exactly
    at `start`, it is a prefix of the list, and it is maximal — every remaining nonce lies strictly above the run. -/
theorem ready_is_maximal_run {start : Nat} {l : List Tx} (hs : Sorted l) (hge : ∀ t ∈ l, start ≤ t.nonce) :
    (ready start l).1 ++ (ready start l).2 = l ∧ IsRun start (ready start l).1 ∧
    (∀ t ∈ (ready start l).2, start + (ready start l).1.length < t.nonce ∨ ((ready start l).1 = [] ∧ start < t.nonce)) :=
  have h := ready_run_above hs hge
  ⟨ready_append start l, h.1, fun t ht => Or.inl (h.2 t ht)⟩

example : Sorted [⟨0,3,1,1,1⟩, ⟨0,4,1,1,1⟩, ⟨0,6,1,1,1⟩] ∧ (ready 3 [⟨0,3,1,1,1⟩, ⟨0,4,1,1,1⟩, ⟨0,6,1,1,1⟩]).1.length = 2 := by
  refine ⟨?_, by decide⟩
  unfold Sorted; decide

/-- txList.Filter in strict mode: of a gap-free run it keeps a gap-free run with the same start (the longest payable
    prefix); what it keeps is payable; the invalidated transactions lie above everything kept. -/
theorem filter_strict_keeps_prefix (l : TxL) (costLimit gasLimit c0 : Nat) (hst : l.strict = true)
    (hrun : IsRun c0 l.items) (hcaps : CapsOK l) :
    IsRun c0 (l.filter costLimit gasLimit).2.2.items ∧
    (∀ t ∈ (l.filter costLimit gasLimit).2.2.items, t.cost ≤ costLimit ∧ t.gas ≤ gasLimit) ∧
    (∀ t ∈ (l.filter costLimit gasLimit).2.1, ∀ u ∈ (l.filter costLimit gasLimit).2.2.items, u.nonce < t.nonce) ∧
    (∀ t ∈ l.items, t ∈ (l.filter costLimit gasLimit).2.2.items ∨ t ∈ (l.filter costLimit gasLimit).1 ∨
                    t ∈ (l.filter costLimit gasLimit).2.1) :=
  have h := TxL.filter_spec l costLimit gasLimit
  ⟨h.run hst c0 hrun, h.kept_pay hcaps, h.inv_above hrun.sorted.1, h.cover⟩

example : ((⟨true, [⟨0,0,1,1,1⟩, ⟨0,1,1,1,50⟩, ⟨0,2,1,1,1⟩], 60, 1⟩ : TxL).filter 10 5).2.2.items.length = 1 := by decide

/-- txSortedMap.Cap keeps a prefix: of a run it keeps a run, and nothing is lost between kept and dropped. -/
theorem cap_keeps_prefix {c : Nat} {l : List Tx} (k : Nat) (h : IsRun c l) :
    IsRun c (capL k l).2 ∧ (capL k l).2 ++ (capL k l).1 = l :=
  ⟨h.take k, List.take_append_drop k l⟩

example : IsRun 5 [⟨0,5,1,1,1⟩, ⟨0,6,1,1,1⟩] := by decide

/-- txSortedMap.Forward removes exactly the nonces below the threshold; of a run it leaves a run starting at
    max(start, threshold). -/
theorem forward_spec (th : Nat) (l : List Tx) :
    (∀ t, t ∈ (forward th l).1 ↔ t ∈ l ∧ t.nonce < th) ∧ (∀ t, t ∈ (forward th l).2 ↔ t ∈ l ∧ th ≤ t.nonce) ∧
    (∀ c, IsRun c l → IsRun (max c th) (forward th l).2) :=
  ⟨fun _ => mem_forward_fst, fun _ => mem_forward_snd, fun c h => h.filter_ge th⟩

/-- txList.Add: a transaction for an occupied nonce is inserted iff it is strictly dearer than the old one and reaches
    old·(100+bump)/100; then it takes exactly the slot of the old one. An unoccupied nonce is always inserted. -/
theorem add_bump_rule (l : TxL) (t : Tx) (bump : Nat) (hs : Sorted l.items) :
    (∀ o, getN l.items t.nonce = some o → ((l.add t bump).1 = true ↔ bumpOK o t bump = true)) ∧
    (getN l.items t.nonce = none → (l.add t bump).1 = true) ∧
    ((l.add t bump).1 = true → ∀ u, u ∈ (l.add t bump).2.2.items ↔ u = t ∨ (u ∈ l.items ∧ u.nonce ≠ t.nonce)) ∧
    ((l.add t bump).1 = false → (l.add t bump).2.2 = l) := by
  refine ⟨fun o ho => ⟨fun hi => TxL.add_bump hi ho, fun hb => ?_⟩, fun hn => ?_, TxL.mem_add hs,
    fun hf => (TxL.add_refused hf).1⟩
  · -- were it refused, the occupant would not be outbid
    cases hi : (l.add t bump).1 with
    | true => rfl
    | false =>
      obtain ⟨o', ho', hb'⟩ := (TxL.add_refused hi).2
      rw [ho] at ho'; cases ho'; rw [hb] at hb'; cases hb'
  · rw [TxL.add_free (getN_none.mp hn)]

example : bumpOK ⟨0,1,100,1,1⟩ ⟨0,1,110,1,1⟩ 10 = true ∧ bumpOK ⟨0,1,100,1,1⟩ ⟨0,1,109,1,1⟩ 10 = false ∧
    bumpOK ⟨0,1,1,1,1⟩ ⟨0,1,1,1,1⟩ 10 = false := by decide

/-- costcap/gascap stay upper bounds of the list content through Add, Filter and Remove (soundness of the Filter
    short circuit). -/
theorem costcap_upper_bound (l : TxL) (h : CapsOK l) (t : Tx) (bump c g : Nat) :
    CapsOK (l.add t bump).2.2 ∧ CapsOK (l.filter c g).2.2 ∧ CapsOK (l.remove t).2.2 :=
  ⟨TxL.add_caps l t bump h, (TxL.filter_spec l c g).caps h, (TxL.remove_spec l t).caps h⟩

example : CapsOK (⟨true, [⟨0,0,2,10,5⟩], 25, 10⟩ : TxL) := by
  intro t ht; simp at ht; subst ht; decide

/-! ## the invariant -/

theorem good_inv {s : Pool} (h : Good s) : Inv s :=
  { run := fun a => (h.strong a).run
    afford := fun a t ht => (h.strong a).afford t ht
    owner := fun a t ht => ht.elim ((h.strong a).powner t) ((h.strong a).qowner t)
    unique := fun a _ _ ht hu e => (h.strong a).unique ht hu e }

theorem good_init (c : Cfg) (v : View) : Good (Pool.init c v) :=
  ⟨fun a => { Weak.empty a with run := trivial, pn_le := Nat.le_refl _, afford := nofun }, fun _ _ => ⟨rfl, rfl⟩⟩

/-- NewTxPool starts in a state satisfying the property. -/
theorem inv_init (c : Cfg) (v : View) : Inv (Pool.init c v) := good_inv (good_init c v)

/-- Every operation — local/remote add, batch add, SetGasPrice, reset with re-injection, idle eviction — under every
    resolution of the eviction nondeterminism keeps the inductive invariant — the code at HEAD. -/
theorem inv_step (s : Pool) (op : Op) (h : Good s) : Good (s.step true op) ∧ Inv (s.step true op) :=
  have := step_pres addClosed_good (fun _ _ h => h) (fun _ h => h) true s op h
    (fun v o n r d i orc => reset_good s v o n r d i orc h)
  ⟨this, good_inv this⟩

example : Good (Pool.init ⟨1, 10, 16, 4096, 64, 1024, false, 21000⟩ ⟨fun _ => 0, fun _ => 1000, 100000⟩) :=
  good_init _ _

/-- no phantom entries: every operation keeps `all` = pending ∪ queue (both demotion variants). `add` refuses what is in
    `all`, so this is what lets a transaction that dropped out of the chain be pooled again. -/
theorem all_ok_step (g : Bool) (s : Pool) (op : Op) (h : Good s) (ha : AllOK s) : AllOK (s.step g op) :=
  step_pres addClosed_wa (fun _ _ h => h) (fun _ h => h.2) g s op ⟨h.weakAll, ha⟩
    (fun v o n r d i orc => (reset_wa g s v o n r d i orc ⟨h.weakAll, ha⟩).2)

/-- `accts` and `all` model Go maps: they hold no duplicates, in every reachable state (needed for counting). -/
theorem nd_step (g : Bool) (s : Pool) (op : Op) (h : ND s) : ND (s.step g op) :=
  step_pres addClosed_nd (fun _ _ h => h) (fun _ h => h) g s op h (fun v o n r d i orc =>
    reset_pres addClosed_nd g (fun _ a h => demoteAcct_nd g a h) (fun _ _ h => h) (fun _ _ h => h) s v o n r d i orc h)

theorem tight_reachable (c : Cfg) (v : View) (ops : List Op) :
    Good (ops.foldl (Pool.step true) (Pool.init c v)) ∧ AllOK (ops.foldl (Pool.step true) (Pool.init c v)) ∧
    ND (ops.foldl (Pool.step true) (Pool.init c v)) :=
  foldl_pres (fun s => Good s ∧ AllOK s ∧ ND s) (Pool.step true)
    (fun s op h => ⟨(inv_step s op h.1).1, all_ok_step true s op h.1 h.2.1, nd_step true s op h.2.2⟩) ops _
    ⟨good_init c v, allOK_init c v, List.nodup_nil, List.nodup_nil⟩

theorem good_reachable (c : Cfg) (v : View) (ops : List Op) : Good (ops.foldl (Pool.step true) (Pool.init c v)) :=
  (tight_reachable c v ops).1

/-- The state clauses of the property hold in every state reachable by any sequence of operations — the code at HEAD. -/
theorem inv_reachable (c : Cfg) (v : View) (ops : List Op) : Inv (ops.foldl (Pool.step true) (Pool.init c v)) :=
  good_inv (good_reachable c v ops)

/-! ### the demotion before commit c2af732 (documentation of the defect that commit fixed) -/

def wCfg : Cfg := ⟨1, 10, 16, 4096, 64, 1024, false, 21000⟩
def wView2 : View := ⟨fun _ => 2, fun _ => 1000000000, 100000⟩
def wView0 : View := ⟨fun _ => 0, fun _ => 1000000000, 100000⟩
def wOracle : ResetOracle := ⟨[], [], [], [], []⟩
/-- chain nonce 2, price floor 3, the pool holds nonce 2 -/
def w0 : Pool := (((Pool.init wCfg wView2).step false (.setGasPrice 3)).step false (.add ⟨0,2,5,21000,100⟩ false .wellformed [] [] []))
/-- the chain reorganises to a branch on which nonces 0 (price 5) and 1 (price 1) are not included -/
def w1 : Pool := w0.step false (.reset wView0 1 1 true [⟨0,0,5,21000,100⟩, ⟨0,1,1,21000,100⟩] [] wOracle)

/-- Before c2af732 the first clause was false: after this reset the pending list of sender 0 is [0, 2] — nonce 1 was
    refused on re-injection (below the price floor), nonce 0 was promoted in front of the old pending nonce 2, and
    demoteUnexecutables only looked for a gap in FRONT of the list. (Reproduced against the real pool at the time; the
    history is kept as regression seed `corpus/C15/02-reinject-hole.json`.) -/
theorem pre_c2af732_reset_gap_witness : ¬ Inv w1 := by
  intro h
  have := h.run 0
  revert this
  decide

/-- the same history on the code at HEAD satisfies the property -/
example : IsRun ((w0.step true (.reset wView0 1 1 true [⟨0,0,5,21000,100⟩, ⟨0,1,1,21000,100⟩] [] wOracle)).cnonce 0)
    ((w0.step true (.reset wView0 1 1 true [⟨0,0,5,21000,100⟩, ⟨0,1,1,21000,100⟩] [] wOracle)).pending 0).items := by decide

/-- a reset was admissible for the pre-c2af732 demotion when the re-injection left no hole in any pending list -/
def OpOK (s : Pool) : Op → Prop
  | .reset v o n r d i orc => NoHole (s.resetMid v o n r d i orc)
  | _ => True

/-- `inv_step` for the pre-c2af732 demotion, with the excluded set explicit: resets whose re-injection phase leaves a hole. -/
theorem pre_c2af732_inv_step_partial (s : Pool) (op : Op) (h : Good s) (hop : OpOK s op) :
    Good (s.step false op) ∧ Inv (s.step false op) := by
  have : s.step false op = s.step true op := by
    cases op with
    | reset v o n r d i orc => exact reset_agree s v o n r d i orc h hop
    | _ => rfl
  rw [this]; exact inv_step s op h

/-- resets that re-inject nothing (head advance, deep reorg, nothing dropped out) are always admissible -/
theorem opOK_of_no_reinjection (s : Pool) (v : View) (o n : Nat) (r : Bool) (d i : List Tx) (orc : ResetOracle) (h : Good s)
    (hre : (if r && decide ((if o ≤ n then n - o else o - n) ≤ 64) then txDifference d i else []) = []) :
    OpOK s (.reset v o n r d i orc) := by
  show NoHole (s.resetMid v o n r d i orc)
  rw [resetMid_eq, show reinjection o n r d i = [] from hre]
  intro a
  exact ⟨s.cnonce a, (h.strong a).run⟩

example : OpOK (Pool.init wCfg wView0) (.reset wView2 0 1 false [] [⟨0,0,5,21000,100⟩] wOracle) :=
  opOK_of_no_reinjection _ _ _ _ _ _ _ _ (good_init _ _) rfl

def RunOK : Pool → List Op → Prop
  | _, [] => True
  | s, op :: ops => OpOK s op ∧ RunOK (s.step false op) ops

/-- `inv_reachable` for the pre-c2af732 demotion on the histories without a re-injection hole. -/
theorem pre_c2af732_inv_reachable_partial (c : Cfg) (v : View) (ops : List Op) (h : RunOK (Pool.init c v) ops) :
    Inv (ops.foldl (Pool.step false) (Pool.init c v)) := by
  have : ∀ (ops : List Op) (s : Pool), Good s → RunOK s ops → Good (ops.foldl (Pool.step false) s) := by
    intro ops
    induction ops with
    | nil => intro s h _; exact h
    | cons op rest ih => intro s h hr; exact ih _ (pre_c2af732_inv_step_partial s op h hr.1).1 hr.2
  exact good_inv (this ops _ (good_init c v) h)

example : RunOK (Pool.init wCfg wView0) [.add ⟨0,0,5,21000,100⟩ false .wellformed [] [] [], .setGasPrice 3] := ⟨trivial, trivial, trivial⟩

example : AllOK (Pool.init wCfg wView0) := allOK_init _ _

/-! ### the defect fixed by f30bc16, on the model -/

def rT0 : Tx := ⟨0,0,1,21000,100⟩
def rT1 : Tx := ⟨0,1,5,21000,100⟩
def rT0' : Tx := ⟨0,0,7,21000,100⟩
def rViewB : View := ⟨fun a => if a = 0 then 2 else 0, fun _ => 1000000000, 100000⟩
/-- AddRemotes(t0 price 1, t1 price 5) -/
def r1 : Pool := (Pool.init wCfg wView0).step false (.adds [rT0, rT1] false [] [] [])
/-- SetGasPrice with the removeTx before (`false`) / after (`true`) commit f30bc16 -/
def setGasPriceG (fixed : Bool) (s : Pool) (p : Nat) : Pool :=
  let s := { s with gasPrice := p }
  (s.all.filter (fun t => decide (t.price < p) && !s.isLocal t.sender)).foldl (fun s t => s.removeTxG fixed t) s
/-- SetGasPrice(3); the chain includes (t0', t1); then it reorganises to an empty branch -/
def r4 (fixed : Bool) : Pool :=
  ((setGasPriceG fixed r1 3).step false (.reset rViewB 0 1 false [] [rT0', rT1] wOracle)).step false
    (.reset wView0 1 1 true [rT0', rT1] [] wOracle)

/-- Before f30bc16: t1 dropped out of the chain, still validates, and is in neither pending nor queue (it stayed in `all`
    when removeTx emptied the pending list, so its re-injection is refused as "known"). After the fix it is pooled. -/
theorem prefix_removeTx_witness :
    (r4 false).validateTx rT1 false .wellformed = .ok ∧ ¬ (r4 false).pooled rT1 ∧ (r4 true).pooled rT1 := by decide

/-! ## reorg re-injection -/

/-- **After a chain reorganisation the transactions that dropped out of the canonical chain are pooled again if still
    valid** — every sender kind, both demotion variants, every eviction oracle.  After `reset` across a reorganisation
    within the pool's 64-block horizon, every transaction of `discarded \ included` that validates against the new head
    (validateTx, price floor included) is in pending ∪ queue, provided the pool has room: what is pooled plus what is
    re-injected fits the per-account queue cap, the pool-wide queue cap and the pending-slot limit.  Then the pool never
    fills up and no limit binds; the only way the code refuses a still-valid transaction with a free slot is the
    full-pool-and-underpriced path, made explicit in `reinject_refused_only_when_full_and_underpriced`.  The dropped
    transactions occupy distinct slots that are free in the pool (on a real chain they lie below the old chain nonce, the
    pool above it). -/
theorem reorg_reinjects (g : Bool) (s : Pool) (v : View) (oldNum newNum : Nat) (disc inc : List Tx) (orc : ResetOracle)
    (h : Good s) (ha : AllOK s) (hnd : ND s)
    (hdepth : (if oldNum ≤ newNum then newNum - oldNum else oldNum - newNum) ≤ 64)
    (t : Tx) (ht : t ∈ txDifference disc inc)
    (hval : ({ s with cnonce := v.nonce, balance := v.balance, maxGas := v.maxGas, pnonce := v.nonce } : Pool).validateTx t false .wellformed = .ok)
    (hfresh : Fresh s (txDifference disc inc)) (hdistinct : (txDifference disc inc).Pairwise SlotNe)
    (hroom : (s.all ++ txDifference disc inc).length ≤ s.cfg.accountQueue ∧
             (s.all ++ txDifference disc inc).length ≤ s.cfg.globalQueue ∧
             (s.all ++ txDifference disc inc).length ≤ s.cfg.globalSlots) :
    (s.step g (.reset v oldNum newNum true disc inc orc)).pooled t :=
  reset_reinjects g s v oldNum newNum disc inc orc ⟨h.weakAll, ha⟩ hnd hdepth t ht hval hfresh hdistinct hroom

/-- The exception, as the code has it: a well-formed transaction that validates and whose slot is free is accepted by `add`
    and pooled — or refused as underpriced, and that only when the pool is full (|all| ≥ GlobalSlots + GlobalQueue) and the
    transaction is underpriced (sender not local, price ≤ the cheapest pooled price). No other refusal exists. -/
theorem reinject_refused_only_when_full_and_underpriced (s : Pool) (t : Tx) (loc : Bool) (vs : List Tx) (h : Good s)
    (ha : AllOK s) (hval : s.validateTx t loc .wellformed = .ok)
    (hfree : ∀ p, s.pooled p → p.sender = t.sender → p.nonce ≠ t.nonce) :
    ((s.add t loc .wellformed vs).1 = .ok ∧ (s.add t loc .wellformed vs).2.2.pooled t) ∨
    ((s.add t loc .wellformed vs).1 = .underpriced ∧ s.cfg.globalSlots + s.cfg.globalQueue ≤ s.all.length ∧
      s.underpriced t = true) :=
  add_refusal_only_underpriced t loc vs ⟨h.weakAll, ha⟩ hval hfree

/-  For LOCAL senders no capacity condition is needed at all (they are exempt from every limit and never underpriced): -/
theorem reorg_reinjects_local (g : Bool) (s : Pool) (v : View) (oldNum newNum : Nat) (disc inc : List Tx) (orc : ResetOracle)
    (h : Good s) (ha : AllOK s)
    (hdepth : (if oldNum ≤ newNum then newNum - oldNum else oldNum - newNum) ≤ 64)
    (t : Tx) (ht : t ∈ txDifference disc inc) (hl : t.sender ∈ s.locals)
    (hval : ({ s with cnonce := v.nonce, balance := v.balance, maxGas := v.maxGas, pnonce := v.nonce } : Pool).validateTx t false .wellformed = .ok)
    (hfresh : Fresh s (txDifference disc inc)) (hdistinct : (txDifference disc inc).Pairwise SlotNe) :
    (s.step g (.reset v oldNum newNum true disc inc orc)).pooled t :=
  reset_reinjects_local g s v oldNum newNum disc inc orc ⟨h.weakAll, ha⟩ hdepth t ht hl hval hfresh hdistinct

/-- a pool whose local sender 0 holds nonce 2 while the chain (nonce 2) had included its nonces 0 and 1 -/
def q0 : Pool := (Pool.init wCfg wView2).step true (.add ⟨0,2,5,21000,100⟩ true .wellformed [] [] [])

example : Good q0 ∧ AllOK q0 ∧ ND q0 ∧ (0 : Addr) ∈ q0.locals ∧
    (q0.all ++ txDifference [⟨0,0,5,21000,100⟩, ⟨0,1,5,21000,100⟩] []).length ≤ q0.cfg.accountQueue ∧
    Fresh q0 (txDifference [⟨0,0,5,21000,100⟩, ⟨0,1,5,21000,100⟩] []) ∧
    (txDifference [⟨0,0,5,21000,100⟩, ⟨0,1,5,21000,100⟩] []).Pairwise SlotNe := by
  have hg : Good q0 := (inv_step _ _ (good_init wCfg wView2)).1
  have ha : AllOK q0 := all_ok_step true _ _ (good_init wCfg wView2) (allOK_init wCfg wView2)
  have hd : txDifference [(⟨0,0,5,21000,100⟩ : Tx), ⟨0,1,5,21000,100⟩] [] = [⟨0,0,5,21000,100⟩, ⟨0,1,5,21000,100⟩] := by decide
  refine ⟨hg, ha, nd_step true _ _ ⟨List.nodup_nil, List.nodup_nil⟩, by decide, by decide, ?_, ?_⟩
  · intro x hx p hp
    have hpa : p ∈ q0.all := (ha p).mpr hp
    have hall : q0.all = [⟨0,2,5,21000,100⟩] := by decide
    rw [hall, List.mem_singleton] at hpa
    rw [hd] at hx
    simp only [List.mem_cons, List.not_mem_nil, or_false] at hx
    subst hpa
    rcases hx with rfl | rfl <;> decide
  · rw [hd]
    simp [SlotNe]

/-! ## limits -/

/-- Every reset ends with the pool-wide enforcement: afterwards the per-account queue cap, the pool-wide queue cap and the
    pending-slot bound hold for non-local senders, under every eviction oracle — the code at HEAD. -/
theorem limits_after_reset (s : Pool) (v : View) (o n : Nat) (r : Bool) (d i : List Tx) (orc : ResetOracle)
    (h : Good s) (ha : AllOK s) : Limits (s.step true (.reset v o n r d i orc)) :=
  limits_after_reset_true s v o n r d i orc ⟨h, ha⟩

/-- the same for the pre-c2af732 demotion on admissible resets -/
theorem pre_c2af732_limits_after_reset_partial (s : Pool) (v : View) (o n : Nat) (r : Bool) (d i : List Tx) (orc : ResetOracle)
    (h : Good s) (ha : AllOK s) (hop : OpOK s (.reset v o n r d i orc)) : Limits (s.step false (.reset v o n r d i orc)) := by
  have : s.step false (.reset v o n r d i orc) = s.step true (.reset v o n r d i orc) := reset_agree s v o n r d i orc h hop
  rw [this]; exact limits_after_reset s v o n r d i orc h ha

/-- any pool-wide promoteExecutables establishes the limits -/
theorem limits_after_enforcement (s : Pool) (slots qorder : List Addr) (h : Good s) (ha : AllOK s) :
    Limits (s.promoteExecutables none slots qorder) := limits_after_promote s slots qorder ⟨h, ha⟩

/-- A successful AddLocal/AddRemote that is not a replacement ends with the enforcement for the sender and pool-wide:
    afterwards the sender's queue cap (if it is not local) and both pool-wide limits hold, for every eviction oracle. -/
theorem limits_after_add (s : Pool) (t : Tx) (loc : Bool) (sh : Shape) (vs : List Tx) (sl qo : List Addr)
    (h : Good s) (ha : AllOK s)
    (hok : (s.add t (loc && !s.cfg.noLocals) sh vs).1 = .ok) (hnew : (s.add t (loc && !s.cfg.noLocals) sh vs).2.1 = false) :
    let s' := (s.addTx t loc sh vs sl qo).2
    (t.sender ∉ s'.locals → (s'.queue t.sender).items.length ≤ s'.cfg.accountQueue) ∧
    sumLen s'.queue (s'.accts.filter (fun a => !s'.isLocal a)) ≤ s'.cfg.globalQueue ∧
    (s'.pendingCount ≤ s'.cfg.globalSlots ∨ ∀ a, a ∉ s'.locals → (s'.pending a).items.length ≤ s'.cfg.accountSlots) := by
  have hga : GA (s.add t (loc && !s.cfg.noLocals) sh vs).2.2 := add_pres addClosed_ga s t _ sh vs ⟨h, ha⟩
  rw [addTx_snd, if_pos ⟨hok, hnew⟩]
  have := limits_after_promote_some _ [t.sender] sl qo hga
  exact ⟨fun hnl => this.acctQueue t.sender hnl (Or.inl List.mem_cons_self), this.globalQueue, this.globalSlots⟩

example : ((Pool.init wCfg wView0).add ⟨0,0,5,21000,100⟩ false .wellformed []).1 = .ok ∧
    ((Pool.init wCfg wView0).add ⟨0,0,5,21000,100⟩ false .wellformed []).2.1 = false := by decide

def lCfg : Cfg := ⟨1, 10, 16, 4096, 1, 1024, false, 21000⟩
/-- AccountQueue = 1; three pending transactions; SetGasPrice evicts the first: the two followers are re-queued -/
def l1 : Pool := ((Pool.init lCfg wView0).step false (.adds [⟨0,0,1,21000,100⟩, ⟨0,1,5,21000,100⟩, ⟨0,2,5,21000,100⟩] false [] [] [])).step false (.setGasPrice 3)

/-- The limits are what the enforcement establishes, not an at-all-times invariant of the code: SetGasPrice re-queues the
    followers of an evicted transaction without running the enforcement, so the per-account queue cap is exceeded until
    the next add for that account or the next reset (same behaviour as upstream). -/
theorem limits_transient_witness : (l1.queue 0).items.length = 2 ∧ l1.cfg.accountQueue = 1 ∧ 0 ∉ l1.locals := by decide

/-! ## replacement -/

/-- A same-nonce replacement is accepted only with the configured price bump: after AddLocal/AddRemote on a pool that is
    not full, a (sender, nonce) slot whose occupant changed holds a transaction that met the bump rule against the
    previous occupant (when the pool is full an eviction followed by a fresh insert is possible and is not a replacement). -/
theorem replacement_needs_bump (s : Pool) (t : Tx) (loc : Bool) (sh : Shape) (vs : List Tx) (sl qo : List Addr) (h : Good s)
    (hnf : s.all.length < s.cfg.globalSlots + s.cfg.globalQueue) :
    ReplacementOK s (s.step true (.add t loc sh vs sl qo)) := addTx_replacement s t loc sh vs sl qo h.weakAll hnf

example : (Pool.init wCfg wView0).all.length < wCfg.globalSlots + wCfg.globalQueue := by decide

/-! ## journal -/

/-- tx_journal.go: a rotation writes `pool.local()`, and that is exactly the pooled transactions of the local senders
    (no transaction of a non-local sender, none that is not pooled, none missing). -/
theorem journal_rotate_exact (s : Pool) (h : Good s) : ∀ t, t ∈ s.localTxs ↔ s.pooled t ∧ t.sender ∈ s.locals := by
  intro t
  unfold Pool.localTxs
  rw [List.mem_flatMap, pooled_iff]
  constructor
  · rintro ⟨a, ha, ht⟩
    have hw := (h.strong a).toWeak
    rcases List.mem_append.mp ht with h1 | h1
    · have := hw.powner t h1; subst this; exact ⟨Or.inl h1, ha⟩
    · have := hw.qowner t h1; subst this; exact ⟨Or.inr h1, ha⟩
  · rintro ⟨hp, hl⟩
    exact ⟨t.sender, hl, List.mem_append.mpr hp⟩

/-! ## the price heap (`txPricedList`) refines the eviction oracle

  Aqv.Model.TxPriced models the price heap with its stale counter one level more concretely: `Put`, `Removed`,
  `Underpriced`, `Discard`, `Cap` statement by statement over a priority queue whose pops are those of Go's
  container/heap on the same array (the wrappers only accumulate the driver's monitor bit), and the concrete machine
  `CPool` = pool + heap, in which the victims of `add` and `SetGasPrice` come from the heap. -/

/-- `priced_consistent` is an invariant of the concrete machine, and the concrete machine is the oracle machine with the
    heap's victims as the oracle: one step. -/
theorem priced_step_refines (c : CPool) (op : COp) (h : Cov c) :
    (c.step op).2.pool = c.pool.step true (c.step op).1 ∧ Cov (c.step op).2 := cstep_refines c op h

example : Cov (CPool.init wCfg wView0) := cinit_cov _ _

/-- `priced_consistent` (every pooled transaction has an entry in the price heap) holds in every reachable state of the
    concrete machine, its pool component is a run of the oracle machine — so every theorem above applies to it — and in
    particular satisfies the state clauses of the property. -/
theorem priced_consistent (cfg : Cfg) (v : View) (cops : List COp) :
    Cov ((CPool.init cfg v).runOps cops).2 ∧
    ((CPool.init cfg v).runOps cops).2.pool = ((CPool.init cfg v).runOps cops).1.foldl (Pool.step true) (Pool.init cfg v) ∧
    Inv ((CPool.init cfg v).runOps cops).2.pool := by
  obtain ⟨h1, h2⟩ := crun_refines cops (CPool.init cfg v) (cinit_cov cfg v)
  refine ⟨h2, h1, ?_⟩
  rw [h1]
  exact inv_reachable cfg v _

/-- Underpriced: with a consistent heap the heap-based answer (skip stale heads, compare with the root) is the comparison
    with the cheapest pooled price; locals are never underpriced. -/
theorem priced_underpriced_refines (s : Pool) (P : Priced) (t : Tx) (hcov : ∀ x ∈ s.all, x ∈ P.items) (hheap : IsHeap P.items) :
    (P.underpriced s.all s.locals t).1 = s.underpriced t :=
  (underpriced_refines s P t hcov (pricedOK_false hheap)).1

/-- Discard: every eviction the heap performs is one the oracle permits (pooled, not local, at most `count`; the model's
    `add` with these victims performs exactly these removals), it evicts cheapest first, and it leaves the heap covering
    everything pooled but the victims.  The pops are the array algorithm of container/heap (`hPop`); that they return
    minima is `heap_push_pop_spec`, from the hypothesis that the array is a heap — an invariant of the concrete machine
    (`priced_consistent`).  No run-time check is involved. -/
theorem priced_discard_refines_oracle (s : Pool) (P : Priced) (count : Nat) (hcov : ∀ x ∈ s.all, x ∈ P.items)
    (hheap : IsHeap P.items) :
    (∀ v ∈ (P.discard s.all s.locals count).1, v ∈ s.all ∧ v.sender ∉ s.locals) ∧
    (P.discard s.all s.locals count).1.length ≤ count ∧
    s.sanitizeVictims count (P.discard s.all s.locals count).1 = (P.discard s.all s.locals count).1 ∧
    (∀ v ∈ (P.discard s.all s.locals count).1, ∀ u ∈ s.all, u.sender ∉ s.locals →
        u ∉ (P.discard s.all s.locals count).1 → v.price ≤ u.price) := by
  have := discard_refines s P count hcov (pricedOK_false hheap)
  exact ⟨this.victims, this.atMost, this.sane, this.cheapest⟩

/-- Cap (SetGasPrice): the heap drops exactly the pooled non-local transactions below the new floor. -/
theorem priced_cap_refines (s : Pool) (P : Priced) (th : Nat) (hcov : ∀ x ∈ s.all, x ∈ P.items) (hheap : IsHeap P.items) :
    ∀ v, v ∈ (P.cap s.all s.locals th).1 ↔ v ∈ s.all ∧ v.price < th ∧ v.sender ∉ s.locals := by
  exact (cap_refines s P th hcov (pricedOK_false hheap)).1

example : (∀ x ∈ (Pool.init wCfg wView0).all, x ∈ ({ items := [], stales := 0 } : Priced).items) ∧
    IsHeap ({ items := [], stales := 0 } : Priced).items :=
  ⟨fun x hx => (by cases hx), isHeap_nil⟩

/-! ## container/heap on the heap array (`hUp hDown hPush hPop hInit` of Aqv.Model.TxPriced, statement by statement the Go
    `up`, `down`, `Push`, `Pop`, `Init`; `priceHeap.Less` of this code base compares the gas price only) -/

/-- heap.up: if the heap order holds everywhere except between `j` and its parent, and `j`'s children respect `j`'s
    parent, then after `up(j)` the whole array is a min-heap by price. -/
theorem heap_up_preserves (f : Nat) (l : List Tx) (j : Nat) (hf : j ≤ f) (hj : j < l.length)
    (h1 : ∀ k, 0 < k → k < l.length → k ≠ j → hkey l ((k - 1) / 2) ≤ hkey l k)
    (h2 : ∀ k, 0 < k → k < l.length → (k - 1) / 2 = j → 0 < j → hkey l ((j - 1) / 2) ≤ hkey l k) :
    IsHeap (hUp f l j) ∧ (hUp f l j).Perm l :=
  ⟨Aqv.TxPool.heap_up_preserves f l j hf hj h1 h2, hUp_perm f l j hj⟩

/-- heap.down(i, n): if the heap order holds among the first `n` entries for every node whose parent index is at least
    `lo`, except between `i` and its children, and `i`'s children respect `i`'s parent, then after `down` it holds for
    every such node; the array is permuted and the entries from `n` on are untouched. -/
theorem heap_down_preserves (f : Nat) (l : List Tx) (i n lo : Nat) (hf : n ≤ f + i) (hn : n ≤ l.length) (hlo : lo ≤ i)
    (h1 : ∀ k, 0 < k → k < n → lo ≤ (k - 1) / 2 → (k - 1) / 2 ≠ i → hkey l ((k - 1) / 2) ≤ hkey l k)
    (h2 : ∀ k, 0 < k → k < n → (k - 1) / 2 = i → 0 < i → lo ≤ (i - 1) / 2 → hkey l ((i - 1) / 2) ≤ hkey l k) :
    (∀ k, 0 < k → k < n → lo ≤ (k - 1) / 2 → hkey (hDown f l i n) ((k - 1) / 2) ≤ hkey (hDown f l i n) k) ∧
    (hDown f l i n).Perm l ∧ (∀ k, n ≤ k → (hDown f l i n).getD k txDefault = l.getD k txDefault) :=
  ⟨Aqv.TxPool.heap_down_preserves f l i n lo hf hn hlo h1 h2, hDown_frame f l i n hn⟩

/-- heap.Init turns any array into a min-heap by price with the same elements. -/
theorem heap_init_establishes (l : List Tx) : IsHeap (hInit l) ∧ (hInit l).Perm l :=
  ⟨Aqv.TxPool.heap_init_establishes l, hInit_perm l⟩

/-- Push / Pop on a heap: the array stays a min-heap by price, the multiset of elements changes by exactly the pushed /
    popped element, Pop returns a minimum and fails only on the empty array; the executable heap test of the driver is
    the heap order. -/
theorem heap_push_pop_spec :
    (∀ t l, IsHeap l → IsHeap (hPush t l) ∧ (hPush t l).Perm (t :: l)) ∧
    (∀ l x rest, IsHeap l → hPop l = some (x, rest) → l.Perm (x :: rest) ∧ (∀ y ∈ l, x.price ≤ y.price) ∧ IsHeap rest) ∧
    (∀ l, hPop l = none ↔ l = []) ∧
    (∀ l, isHeap l = true ↔ IsHeap l) :=
  ⟨Aqv.TxPool.heap_push_pop_spec.1, Aqv.TxPool.heap_push_pop_spec.2.1, Aqv.TxPool.heap_push_pop_spec.2.2.1, isHeap_iff⟩

example : IsHeap (hPush ⟨0, 0, 3, 0, 0⟩ (hPush ⟨0, 1, 7, 0, 0⟩ (hPush ⟨0, 2, 5, 0, 0⟩ []))) :=
  (isHeap_iff _).mp (by decide)
example : (hPop (hPush ⟨0, 0, 3, 0, 0⟩ (hPush ⟨0, 1, 7, 0, 0⟩ (hPush ⟨0, 2, 5, 0, 0⟩ [])))).map (·.1.price) = some 3 := by decide

/-- The driver's assertion never fires: in every reachable state of the concrete machine the heap array is a min-heap by
    price and the monitor bit accumulated over all heap operations (`exact`) is still set — the run-time check is dead
    code on the theorem path, and a cleared bit in the driver can only come from an observed array that was not a heap. -/
theorem priced_check_never_fires (cfg : Cfg) (v : View) (cops : List COp) :
    IsHeap ((CPool.init cfg v).runOps cops).2.priced.items ∧ ((CPool.init cfg v).runOps cops).2.priced.exact = true :=
  have h := (crun_refines cops (CPool.init cfg v) (cinit_cov cfg v)).2
  ⟨h.heap, h.exact⟩

/-! ## the stale counter

`txPricedList.stales` is documented as the number of heap entries whose transaction has left `all`.  In this code base it is
only a heuristic and the equality is NOT an invariant, in either direction:
* `enqueueTx` always calls `priced.Put`, also for a transaction that `demoteUnexecutables` moves back to the queue and
  that is still in `all`: the heap then holds the transaction twice, and its later removal makes two entries dead while
  the counter goes up by one (under-count; popping both as stale heads can even drive the counter negative);
* `Discard`/`Cap` pop a live victim and the following `removeTx` calls `Removed()` for an entry that is already gone
  (over-count).
Neither affects a clause of the property (dead and duplicate entries are skipped by the `∈ all` test and disappear at the
next re-heap); what does hold is that a re-heap makes the heap exactly `all` again. -/

def deadCount (items all : List Tx) : Nat := (items.filter (fun x => decide (x ∉ all))).length

/-- the event `enqueueTx` generates contains `Put(t)` whether or not `t` is already in `all` -/
theorem enqueueTx_puts_known (s : Pool) (t : Tx) (h : ((s.queue t.sender).add t s.cfg.priceBump).1 = true) :
    LEv.insPut t ∈ evEnqueueTx s t := by
  unfold evEnqueueTx
  simp [h]

private def wTx (n p : Nat) : Tx := ⟨0, n, p, 21000, 0⟩
private def wL8 : Ledger :=
  (⟨[], { items := [], stales := 0 }⟩ : Ledger).run ((List.range 8).map (fun n => LEv.insPut (wTx n (10 + n))))

/-- `stales = number of dead entries` is not an invariant (so `stales_counts_dead_entries` is not provable for this code):
    (1) under-count — eight pooled transactions, `Put` of one of them again (what re-enqueueing a demoted transaction does),
    then its removal: two dead entries, counter 1; (2) over-count — `Discard(1)` pops the cheapest live entry and the
    removal of the victim calls `Removed()`: no dead entry, counter 1. -/
theorem stales_not_dead_count_witness :
    (let L := wL8.run [LEv.insPut (wTx 0 10), LEv.del (wTx 0 10)]
     deadCount L.priced.items L.all = 2 ∧ L.priced.stales = 1) ∧
    (let d := wL8.priced.discard wL8.all [] 1
     let L := (⟨wL8.all, d.2⟩ : Ledger).run (d.1.map LEv.del)
     d.1 = [wTx 0 10] ∧ deadCount L.priced.items L.all = 0 ∧ L.priced.stales = 1) := by
  decide

/-- What the counter does guarantee: `Removed()` either just counts, or — once the counter exceeds a quarter of the heap —
    rebuilds the heap from `all`: afterwards the array is a min-heap with exactly the pooled transactions (no dead and no
    duplicate entry) and the counter is 0. -/
theorem stales_reheap_exact (P : Priced) (all : List Tx) :
    ((P.removed all).items = P.items ∧ (P.removed all).stales = P.stales + 1 ∧ P.stales + 1 ≤ ((P.items.length / 4 : Nat) : Int)) ∨
    ((P.removed all).items.Perm all ∧ IsHeap (P.removed all).items ∧ (P.removed all).stales = 0 ∧
      deadCount (P.removed all).items all = 0 ∧ ((P.items.length / 4 : Nat) : Int) < P.stales + 1) := by
  rw [Priced.removed_eq]
  split
  · exact Or.inl ⟨rfl, rfl, ‹_›⟩
  · refine Or.inr ⟨hInit_perm all, Aqv.TxPool.heap_init_establishes all, rfl, ?_, by omega⟩
    unfold deadCount
    rw [List.length_eq_zero_iff, List.filter_eq_nil_iff]
    intro x hx
    simpa using (hInit_perm all).mem_iff.mp hx

/-! ## the sorted-list cache of txSortedMap (`m.cache`, handed out by `Flatten` — i.e. by `Pending()`, `Content()`, the journal
    rotation and every reset) as explicit state (Aqv.Model.TxSortedMap) -/

/-- One method call (`Put Forward Filter Cap Remove Ready Flatten`, `Filter` with an arbitrary predicate) keeps the contents
    nonce-sorted and the cache coherent: a cache that is present equals the nonce-sorted contents. -/
theorem sortedmap_step_coherent (m : SMap) (op : SOp) (hs : Sorted m.items) (hc : m.Coherent) :
    Sorted (m.step op).2.items ∧ (m.step op).2.Coherent := SMap.step_ok m op ⟨hs, hc⟩

/-- **cached sorted list = sort of items after any op sequence**: after any sequence of method calls on a new map the cache,
    if present, is the nonce-sorted contents; hence `Flatten` returns the nonce-sorted contents whether it hits the cache or
    not, and does not change the contents. -/
theorem sortedmap_cache_coherent (ops : List SOp) :
    Sorted (SMap.empty.run ops).items ∧ (SMap.empty.run ops).Coherent ∧
    ((SMap.empty.run ops).step .flatten).1 = (SMap.empty.run ops).items ∧
    ((SMap.empty.run ops).step .flatten).2.items = (SMap.empty.run ops).items := by
  have h := SMap.run_ok ops SMap.empty SMap.empty_ok
  exact ⟨h.1, h.2, SMap.flatten_spec _ h.2⟩

private def sTx (n p : Nat) : Tx := ⟨0, n, p, 21000, 0⟩

/-- non-vacuity: a run in which the cache survives a Forward and a Cap (shifted front, cut back) and is still the contents -/
example : (SMap.empty.run [.put (sTx 3 1), .put (sTx 1 1), .put (sTx 2 1), .put (sTx 5 1), .flatten, .forward 2, .cap 2]).cache
    = some [sTx 2 1, sTx 3 1] := by decide

/-- The `Put` of seeded change C15-8 (keep the cache and append when the new nonce is not below the cache's last nonce)
    breaks coherence exactly in the scenario of the seed: flatten, then replace the highest nonce — the cache then lists the
    replaced transaction next to its replacement. -/
theorem c15_8_put_keeps_stale_cache_witness :
    let m := SMap.empty.run [.put (sTx 0 10), .put (sTx 1 10), .flatten]
    m.coherentB = true ∧ (m.putKeepCache (sTx 1 12)).coherentB = false ∧
    (m.putKeepCache (sTx 1 12)).cache = some [sTx 0 10, sTx 1 10, sTx 1 12] ∧
    (m.putKeepCache (sTx 1 12)).items = [sTx 0 10, sTx 1 12] := by decide

end Aqv.Props.C15
