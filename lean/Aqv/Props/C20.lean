/-
  C20 — Keystore encryption round-trips and rejects wrong passphrases and tampering.  The property theorems, the predicates their
  statements need (`UnlockedOK`, `KdfSane`) and the toy key files their witnesses and non-vacuity examples are evaluated on.
  Model: Aqv.Model.Keystore (EncryptKey / DecryptKey v3+v1 / getKDFKey / GetKey of aqua/accounts/keystore).
  KDF (scrypt, PBKDF2), Keccak-256 (`H`), the AES-CTR keystream, AES-CBC and scalar->address are parameters (`Prims`);
  every theorem holds for ALL instantiations of them.  Where a clause needs a cryptographic fact it is an explicit
  hypothesis about the finitely many values involved (collision-freedom of `H` on two MAC inputs, the KDF output
  differing on bytes 16..32, address derivation separating two scalars).

  The model mirrors /repo at or after a73be14 (DecryptKey compares the decrypted key with the file's "address") and e55659c
  (KDF parameters and IV validated instead of panicking).

  Clause map
    "recovered with that passphrase as the identical key and address"      roundtrip, roundtrip_keeps_leading_zeros,
                                                                            short_plaintext_roundtrip (legacy files with stripped zeros),
                                                                            update_then_read, update_then_unlock (file = last write),
                                                                            write_without_truncation_leaves_residue,
                                                                            unlocked_key_is_stored_key (the key Sign* uses, over unlock histories),
                                                                            indefinite_unlock_survives
    "with any other passphrase unlocking fails with an error"              wrong_pass_rejected, wrong_pass_never_unlocks
    "after modification of ciphertext, MAC, salt, KDF parameters ..."      tamper_ct_mac_salt_params_rejected,
                                                                            tamper_ct_rejected, tamper_mac_rejected
    "... or IV ... never a different key / account with another address"   tamper_never_yields_other_key (KeyStore.GetKey level),
                                                                            decryptKey_tamper_never_yields_other_key (bare DecryptKey, file
                                                                            carries its address), import_never_yields_other_account
                                                                            (KeyStore.Import), decryptKey_rejects_key_of_other_address;
                                                                            residual (file WITHOUT an address field, not written by this
                                                                            keystore): decryptKey_no_address_iv_tamper_residual(+_witness)
    "fails WITH AN ERROR" (not a crash)                                    decrypt_total, decrypt_panic_only_from_kdf,
                                                                            degenerate_kdfparams_are_errors
-/
import Aqv.Lemmas.Keystore
namespace Aqv.Props.C20
open Aqv Aqv.Keystore

/-! ## 1. Round trip -/

/-- For every private scalar `d` (in particular small ones, whose 32-byte encoding starts with zero bytes), every passphrase,
    salt, IV and scrypt parameters (p positive), the key's Address being the one derived from `d` (newKeyFromECDSA):
    if the KDF delivers a key (32 bytes or more), `EncryptKey` produces a file that
    `DecryptKey` opens, under the same passphrase, to exactly `d` with the address derived from `d`; and
    `KeyStore`-level `GetKey` for that address accepts it. -/
theorem roundtrip (P : Prims) (d : Nat) (hd : d < secpN) (addr id auth salt iv : Bytes) (n p : Int) (hp0 : 0 < p)
    (haddr : addr = P.addrOf d)
    (buf : Bytes) (len : Nat) (hk : P.kdf (.scrypt auth salt n scryptR p scryptDKLen) = .ok buf len)
    (hcap : 32 ≤ buf.length) (hiv : iv.length = 16) :
    ∃ f, encryptKey P d addr id auth salt iv n p = .ok f ∧
         decryptBytes P f auth = .ok (paddedBigBytes d 32) ∧
         decryptKey P f auth = .ok ⟨d, P.addrOf d⟩ ∧
         getKey P (P.addrOf d) f auth = .ok ⟨d, P.addrOf d⟩ := by
  subst haddr
  have hs := scalarOfBytes_padded d hd
  have h1 := decryptBytes_sealedFile d (P.addrOf d) id hp0 hk hcap hiv
  have h2 : decryptKey P (sealedFile P d (P.addrOf d) id salt iv n p buf) auth = .ok ⟨d, P.addrOf d⟩ :=
    decryptKey_ok_iff.2 ⟨_, h1, Or.inr (by rw [hs]; exact fileAddr_hexEncode _), by rw [hs]⟩
  exact ⟨_, encryptKey_ok d _ id hk hcap hiv, h1, h2, (getKey_ok_iff ..).2 ⟨h2, rfl⟩⟩

/-- The 32-byte encoding keeps leading zero bytes, and reading it back gives the same scalar (the "31-byte key" slip
    cannot happen): for every valid scalar the encoding has exactly 32 bytes and decodes to the scalar; conversely every
    32-byte string is the encoding of its value. -/
theorem roundtrip_keeps_leading_zeros (d : Nat) (hd : d < secpN) :
    (paddedBigBytes d 32).length = 32 ∧ scalarOfBytes (paddedBigBytes d 32) = d ∧
    ∀ b : Bytes, b.length = 32 → paddedBigBytes (beNat b) 32 = b :=
  ⟨paddedBigBytes_length d 32 (Nat.lt_trans hd secpN_lt), scalarOfBytes_padded d hd, fun b h => h ▸ paddedBigBytes_beNat b⟩

/-- Read side, legacy key files: some clients wrote the private key with its leading zero bytes STRIPPED (a 31- or 30-byte
    plaintext; the repo's `31_byte_key` / `30_byte_key` vectors).  Whatever width n <= 32 the plaintext has, DecryptKey reads
    it as a big-endian number — i.e. pads on the LEFT — and returns the original scalar `d` (and its 32-byte serialisation
    `paddedBigBytes d 32`), with the file's address, if present, matching; GetKey for that address accepts. -/
theorem short_plaintext_roundtrip (P : Prims) (f : KeyFile) (pw : Bytes) (d n : Nat) (hd : d < secpN) (hn : n ≤ 32)
    (hpt : decryptBytes P f pw = .ok (paddedBigBytes d n))
    (haddr : f.address = [] ∨ fileAddr f.address = some (P.addrOf d)) :
    decryptKey P f pw = .ok ⟨d, P.addrOf d⟩ ∧ getKey P (P.addrOf d) f pw = .ok ⟨d, P.addrOf d⟩ ∧
    (⟨d, P.addrOf d⟩ : Key).bytes = paddedBigBytes d 32 := by
  have hs := scalarOfBytes_padded_any d n hd hn
  have hdk : decryptKey P f pw = .ok ⟨d, P.addrOf d⟩ :=
    decryptKey_ok_iff.2 ⟨_, hpt, by rw [hs]; exact haddr, by rw [hs]⟩
  exact ⟨hdk, (getKey_ok_iff ..).2 ⟨hdk, rfl⟩, rfl⟩

/-- KeyStore.Update / writeKeyFile: the stored file after a write is EXACTLY the new blob — whatever was there before, of
    whatever length (a longer scrypt-N encoding, an indented or v1 file): no residue; other paths are untouched. -/
theorem update_then_read (d : Disk) (path blob : Bytes) :
    writeFile d path blob path = some blob ∧ ∀ q, q ≠ path → writeFile d path blob q = d q := by
  refine ⟨by simp [writeFile], ?_⟩
  intro q hq
  simp [writeFile, hq]

/-- why the truncation matters: a write that does not truncate equals the new blob only if the old content was not longer. -/
theorem write_without_truncation_leaves_residue (old new : Bytes) : writeNoTrunc old new = new ↔ old.length ≤ new.length := by
  unfold writeNoTrunc
  constructor
  · intro h
    have := congrArg List.length h
    simp only [List.length_append, List.length_drop] at this
    omega
  · intro h
    rw [List.drop_of_length_le h, List.append_nil]

/-- Update = GetKey under the old passphrase, EncryptKey under the new one, write: afterwards the path holds the new file
    only, it opens under the NEW passphrase to the identical key and address, and every other path is as before. -/
theorem update_then_unlock (P : Prims) (s : Store) (path : Bytes) (d : Nat) (hd : d < secpN)
    (id pwOld pwNew salt iv : Bytes) (n p : Int) (hp0 : 0 < p)
    (_hold : getKeyAt P s (P.addrOf d) path pwOld = some (.ok ⟨d, P.addrOf d⟩))   -- Update got the key with the old passphrase
    (buf : Bytes) (len : Nat) (hk : P.kdf (.scrypt pwNew salt n scryptR p scryptDKLen) = .ok buf len)
    (hcap : 32 ≤ buf.length) (hiv : iv.length = 16) :
    ∃ fNew, encryptKey P d (P.addrOf d) id pwNew salt iv n p = .ok fNew ∧
      getKeyAt P (s.write path fNew) (P.addrOf d) path pwNew = some (.ok ⟨d, P.addrOf d⟩) ∧
      ∀ q, q ≠ path → (s.write path fNew) q = s q := by
  obtain ⟨f, h1, _, _, h4⟩ := roundtrip P d hd (P.addrOf d) id pwNew salt iv n p hp0 rfl buf len hk hcap hiv
  refine ⟨f, h1, ?_, ?_⟩
  · simp [getKeyAt, Store.write, h4]
  · intro q hq
    simp [Store.write, hq]

/-! ## 2. Wrong passphrase -/

/-- Any file (v3 scrypt, v3 pbkdf2 or v1) that opens under `pw`: under a passphrase `pw'` for which the KDF output differs
    on bytes 16..32, and with `H` collision-free on the two MAC inputs, DecryptKey returns ErrDecrypt. -/
theorem wrong_pass_rejected (P : Prims) (f : KeyFile) (pw pw' : Bytes) (k : Key)
    (hok : decryptKey P f pw = .ok k)
    (buf buf' : Bytes) (len len' : Nat)
    (hk : getKDFKey P f.crypto pw = .ok (buf, len)) (hk' : getKDFKey P f.crypto pw' = .ok (buf', len'))
    (hcap' : 32 ≤ buf'.length)
    (hdiff : macKey buf' ≠ macKey buf)
    (hcr : ∀ ct, hexDecode f.crypto.ciphertext = some ct →
      P.H (macKey buf' ++ ct) = P.H (macKey buf ++ ct) → macKey buf' ++ ct = macKey buf ++ ct) :
    decryptKey P f pw' = .err .decrypt := by
  obtain ⟨o, -⟩ := decryptKey_ok_opening hok
  have hmac := o.hmac
  have hcap := o.hcap
  rw [o.buf_eq hk] at hmac hcap
  have hcm : checkMac P f.crypto pw' = .err .decrypt := by
    rw [checkMac_eq hmac o.hiv o.hct hk', if_neg (by omega), if_pos]
    exact fun h => hdiff (macInput_inj hcap hcap' (hcr _ o.hct h)).1
  apply decryptKey_err
  rw [decryptBytes_eq, o.hgate, hcm]

/-- Whatever the KDF does under the other passphrase (key, error or panic): as long as *a delivered key* differs on bytes
    16..32 (and `H` does not collide on the two MAC inputs), the other passphrase never unlocks. -/
theorem wrong_pass_never_unlocks (P : Prims) (f : KeyFile) (pw pw' : Bytes) (k : Key)
    (hok : decryptKey P f pw = .ok k)
    (hdiff : ∀ buf buf' len len', getKDFKey P f.crypto pw = .ok (buf, len) → getKDFKey P f.crypto pw' = .ok (buf', len') →
      macKey buf' ≠ macKey buf)
    (hcr : ∀ buf buf' len len' ct, getKDFKey P f.crypto pw = .ok (buf, len) → getKDFKey P f.crypto pw' = .ok (buf', len') →
      hexDecode f.crypto.ciphertext = some ct →
      P.H (macKey buf' ++ ct) = P.H (macKey buf ++ ct) → macKey buf' ++ ct = macKey buf ++ ct) :
    ∀ k', decryptKey P f pw' ≠ .ok k' := by
  intro k' hok'
  obtain ⟨o, -⟩ := decryptKey_ok_opening hok
  obtain ⟨o', -⟩ := decryptKey_ok_opening hok'
  have hc : o'.ct = o.ct := Option.some.inj (o'.hct.symm.trans o.hct)
  exact hdiff _ _ _ _ o.hkdf o'.hkdf (o.mac_binds o' rfl (hc ▸ hcr _ _ _ _ o.ct o.hkdf o'.hkdf o.hct)).1

/-! ## 3. Tampering with ciphertext, MAC, salt, KDF parameters -/

/-- Two files `f` (the stored one) and `f'` (after tampering) read on the same path with the same decoded IV.  If
    (a) the MAC field still decodes to the same bytes (tampering with ciphertext, salt, KDF name or any KDF parameter), or
    (b) ciphertext and derived MAC key are unchanged (tampering with the MAC field),
    then — `H` collision-free on the two MAC inputs, and the two KDF outputs agreeing on bytes 0..16 whenever they agree
    on bytes 16..32 — whatever `f'` opens to under the same passphrase is the ORIGINAL key.
    (So the outcome is an error, a panic, or the original key; never another key.) -/
theorem tamper_ct_mac_salt_params_rejected (P : Prims) (f f' : KeyFile) (pw : Bytes) (k k' : Key)
    (hok : decryptKey P f pw = .ok k) (hok' : decryptKey P f' pw = .ok k')
    (hpath : isV1 f' = isV1 f)
    (hiv : hexDecode f'.crypto.iv = hexDecode f.crypto.iv)
    (hsame : hexDecode f'.crypto.mac = hexDecode f.crypto.mac ∨
             (hexDecode f'.crypto.ciphertext = hexDecode f.crypto.ciphertext ∧
              ∀ buf buf' len len', getKDFKey P f.crypto pw = .ok (buf, len) → getKDFKey P f'.crypto pw = .ok (buf', len') →
                macKey buf' = macKey buf))
    (hcr : ∀ buf buf' len len' ct ct', getKDFKey P f.crypto pw = .ok (buf, len) → getKDFKey P f'.crypto pw = .ok (buf', len') →
      hexDecode f.crypto.ciphertext = some ct → hexDecode f'.crypto.ciphertext = some ct' →
      P.H (macKey buf' ++ ct') = P.H (macKey buf ++ ct) → macKey buf' ++ ct' = macKey buf ++ ct)
    (hbind : ∀ buf buf' len len', getKDFKey P f.crypto pw = .ok (buf, len) → getKDFKey P f'.crypto pw = .ok (buf', len') →
      macKey buf' = macKey buf → encKey buf' = encKey buf) :
    k' = k := by
  obtain ⟨o, rfl⟩ := decryptKey_ok_opening hok
  obtain ⟨o', rfl⟩ := decryptKey_ok_opening hok'
  have hivEq : o'.iv = o.iv := Option.some.inj (by rw [← o'.hiv, ← o.hiv, hiv])
  have hboth : macKey o'.buf = macKey o.buf ∧ o'.ct = o.ct := by
    rcases hsame with hm | ⟨hc, hmk⟩
    · exact o.mac_binds o' hm (hcr _ _ _ _ _ _ o.hkdf o'.hkdf o.hct o'.hct)
    · rw [o'.hct, o.hct] at hc
      exact ⟨hmk _ _ _ _ o.hkdf o'.hkdf, Option.some.inj hc⟩
  -- same path, same cipher key, same IV, same ciphertext: same plaintext
  have hpl := o'.hplain
  rw [hpath, hbind _ _ _ _ o.hkdf o'.hkdf hboth.1, hivEq, hboth.2, o.hplain] at hpl
  injection hpl with hpl
  rw [hpl]

/-- Ciphertext altered (the hex still decodes, to different bytes), everything else as stored: rejected with ErrDecrypt
    or an earlier error — never opened — provided `H` does not collide on the two MAC inputs. -/
theorem tamper_ct_rejected (P : Prims) (f : KeyFile) (pw : Bytes) (k : Key) (newCt : Bytes)
    (hok : decryptKey P f pw = .ok k)
    (hdiff : hexDecode newCt ≠ hexDecode f.crypto.ciphertext)
    (hcr : ∀ buf len ct ct', getKDFKey P f.crypto pw = .ok (buf, len) →
      hexDecode f.crypto.ciphertext = some ct → hexDecode newCt = some ct' →
      P.H (macKey buf ++ ct') = P.H (macKey buf ++ ct) → macKey buf ++ ct' = macKey buf ++ ct) :
    ∀ k', decryptKey P { f with crypto := { f.crypto with ciphertext := newCt } } pw ≠ .ok k' := by
  intro k' hok'
  obtain ⟨o, -⟩ := decryptKey_ok_opening hok
  obtain ⟨o', -⟩ := decryptKey_ok_opening hok'
  -- the KDF sees the same parameters
  have hb : o'.buf = o.buf := o'.buf_eq o.hkdf
  have hc := (o.mac_binds o' rfl (by rw [hb]; exact hcr _ _ _ _ o.hkdf o.hct o'.hct)).2
  exact hdiff (o'.hct.trans (hc ▸ o.hct.symm))

/-- MAC field altered (to anything that does not decode to the stored MAC bytes), everything else as stored: rejected.
    No cryptographic assumption needed. -/
theorem tamper_mac_rejected (P : Prims) (f : KeyFile) (pw : Bytes) (k : Key) (newMac : Bytes)
    (hok : decryptKey P f pw = .ok k)
    (hdiff : hexDecode newMac ≠ hexDecode f.crypto.mac) :
    ∀ k', decryptKey P { f with crypto := { f.crypto with mac := newMac } } pw ≠ .ok k' := by
  intro k' hok'
  obtain ⟨o, -⟩ := decryptKey_ok_opening hok
  obtain ⟨o', -⟩ := decryptKey_ok_opening hok'
  have hb : o'.buf = o.buf := o'.buf_eq o.hkdf
  have hc : o'.ct = o.ct := Option.some.inj (o'.hct.symm.trans o.hct)
  -- both MAC fields decode to the hash of the same MAC key and ciphertext
  exact hdiff (o'.hmac.trans (by rw [hb, hc]; exact o.hmac.symm))

/-! ## 4. KeyStore level: nothing but the account's own key is ever handed out -/

/-- `keyStorePassphrase.GetKey` (what Unlock / SignWithPassphrase / Export / Update / Delete go through): for ANY two
    files and passphrases — i.e. after arbitrary tampering with any field including the IV, or a swapped file — a
    successful result carries the requested account's address, and that address is the one derived from the returned
    scalar.  If address derivation separates the two scalars (no address collision) the two keys are identical. -/
theorem tamper_never_yields_other_key (P : Prims) (a : Bytes) (f f' : KeyFile) (pw pw' : Bytes) (k k' : Key)
    (hok : getKey P a f pw = .ok k) (hok' : getKey P a f' pw' = .ok k') :
    k.addr = a ∧ k'.addr = a ∧ k'.addr = P.addrOf k'.d ∧
    ((P.addrOf k'.d = P.addrOf k.d → k'.d = k.d) → k' = k) := by
  obtain ⟨hd, ha⟩ := (getKey_ok_iff ..).1 hok
  obtain ⟨hd', ha'⟩ := (getKey_ok_iff ..).1 hok'
  exact ⟨ha, ha', decryptKey_addr hd', key_eq_of_addr (decryptKey_addr hd) (decryptKey_addr hd') (ha'.trans ha.symm)⟩

/-- every live entry of the unlocked table is a key its account's file opens to. -/
def UnlockedOK (P : Prims) (s : KsState) : Prop :=
  ∀ a k t, s.unlocked a = some (k, t) → ∃ f pw, s.store a = some f ∧ getKey P a f pw = .ok k

theorem UnlockedOK.set {P : Prims} {s : KsState} (hs : UnlockedOK P s) {a pw : Bytes} {f : KeyFile} {k : Key}
    (hst : s.store a = some f) (hg : getKey P a f pw = .ok k) (timed : Bool) :
    UnlockedOK P { s with unlocked := fun x => if x = a then some (k, timed) else s.unlocked x } := by
  intro x k' t hx
  by_cases hxa : x = a
  · subst hxa
    simp only [if_true, Option.some.injEq, Prod.mk.injEq] at hx
    exact hx.1 ▸ ⟨f, pw, hst, hg⟩
  · simp only [hxa, if_false] at hx
    exact hs x k' t hx

/-- every operation keeps the table sound (Update: because the new file opens to the very key the old one did). -/
theorem UnlockedOK.step {P : Prims} (hinj : ∀ d d', P.addrOf d = P.addrOf d' → d = d') {s : KsState}
    (hs : UnlockedOK P s) (op : KsOp) : UnlockedOK P (s.step P op) := by
  cases op with
  | unlock a pw timed =>
    rcases s.step_unlock P a pw timed with e | ⟨f, k, hst, hg, -, e⟩ <;> rw [e]
    · exact hs
    · exact hs.set hst hg timed
  | lock a =>
    intro x k t hx
    simp only [KsState.step] at hx
    split at hx
    · cases hx
    · exact hs x k t hx
  | update a pwOld pwNew fNew =>
    rcases s.step_update P a pwOld pwNew fNew with e | ⟨f, k, hst, hg, hn, e⟩ <;> rw [e]
    · exact hs
    intro x k' t hx
    obtain ⟨f0, pw0, hf0, hk0⟩ := hs x k' t hx
    by_cases hxa : x = a
    · subst hxa
      -- the live key and the key Update decrypted come from the same file: they are the same key
      rw [hst] at hf0
      cases hf0
      have := (tamper_never_yields_other_key P x f f pwOld pw0 k k' hg hk0).2.2.2 (hinj _ _)
      exact ⟨fNew, pwNew, by simp, this ▸ hn⟩
    · exact ⟨f0, pw0, by simp [hxa, hf0], hk0⟩

/-- Unlock-state histories: after ANY sequence of Unlock / TimedUnlock (right or wrong passphrase, on locked or already
    unlocked accounts), Lock / expiry and Update, starting with nothing unlocked, whatever sits in the unlocked table for
    account `a` — the key SignHash and SignTx use — is a key the account's stored file opens to, so it has the account's
    address (address derivation assumed collision-free across Update).  In particular a second successful unlock never
    damages or replaces the live key by anything else. -/
theorem unlocked_key_is_stored_key (P : Prims) (hinj : ∀ d d', P.addrOf d = P.addrOf d' → d = d')
    (s0 : KsState) (h0 : ∀ a, s0.unlocked a = none) (ops : List KsOp) :
    UnlockedOK P (ops.foldl (KsState.step P) s0) ∧
    ∀ a k, (ops.foldl (KsState.step P) s0).signingKey a = some k → k.addr = a := by
  have all : ∀ (ops : List KsOp) (s : KsState), UnlockedOK P s → UnlockedOK P (ops.foldl (KsState.step P) s) := by
    intro ops
    induction ops with
    | nil => exact fun s hs => hs
    | cons op rest ih => exact fun s hs => ih _ (hs.step hinj op)
  have hfin := all ops s0 (by intro a k t h; rw [h0 a] at h; cases h)
  refine ⟨hfin, fun a k hk => ?_⟩
  obtain ⟨⟨k0, t⟩, hu, rfl⟩ := Option.map_eq_some_iff.1 hk
  obtain ⟨f, pw, -, hg⟩ := hfin a k0 t hu
  exact ((getKey_ok_iff ..).1 hg).2

/-- The step the harness histories replay through the driver: an account that is unlocked INDEFINITELY keeps exactly its live
    key through any further Unlock / TimedUnlock, right or wrong passphrase (the fresh copy is the one discarded) — and
    `Lock` / expiry empties the entry, so signing answers ErrLocked. -/
theorem indefinite_unlock_survives (P : Prims) (s : KsState) (a pw : Bytes) (timed : Bool) (k : Key)
    (h : s.unlocked a = some (k, false)) :
    (s.step P (.unlock a pw timed)).unlocked a = some (k, false) ∧
    (s.step P (.unlock a pw timed)).signingKey a = some k ∧ (s.step P (.lock a)).signingKey a = none := by
  have h1 : (s.step P (.unlock a pw timed)).unlocked a = some (k, false) := by
    rcases s.step_unlock P a pw timed with e | ⟨f, k', -, -, hno, -⟩
    · rw [e, h]
    · exact absurd h (hno k)
  refine ⟨h1, ?_, ?_⟩
  · simp [KsState.signingKey, h1]
  · simp [KsState.signingKey, KsState.step]

/-! ## 5. Bare DecryptKey and KeyStore.Import: the file's own address authenticates what the MAC does not cover -/

/-- What a73be14 added: whenever `DecryptKey` succeeds on a file that names an address, the returned key HAS that address. -/
theorem decryptKey_ok_matches_file_address (P : Prims) (f : KeyFile) (pw : Bytes) (k : Key)
    (hok : decryptKey P f pw = .ok k) (ha : f.address ≠ []) :
    fileAddr f.address = some k.addr ∧ k.addr = P.addrOf k.d := by
  obtain ⟨pt, -, hc, rfl⟩ := decryptKey_ok_iff.1 hok
  exact ⟨hc.resolve_left ha, rfl⟩

/-- Bare `DecryptKey`, a key file that carries its address (every file written by EncryptKey / this keystore does): after ANY
    modification that leaves the address field alone — ciphertext, MAC, salt, KDF parameters, IV, cipher, version, several at
    once, under any passphrase — a successful result has the ORIGINAL address, and (address derivation separating the two
    scalars) is the ORIGINAL key.  No assumption on KDF, MAC or cipher. -/
theorem decryptKey_tamper_never_yields_other_key (P : Prims) (f f' : KeyFile) (pw pw' : Bytes) (k k' : Key)
    (hok : decryptKey P f pw = .ok k) (hok' : decryptKey P f' pw' = .ok k')
    (ha : f.address ≠ []) (hsame : f'.address = f.address) :
    k'.addr = k.addr ∧ ((P.addrOf k'.d = P.addrOf k.d → k'.d = k.d) → k' = k) := by
  obtain ⟨h1, h2⟩ := decryptKey_ok_matches_file_address P f pw k hok ha
  obtain ⟨h1', h2'⟩ := decryptKey_ok_matches_file_address P f' pw' k' hok' (hsame ▸ ha)
  have e : k'.addr = k.addr := Option.some.inj (by rw [← h1', hsame, h1])
  exact ⟨e, key_eq_of_addr h2 h2' e⟩

/-- The same at `KeyStore.Import` level: the account Import stores for a tampered JSON (address field untouched) has the
    address of the original key — "never an account with a different address". -/
theorem import_never_yields_other_account (P : Prims) (f f' : KeyFile) (pw pw' : Bytes) (a a' : Bytes)
    (hok : importAccount P f pw = .ok a) (hok' : importAccount P f' pw' = .ok a')
    (ha : f.address ≠ []) (hsame : f'.address = f.address) : a' = a := by
  obtain ⟨k, hk, rfl⟩ := importAccount_ok_iff.1 hok
  obtain ⟨k', hk', rfl⟩ := importAccount_ok_iff.1 hok'
  exact (decryptKey_tamper_never_yields_other_key P f f' pw pw' k k' hk hk' ha hsame).1

/-- How an altered IV (or anything else that makes the plaintext come out different) ends: if the bytes decrypt to a scalar
    whose address is not the one the file names, `DecryptKey` returns the "key file corrupted" error. -/
theorem decryptKey_rejects_key_of_other_address (P : Prims) (f : KeyFile) (pw pt : Bytes)
    (hpt : decryptBytes P f pw = .ok pt) (ha : f.address ≠ [])
    (hother : fileAddr f.address ≠ some (P.addrOf (scalarOfBytes pt))) :
    decryptKey P f pw = .err .corrupted ∧ importAccount P f pw = .err .corrupted :=
  have h := decryptKey_corrupted hpt ha hother
  ⟨h, importAccount_err h⟩

/-- RESIDUAL (not reachable for files this keystore wrote, which always carry "address"; reachable for key files of other
    tools that omit it): the IV is outside the MAC, so for a v3 file WITHOUT an address field, replacing the IV by any other
    16-byte value whose keystream differs within the ciphertext length makes bare `DecryptKey` succeed with different key
    bytes — it has nothing to compare against.  `KeyStore.GetKey` still compares with the account's address
    (`tamper_never_yields_other_key`, `getKey_rejects_iv_tamper`). -/
theorem decryptKey_no_address_iv_tamper_residual (P : Prims) (f : KeyFile) (pw pt : Bytes)
    (hok : decryptBytes P f pw = .ok pt) (hv3 : isV1 f = false) (hna : f.address = [])
    (iv iv' : Bytes) (hiv : hexDecode f.crypto.iv = some iv) (hlen : iv'.length = 16)
    (buf : Bytes) (len : Nat) (hk : getKDFKey P f.crypto pw = .ok (buf, len))
    (i : Nat) (hi : i < pt.length) (hks : P.ks (encKey buf) iv' i ≠ P.ks (encKey buf) iv i) :
    ∃ pt', pt' ≠ pt ∧
      decryptKey P { f with crypto := { f.crypto with iv := hexEncode iv' } } pw =
        .ok ⟨scalarOfBytes pt', P.addrOf (scalarOfBytes pt')⟩ := by
  obtain ⟨o, rfl⟩ := decryptBytes_ok_iff.1 hok
  have hpl := o.hplain
  rw [hv3, plain_v3 _ _ _ (plain_ok_iv o.hplain)] at hpl
  injection hpl with hpl
  rw [← o.buf_eq hk, ← Option.some.inj (o.hiv.symm.trans hiv)] at hks
  -- the same trace with the other IV is an opening of the altered file
  refine ⟨xorStream (P.ks (encKey o.buf) iv') 0 o.ct, ?_, decryptKey_ok_iff.2 ⟨_, decryptBytes_ok_iff.2
    ⟨{ o with
       iv := iv'
       pt := _
       hiv := hexDecode_hexEncode iv'
       hplain := (congrArg (plain P · _ _ _) hv3).trans (plain_v3 P (encKey o.buf) o.ct hlen) }, rfl⟩, Or.inl hna, rfl⟩⟩
  rw [← hpl, xorStream_length] at hi
  rw [← hpl]
  exact fun e => hks (by simpa using (xorStream_eq_iff _ _ 0 o.ct).1 e i hi)

/-- Toy primitives satisfying every cryptographic hypothesis used above: `H` injective (identity), address derivation
    injective, a constant KDF.  The keystream depends on the IV. -/
def toyP : Prims where
  kdf := fun _ => .ok ((List.range 32).map UInt8.ofNat) 32
  H := id
  ks := fun _ iv i => iv.getD i 0
  cbc := fun _ _ c => c
  addrOf := fun d => beBytes d

def wIv : Bytes := List.replicate 16 0
def wFile : KeyFile :=
  match encryptKey toyP 5 (toyP.addrOf 5) [] (ascii "pw") [1, 2, 3] wIv 2 1 with
  | .ok f => f
  | _ => ⟨false, none, false, false, 0, [], [], ⟨[], [], [], [], [], []⟩⟩
/-- the stored file with ONE character of the IV field changed ('0' -> '1' in the first position). -/
def wFileIv : KeyFile := { wFile with crypto := { wFile.crypto with iv := ascii "10000000000000000000000000000000" } }
/-- the same two files with the "address" field removed (as some other wallets write them). -/
def wFileNoAddr : KeyFile := { wFile with address := [] }
def wFileNoAddrIv : KeyFile := { wFileIv with address := [] }

/-- Positive statement at KeyStore level for whatever bare DecryptKey returns: a key whose address differs from the account's
    is answered with the mismatch error. -/
theorem getKey_rejects_iv_tamper (P : Prims) (a : Bytes) (f' : KeyFile) (pw : Bytes) (k' : Key)
    (hdec : decryptKey P f' pw = .ok k') (haddr : k'.addr ≠ a) :
    getKey P a f' pw = .err .mismatch :=
  (getKey_of_ok a hdec).trans (if_pos haddr)

/-- the witness file is what EncryptKey wrote, and opens to the stored scalar: an instance of `roundtrip`. -/
theorem wFile_opens : encryptKey toyP 5 (toyP.addrOf 5) [] (ascii "pw") [1, 2, 3] wIv 2 1 = .ok wFile ∧
    decryptBytes toyP wFile (ascii "pw") = .ok (paddedBigBytes 5 32) ∧
    decryptKey toyP wFile (ascii "pw") = .ok ⟨5, toyP.addrOf 5⟩ := by
  obtain ⟨f, h1, h2, h3, -⟩ := roundtrip toyP 5 (by decide) (toyP.addrOf 5) [] (ascii "pw") [1, 2, 3] wIv 2 1 (by decide) rfl
    ((List.range 32).map UInt8.ofNat) 32 rfl (by decide) (by decide)
  have e : wFile = f := by rw [wFile, h1]
  exact e ▸ ⟨h1, h2, h3⟩

/-- with one IV character changed the ciphertext decrypts to another scalar (the one evaluation of the altered file). -/
theorem wFileIv_bytes : decryptBytes toyP wFileIv (ascii "pw") = .ok (paddedBigBytes (2 ^ 252 + 5) 32) := by decide

theorem wFileNoAddrIv_opens : decryptKey toyP wFileNoAddrIv (ascii "pw") = .ok ⟨2 ^ 252 + 5, toyP.addrOf (2 ^ 252 + 5)⟩ :=
  scalarOfBytes_padded (2 ^ 252 + 5) (by decide) ▸ decryptKey_no_address wFileIv_bytes

/-- Concrete picture of both sides on one stored key (scalar 5): the file EncryptKey wrote opens to 5; with one IV character
    changed, bare DecryptKey and Import now answer "key file corrupted" (before a73be14: another key, silently) and GetKey
    rejects as before; only with the address field stripped does bare DecryptKey still hand out another key. -/
theorem decryptKey_no_address_iv_tamper_residual_witness :
    encryptKey toyP 5 (toyP.addrOf 5) [] (ascii "pw") [1, 2, 3] wIv 2 1 = .ok wFile ∧
    decryptKey toyP wFile (ascii "pw") = .ok ⟨5, toyP.addrOf 5⟩ ∧
    ((wFile.crypto.iv.zip wFileIv.crypto.iv).filter (fun p => p.1 != p.2)).length = 1 ∧
    decryptKey toyP wFileIv (ascii "pw") = .err .corrupted ∧
    importAccount toyP wFileIv (ascii "pw") = .err .corrupted ∧
    decryptKey toyP wFileNoAddr (ascii "pw") = .ok ⟨5, toyP.addrOf 5⟩ ∧
    decryptKey toyP wFileNoAddrIv (ascii "pw") = .ok ⟨2 ^ 252 + 5, toyP.addrOf (2 ^ 252 + 5)⟩ ∧
    getKey toyP (toyP.addrOf 5) wFileNoAddrIv (ascii "pw") = .err .mismatch := by
  have h4 : decryptKey toyP wFileIv (ascii "pw") = .err .corrupted :=
    decryptKey_corrupted wFileIv_bytes (by decide) (by rw [scalarOfBytes_padded _ (by decide)]; decide)
  exact ⟨wFile_opens.1, wFile_opens.2.2, by decide, h4, importAccount_err h4,
    scalarOfBytes_padded 5 (by decide) ▸ decryptKey_no_address wFile_opens.2.1, wFileNoAddrIv_opens,
    getKey_rejects_iv_tamper toyP _ _ _ _ wFileNoAddrIv_opens (by decide)⟩

/-! ## 6. "fails with an error": DecryptKey is total -/

/-- a KDF request with the parameters getKDFKey lets through. -/
def KdfReq.positive : KdfReq → Prop
  | .scrypt _ _ _ r p dklen => 0 < r ∧ 0 < p ∧ 0 < dklen
  | .pbkdf2 _ _ _ dklen => 0 < dklen

/-- what scrypt / PBKDF2 do on positive parameters: no panic, and the returned slice sits in whole 32-byte blocks. -/
def KdfSane (P : Prims) : Prop :=
  ∀ req, KdfReq.positive req → P.kdf req ≠ .panic ∧ ∀ buf len, P.kdf req = .ok buf len → 32 ≤ buf.length

/-- getKDFKey either fails with an error or is the KDF called on POSITIVE r, p, dklen (e55659c). -/
theorem getKDFKey_error_or_positive_call (P : Prims) (c : Crypto) (pw : Bytes) :
    (∃ e, getKDFKey P c pw = .err e) ∨ ∃ req, KdfReq.positive req ∧ getKDFKey P c pw = kdfRes (P.kdf req) := by
  unfold getKDFKey
  split
  · exact Or.inl ⟨_, rfl⟩
  split
  · exact Or.inl ⟨_, rfl⟩
  split
  · exact Or.inl ⟨_, rfl⟩
  rename_i dkLen _
  split
  · exact Or.inl ⟨_, rfl⟩
  rename_i hdk
  split
  · split
    · exact Or.inl ⟨_, rfl⟩
    split
    · exact Or.inl ⟨_, rfl⟩
    split
    · exact Or.inl ⟨_, rfl⟩
    split
    · exact Or.inl ⟨_, rfl⟩
    rename_i hrp
    refine Or.inr ⟨_, ?_, rfl⟩
    simp only [KdfReq.positive]
    omega
  split
  · split
    · exact Or.inl ⟨_, rfl⟩
    split
    · exact Or.inl ⟨_, rfl⟩
    split
    · exact Or.inl ⟨_, rfl⟩
    refine Or.inr ⟨_, ?_, rfl⟩
    simp only [KdfReq.positive]
    omega
  · exact Or.inl ⟨_, rfl⟩

/-- … so with a sane KDF it neither panics nor returns a buffer too short for `derivedKey[16:32]`. -/
theorem getKDFKey_sane {P : Prims} (hP : KdfSane P) (c : Crypto) (pw : Bytes) :
    getKDFKey P c pw ≠ .panic ∧ ∀ buf len, getKDFKey P c pw = .ok (buf, len) → 32 ≤ buf.length := by
  rcases getKDFKey_error_or_positive_call P c pw with ⟨e, he⟩ | ⟨req, hpos, hreq⟩
  · rw [he]
    exact ⟨nofun, nofun⟩
  · obtain ⟨hnp, hcap⟩ := hP req hpos
    rw [hreq]
    cases hq : P.kdf req with
    | ok b l => exact ⟨nofun, fun buf len h => by injection h with h; injection h with h; exact h ▸ hcap b l hq⟩
    | err => exact ⟨nofun, nofun⟩
    | panic => exact absurd hq hnp

/-- Unconditionally: the only ways left for DecryptKey to panic are a panic of the KDF call itself or a derived-key buffer
    of capacity below 32 — never a kdfparams entry, never the IV, never the ciphertext length. -/
theorem decrypt_panic_only_from_kdf (P : Prims) (f : KeyFile) (pw : Bytes) (h : decryptKey P f pw = .panic) :
    getKDFKey P f.crypto pw = .panic ∨ ∃ buf len, getKDFKey P f.crypto pw = .ok (buf, len) ∧ buf.length < 32 :=
  decryptBytes_panic (decryptKey_panic h)

/-- TOTALITY: with a KDF that behaves like scrypt / PBKDF2 on positive parameters, `DecryptKey`, `GetKey` and `Import` never
    panic on ANY key file and passphrase — every failure is an error value.  (Before e55659c: `"p":0`, `"r":0`, `"dklen":-2`,
    a missing kdfparams key or a missing IV crashed the caller.)  Scope: the modelled expressions; allocation failure for
    absurd n / dklen is outside. -/
theorem decrypt_total (P : Prims) (hP : KdfSane P) (f : KeyFile) (pw : Bytes) :
    decryptKey P f pw ≠ .panic ∧ (∀ a, getKey P a f pw ≠ .panic) ∧ importAccount P f pw ≠ .panic := by
  have h1 : decryptKey P f pw ≠ .panic := by
    intro h
    obtain ⟨hnp, hcap⟩ := getKDFKey_sane hP f.crypto pw
    rcases decrypt_panic_only_from_kdf P f pw h with hp | ⟨buf, len, hk, hl⟩
    · exact hnp hp
    · have := hcap buf len hk
      omega
  exact ⟨h1, fun a h => h1 (getKey_panic h), fun h => h1 (importAccount_panic h)⟩

/-- Degenerate scrypt parameters are errors, whatever the KDF would do with them: r ≤ 0 or p ≤ 0 (well-typed otherwise)
    never reaches the KDF. -/
theorem degenerate_kdfparams_are_errors (P : Prims) (c : Crypto) (pw salt : Bytes) (dklen n r p : Int)
    (hs : asString (lookup c.kdfparams (ascii "salt")) = some (hexEncode salt))
    (hd : ensureInt (lookup c.kdfparams (ascii "dklen")) = some dklen)
    (hkdf : c.kdf = ascii "scrypt")
    (hn : ensureInt (lookup c.kdfparams (ascii "n")) = some n)
    (hr : ensureInt (lookup c.kdfparams (ascii "r")) = some r)
    (hp : ensureInt (lookup c.kdfparams (ascii "p")) = some p)
    (hbad : dklen ≤ 0 ∨ r ≤ 0 ∨ p ≤ 0) : getKDFKey P c pw = .err .kdfParams := by
  unfold getKDFKey
  simp only [hs, hexDecode_hexEncode, hd, hkdf, hn, hr, hp, if_true]
  by_cases h0 : dklen ≤ 0
  · rw [if_pos h0]
  · rw [if_neg h0, if_pos (by omega)]

/-! ## Non-vacuity: the hypotheses of the theorems above are satisfiable on non-trivial instances -/

/-- roundtrip: a scalar with 31 leading zero bytes under the toy primitives. -/
example : ∃ f, encryptKey toyP 5 (toyP.addrOf 5) [] (ascii "pw") [1, 2, 3] wIv 2 1 = .ok f ∧
    decryptKey toyP f (ascii "pw") = .ok ⟨5, toyP.addrOf 5⟩ :=
  ⟨wFile, wFile_opens.1, wFile_opens.2.2⟩

/-- write_without_truncation_leaves_residue: an old content one byte longer than the new one leaves its last byte behind. -/
example : writeNoTrunc [1, 2, 3] [9, 9] = [9, 9, 3] := by decide

/-- short_plaintext_roundtrip: the witness file with its ciphertext cut to the last byte (plaintext = the 1-byte blob 05, the 31
    zero bytes stripped; MAC recomputed — H is the identity here) still opens to scalar 5. -/
def wCryptoShort : Crypto :=
  { cipher := wFile.crypto.cipher, ciphertext := ascii "05", iv := wFile.crypto.iv, kdf := wFile.crypto.kdf,
    kdfparams := wFile.crypto.kdfparams, mac := hexEncode (macKey ((List.range 32).map UInt8.ofNat) ++ [5]) }
def wFileShort : KeyFile := { wFile with crypto := wCryptoShort }

example : decryptBytes toyP wFileShort (ascii "pw") = .ok (paddedBigBytes 5 1) ∧
    decryptKey toyP wFileShort (ascii "pw") = .ok ⟨5, toyP.addrOf 5⟩ := by
  have h : decryptBytes toyP wFileShort (ascii "pw") = .ok (paddedBigBytes 5 1) := by decide
  exact ⟨h, (short_plaintext_roundtrip toyP wFileShort (ascii "pw") 5 1 (by decide) (by decide) h (Or.inr (by decide))).1⟩

/-- a KDF that depends on the passphrase: first byte of the passphrase added to every output byte. -/
def toyP2 : Prims :=
  { toyP with kdf := fun req => match req with
      | .scrypt pw _ _ _ _ _ => .ok ((List.range 32).map (fun i => UInt8.ofNat i + pw.headD 0)) 32
      | .pbkdf2 pw _ _ _ => .ok ((List.range 32).map (fun i => UInt8.ofNat i + pw.headD 0)) 32 }

def wFile2 : KeyFile :=
  match encryptKey toyP2 5 (toyP.addrOf 5) [] (ascii "pw") [1, 2, 3] wIv 2 1 with
  | .ok f => f
  | _ => ⟨false, none, false, false, 0, [], [], ⟨[], [], [], [], [], []⟩⟩

/-- wrong_pass_rejected: all hypotheses hold for ("pw", "qw") under toyP2 (H = id is collision-free), and the conclusion
    is observed. -/
example : decryptKey toyP2 wFile2 (ascii "pw") = .ok ⟨5, toyP.addrOf 5⟩ ∧
    decryptKey toyP2 wFile2 (ascii "qw") = .err .decrypt := by
  have h : decryptKey toyP2 wFile2 (ascii "pw") = .ok ⟨5, toyP.addrOf 5⟩ := by
    obtain ⟨f, h1, -, h3, -⟩ := roundtrip toyP2 5 (by decide) (toyP.addrOf 5) [] (ascii "pw") [1, 2, 3] wIv 2 1 (by decide) rfl
      _ 32 rfl (by decide) (by decide)
    have e : wFile2 = f := by rw [wFile2, h1]
    exact e ▸ h3
  exact ⟨h, wrong_pass_rejected toyP2 wFile2 (ascii "pw") (ascii "qw") _ h
    ((List.range 32).map (fun i => UInt8.ofNat i + 112)) ((List.range 32).map (fun i => UInt8.ofNat i + 113)) 32 32
    (by decide) (by decide) (by decide) (by decide) (fun ct _ h => h)⟩

/-- tamper theorem: hypotheses satisfiable with f' = f except `dklen` 32 -> 12 (the KDF buffer is the same), and the
    tampered file still opens to the original key. -/
def wFileDk : KeyFile :=
  { wFile with crypto := { wFile.crypto with kdfparams :=
      [(ascii "dklen", .num 12), (ascii "n", .num 2), (ascii "p", .num 1), (ascii "r", .num 8), (ascii "salt", .str (ascii "010203"))] } }

theorem wFileDk_opens : decryptKey toyP wFileDk (ascii "pw") = .ok ⟨5, toyP.addrOf 5⟩ := by decide

example : decryptKey toyP wFileDk (ascii "pw") = .ok ⟨5, toyP.addrOf 5⟩ := wFileDk_opens

example : ∀ k', decryptKey toyP wFileDk (ascii "pw") = .ok k' → k' = ⟨5, toyP.addrOf 5⟩ := by
  intro k' hk'
  exact tamper_ct_mac_salt_params_rejected toyP wFile wFileDk (ascii "pw") _ k' wFile_opens.2.2 hk' rfl rfl (Or.inl rfl)
    (fun _ _ _ _ _ _ _ _ _ _ h => h)
    (fun buf buf' _ _ h1 h2 _ => by
      have e : getKDFKey toyP wFileDk.crypto (ascii "pw") = getKDFKey toyP wFile.crypto (ascii "pw") := by decide
      rw [e, h1] at h2
      injection h2 with h2
      injection h2 with h2
      rw [h2])

/-- tamper_ct_rejected / tamper_mac_rejected: hypotheses satisfiable (one ciphertext / MAC character changed). -/
example : ∀ k', decryptKey toyP { wFile with crypto := { wFile.crypto with
      ciphertext := ascii "1000000000000000000000000000000000000000000000000000000000000005" } } (ascii "pw") ≠ .ok k' :=
  tamper_ct_rejected toyP wFile (ascii "pw") _ _ wFile_opens.2.2 (by decide) (fun _ _ _ _ _ _ _ h => h)

example : ∀ k', decryptKey toyP { wFile with crypto := { wFile.crypto with mac := ascii "00" } } (ascii "pw") ≠ .ok k' :=
  tamper_mac_rejected toyP wFile (ascii "pw") _ _ wFile_opens.2.2 (by decide)

/-- unlocked_key_is_stored_key: a history on the witness file — unlock, unlock again (timed) while unlocked, wrong passphrase,
    lock, timed unlock — leaves the stored key 5 as the signing key (toy address derivation is injective). -/
def wState : KsState := ⟨fun a => if a = toyP.addrOf 5 then some wFile else none, fun _ => none⟩
example : ((([KsOp.unlock (toyP.addrOf 5) (ascii "pw") false, .unlock (toyP.addrOf 5) (ascii "pw") true,
      .unlock (toyP.addrOf 5) (ascii "qw") false] : List KsOp).foldl (KsState.step toyP) wState).signingKey (toyP.addrOf 5)) =
    some ⟨5, toyP.addrOf 5⟩ := by decide
example : ((([KsOp.unlock (toyP.addrOf 5) (ascii "pw") false, .lock (toyP.addrOf 5)] : List KsOp).foldl (KsState.step toyP) wState).signingKey
    (toyP.addrOf 5)) = none := by decide

/-- indefinite_unlock_survives: the hypothesis holds after an indefinite unlock of the witness account. -/
example : (wState.step toyP (.unlock (toyP.addrOf 5) (ascii "pw") false)).unlocked (toyP.addrOf 5) = some (⟨5, toyP.addrOf 5⟩, false) := by
  decide

/-- tamper_never_yields_other_key / getKey_rejects_iv_tamper: hypotheses satisfiable. -/
example : getKey toyP (toyP.addrOf 5) wFile (ascii "pw") = .ok ⟨5, toyP.addrOf 5⟩ :=
  (getKey_ok_iff ..).2 ⟨wFile_opens.2.2, rfl⟩
example : getKey toyP (toyP.addrOf 5) wFileNoAddrIv (ascii "pw") = .err .mismatch := by
  exact getKey_rejects_iv_tamper toyP _ _ _ _ wFileNoAddrIv_opens (by decide)

/-- decryptKey_tamper_never_yields_other_key / import_never_yields_other_account: the stored file names its address, and a
    tampered variant that still opens exists (dklen 32 -> 12), so both hypotheses are jointly satisfiable. -/
example : wFile.address ≠ [] ∧ wFileDk.address = wFile.address ∧
    importAccount toyP wFile (ascii "pw") = .ok (toyP.addrOf 5) ∧ importAccount toyP wFileDk (ascii "pw") = .ok (toyP.addrOf 5) := by
  exact ⟨by decide, rfl, importAccount_ok_iff.2 ⟨_, wFile_opens.2.2, rfl⟩, importAccount_ok_iff.2 ⟨_, wFileDk_opens, rfl⟩⟩

/-- decryptKey_rejects_key_of_other_address: hypotheses hold for the IV-tampered file. -/
example : decryptKey toyP wFileIv (ascii "pw") = .err .corrupted :=
  (decryptKey_rejects_key_of_other_address toyP wFileIv (ascii "pw") (paddedBigBytes (2 ^ 252 + 5) 32) wFileIv_bytes (by decide)
    (by decide)).1

/-- decryptKey_no_address_iv_tamper_residual: hypotheses satisfiable on the address-less witness file. -/
example : ∃ pt', pt' ≠ paddedBigBytes 5 32 ∧
    decryptKey toyP { wFileNoAddr with crypto := { wFileNoAddr.crypto with iv := hexEncode (1 :: List.replicate 15 0) } } (ascii "pw") =
      .ok ⟨scalarOfBytes pt', toyP.addrOf (scalarOfBytes pt')⟩ :=
  decryptKey_no_address_iv_tamper_residual toyP wFileNoAddr (ascii "pw") (paddedBigBytes 5 32) wFile_opens.2.1 (by decide) rfl wIv
    (1 :: List.replicate 15 0) (by decide) (by decide) ((List.range 32).map UInt8.ofNat) 32 (by decide) 0 (by decide) (by decide)

/-- decrypt_total: the toy KDF is sane; degenerate_kdfparams_are_errors: a file with p = 0 is an error even under a KDF that
    would panic on it. -/
example : KdfSane toyP := fun _ _ => ⟨by simp [toyP], fun buf len h => by
  simp only [toyP] at h
  injection h with h1 _
  subst h1
  decide⟩

def toyPanicP : Prims :=
  { toyP with kdf := fun req => match req with
      | .scrypt _ _ _ r p dklen => if r = 0 ∨ p = 0 ∨ dklen < 0 then .panic else .ok ((List.range 32).map UInt8.ofNat) 32
      | .pbkdf2 _ _ _ dklen => if dklen < 0 then .panic else .ok ((List.range 32).map UInt8.ofNat) 32 }

def wFileP0 : KeyFile :=
  { wFile with crypto := { wFile.crypto with kdfparams :=
      [(ascii "dklen", .num 32), (ascii "n", .num 2), (ascii "p", .num 0), (ascii "r", .num 8), (ascii "salt", .str (ascii "010203"))] } }

example : decryptKey toyPanicP wFileP0 (ascii "pw") = .err .kdfParams ∧
    getKey toyPanicP (toyP.addrOf 5) wFileP0 (ascii "pw") = .err .kdfParams := by
  refine ⟨by decide, by decide⟩

end Aqv.Props.C20
