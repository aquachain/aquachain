/-
  C08 — EVM instructions compute what the specification defines.   Property theorems only (helpers: Aqv/Lemmas/Evm*.lean).

  Impl  = Aqv.Model.EvmOps   (core/vm/instructions.go op*, gas_table.go, gas.go, common.go, analysis.go as written, over
                              Int with the math/big fragment of Aqv.Base.Big, and over UInt64 with Go's wrap-around)
          Aqv.Model.EvmSelect (NewInterpreter's epoch switch, ChainConfig.GasTable)
          Aqv.Gen.VmTable     (the five instruction sets, gas constants, fork heights — REGENERATED from the compiled code)
  Spec  = Aqv.Model.EvmSpec   (Yellow Paper: BitVec 256 results, Nat gas formulas, D(c), hand-written opcode tables)

  Every `opX_spec` reads: for ALL 256-bit operands the Go computation returns exactly the specified word.
  Two clauses are falsified by the code as written; for each there is a witness theorem and a `_partial` theorem whose
  excluded operand set is explicit:
    * SAR(shift ≥ 256, value = 0) returns 2^256 − 1                       (sar_zero_witness, opSAR_spec_partial)
    * memoryGasCost wraps uint64 for 2^37−31 … 2^40−32 requested bytes     (memgas_wrap_witness, memoryGasCost_spec_partial)
-/
import Aqv.Lemmas.EvmOps
import Aqv.Lemmas.EvmGas
import Aqv.Lemmas.EvmBitmap
import Aqv.Model.EvmSelect
import Aqv.Lemmas.EvmRun
import Aqv.Lemmas.EvmMemTotal
import Aqv.Lemmas.Translated.Vm
import Aqv.Lemmas.Translated.Params
namespace Aqv.Props.C08
open Aqv Aqv.Big Aqv.Evm Aqv.Gen.VmTable

abbrev W := BitVec 256

/-! ## results of the computational opcodes (operands in pop order; `↑a.toNat` is the stack word as the Go big.Int) -/

theorem opAdd_spec (a b : W) : opAdd a.toNat b.toNat = (EvmSpec.add a b).toNat := Evm.opAdd_spec a b
theorem opSub_spec (a b : W) : opSub a.toNat b.toNat = (EvmSpec.sub a b).toNat := Evm.opSub_spec a b
theorem opMul_spec (a b : W) : opMul a.toNat b.toNat = (EvmSpec.mul a b).toNat := Evm.opMul_spec a b
theorem opDiv_spec (a b : W) : opDiv a.toNat b.toNat = (EvmSpec.div a b).toNat := Evm.opDiv_spec a b
/-- including −2²⁵⁵ / −1 = −2²⁵⁵ and division by zero = 0 -/
theorem opSdiv_spec (a b : W) : opSdiv a.toNat b.toNat = (EvmSpec.sdiv a b).toNat := Evm.opSdiv_spec a b
theorem opMod_spec (a b : W) : opMod a.toNat b.toNat = (EvmSpec.mod a b).toNat := Evm.opMod_spec a b
theorem opSmod_spec (a b : W) : opSmod a.toNat b.toNat = (EvmSpec.smod a b).toNat := Evm.opSmod_spec a b
/-- the intermediate sum is not reduced modulo 2²⁵⁶ -/
theorem opAddmod_spec (a b n : W) : opAddmod a.toNat b.toNat n.toNat = (EvmSpec.addmod a b n).toNat := Evm.opAddmod_spec a b n
theorem opMulmod_spec (a b n : W) : opMulmod a.toNat b.toNat n.toNat = (EvmSpec.mulmod a b n).toNat := Evm.opMulmod_spec a b n
/-- the square-and-multiply loop of common/math.Exp over the 64-bit words of the exponent is a^e mod 2²⁵⁶ -/
theorem opExp_spec (a e : W) : opExp a.toNat e.toNat = (EvmSpec.exp a e).toNat := Evm.opExp_spec a e
theorem opSignExtend_spec (b x : W) : opSignExtend b.toNat x.toNat = (EvmSpec.signextend b x).toNat := Evm.opSignExtend_spec b x
theorem opLt_spec (a b : W) : opLt a.toNat b.toNat = (EvmSpec.lt a b).toNat := Evm.opLt_spec a b
theorem opGt_spec (a b : W) : opGt a.toNat b.toNat = (EvmSpec.gt a b).toNat := Evm.opGt_spec a b
theorem opSlt_spec (a b : W) : opSlt a.toNat b.toNat = (EvmSpec.slt a b).toNat := Evm.opSlt_spec a b
theorem opSgt_spec (a b : W) : opSgt a.toNat b.toNat = (EvmSpec.sgt a b).toNat := Evm.opSgt_spec a b
theorem opEq_spec (a b : W) : opEq a.toNat b.toNat = (EvmSpec.eq a b).toNat := Evm.opEq_spec a b
theorem opIszero_spec (a : W) : opIszero a.toNat = (EvmSpec.iszero a).toNat := Evm.opIszero_spec a
theorem opAnd_spec (a b : W) : opAnd a.toNat b.toNat = (EvmSpec.and a b).toNat := Evm.opAnd_spec a b
theorem opOr_spec (a b : W) : opOr a.toNat b.toNat = (EvmSpec.or a b).toNat := Evm.opOr_spec a b
theorem opXor_spec (a b : W) : opXor a.toNat b.toNat = (EvmSpec.xor a b).toNat := Evm.opXor_spec a b
theorem opNot_spec (a : W) : opNot a.toNat = (EvmSpec.not a).toNat := Evm.opNot_spec a
theorem opByte_spec (i x : W) : opByte i.toNat x.toNat = (EvmSpec.byte i x).toNat := Evm.opByte_spec i x
theorem opSHL_spec (s v : W) : opSHL s.toNat v.toNat = (EvmSpec.shl s v).toNat := Evm.opSHL_spec s v
theorem opSHR_spec (s v : W) : opSHR s.toNat v.toNat = (EvmSpec.shr s v).toNat := Evm.opSHR_spec s v

/-- FULL STATEMENT (false for the code as written): ∀ s v, opSAR s.toNat v.toNat = (EvmSpec.sar s v).toNat.
    Witness: an arithmetic shift of ZERO by 256 returns 2²⁵⁶ − 1 (`value.Sign() > 0` should be `>= 0`), the specification says 0. -/
theorem sar_zero_witness : opSAR 256 0 = 2 ^ 256 - 1 ∧ ((EvmSpec.sar 256 0).toNat : Int) = 0 ∧
    opSAR 256 0 ≠ ((EvmSpec.sar 256 0).toNat : Int) := Evm.sar_zero_witness

/-- SAR is correct for every operand pair outside exactly {(shift, value) | shift ≥ 256 ∧ value = 0}. -/
theorem opSAR_spec_partial (s v : W) (h : ¬ (s.toNat ≥ 256 ∧ v = 0)) :
    opSAR s.toNat v.toNat = (EvmSpec.sar s v).toNat := Evm.opSAR_spec_partial s v h
-- non-vacuity: the negative boundary value with an oversized shift is inside the covered set and gives −1
example : ¬ ((BitVec.ofNat 256 300).toNat ≥ 256 ∧ (BitVec.ofNat 256 (2 ^ 255)) = 0) := by decide
example : opSAR 300 (2 ^ 255) = 2 ^ 256 - 1 := by unfold opSAR; simp only [u256_eq_emod]; decide

/-! what the evaluable Spec definitions mean (they carry explicit `shift ≥ 256` clauses and a binary exponentiation) -/
theorem exp_meaning (a e : W) : (EvmSpec.exp a e).toNat = a.toNat ^ e.toNat % 2 ^ 256 := Evm.exp_meaning a e
theorem shl_meaning (s v : W) : EvmSpec.shl s v = v <<< s.toNat := by
  unfold EvmSpec.shl
  split
  · rename_i h; rw [BitVec.shiftLeft_eq_zero h]; rfl
  · rfl
theorem shr_meaning (s v : W) : EvmSpec.shr s v = v >>> s.toNat := by
  unfold EvmSpec.shr
  split
  · rename_i h; rw [BitVec.ushiftRight_eq_zero h]; rfl
  · rfl
theorem sar_meaning (s v : W) : EvmSpec.sar s v = v.sshiftRight s.toNat := by
  unfold EvmSpec.sar
  split
  · rename_i h
    apply BitVec.eq_of_toInt_eq
    rw [BitVec.toInt_sshiftRight, Int.shiftRight_eq_div_pow, BitVec.msb_eq_toInt]
    have hb := toInt_bounds v
    have hp : (2 : Nat) ^ 256 ≤ 2 ^ s.toNat := Nat.pow_le_pow_right (by decide) h
    have hp' : ((2 ^ 256 : Nat) : Int) ≤ ((2 ^ s.toNat : Nat) : Int) := Int.ofNat_le.2 hp
    generalize ((2 ^ s.toNat : Nat) : Int) = b at hp'
    by_cases hneg : v.toInt < 0
    · simp only [hneg, decide_true, if_true, BitVec.toInt_allOnes]
      have : (v.toInt / b = -1 ∧ v.toInt % b = v.toInt + b) := by
        rw [Int.ediv_emod_unique (by omega)]
        refine ⟨by omega, by omega, by omega⟩
      rw [this.1]; rfl
    · simp only [hneg, decide_false, Bool.false_eq_true, if_false]
      rw [Int.ediv_eq_zero_of_lt (by omega) (by omega)]; rfl
  · rfl

/-! ## gas -/

/-- toWordSize = ⌈size / 32⌉ for every uint64 (the special case for size > 2⁶⁴ − 32 included) -/
theorem toWordSize_spec (s : UInt64) : (toWordSize s).toNat = (s.toNat + 31) / 32 := Evm.toWordSize_spec s

/-- FULL STATEMENT (false for the code as written): for a fully paid memory of `cur` words and EVERY requested size n,
    memoryGasCost returns C_mem(max cur ⌈n/32⌉) − C_mem(cur) or reports overflow.
    Witness: growing an empty memory to 2³⁷ bytes is charged 3·2³² gas; the Yellow Paper says 3·2³² + 2⁵⁵. The guard
    `newMemSize > 0xffffffffe0` lets `words*words` wrap uint64 for 2³² ≤ words < 2³⁵. -/
theorem memgas_wrap_witness :
    memoryGasCost ⟨0, 0⟩ 0x2000000000 = some (12884901888, ⟨0, 12884901888⟩) ∧
    EvmSpec.cmem (EvmSpec.words 0x2000000000) - EvmSpec.cmem 0 = 12884901888 + 2 ^ 55 := Evm.memgas_wrap_witness

/-- memoryGasCost is the Yellow Paper's quadratic memory fee for every request outside (0x1fffffffe0, 0xffffffffe0]:
    below it the fee is exactly C_mem(new) − C_mem(cur) and `lastGasCost` stays C_mem of the active words … -/
theorem memoryGasCost_spec_partial (mem : Mem) (cur : Nat) (n : UInt64) (hok : MemOk mem cur) (hn : n.toNat ≤ 0x1fffffffe0) :
    ∃ fee mem', memoryGasCost mem n = some (fee, mem') ∧
      fee.toNat = EvmSpec.cmem (max cur (EvmSpec.words n.toNat)) - EvmSpec.cmem cur ∧
      mem'.len = mem.len ∧ mem'.lastGasCost.toNat = EvmSpec.cmem (max cur (EvmSpec.words n.toNat)) :=
  Evm.memoryGasCost_spec_partial mem cur n hok hn
example : MemOk ⟨64, 6⟩ 2 := ⟨by decide, by decide⟩

/-- … and above it the function reports overflow (→ out of gas), where the specified fee is at least 2⁶¹. -/
theorem memoryGasCost_overflow (mem : Mem) (n : UInt64) (hn : n.toNat > 0xffffffffe0) :
    memoryGasCost mem n = none ∧ EvmSpec.cmem (EvmSpec.words n.toNat) ≥ 2 ^ 61 := Evm.memoryGasCost_overflow mem n hn
example : (0x10000000000 : UInt64).toNat > 0xffffffffe0 := by decide

/-- memory growth (calcMemSize → size prologue of Run → memoryGasCost → Resize): touching [off, off+len) leaves
    M(cur, off, len) active words, fully paid, for the fee C_mem(new) − C_mem(cur); zero-length accesses never expand. -/
theorem memory_growth_spec_partial (mem : Mem) (cur off len : Nat) (hok : MemOk mem cur)
    (hsmall : (if len = 0 then 0 else off + len) ≤ 0x1fffffffe0) :
    ∃ r fee mem', memorySizeOf (calcMemSize (off : Int) (len : Int)) = some r ∧ memoryGasCost mem r = some (fee, mem') ∧
      fee.toNat = EvmSpec.cmem (EvmSpec.memExpand cur off len) - EvmSpec.cmem cur ∧
      MemOk (memResize mem' r) (EvmSpec.memExpand cur off len) := by
  rw [calcMemSize_spec, memExpand_eq]
  generalize (if len = 0 then 0 else off + len) = req at hsmall ⊢
  have hms := Evm.memorySizeOf_spec req
  have hw : 32 * EvmSpec.words req ≤ 0x1fffffffe0 := by unfold EvmSpec.words; omega
  cases hr : memorySizeOf (req : Int) with
  | none => have := hms.2 hr; omega
  | some r =>
    have hrv := hms.1 r hr
    obtain ⟨fee, mem', h⟩ := growth_small mem cur req r hok hrv (by omega)
    exact ⟨r, fee, mem', rfl, h⟩
example : (if (32 : Nat) = 0 then 0 else 2 ^ 256 - 1 + 32) > 0x1fffffffe0 ∧ (if (0 : Nat) = 0 then 0 else 2 ^ 256 - 1 + 0) ≤ 0x1fffffffe0 := by decide

/-- the size prologue reports "gas uint64 overflow" only for requests whose word-rounded size does not fit 64 bits -/
theorem memorySizeOf_spec (n : Nat) :
    (∀ r, memorySizeOf (n : Int) = some r → r.toNat = 32 * EvmSpec.words n) ∧
    (memorySizeOf (n : Int) = none → 32 * EvmSpec.words n ≥ 2 ^ 64) := Evm.memorySizeOf_spec n

/-- EXP: G_exp + G_expbyte · bytes(exponent), for every 256-bit exponent and both gas tables' per-byte prices -/
theorem gasExp_spec (eb : UInt64) (e : Nat) (he : e < 2 ^ 256) (heb : 32 * eb.toNat + 10 < 2 ^ 64) :
    ∃ g, gasExp eb (e : Int) = some g ∧ g.toNat = EvmSpec.gasExp eb.toNat e := Evm.gasExp_spec eb e he heb
example : 32 * (UInt64.ofNat gasTableHF1.expByte).toNat + 10 < 2 ^ 64 ∧ 32 * (UInt64.ofNat gasTableHomestead.expByte).toNat + 10 < 2 ^ 64 := by decide

/-- SHA3: memory fee + G_sha3 + G_sha3word·⌈size/32⌉ when a value is returned; overflow only where that sum is ≥ 2⁶⁰ -/
theorem gasSha3_spec (mem : Mem) (m fee : UInt64) (mem' : Mem) (size : Nat) (hm : memoryGasCost mem m = some (fee, mem')) :
    (∀ g, gasSha3 mem m (size : Int) = some g → g.toNat = fee.toNat + EvmSpec.gasSha3 size) ∧
    (gasSha3 mem m (size : Int) = none → fee.toNat + EvmSpec.gasSha3 size ≥ 2 ^ 60) := Evm.gasSha3_spec mem m fee mem' size hm
example : memoryGasCost ⟨0, 0⟩ 64 = some (6, ⟨0, 6⟩) := by decide

/-- CALLDATACOPY / CODECOPY / RETURNDATACOPY (base 3) and EXTCODECOPY (base from the gas table): memory + base + G_copy·words -/
theorem gasCopy_spec (base : UInt64) (mem : Mem) (m fee : UInt64) (mem' : Mem) (size : Nat) (hm : memoryGasCost mem m = some (fee, mem')) :
    (∀ g, gasCopy base mem m (size : Int) = some g → g.toNat = fee.toNat + EvmSpec.gasCopy base.toNat size) ∧
    (gasCopy base mem m (size : Int) = none → fee.toNat + EvmSpec.gasCopy base.toNat size ≥ 2 ^ 60) :=
  Evm.gasCopy_spec base mem m fee mem' size hm

/-- MLOAD / MSTORE / MSTORE8: memory + G_verylow -/
theorem gasMemVeryLow_spec (mem : Mem) (m fee : UInt64) (mem' : Mem) (hm : memoryGasCost mem m = some (fee, mem')) :
    (∀ g, gasMemVeryLow mem m = some g → g.toNat = fee.toNat + 3) ∧ (gasMemVeryLow mem m = none → fee.toNat + 3 ≥ 2 ^ 64) :=
  Evm.gasMemVeryLow_spec mem m fee mem' hm

/-- LOGn: memory + G_log + n·G_logtopic + G_logdata·size -/
theorem gasLog_spec (n : UInt64) (hn : n.toNat ≤ 4) (mem : Mem) (m fee : UInt64) (mem' : Mem) (size : Nat)
    (hm : memoryGasCost mem m = some (fee, mem')) :
    (∀ g, gasLog n mem m (size : Int) = some g → g.toNat = fee.toNat + EvmSpec.gasLog n.toNat size) ∧
    (gasLog n mem m (size : Int) = none → fee.toNat + EvmSpec.gasLog n.toNat size ≥ 2 ^ 60) :=
  Evm.gasLog_spec n hn mem m fee mem' size hm

/-- CREATE: memory + G_create;  RETURN / REVERT: memory only -/
theorem gasCreate_spec (mem : Mem) (m fee : UInt64) (mem' : Mem) (hm : memoryGasCost mem m = some (fee, mem')) :
    (∀ g, gasCreate mem m = some g → g.toNat = fee.toNat + 32000) ∧ (gasCreate mem m = none → fee.toNat + 32000 ≥ 2 ^ 64) :=
  Evm.gasCreate_spec mem m fee mem' hm
theorem gasReturn_spec (mem : Mem) (m fee : UInt64) (mem' : Mem) (hm : memoryGasCost mem m = some (fee, mem')) :
    gasReturn mem m = some fee := Evm.gasReturn_spec mem m fee mem' hm

/-- callGas under EIP-150 pricing (every built-in gas table): min(requested, available − base − ⌊(available − base)/64⌋),
    for every requested amount (also ≥ 2⁶⁴) -/
theorem callGas_spec (cbs avail base : UInt64) (cost : Nat) (hc : cbs.toNat > 0) (hb : base.toNat ≤ avail.toNat) :
    ∃ g, callGas cbs avail base (cost : Int) = some g ∧ g.toNat = EvmSpec.callGasCap avail.toNat base.toNat cost := by
  unfold callGas EvmSpec.callGasCap EvmSpec.allButOne64th
  have hc' : cbs > 0 := by rw [gt_iff_lt, UInt64.lt_iff_toNat_lt]; exact hc
  simp only [hc', if_true]
  have ha := avail.toNat_lt
  have hsub : (avail - base).toNat = avail.toNat - base.toNat := by rw [UInt64.toNat_sub]; omega
  have hgas : ((avail - base) - (avail - base) / 64).toNat = (avail.toNat - base.toNat) - (avail.toNat - base.toNat) / 64 := by
    rw [UInt64.toNat_sub, UInt64.toNat_div, hsub]
    simp only [UInt64.toNat_ofNat, Nat.reducePow, Nat.reduceMod]
    omega
  simp only [bitLen_natCast_gt]
  by_cases hbig : cost ≥ 2 ^ 64
  · rw [if_pos (Or.inl hbig)]
    exact ⟨_, rfl, by rw [hgas]; omega⟩
  · have hcv := ofNat_uint64_toNat cost (by omega)
    simp only [UInt64.lt_iff_toNat_lt, hgas, hcv]
    split
    · exact ⟨_, rfl, by rw [hgas]; omega⟩
    · exact ⟨_, rfl, by rw [hcv]; omega⟩
example : (UInt64.ofNat gasTableHF1.createBySuicide).toNat > 0 ∧ (UInt64.ofNat gasTableHomestead.createBySuicide).toNat > 0 := by decide

/-- the literal gas constants used by the model are those of the compiled packages (T-gen) -/
theorem model_constants_match_gen :
    memoryGas.toNat = MemoryGas ∧ quadCoeffDiv.toNat = QuadCoeffDiv ∧ gasFastestStep.toNat = GasFastestStep ∧
    gasSlowStep.toNat = GasSlowStep ∧ Sha3Gas = 30 ∧ Sha3WordGas = 6 ∧ CopyGas = 3 ∧ LogGas = 375 ∧ LogTopicGas = 375 ∧
    LogDataGas = 8 ∧ CreateGas = 32000 ∧ StackLimit = 1024 ∧ ExpGas = 10 := by decide

/-- the two gas tables are EIP-150 prices with EXP at 10 per byte, resp. 50 per byte (EIP-160) from HF1 -/
theorem gasTables_match_spec :
    gasTableHomestead = ⟨700, 700, 400, 200, 700, 5000, 10, 25000⟩ ∧ gasTableHF1 = ⟨700, 700, 400, 200, 700, 5000, 50, 25000⟩ := by decide

/-! ## jump destinations -/

/-- codeBitmap marks exactly the positions inside PUSH data: a position of the code is a "code segment" iff it holds an
    instruction when the code is decoded from position 0 (PUSH data running past the end of the code included). -/
theorem codeBitmap_spec (code : Array UInt8) (i : Nat) (hi : i < code.size) :
    codeSegment (codeBitmap code) i = (EvmSpec.isCode code.toList).getD i false := Evm.codeSegment_codeBitmap code i hi
example : codeSegment (codeBitmap #[0x60, 0x5b, 0x5b]) 1 = false ∧ codeSegment (codeBitmap #[0x60, 0x5b, 0x5b]) 2 = true := by decide

/-- destinations.has(dest) ⇔ dest ∈ D(c): a JUMPDEST byte not inside PUSH data — for EVERY 256-bit destination
    (the `BitLen() >= 63` shortcut and the uint64 truncation of dest never disagree with the specification). -/
theorem jumpdest_valid_iff (code : Array UInt8) (dest : Nat) (hsize : code.size < 2 ^ 62) :
    hasJumpdest code (dest : Int) = EvmSpec.validJumpdest code.toList dest := Evm.hasJumpdest_eq code dest hsize
example : hasJumpdest #[0x5b] ((2 ^ 64 : Nat) : Int) = false ∧ hasJumpdest #[0x5b] ((0 : Nat) : Int) = true := by decide


/-! ## stack, memory, call-data / code / return-data access, control flow: the Go bodies against the Yellow Paper

  `implExec` mirrors makePush, Stack.dup/swap (slice with the top LAST), Memory.Get/GetPtr/Set with their Uint64() truncations
  and panics, getDataBig + RightPadBytes, PaddedBigBytes, opReturnDataCopy's bounds check, destinations.has.
  `specExec` is pointwise: `specRead d off n` = bytes d[off+i] (0 past the end), `specWrite` = memory with a range replaced. -/

/-- CALLDATALOAD / CALLDATACOPY / CODECOPY source bytes: getDataBig (clamp start and end to the data, right-pad) reads
    data[start+i], zero past the end — for EVERY start (also ≥ 2⁶⁴, ≥ len) and every size below 2⁶⁴ -/
theorem getDataBig_spec (data : Bytes) (start size : Nat) (h : size < 2 ^ 64) :
    getDataBig data start size = specRead data start size := Evm.getDataBig_spec data start size h
example : getDataBig [1, 2, 3] 2 4 = [3, 0, 0, 0] ∧ getDataBig [1, 2, 3] (2 ^ 200) 2 = [0, 0] := by decide

/-- PUSHn: the operand is the n code bytes after the opcode, zero where the code has ended (makePush's startMin/endMin) -/
theorem opPush_spec (code : Bytes) (pc n : Nat) :
    rightPad ((code.drop (min code.length (pc + 1))).take (min code.length (min code.length (pc + 1) + n) - min code.length (pc + 1))) n
      = specRead code (pc + 1) n := Evm.pushSlice_eq code pc n

/-- DUPn on the Go slice (top last) pushes the n-th word from the top -/
theorem opDup_spec (st : List Int) (n : Nat) (h1 : 1 ≤ n) (h2 : n ≤ st.length) :
    st.reverse.getD (st.reverse.length - n) 0 = st.getD (n - 1) 0 := Evm.dup_spec st n h1 h2
example : (1 : Nat) ≤ 16 ∧ 16 ≤ (List.replicate 16 (7 : Int)).length := by decide

/-- SWAPk on the Go slice exchanges the top with the k-th word below it and nothing else -/
theorem opSwap_spec (st : List Int) (k : Nat) (h1 : 1 ≤ k) (h2 : k + 1 ≤ st.length) :
    ((st.reverse.set (st.reverse.length - (k + 1)) (st.reverse.getD (st.reverse.length - 1) 0)).set (st.reverse.length - 1)
        (st.reverse.getD (st.reverse.length - (k + 1)) 0)).reverse
      = (st.set 0 (st.getD k 0)).set k (st.getD 0 0) := Evm.swap_spec st k h1 h2

/-- MLOAD / SHA3 / RETURN source: Memory.Get / GetPtr never panics and returns exactly mem[off .. off+size) once the
    prologue has grown the memory over the range -/
theorem memoryGet_spec (mem : Bytes) (off size : Nat) (h : size ≠ 0 → off + size ≤ mem.length) :
    memGet mem off size = some (specRead mem off size) := Evm.memGet_spec mem off size h

/-- MSTORE / *COPY destination: Memory.Set never panics and replaces exactly [off, off+size) -/
theorem memorySet_spec (mem : Bytes) (off size : Nat) (value : Bytes) (hv : value.length = size)
    (h : size ≠ 0 → off + size ≤ mem.length) : memSet mem off size value = some (specWrite mem off value) :=
  Evm.memSet_spec mem off size value hv h

/-- MSTORE writes the 32-byte big-endian word (math.PaddedBigBytes) -/
theorem opMstore_word_spec (v : Nat) (hv : v < 2 ^ 256) : paddedBigBytes v 32 = specWord v := Evm.paddedBigBytes_spec v hv

/-- RETURNDATACOPY: the exceptional halt happens exactly when the copy reads past the end of the return-data buffer -/
theorem returnDataCopy_oob_iff (rdLen doff len : Nat) (hrd : rdLen < 2 ^ 64) :
    (bitLen ((doff : Int) + (len : Int)) > 64 ∨ rdLen < uint64 ((doff : Int) + (len : Int))) ↔ doff + len > rdLen :=
  Evm.returnDataCopy_oob_iff rdLen doff len hrd

/-- the five generated tables, decoded by the FUNCTION NAMES they hold (which memory-size function, which gas function), are
    the hand-written specification tables — so the loop of both interpreters sees the same entry for every opcode -/
theorem tables_decode_to_spec : ∀ e ∈ Epoch.all,
    (table e).map (fun i => (i.op, implEntry i)) = (EvmSpec.opcodeTable (epochLevel e)).map (fun r => (r.op, specEntry r)) :=
  Evm.tables_entries_agree

/-- prologue of one step (memory size request with its uint64 overflow checks, quadratic memory fee, gas function,
    lastGasCost): Go and Yellow Paper decide the same — both accept with the same size / cost / lastGasCost, or both halt
    exceptionally, or the opcode is outside the modelled subset — on every machine that satisfies the run invariant and whose
    operands are not in the memory-wrap deviation set -/
theorem step_prologue_spec (gt : GasTable) (eb : Nat) (hgt : gt.expByte = eb) (heb : eb = 10 ∨ eb = 50)
    (en : Entry) (hwf : wfEntry en) (opc : Nat) (m : Machine) (hinv : Inv m) (hdev : devSet en opc m = false) :
    PreRel m.gas (PreFacts en m) (implPre gt en opc m) (specPre eb en opc m) :=
  Evm.pre_agree gt eb hgt (by omega) en hwf opc m hinv hdev

/-- one executed instruction (all of: PUSH1‥32, DUP1‥16, SWAP1‥16, POP, the 25 computational opcodes, SHA3, ADDRESS, ORIGIN,
    CALLER, CALLVALUE, CALLDATALOAD/SIZE/COPY, CODESIZE/COPY, GASPRICE, RETURNDATASIZE/COPY, COINBASE, TIMESTAMP, NUMBER,
    DIFFICULTY, GASLIMIT, MLOAD, MSTORE, MSTORE8, JUMP, JUMPI, PC, MSIZE, GAS, JUMPDEST, STOP, RETURN, REVERT): the Go body and
    the Yellow-Paper definition give the same step — same stack, memory, pc, return data, same exceptional halt (bad jump
    destination, return-data out of bounds), and the Go slice operations cannot panic — once the memory spans the touched
    range and the operands are not SAR's deviation set -/
theorem step_exec_spec (env : Env) (H : Bytes → Bytes) (en : Entry) (opc : Nat) (m : Machine) (h : ExecHyp env H en opc m) :
    implExec env H en opc m = specExec env H en opc m := Evm.exec_agree env H en opc m h

/-- WHOLE PROGRAMS, guarded form: for every code, call data, return-data buffer, epoch, gas table, fuel and start machine
    satisfying the invariant (in particular the empty machine with any gas budget below 2⁶⁰), the Go-mirroring interpreter
    and the Spec interpreter — both stopping with `deviation` when a step's operands lie in `devSet` — produce the same outcome
    (return data, gas left, stack at the halting instruction, halt class up to the kind of exceptional halt). -/
theorem run_refines_spec_guarded (env : Env) (H : Bytes → Bytes) (hE : EnvOk env H) (e : Epoch) (gt : GasTable) (eb : Nat)
    (hgt : gt.expByte = eb) (heb : eb = 10 ∨ eb = 50) (fuel : Nat) (m : Machine) (hinv : Inv m) :
    (runImpl env H e gt devSet fuel m).norm = (runSpec env H (epochLevel e) eb devSet fuel m).norm :=
  Evm.run_agree env H hE e gt eb hgt (by omega) fuel m hinv

/-- FULL STATEMENT (false for the code as written, by `sar_zero_witness` and `memgas_wrap_witness`): the two unguarded
    interpreters agree on every program.
    PARTIAL: they agree on every program whose (Spec) execution never reaches a step with operands in one of exactly two sets
    (`devSet`): (1) SAR with shift ≥ 256 and value 0; (2) a memory request whose word-rounded size lies in
    (0x1fffffffe0, 0xffffffffe0] bytes. Hypotheses besides that: gas below 2⁶⁰ (assumption A1), code shorter than 2⁶² bytes,
    Keccak output 32 bytes long (Keccak itself is a parameter). -/
theorem run_refines_spec_partial (env : Env) (H : Bytes → Bytes) (hE : EnvOk env H) (e : Epoch) (gt : GasTable) (eb : Nat)
    (hgt : gt.expByte = eb) (heb : eb = 10 ∨ eb = 50) (fuel : Nat) (m : Machine) (hinv : Inv m)
    (hnodev : runSpec env H (epochLevel e) eb devSet fuel m ≠ .deviation) :
    (runImpl env H e gt noGuard fuel m).norm = (runSpec env H (epochLevel e) eb noGuard fuel m).norm :=
  Evm.run_agree_noGuard env H hE e gt eb hgt (by omega) fuel m hinv hnodev
-- non-vacuity: the empty machine with 100 000 gas satisfies the invariant; both built-in gas tables satisfy the price hypotheses;
-- a program PUSH1 1 PUSH1 2 ADD PUSH1 0 MSTORE PUSH1 32 PUSH1 0 RETURN runs to `ok` in the guarded Spec interpreter
example : Inv (startMachine 100000) := inv_start 100000 (by decide)
example : gasTableHF1.expByte = 50 ∧ gasTableHomestead.expByte = 10 := by decide
example : runSpec ⟨#[0x60, 1, 0x60, 2, 0x01, 0x60, 0, 0x52, 0x60, 32, 0x60, 0, 0xf3], [], [], 1, 2, 2, 0, 1, 0, 1000, 0, 1, 10000000⟩
    (fun _ => List.replicate 32 0) 3 50 devSet 20 (startMachine 100000) ≠ .deviation := by decide

/-! ## instruction tables and their selection -/

/-- each of the five generated instruction sets is, column by column (opcode, items popped, items pushed, constant gas
    tier, halts, jumps, reverts), the hand-written table of the specification for its fork level; in particular the set of
    valid opcodes is exactly the specified one. -/
theorem jumpTable_matches_spec : ∀ e ∈ Epoch.all, (table e).map projRow = EvmSpec.opcodeTable (epochLevel e) :=
  fun e _ => Evm.tables_rows_agree e

/-- NewInterpreter's switch selects, for EVERY chain configuration and EVERY height, the table the fork schedule prescribes
    (forks cumulative; aquachain's HF5 = Byzantium opcodes + EIP-145 shifts). -/
theorem epoch_selection (c : ChainCfg) (n : Nat) :
    (table (selectEpoch c n)).map projRow = EvmSpec.opcodeTable (specLevel c n) := by
  rw [specLevel_eq]
  exact jumpTable_matches_spec _ (all_epochs _)

/-- ChainConfig.GasTable: EXP costs 50 per exponent byte from HF1 on, 10 before — for every configuration and height -/
theorem gasTable_selection (c : ChainCfg) (n : Nat) : (gasTableOf (selectGasTable c n)).expByte = specExpByte c n := by
  unfold selectGasTable specExpByte
  cases isHF c 1 n <;> decide

/-- T-gen cross-check: at every probe height around every fork of every built-in chain config, the table the real
    NewInterpreter selected and the gas table ChainConfig.GasTable returned are the ones the model of the switch computes. -/
theorem probes_match_model :
    ∀ p ∈ probes, (p.sets.contains (selectEpoch p.cfg p.height) && decide (selectGasTable p.cfg p.height = p.gasTable)) = true := by decide

/-- the published mainnet schedule: Homestead rules from genesis, EIP-160 EXP price from HF1 (3600), the Byzantium opcodes and
    the shifts from HF5 (22800) — for every height. -/
theorem mainnet_schedule (n : Nat) :
    specLevel cfg_mainnet n = (if n ≥ 22800 then 3 else 1) ∧ specExpByte cfg_mainnet n = (if n ≥ 3600 then 50 else 10) := by
  unfold specLevel specExpByte
  rw [show isHF cfg_mainnet 5 n = decide (22800 ≤ n) from rfl, show isHF cfg_mainnet 1 n = decide (3600 ≤ n) from rfl,
    show isForked cfg_mainnet.homestead n = decide (0 ≤ n) from rfl, show isForked cfg_mainnet.byzantium n = decide (36050 ≤ n) from rfl,
    show isForked cfg_mainnet.constantinople n = false from rfl]
  simp only [decide_eq_true_eq, Bool.false_eq_true, if_false, Nat.zero_le, if_true, ge_iff_le, and_true]
  repeat' split
  all_goals omega

/-! ### tie by translation (T-gen `translated`, DESIGN 2.2 mini-translator)

The functions below are translated from the go/ssa form of the tree under test on every run (`Aqv.Gen.Translated`); the
theorems state that the translated code IS the model function the theorems above are stated on (proofs in
`Aqv.Lemmas.Translated.Vm` / `.Params`).  A change of the Go source that changes the meaning of one of them breaks its theorem. -/

/-- core/vm.toWordSize: the code is the model. -/
theorem toWordSize_code_is_model : Aqv.Gen.Translated.toWordSize = toWordSize :=
  Aqv.Lemmas.Translated.toWordSize_translated_eq

example : Aqv.Gen.Translated.toWordSize 33 = 2 ∧ Aqv.Gen.Translated.toWordSize 0xffffffffffffffff = 0x800000000000000 := by decide

/-- common/math.SafeAdd / SafeMul / SafeSub: the code is the model (`SafeMul` never panics: its division is guarded). -/
theorem safe_arith_code_is_model :
    Aqv.Gen.Translated.SafeAdd = safeAdd ∧ (∀ x y, Aqv.Gen.Translated.SafeMul x y = some (safeMul x y)) ∧
    (∀ x y, Aqv.Gen.Translated.SafeSub x y = (x - y, decide (x < y))) :=
  ⟨Aqv.Lemmas.Translated.SafeAdd_translated_eq, Aqv.Lemmas.Translated.SafeMul_translated_eq,
   Aqv.Lemmas.Translated.SafeSub_translated_eq⟩

/-- core/vm.memoryGasCost (with `(*Memory).Len`; `mem.lastGasCost` is threaded as an extra argument/result): reading
    `(gas, err, lastGasCost')` as the model's `Option (gas × Mem)` gives the model function. -/
theorem memoryGasCost_code_is_model (storeLen : Int64) (lastGasCost newMemSize : UInt64) :
    Aqv.Lemmas.Translated.memRes (Aqv.Lemmas.Translated.memLen storeLen)
        (Aqv.Gen.Translated.memoryGasCost storeLen lastGasCost newMemSize)
      = memoryGasCost ⟨Aqv.Lemmas.Translated.memLen storeLen, lastGasCost⟩ newMemSize :=
  Aqv.Lemmas.Translated.memoryGasCost_translated_eq storeLen lastGasCost newMemSize

example : Aqv.Gen.Translated.memoryGasCost 0 0 64 = (6, none, 6) := by decide

/-- the gas functions built on memoryGasCost: gasMLoad / gasMStore / gasMStore8 (+ GasFastestStep), gasCreate (+ CreateGas),
    gasReturn / gasRevert. -/
theorem memory_gas_functions_code_is_model (storeLen : Int64) (lgc n : UInt64) :
    let mem : Mem := ⟨Aqv.Lemmas.Translated.memLen storeLen, lgc⟩
    let rd := fun r => (Aqv.Lemmas.Translated.memRes (Aqv.Lemmas.Translated.memLen storeLen) r).map Prod.fst
    rd (Aqv.Gen.Translated.gasMLoad storeLen lgc n) = gasMemVeryLow mem n ∧
    rd (Aqv.Gen.Translated.gasMStore storeLen lgc n) = gasMemVeryLow mem n ∧
    rd (Aqv.Gen.Translated.gasMStore8 storeLen lgc n) = gasMemVeryLow mem n ∧
    rd (Aqv.Gen.Translated.gasCreate storeLen lgc n) = gasCreate mem n ∧
    rd (Aqv.Gen.Translated.gasReturn storeLen lgc n) = gasReturn mem n ∧
    rd (Aqv.Gen.Translated.gasRevert storeLen lgc n) = gasReturn mem n :=
  ⟨Aqv.Lemmas.Translated.gasMLoad_translated_eq _ _ _, Aqv.Lemmas.Translated.gasMStore_translated_eq _ _ _,
   Aqv.Lemmas.Translated.gasMStore8_translated_eq _ _ _, Aqv.Lemmas.Translated.gasCreate_translated_eq _ _ _,
   Aqv.Lemmas.Translated.gasReturn_translated_eq _ _ _, Aqv.Lemmas.Translated.gasRevert_translated_eq _ _ _⟩

/-- core/vm.callGas, bigUint64 (for every big integer whose bit length fits Go's `int`, i.e. every value that exists),
    calcMemSize and common/math.S256 (at the initial values of the package-level variables they read). -/
theorem callGas_code_is_model (createBySuicide availableGas base : UInt64) (callCost : Int)
    (h : Aqv.Lemmas.Translated.Fits callCost) :
    Aqv.Lemmas.Translated.errRes (Aqv.Gen.Translated.callGas createBySuicide availableGas base callCost)
      = callGas createBySuicide availableGas base callCost ∧
    Aqv.Gen.Translated.bigUint64 callCost = bigUint64 callCost ∧
    (∀ off l, Aqv.Gen.Translated.calcMemSize 0 off l = calcMemSize off l) ∧
    (∀ x, Aqv.Gen.Translated.S256 tt255 tt256 x = s256 x) :=
  ⟨Aqv.Lemmas.Translated.callGas_translated_eq _ _ _ _ h, Aqv.Lemmas.Translated.bigUint64_translated_eq _ h,
   Aqv.Lemmas.Translated.calcMemSize_translated_eq, Aqv.Lemmas.Translated.S256_translated_eq⟩

example : Aqv.Lemmas.Translated.Fits (2 ^ 256 - 1) ∧
    Aqv.Gen.Translated.callGas 1 6400 0 (2 ^ 256 - 1) = (6300, none) := by decide

/-- params.isForked and the block-number switches built on it (IsHomestead / IsByzantium / IsConstantinople): never panic on
    a non-nil head and compute the model's `isForked`. -/
theorem isForked_code_is_model (s : Option Nat) (head : Nat) :
    Aqv.Gen.Translated.isForked (s.map Nat.cast) (some (head : Int)) = some (isForked s head) ∧
    Aqv.Gen.Translated.ChainConfig_IsHomestead (s.map Nat.cast) (some (head : Int)) = some (isForked s head) ∧
    Aqv.Gen.Translated.ChainConfig_IsByzantium (s.map Nat.cast) (some (head : Int)) = some (isForked s head) ∧
    Aqv.Gen.Translated.ChainConfig_IsConstantinople (s.map Nat.cast) (some (head : Int)) = some (isForked s head) :=
  ⟨Aqv.Lemmas.Translated.isForked_translated_eq s head, Aqv.Lemmas.Translated.ChainConfig_IsHomestead_translated_eq s head,
   Aqv.Lemmas.Translated.ChainConfig_IsByzantium_translated_eq s head,
   Aqv.Lemmas.Translated.ChainConfig_IsConstantinople_translated_eq s head⟩

/-- tie by translation, remaining block-number switches of params/config.go: IsEIP150 / IsEIP155 / IsEIP158 / IsDAOFork are
    `isForked(c.<X>Block, num)`.  The field each switch reads is given by a named argument (`c_EIP150Block := …`): if the code
    starts reading another block number the statement stops elaborating. -/
theorem eip_switches_code_is_model (blk : Option Nat) (num : Nat) :
    Aqv.Gen.Translated.ChainConfig_IsEIP150 (c_EIP150Block := blk.map Nat.cast) (some (num : Int)) = some (isForked blk num) ∧
    Aqv.Gen.Translated.ChainConfig_IsEIP155 (c_EIP155Block := blk.map Nat.cast) (some (num : Int)) = some (isForked blk num) ∧
    Aqv.Gen.Translated.ChainConfig_IsEIP158 (c_EIP158Block := blk.map Nat.cast) (some (num : Int)) = some (isForked blk num) ∧
    Aqv.Gen.Translated.ChainConfig_IsDAOFork (c_DAOForkBlock := blk.map Nat.cast) (some (num : Int)) = some (isForked blk num) :=
  Aqv.Lemmas.Translated.ChainConfig_eipSwitches_translated_eq blk num

example : Aqv.Gen.Translated.ChainConfig_IsEIP158 (c_EIP158Block := some 36050) (some 36050) = some true ∧
    Aqv.Gen.Translated.ChainConfig_IsEIP158 (c_EIP158Block := some 36050) (some 36049) = some false ∧
    Aqv.Gen.Translated.ChainConfig_IsEIP158 (c_EIP158Block := none) (some 1) = some false := by decide

/-! ## memory growth for every offset/length outside the wrap range -/

/-- `memory_growth_spec_partial` covers requests ≤ 0x1fffffffe0 only. For EVERY offset and length (any Nat, in particular every
    256-bit operand pair) whose word-rounded request is not in the uint64-wrap range (0x1fffffffe0, 0xffffffffe0], exactly one
    of three things happens, and in each the Go chain calcMemSize → size prologue → memoryGasCost → Resize does what the Yellow Paper
    prescribes: (a) the size prologue reports "gas uint64 overflow", or (b) memoryGasCost does — in both the specified expansion fee
    is ≥ 2⁶⁰ (out of gas under A1) —, or (c) the fee is exactly C_mem(new) − C_mem(cur) and the resized memory has M(cur, off, len)
    words, fully paid. So the excluded operand set of the memory clause is exactly the wrap range. -/
theorem memory_growth_spec_outside_wrap (mem : Mem) (cur off len : Nat) (hok : MemOk mem cur) (hcur : cur ≤ 0xffffffff)
    (hnw : ¬ (len ≠ 0 ∧ 0x1fffffffe0 < 32 * EvmSpec.words (off + len) ∧ 32 * EvmSpec.words (off + len) ≤ 0xffffffffe0)) :
    (memorySizeOf (calcMemSize (off : Int) (len : Int)) = none ∧
      EvmSpec.cmem (EvmSpec.memExpand cur off len) - EvmSpec.cmem cur ≥ 2 ^ 60) ∨
    (∃ r, memorySizeOf (calcMemSize (off : Int) (len : Int)) = some r ∧ memoryGasCost mem r = none ∧
      EvmSpec.cmem (EvmSpec.memExpand cur off len) - EvmSpec.cmem cur ≥ 2 ^ 60) ∨
    (∃ r fee mem', memorySizeOf (calcMemSize (off : Int) (len : Int)) = some r ∧ memoryGasCost mem r = some (fee, mem') ∧
      fee.toNat = EvmSpec.cmem (EvmSpec.memExpand cur off len) - EvmSpec.cmem cur ∧
      MemOk (memResize mem' r) (EvmSpec.memExpand cur off len)) :=
  (Evm.memory_growth_total mem cur off len hok hcur hnw).imp fun _ _ h => h.1
-- non-vacuity: an MSTORE at offset 2^256−32 (case a), at 2^40 (case b) and at 64 (case c) all satisfy the hypothesis
example : ¬ ((32 : Nat) ≠ 0 ∧ 0x1fffffffe0 < 32 * EvmSpec.words (2 ^ 256 - 32 + 32) ∧ 32 * EvmSpec.words (2 ^ 256 - 32 + 32) ≤ 0xffffffffe0) := by decide
example : ¬ ((32 : Nat) ≠ 0 ∧ 0x1fffffffe0 < 32 * EvmSpec.words (2 ^ 40 + 32) ∧ 32 * EvmSpec.words (2 ^ 40 + 32) ≤ 0xffffffffe0) := by decide
example : ¬ ((32 : Nat) ≠ 0 ∧ 0x1fffffffe0 < 32 * EvmSpec.words (64 + 32) ∧ 32 * EvmSpec.words (64 + 32) ≤ 0xffffffffe0) := by decide

end Aqv.Props.C08
