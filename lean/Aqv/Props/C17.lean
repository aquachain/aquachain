/-
  C17 — Network input is authenticated or rejected, and never fatal.

  Model: Aqv.Model.Net (discovery codec, RLPx frame codec, handshake packet reader, handler front), with Go slice and
  index expressions as partial operations whose failure is the outcome `panic`.
  Cryptographic primitives are parameters; what is assumed of them is stated in each theorem
  (`Wf`: output lengths of Keccak / AES; `SnappyOk`: snappy decodes what it encodes; recovery inverts signing;
  collision-freedom of the MAC on the two inputs of one comparison).

  Clauses of the property and the theorems that cover them
    what one side writes the other reads ........ discovery_roundtrip, frame_roundtrip (induction over message sequences)
    authenticated (identified remote key) ....... discovery_authenticated
    endpoint proof before amplification ......... findnode_served_only_after_verified_pong
    any bit flipped is detected before delivery . discovery_tamper_detected, discovery_hash_tamper_detected,
                                                  frame_tamper_detected_partial, frame_single_byte_tamper_detected,
                                                  frame_truncation_rejected
    secrets only for validated identities ....... responder_identity_validated, identity_rule_lattice,
                                                  responder_rejects_order_two_identity
    never crashes ............................... discovery_total (every byte string), discovery_unguarded_panics_witness
                                                  (the guard is necessary), handshake_total_and_bounded, handler_size_limit
    a delivered message stays what it was ....... readMsg_payload_independent_of_later_frames (names the tie's obligation)
    never allocates beyond the limits ........... discovery_decode_alloc_bounded, frame_alloc_bound, frame_size_accounting, handshake_total_and_bounded,
                                                  handler_size_limit, handler_decoder_input_bounded, proto_handshake_size_limit
  "never wedges" and panics outside the modelled expressions (Go runtime, rlp/ecies/snappy internals, goroutine
  lifecycles of p2p.Server) are exercised by the harness on the real code only (DESIGN 2.6).
-/
import Aqv.Lemmas.Net
import Aqv.Lemmas.NetFrame
namespace Aqv.Props.C17
open Aqv.Rlp Aqv.Net

/-! ## Discovery -/

/-- `discovery_total`: on EVERY byte string, in both network modes and for every hash / recovery function, the
    discovery decoder at HEAD returns a packet or an error — never a run-time panic. -/
theorem discovery_total (P : DiscPrims) (nc : Bool) (buf : Bytes) : (decodePacket P nc buf).isPanic = false := by
  by_cases h : buf.length < headSize + 1
  · rw [decodePacket, decodePacketG_short _ _ _ _ h]; rfl
  · rw [decodePacket, decodePacketG_eq _ _ _ _ (by omega)]
    unfold decodeCore
    simp only [reduceIte]
    -- every leaf of the slice-free reading is an error or a packet
    repeat' split
    all_goals rfl

def constPrims : DiscPrims := { H := fun _ => List.replicate 32 0, recover := fun _ _ => some [] }

/-- the length check added by commit 5ac0fad is load-bearing: without it a correctly hashed and "signed" datagram whose
    signed data is the single type byte panics with `slice bounds out of range [5:1]`. -/
theorem discovery_unguarded_panics_witness :
    decodePacketG false constPrims false (List.replicate 97 0 ++ [134]) = .panic (.sliceBounds 5 1 1) := by
  rfl

/-- authenticated-or-rejected, discovery: whatever `decodePacket` delivers is the decoding of bytes whose hash matched
    and whose signature recovers to exactly the delivered NodeID. -/
theorem discovery_authenticated (P : DiscPrims) (nc : Bool) (buf : Bytes) (d : Decoded)
    (h : decodePacket P nc buf = .ok d) :
    headSize + 1 ≤ buf.length ∧
    d.hash = buf.take macSize ∧ d.hash = P.H (buf.drop macSize) ∧
    P.recover (P.H (buf.drop headSize)) ((buf.take headSize).drop macSize) = some d.from_ ∧
    ∃ k, decodeBody k ((buf.drop headSize).drop (1 + if nc then 0 else 4)) = some d.pkt := by
  obtain ⟨hl, h1, h2, h3, k, _, _, hb⟩ := (decodePacketG_eq_ok_iff true P nc buf d).1 h
  exact ⟨hl, h1, h2, h3, k, hb⟩

/-- non-vacuity: a concrete datagram that `decodePacket` accepts (constant hash, FINDNODE with one tail element). -/
def pkt0 : Bytes :=
  List.replicate 97 0 ++ [136] ++ aquaTag ++ encodeBody (.findnode (List.replicate 64 7) 1000 [[0x05]])
example : decodePacket constPrims false pkt0
    = .ok { pkt := .findnode (List.replicate 64 7) 1000 [[0x05]], from_ := [], hash := List.replicate 32 0 } := by decide +kernel
section
set_option maxRecDepth 100000   -- for the `decide` inside the statement, which evaluates the decoder in the elaborator
example : (discovery_authenticated constPrims false pkt0 _ (by decide : decodePacket constPrims false pkt0
    = .ok { pkt := .findnode (List.replicate 64 7) 1000 [[0x05]], from_ := [], hash := List.replicate 32 0 })).1 = (by decide) := rfl
end

/-- any change to the signed part of a datagram (signature, type, tag or body) that leaves the hash field alone is
    rejected with `errBadHash`, provided Keccak does not collide on the two inputs. -/
theorem discovery_tamper_detected (P : DiscPrims) (nc : Bool) (buf buf' : Bytes) (d : Decoded)
    (h : decodePacket P nc buf = .ok d) (hlen : buf'.length = buf.length)
    (hsame : buf'.take macSize = buf.take macSize)
    (hnocoll : P.H (buf'.drop macSize) ≠ P.H (buf.drop macSize)) :
    decodePacket P nc buf' = .err .badHash := by
  obtain ⟨hl, h1, h2, _⟩ := discovery_authenticated P nc buf d h
  refine decodePacketG_badHash _ P nc buf' (by omega) ?_
  rw [hsame, ← h1, h2]
  exact fun e => hnocoll e.symm

/-- non-vacuity: a hash that depends on its input (byte sum), a datagram it accepts, and a flipped tag byte. -/
def sumPrims : DiscPrims := { H := fun x => List.replicate 31 0 ++ [x.foldl (· + ·) 0], recover := fun _ _ => some [] }
def pkt1 : Bytes :=
  let rest := List.replicate 65 0 ++ [136] ++ aquaTag ++ encodeBody (.findnode (List.replicate 64 7) 1000 [])
  sumPrims.H rest ++ rest
def dec1 : Decoded := { pkt := .findnode (List.replicate 64 7) 1000 [], from_ := [], hash := pkt1.take 32 }
theorem pkt1_accepted : decodePacket sumPrims false pkt1 = .ok dec1 := by decide +kernel
example : decodePacket sumPrims false (pkt1.set 100 0x62) = .err .badHash :=
  discovery_tamper_detected sumPrims false pkt1 (pkt1.set 100 0x62) dec1 pkt1_accepted (List.length_set ..) (by decide +kernel) (by decide +kernel)

/-- a change confined to the hash field is always rejected. -/
theorem discovery_hash_tamper_detected (P : DiscPrims) (nc : Bool) (buf buf' : Bytes) (d : Decoded)
    (h : decodePacket P nc buf = .ok d) (hlen : buf'.length = buf.length)
    (hsame : buf'.drop macSize = buf.drop macSize) (hdiff : buf'.take macSize ≠ buf.take macSize) :
    decodePacket P nc buf' = .err .badHash := by
  obtain ⟨hl, h1, h2, _⟩ := discovery_authenticated P nc buf d h
  refine decodePacketG_badHash _ P nc buf' (by omega) ?_
  rw [hsame, ← h2, h1]
  exact hdiff

example : decodePacket sumPrims false (pkt1.set 3 9) = .err .badHash :=
  discovery_hash_tamper_detected sumPrims false pkt1 (pkt1.set 3 9) dec1 pkt1_accepted (List.length_set ..) (by decide +kernel) (by decide)

/-- `discovery_roundtrip`: what `encodePacket` writes, `decodePacket` reads — same request, the signer's NodeID, the
    same hash — in both network modes, for every well-formed request, given that signature recovery inverts signing. -/
theorem discovery_roundtrip (H : Bytes → Bytes) (sign : Bytes → Bytes) (recover : Bytes → Bytes → Option Bytes) (id : Bytes)
    (nc : Bool) (ptype : UInt8) (p : Packet)
    (hH : ∀ x, (H x).length = 32) (hsig : ∀ h, (sign h).length = 65) (hrec : ∀ h, recover h (sign h) = some id)
    (hty : kindOfType (if nc = true ∧ ptype < 133 then ptype + 133 else ptype) = some p.kind)
    (hw : p.Wf) (hl : (encodeBody p).length < 2 ^ 64) :
    ∃ pkt hash, encodePacket H sign nc ptype p = .ok (pkt, hash) ∧
      decodePacket { H := H, recover := recover } nc pkt = .ok { pkt := p, from_ := id, hash := hash } := by
  refine ⟨_, _, encodePacket_eq H sign nc ptype p hH hsig, ?_⟩
  have hbody := decodeBody_encodeBody p [] hw hl
  rw [List.append_nil] at hbody
  -- the signed data is type byte ‖ tag ‖ body: the decoder finds the type at its head and the body behind the tag
  exact decodePacketG_fields true ⟨H, recover⟩ nc _ _ _ id p.kind p (hH _) (hsig _) rfl (hrec _) hty
    (by cases nc <;> simp [sigdataOf, aquaTag] <;> omega) (by cases nc <;> simpa [sigdataOf, aquaTag] using hbody)

/-- non-vacuity: a PING with both endpoints and a tail element, netcompat mode (type byte 1 on the wire). -/
def ep0 : Endpoint := { ip := [127, 0, 0, 1], udp := 30303, tcp := 21303 }
def ping0 : Packet := .ping 4 ep0 ep0 1000 [[0x05]]
example : ∃ pkt hash, encodePacket (fun x => (x ++ List.replicate 32 0).take 32) (fun _ => List.replicate 65 1) true 1 ping0 = .ok (pkt, hash) ∧
    decodePacket { H := fun x => (x ++ List.replicate 32 0).take 32, recover := fun _ _ => some [9] } true pkt
      = .ok { pkt := ping0, from_ := [9], hash := hash } :=
  discovery_roundtrip _ _ _ [9] true 1 ping0 (by intro x; simp) (by intro h; simp) (by intro h; rfl) (kindOfType_typeByte true .ping)
    ⟨by decide, ⟨by decide, by decide⟩, ⟨by decide, by decide⟩, by decide,
      by intro r hr; simp only [List.mem_singleton] at hr; subst hr; intro rest; simp [rRaw, readHead]⟩
    (by decide)

/-- `discovery_decode_alloc_bounded`: every buffer the typed RLP readers of the discovery decoder allocate from a length
    prefix (`Stream.Bytes`: `make(size)`, `Stream.Raw`: `make(headsize+size)`) is at most the unread input, because the
    size is compared with the remaining input (the stream's input limit = length of the signed data) BEFORE the `make`;
    and every reader hands on a rest / list payload that is not longer than its own input, so the bound holds at every
    nesting level of `decodeBody`: a datagram of n bytes makes the decoder allocate at most n bytes per value,
    whatever its length prefixes claim. -/
theorem discovery_decode_alloc_bounded (bs : Bytes) :
    rBytesAlloc bs ≤ bs.length ∧ rRawAlloc bs ≤ bs.length ∧
    (∀ v rest, rBytes bs = some (v, rest) → v.length ≤ bs.length ∧ rest.length ≤ bs.length) ∧
    (∀ pl rest, rList bs = some (pl, rest) → pl.length ≤ bs.length ∧ rest.length ≤ bs.length) ∧
    (∀ r rest, rRaw bs = some (r, rest) → r.length ≤ bs.length ∧ rest.length ≤ bs.length) ∧
    (∀ k v rest, rUint k bs = some (v, rest) → rest.length ≤ bs.length) ∧
    (∀ k v rest, rArray k bs = some (v, rest) → v.length ≤ bs.length ∧ rest.length ≤ bs.length) := by
  refine ⟨rBytesAlloc_le bs, rRawAlloc_le bs, fun v rest h => ?_, fun pl rest h => ?_, fun r rest h => ?_,
    fun k v rest h => rUint_rest_le h, fun k v rest h => ?_⟩
  · have := rBytes_length h; omega
  · have := rList_length h; omega
  · have := rRaw_length h; omega
  · have := rArray_length h; omega

/-- non-vacuity: a 200-byte string header followed by 3 bytes allocates nothing; a fitting one allocates its size. -/
example : rBytesAlloc [0xb8, 200, 1, 2, 3] = 0 ∧ rBytesAlloc [0x83, 1, 2, 3] = 3 ∧ rRawAlloc [0xc2, 1, 2, 9] = 3 := by decide

/-! ## Discovery endpoint proof -/

/-- `findnode_served_only_after_verified_pong`: over every history of discovery events from any state, if a findnode
    from `id` is served at the end (the node answers with NEIGHBORS, an amplification towards the claimed source), then
    either `id` was bonded in the starting state, or the history contains a pong from `id` whose ReplyTok matched a ping
    we had sent to `id` and that was still pending — pings received from `id`, pongs with another ReplyTok, and timeouts
    of our own ping never create a bond. -/
theorem findnode_served_only_after_verified_pong (s : BondSt) (evs : List DEv) (id : Bytes)
    (h : findnodeServed (bondRun s evs) id = true) :
    findnodeServed s id = true ∨
    ∃ pre tok post, evs = pre ++ DEv.pongRecv id tok :: post ∧ (bondRun s pre).pending.contains (id, tok) = true := by
  induction evs generalizing s with
  | nil => exact .inl h
  | cons e es ih =>
    rcases ih (bondStep s e) h with h1 | ⟨pre, tok, post, he, hp⟩
    · rcases bondStep_served s e id h1 with h0 | ⟨tok, rfl, hp⟩
      · exact .inl h0
      · exact .inr ⟨[], tok, es, rfl, hp⟩
    · exact .inr ⟨e :: pre, tok, post, by rw [he]; rfl, hp⟩

/-- non-vacuity and the seeded history: ping received, our ping-back sent and timed out, findnode ⇒ refused; with a
    matching pong ⇒ served; with a pong carrying another token ⇒ refused. -/
example :
    findnodeServed (bondRun {} [.pingRecv [1], .pingSent [1] [7], .pingTimeout [1], .findnode [1]]) [1] = false ∧
    findnodeServed (bondRun {} [.pingRecv [1], .pingSent [1] [7], .pongRecv [1] [7], .findnode [1]]) [1] = true ∧
    findnodeServed (bondRun {} [.pingRecv [1], .pingSent [1] [7], .pongRecv [1] [8], .pingTimeout [1], .findnode [1]]) [1] = false ∧
    findnodeServed (bondRun {} [.pingSent [1] [7], .pongRecv [2] [7], .findnode [2]]) [2] = false := by decide

/-! ## RLPx frames -/

/-- `frame_roundtrip`: for every sequence of messages (any codes, any payloads that fit, with or without snappy) and every
    starting state, if the writer's egress state equals the reader's ingress state (equal secrets), then reading the
    written bytes yields exactly the written messages, the reader's state after each frame equals the writer's, and
    the bytes that follow are left untouched. By induction over the sequence. -/
theorem frame_roundtrip (P : Prims) (hw : Wf P) (snappy : Bool) (hs : snappy = true → SnappyOk P) (ms : List Msg)
    (hm : ∀ m ∈ ms, m.Wf) (d d' : Dir) (w : Bytes) (h : writeAll P snappy d ms = .ok (d', w)) (rest : Bytes) :
    readN P snappy ms.length d (w ++ rest) = .ok (d', ms, rest) := by
  induction ms generalizing d w with
  | nil => cases h; rfl
  | cons m ms ih =>
    obtain ⟨d1, w1, ws, h1, h2, rfl⟩ := writeAll_cons_ok h
    rw [List.length_cons, readN, List.append_assoc,
      frame_roundtrip_step P hw snappy hs d m (hm m (by simp)) d1 w1 h1 (ws ++ rest)]
    simp only
    rw [ih (fun x hx => hm x (by simp [hx])) d1 ws h2]

/-- non-vacuity: two messages (one with a two-byte code, one with an empty payload) over the toy primitives `P0`,
    with and without snappy, followed by unrelated bytes. -/
example : ∃ d' w, writeAll P0 true d0 ms0 = .ok (d', w) ∧ readN P0 true 2 d0 (w ++ [1, 2, 3]) = .ok (d', ms0, [1, 2, 3]) := by
  have hok : (writeAll P0 true d0 ms0).isOk = true := by decide
  cases h : writeAll P0 true d0 ms0 with
  | ok r => exact ⟨r.1, r.2, rfl, frame_roundtrip P0 P0_wf true (fun _ => P0_snappy) ms0 ms0_wf d0 r.1 r.2 h [1, 2, 3]⟩
  | err e => simp [h, Out.isOk] at hok
  | panic p => simp [h, Out.isOk] at hok
example : (writeAll P0 false d0 ms0).isOk = true := by decide

/-- `readMsg_payload_independent_of_later_frames`: a delivered message is a value — reading further frames afterwards
    does not change it. In the model this is immediate (payloads are lists, not buffers); it is stated to NAME the
    obligation that the tie carries for the Go code, where `Msg.Payload` is a reader over a buffer: the harness holds
    3–6 delivered Msgs unconsumed while it keeps calling ReadMsg (and does the same through Peer.readLoop with a slow
    protocol handler and pings in between) and requires every payload to be unchanged when it is finally consumed. -/
theorem readMsg_payload_independent_of_later_frames (P : Prims) (snappy : Bool) (n : Nat) (d d' : Dir) (conn rest : Bytes)
    (m : Msg) (ms : List Msg) (h : readN P snappy (n + 1) d conn = .ok (d', m :: ms, rest)) :
    ∃ d1 c1, readMsg P snappy d conn = .ok (d1, m, c1) ∧ readN P snappy n d1 c1 = .ok (d', ms, rest) := by
  rw [readN] at h
  split at h
  next d1 m1 c1 hfirst =>
    split at h
    next d2 ms2 c2 hlater =>
      cases h
      exact ⟨d1, c1, hfirst, hlater⟩
    all_goals cases h
  all_goals cases h

/-- every strict prefix of a written frame is refused with a read error (never delivered, never a panic). -/
theorem frame_truncation_rejected (P : Prims) (hw : Wf P) (snappy : Bool) (hs : snappy = true → SnappyOk P) (d d' : Dir) (m : Msg)
    (hm : m.Wf) (w : Bytes) (h : writeMsg P snappy d m = .ok (d', w)) (n : Nat) (hn : n < w.length) :
    readMsg P snappy d (w.take n) = .err .eof := by
  obtain ⟨_, hbl, _, rfl⟩ := writeMsg_ok_frameWire P hw snappy hs d m hm d' w h
  rw [frameWire_snd, List.append_assoc _ _ (tag _ _)] at hn ⊢
  refine readMsg_take P hw snappy d _ _ (by rw [xorKs_length]; rfl) ?_ n hn
  rw [xorKs_invol, hdrPlain, List.append_assoc, int24_putInt24 _ _ hbl, List.length_append, xorKs_length, List.length_append,
    padOf_length, tag_length P hw]

example : ∃ d' w, writeMsg P0 false d0 m0 = .ok (d', w) ∧ w.length = 64 ∧ readMsg P0 false d0 (w.take 63) = .err .eof :=
  ⟨d0', w0, writeMsg_m0, by decide,
    frame_truncation_rejected P0 P0_wf false (fun _ => P0_snappy) d0 d0' m0 m0_wf w0 writeMsg_m0 63 (by decide)⟩

/-- `frame_tamper_detected_partial`: take the bytes of a written frame — encrypted header `hdr`, header MAC, encrypted
    frame, frame MAC — and replace them by `a b c e` of the same lengths with at least one of them changed, such that
    in no MAC-protected region both the data and its MAC field were changed (this covers every change of a single byte,
    and any change confined to one of the four fields). Then `ReadMsg` returns a MAC error before anything is
    decrypted or delivered, provided the truncated Keccak MAC does not collide on the original and the altered input
    of the comparison that is reached (`hcfH`, `hcfF`: collision-freedom on those two inputs only).

    Full statement (not provable from collision-freedom): the same for ARBITRARY `a b c e`. When both a region and its
    MAC field are replaced, rejection is unforgeability of the MAC under the secret `macCipher`/`IngressMAC` state,
    a cryptographic assumption about AES/Keccak that has no formulation over function parameters; it is exercised by
    the harness on the real primitives only. -/
theorem frame_tamper_detected_partial (P : Prims) (hw : Wf P) (snappy : Bool) (d : Dir) (fsize : Nat) (body rest : Bytes)
    (a b c e : Bytes) (ha : a.length = 16) (hb : b.length = 16) (hc : c.length = rsizeOf fsize) (he : e.length = 16)
    (hbody : body.length = fsize) (hf : fsize < 2 ^ 24)
    -- the original frame
    (hdr frame : Bytes) (hhdr : hdr = xorKs P d.pos (hdrPlain fsize)) (hframe : frame = xorKs P (d.pos + 16) (body ++ padOf fsize))
    -- something changed ...
    (hchg : a ≠ hdr ∨ b ≠ tag P (macStep P d.mac hdr) ∨ c ≠ frame ∨
            e ≠ tag P (macStep P (macStep P d.mac hdr ++ frame) (P.H (macStep P d.mac hdr ++ frame))))
    -- ... but never a region together with its MAC field
    (hreg1 : a ≠ hdr → b = tag P (macStep P d.mac hdr))
    (hreg2 : c ≠ frame → e = tag P (macStep P (macStep P d.mac hdr ++ frame) (P.H (macStep P d.mac hdr ++ frame))))
    -- MAC collision-freedom on the two inputs of each comparison
    (hcfH : macStep P d.mac a ≠ macStep P d.mac hdr → tag P (macStep P d.mac a) ≠ tag P (macStep P d.mac hdr))
    (hcfF : macStep P (macStep P d.mac hdr ++ c) (P.H (macStep P d.mac hdr ++ c))
              ≠ macStep P (macStep P d.mac hdr ++ frame) (P.H (macStep P d.mac hdr ++ frame)) →
            tag P (macStep P (macStep P d.mac hdr ++ c) (P.H (macStep P d.mac hdr ++ c)))
              ≠ tag P (macStep P (macStep P d.mac hdr ++ frame) (P.H (macStep P d.mac hdr ++ frame)))) :
    readMsg P snappy d (a ++ b ++ c ++ e ++ rest) = .err .badHeaderMAC ∨
    readMsg P snappy d (a ++ b ++ c ++ e ++ rest) = .err .badFrameMAC := by
  have hhl : hdr.length = 16 := by rw [hhdr, xorKs_length, hdrPlain_length]
  have hfl : frame.length = rsizeOf fsize := by rw [hframe, xorKs_length, List.length_append, hbody, padOf_length]
  rw [List.append_assoc (a ++ b), List.append_assoc (a ++ b)]
  by_cases h1 : a = hdr ∧ b = tag P (macStep P d.mac hdr)
  · -- the header region arrives as written, so the frame region was changed; the frame stage decides
    obtain ⟨rfl, rfl⟩ := h1
    have hce : c ≠ frame ∨ e ≠ tag P (frameMac P (macStep P d.mac a) frame) :=
      (hchg.resolve_left fun h => h rfl).resolve_left fun h => h rfl
    -- the frame MAC state determines a frame of the given length, so `hcfF` separates the two tags
    have hne : tag P (frameMac P (macStep P d.mac a) c) ≠ e :=
      tag_ne_of_changed (fun c => tag P (frameMac P (macStep P d.mac a) c)) hce hreg2
        fun h3 => hcfF fun x => h3 (frameMac_inj P _ c frame (by rw [hc, hfl]) x)
    refine .inr (readMsg_of_frame_err (by rw [hhdr]; exact readHeader_hdr P hw d fsize _ hf) ?_)
    rw [← hhdr, readFrame_append P hw _ _ _ c e rest hc he, if_pos hne]
  · -- the header region was changed: a 16-byte seed is determined by the MAC state it leads to, so `hcfH` separates the tags
    have hab : a ≠ hdr ∨ b ≠ tag P (macStep P d.mac hdr) := Classical.not_and_iff_not_or_not.1 h1
    have hne : tag P (macStep P d.mac a) ≠ b :=
      tag_ne_of_changed (fun a => tag P (macStep P d.mac a)) hab hreg1
        fun h => hcfH fun x => h (macStep_inj_seed P hw d.mac a hdr ha hhl x)
    refine .inl (readMsg_of_header_err ?_)
    rw [readHeader_append P hw d a b _ ha hb, if_pos hne]

/-- non-vacuity: the frame of `m0` under `P0`, first header byte flipped, everything else as written; the toy MAC
    (last 16 absorbed bytes) separates the two header inputs. -/
def hdr0 : Bytes := xorKs P0 d0.pos (hdrPlain 3)
def frame0 : Bytes := xorKs P0 (d0.pos + 16) ([3, 0xAA, 0xBB] ++ padOf 3)
example :
    readMsg P0 false d0 (hdr0.set 0 0xEE ++ tag P0 (macStep P0 d0.mac hdr0) ++ frame0 ++
        tag P0 (macStep P0 (macStep P0 d0.mac hdr0 ++ frame0) (P0.H (macStep P0 d0.mac hdr0 ++ frame0))) ++ []) = .err .badHeaderMAC ∨
    readMsg P0 false d0 (hdr0.set 0 0xEE ++ tag P0 (macStep P0 d0.mac hdr0) ++ frame0 ++
        tag P0 (macStep P0 (macStep P0 d0.mac hdr0 ++ frame0) (P0.H (macStep P0 d0.mac hdr0 ++ frame0))) ++ []) = .err .badFrameMAC :=
  frame_tamper_detected_partial P0 P0_wf false d0 3 [3, 0xAA, 0xBB] [] (hdr0.set 0 0xEE) _ frame0 _
    (by decide) (by decide) (by decide) (by decide) (by decide) (by decide) hdr0 frame0 rfl rfl
    (Or.inl (by decide)) (fun _ => rfl) (fun _ => rfl) (fun _ => by decide) (fun h => absurd rfl h)

/-- every single altered byte of a written frame is detected (corollary of `frame_tamper_detected_partial`):
    for each position `i` of header ‖ header-MAC ‖ frame ‖ frame-MAC and each new value `v` for that byte, `ReadMsg`
    answers with a MAC error, provided no other 16-byte header / no other frame of the same length has the MAC tag of the
    written one (second-preimage freedom of the truncated Keccak MAC at the written header and frame). -/
theorem frame_single_byte_tamper_detected (P : Prims) (hw : Wf P) (snappy : Bool) (d : Dir) (fsize : Nat) (body rest : Bytes)
    (hbody : body.length = fsize) (hf : fsize < 2 ^ 24)
    (hdr frame t1 t3 : Bytes) (hhdr : hdr = xorKs P d.pos (hdrPlain fsize)) (hframe : frame = xorKs P (d.pos + 16) (body ++ padOf fsize))
    (ht1 : t1 = tag P (macStep P d.mac hdr))
    (ht3 : t3 = tag P (macStep P (macStep P d.mac hdr ++ frame) (P.H (macStep P d.mac hdr ++ frame))))
    (i : Nat) (v : UInt8) (hi : i < (hdr ++ t1 ++ frame ++ t3).length) (hv : (hdr ++ t1 ++ frame ++ t3)[i]? ≠ some v)
    (hcfH : ∀ a, a.length = 16 → macStep P d.mac a ≠ macStep P d.mac hdr → tag P (macStep P d.mac a) ≠ tag P (macStep P d.mac hdr))
    (hcfF : ∀ c, c.length = frame.length →
        macStep P (macStep P d.mac hdr ++ c) (P.H (macStep P d.mac hdr ++ c)) ≠ macStep P (macStep P d.mac hdr ++ frame) (P.H (macStep P d.mac hdr ++ frame)) →
        tag P (macStep P (macStep P d.mac hdr ++ c) (P.H (macStep P d.mac hdr ++ c)))
          ≠ tag P (macStep P (macStep P d.mac hdr ++ frame) (P.H (macStep P d.mac hdr ++ frame)))) :
    readMsg P snappy d ((hdr ++ t1 ++ frame ++ t3).set i v ++ rest) = .err .badHeaderMAC ∨
    readMsg P snappy d ((hdr ++ t1 ++ frame ++ t3).set i v ++ rest) = .err .badFrameMAC := by
  have hhl : hdr.length = 16 := by rw [hhdr, xorKs_length, hdrPlain_length]
  have hfl : frame.length = rsizeOf fsize := by rw [hframe, xorKs_length, List.length_append, hbody, padOf_length]
  have h1l : t1.length = 16 := by rw [ht1]; exact tag_length P hw _
  have h3l : t3.length = 16 := by rw [ht3]; exact tag_length P hw _
  have tampered := fun a b c e ha hb hc he =>
    frame_tamper_detected_partial P hw snappy d fsize body rest a b c e ha hb hc he hbody hf hdr frame hhdr hframe
  -- `i` lies in exactly one of the four fields; the other three arrive as written
  rcases set_append_cases (hdr ++ t1 ++ frame) t3 i v hi hv with ⟨hi, hv, hs⟩ | ⟨hi, hv, hs⟩
  · rcases set_append_cases (hdr ++ t1) frame i v hi hv with ⟨hi, hv, hs'⟩ | ⟨hi, hv, hs'⟩
    · rcases set_append_cases hdr t1 i v hi hv with ⟨hi, hv, hs''⟩ | ⟨hi, hv, hs''⟩
      · rw [hs, hs', hs'']
        exact tampered (hdr.set i v) t1 frame t3 (by simp [hhl]) h1l hfl h3l (.inl (set_ne_self hdr i v hi hv))
          (fun _ => ht1) (fun _ => ht3) (hcfH _ (by simp [hhl])) (fun h => absurd rfl h)
      · rw [hs, hs', hs'']
        exact tampered hdr (t1.set _ v) frame t3 hhl (by simp [h1l]) hfl h3l
          (.inr (.inl (by rw [← ht1]; exact set_ne_self t1 _ v hi hv)))
          (fun h => absurd rfl h) (fun _ => ht3) (fun h => absurd rfl h) (fun h => absurd rfl h)
    · rw [hs, hs']
      exact tampered hdr t1 (frame.set _ v) t3 hhl h1l (by simp [hfl]) h3l (.inr (.inr (.inl (set_ne_self frame _ v hi hv))))
        (fun h => absurd rfl h) (fun _ => ht3) (fun h => absurd rfl h) (hcfF _ (by simp))
  · rw [hs]
    exact tampered hdr t1 frame (t3.set _ v) hhl h1l hfl (by simp [h3l])
      (.inr (.inr (.inr (by rw [← ht3]; exact set_ne_self t3 _ v hi hv))))
      (fun h => absurd rfl h) (fun h => absurd rfl h) (fun h => absurd rfl h) (fun h => absurd rfl h)

/-- non-vacuity: under `P1` (MAC tag injective on 16-byte headers and 16-byte frames) every changed byte of the
    64-byte frame of a 2-byte payload is caught, whatever position and value. -/
example (i : Nat) (v : UInt8) (w : Bytes)
    (hwd : w = xorKs P1 0 (hdrPlain 3) ++ tag P1 (macStep P1 [] (xorKs P1 0 (hdrPlain 3))) ++ xorKs P1 (0 + 16) ([3, 0xAA, 0xBB] ++ padOf 3) ++
      tag P1 (macStep P1 (macStep P1 [] (xorKs P1 0 (hdrPlain 3)) ++ xorKs P1 (0 + 16) ([3, 0xAA, 0xBB] ++ padOf 3))
        (P1.H (macStep P1 [] (xorKs P1 0 (hdrPlain 3)) ++ xorKs P1 (0 + 16) ([3, 0xAA, 0xBB] ++ padOf 3)))))
    (hi : i < w.length) (hv : w[i]? ≠ some v) :
    readMsg P1 false { mac := [], pos := 0 } (w.set i v ++ []) = .err .badHeaderMAC ∨
    readMsg P1 false { mac := [], pos := 0 } (w.set i v ++ []) = .err .badFrameMAC := by
  subst hwd
  have hhl : (xorKs P1 0 (hdrPlain 3)).length = 16 := by rw [xorKs_length, hdrPlain_length]
  have hml : (macStep P1 [] (xorKs P1 0 (hdrPlain 3))).length = 16 := by
    rw [P1_macStep _ _ (by omega)]; simp [hhl]
  refine frame_single_byte_tamper_detected P1 P1_wf false { mac := [], pos := 0 } 3 [3, 0xAA, 0xBB] [] rfl (by decide)
    _ _ _ _ rfl rfl rfl rfl i v hi hv ?_ ?_
  · intro a ha hne htag
    rw [P1_tag_hdr a ha, P1_tag_hdr _ hhl] at htag
    exact hne (by rw [htag])
  · intro c hc hne htag
    have hcl : c.length = 16 := by rw [hc, xorKs_length]; rfl
    have hfl : (xorKs P1 (0 + 16) ([3, 0xAA, 0xBB] ++ padOf 3)).length = 16 := by rw [xorKs_length]; rfl
    rw [P1_tag_frame _ c hml hcl, P1_tag_frame _ _ hml hfl] at htag
    exact hne (by rw [htag])

/-- `frame_alloc_bound`: whatever bytes arrive and whatever the session keys are, every buffer `ReadMsg` allocates
    (header, frame buffer rounded up to 16, the compressed payload copy, snappy's output) is at most 2^24 + 15 bytes;
    a snappy stream declaring more than 2^24 - 1 decompressed bytes is refused before anything is allocated for it. -/
theorem frame_alloc_bound (P : Prims) (snappy : Bool) (d : Dir) (conn : Bytes) :
    ∀ a ∈ readAllocs P snappy d conn, a ≤ 2 ^ 24 + 15 := by
  obtain ⟨fsize, content, hf, hc, hal, _⟩ := readMsgT_stages P snappy d conn
  intro a ha
  rcases hal a ha with rfl | rfl | h
  · omega
  · have := rsizeOf_le fsize; omega
  · have := decodeContent_allocs P snappy content a h
    simp only [maxUint24] at this
    omega

/-- size accounting of a delivered message: `Size` never exceeds 2^24 - 1, and without snappy it is exactly the
    number of payload bytes handed to the protocol. -/
theorem frame_size_accounting (P : Prims) (snappy : Bool) (d d' : Dir) (conn rest : Bytes) (m : Msg)
    (h : readMsg P snappy d conn = .ok (d', m, rest)) :
    m.size ≤ maxUint24 ∧ (snappy = false → m.size = m.payload.length) := by
  obtain ⟨fsize, content, hf, hc, _, hok⟩ := readMsgT_stages P snappy d conn
  obtain ⟨h1, h2⟩ := decodeContent_size P snappy content m (hok _ h)
  refine ⟨?_, fun hs => (h2 hs).1⟩
  cases snappy
  · have := (h2 rfl).2
    simp only [maxUint24]; omega
  · exact h1 rfl

example : ∃ d' m rest, readMsg P0 false d0 w0 = .ok (d', m, rest) ∧ m.size = 2 := by
  exact ⟨_, _, _, readMsg_w0, rfl⟩

/-! ## Handlers and handshake -/

/-- `handler_size_limit`: the aqua handler refuses every message whose declared size exceeds ProtocolMaxMsgSize before
    looking at it; what it processes is at most that many bytes, decoded successfully; a payload that does not decode
    is an error (the peer is dropped), never a panic in the modelled part. -/
theorem handler_size_limit (decodes : Nat → Bytes → Bool) (m : Msg) :
    (m.size > protocolMaxMsgSize → handleMsg decodes m = .err .msgTooLarge) ∧
    (∀ r, handleMsg decodes m = .ok r →
        m.size ≤ protocolMaxMsgSize ∧ r = .processed m.code (m.payload.take m.size) ∧
        (m.payload.take m.size).length ≤ protocolMaxMsgSize ∧ decodes m.code (m.payload.take m.size) = true) ∧
    (decodes m.code (m.payload.take m.size) = false → (handleMsg decodes m).isOk = false) ∧
    (handleMsg decodes m).isPanic = false := by
  generalize hr : handleMsg decodes m = res
  unfold handleMsg at hr
  split at hr
  · subst hr; exact ⟨fun _ => rfl, nofun, fun _ => rfl, rfl⟩
  rename_i hs
  refine ⟨fun h => absurd h hs, ?_⟩
  split at hr
  · subst hr; exact ⟨nofun, fun _ => rfl, rfl⟩
  split at hr
  · split at hr
    · rename_i hd
      subst hr
      refine ⟨fun r h => ?_, fun h => ?_, rfl⟩
      · cases h
        exact ⟨by omega, rfl, by rw [List.length_take]; omega, hd⟩
      · rw [h] at hd; cases hd
    · subst hr; exact ⟨nofun, fun _ => rfl, rfl⟩
  · subst hr; exact ⟨nofun, fun _ => rfl, rfl⟩

/-- the decoder is never run on more than ProtocolMaxMsgSize bytes: the handler's result does not depend on what the
    decoder would do with longer inputs. -/
theorem handler_decoder_input_bounded (dec dec' : Nat → Bytes → Bool) (m : Msg)
    (h : ∀ c p, p.length ≤ protocolMaxMsgSize → dec c p = dec' c p) : handleMsg dec m = handleMsg dec' m := by
  unfold handleMsg
  by_cases hs : m.size > protocolMaxMsgSize
  · simp [hs]
  · simp only [hs, if_false]
    rw [h m.code (m.payload.take m.size) (by simp only [List.length_take]; omega)]

/-- the same for the base-protocol handshake (2 KiB). -/
theorem proto_handshake_size_limit (decodes : Bytes → Bool) (m : Msg) :
    (m.size > baseProtocolMaxMsgSize → readProtoHandshake decodes m = .err .msgTooLarge) ∧
    (readProtoHandshake decodes m).isPanic = false := by
  unfold readProtoHandshake
  refine ⟨fun h => by simp [h], ?_⟩
  repeat' split
  all_goals rfl

/-- frames into the handler: a message delivered by `ReadMsg` (no snappy) carries `Size` = the number of payload bytes,
    so the handler's size check is a check on the real amount of data, and at most 2^24 - 1 bytes ever reach it. -/
theorem frame_to_handler (P : Prims) (d d' : Dir) (conn rest : Bytes) (m : Msg) (decodes : Nat → Bytes → Bool)
    (h : readMsg P false d conn = .ok (d', m, rest)) (r : Handled) (hr : handleMsg decodes m = .ok r) :
    r = .processed m.code m.payload ∧ m.payload.length ≤ protocolMaxMsgSize := by
  obtain ⟨_, hsz⟩ := frame_size_accounting P false d d' conn rest m h
  have hsz := hsz rfl
  obtain ⟨_, h2, _⟩ := handler_size_limit decodes m
  obtain ⟨hle, hr', _, _⟩ := h2 r hr
  rw [hsz, List.take_length] at hr'
  exact ⟨hr', by omega⟩

example : handleMsg (fun _ _ => true) m0 = .ok (.processed 3 [0xAA, 0xBB]) := by decide
example : (frame_to_handler P0 d0 d0' w0 [] m0 (fun _ _ => true) (by decide) _ (by decide : handleMsg (fun _ _ => true) m0 = .ok (.processed 3 [0xAA, 0xBB]))).1 = rfl := rfl

/-- payload consumers are total: accept or reject with an error, never a panic (the obligation the harness checks on
    the real `queue.DeliverHeaders` with wire-decoded batches). -/
theorem deliver_total (pending maps : Bool) :
    (deliverSpec pending maps).isPanic = false ∧ ((deliverSpec pending maps).isOk = true ↔ (pending = true ∧ maps = true)) := by
  cases pending <;> cases maps <;> decide

/-! ## Identity validation (the claimed static key of an RLPx initiator / of a discovered node) -/

/-- `responder_identity_validated`: for every validation predicate, ECDH and recovery function and every auth message,
    the responder derives a token / ephemeral key (the inputs of the session secrets) ONLY for an identity the predicate
    accepts, the identity it then reports is exactly the claimed one, and every rejected identity is answered with
    `bad remoteID` before ECDH is attempted. -/
theorem responder_identity_validated (P : AuthPrims) (m : AuthMsg) :
    (∀ r, handleAuthMsg P m = .ok r → P.validID m.pub = true ∧ r.remoteID = m.pub ∧ P.ecdh m.pub = some r.token) ∧
    (P.validID m.pub = false → ∀ P' : AuthPrims, P'.validID = P.validID → handleAuthMsg P' m = .err .badRemoteID) := by
  constructor
  · intro r h
    unfold handleAuthMsg at h
    split at h
    · cases h
    rename_i hv
    split at h
    · cases h
    rename_i token he
    split at h
    · cases h
    · cases h
    split at h
    · cases h
    · cases h
      exact ⟨by simpa using hv, rfl, he⟩
  · intro hv P' hP
    unfold handleAuthMsg
    rw [hP, hv]
    rfl

/-- the curve rule itself (y² = x³ + 7 mod P on the two halves): the degenerate and off-curve identities of the
    harness lattice are refused, among them (1,0) — a point of order two on y² = x³ − 1, the invalid-curve identity
    whose "shared secret" takes only four values — and the generator is accepted. -/
def idOf (x y : Nat) : Bytes :=
  List.replicate (32 - (beBytes x).length) 0 ++ beBytes x ++ (List.replicate (32 - (beBytes y).length) 0 ++ beBytes y)
def secpGx : Nat := 0x79BE667EF9DCBBAC55A06295CE870B07029BFCDB2DCE28D959F2815B16F81798
def secpGy : Nat := 0x483ADA7726A3C4655DA4FBFC0E1108A8FD17B448A68554199C47D08FFB10D4B8

theorem identity_rule_lattice :
    idOnCurve (idOf 0 0) = false ∧ idOnCurve (idOf 1 0) = false ∧ idOnCurve (idOf 0 1) = false ∧
    idOnCurve (idOf (secpP - 1) 0) = false ∧ idOnCurve (idOf (secpP - 1) 1) = false ∧ idOnCurve (idOf secpP secpP) = false ∧
    idOnCurve (idOf secpGx (secpGy + 1)) = false ∧ idOnCurve (idOf secpGx secpGx) = false ∧ idOnCurve [] = false ∧
    idOnCurve (idOf secpGx secpGy) = true ∧ idOnCurve (idOf secpGx (secpP - secpGy)) = true := by
  decide +kernel

/-- consequence: with the curve rule as the validation predicate the responder answers the order-two identity (1,0)
    with `bad remoteID`, whatever ECDH and recovery would return. -/
theorem responder_rejects_order_two_identity (P : AuthPrims) (hP : P.validID = idOnCurve) (sig nonce : Bytes) :
    handleAuthMsg P { sig := sig, pub := idOf 1 0, nonce := nonce } = .err .badRemoteID :=
  (responder_identity_validated P { sig := sig, pub := idOf 1 0, nonce := nonce }).2
    (by rw [hP]; exact identity_rule_lattice.2.1) P rfl

set_option maxRecDepth 100000 in
/-- non-vacuity: a responder run that does derive secrets (generator as the claimed identity). -/
example : (handleAuthMsg { validID := idOnCurve, ecdh := fun _ => some (List.replicate 32 1), recover := fun _ _ => some [4] }
    { sig := [], pub := idOf secpGx secpGy, nonce := List.replicate 32 2 }).isOk = true := by decide

/-- `readHandshakeMsg` (both packets): for every input, with ECIES plaintexts of the length ECIES produces, the reader
    never panics (the `decodePlain` slices and the prefix slices stay in range) and never grows its buffer beyond
    65535 + 2 bytes. -/
theorem handshake_total_and_bounded (P : HsPrims) (isAuth : Bool) (conn : Bytes)
    (hdec : ∀ c s m, P.decrypt c s = some m → m.length + eciesOverhead = c.length) :
    let plainSize := if isAuth then 307 else 210
    (readHandshakeMsg P isAuth plainSize conn).2.isPanic = false ∧
    ∀ a ∈ (readHandshakeMsg P isAuth plainSize conn).1, a ≤ 65535 + 2 := by
  cases isAuth <;> exact readHandshakeMsg_total P _ _ conn hdec (by decide) (by decide) (by decide)

/-- non-vacuity: an ECIES stand-in whose plaintext is the ciphertext without its 113 bytes of overhead. -/
def hs0 : HsPrims := { decrypt := fun c _ => if 113 ≤ c.length then some (c.drop 113) else none, decodeEip8 := fun _ => true }
example : ∀ c s m, hs0.decrypt c s = some m → m.length + eciesOverhead = c.length := by
  intro c s m h
  simp only [hs0] at h
  split at h
  · injection h with h; rw [← h]; simp [eciesOverhead]; omega
  · cases h
example : (readHandshakeMsg hs0 true 307 (List.replicate 307 4)).2 = .ok 307 := by decide +kernel

end Aqv.Props.C17
