/-
  Aqv.Props.C05 — "Coins are created only by the block reward schedule".

  Clause map (statement of C05 → theorem):
    executing transactions alone never increases Σ ......... prim_trace_nonincreasing (any finite word over the alphabet, any
                                                             snapshot/revert nesting — program independent: this is how "for all
                                                             bytecode" is discharged), tx_conserves, tx_supply_nonincreasing
    Σ' ≤ Σ + issuance(height, uncles) ...................... block_supply_bound
    … with equality when no contract self-destructs ........ prim_trace_exact_without_selfdestruct, block_supply_exact_without_selfdestruct
    issuance = 1 AQUA below 42,000,000 + (8+u−h)/8 + 1/32 .. reward_exact, issuance_schedule, issuance_matches_probes, cutoff_is_maxMoney
    HF4 only lowers ........................................ hf4_only_lowers, block_supply_bound_hf4
    nothing else writes balances ........................... sites_eq_alphabet, state_writers_eq (T-gen inventory)
    self-destruct to self burns (why "≤", not "=") ......... suicide_to_self_burns
    the same over the C07 machine, no `TraceEvm` assumed ... vm_run_supply_nonincreasing, tx_supply_nonincreasing_over_vm,
                                                             block_supply_bound_over_vm, block_supply_exact_without_selfdestruct_over_vm
                                                             (oracle effects = words over the alphabet: `AlphabetOracle`, `…NoSuicide`)
    the machine's net effect is one word ................... vm_run_is_word (`FlatOracle`), wordFrom_supply
    non-vacuity ............................................ demoEnv_* (a trace EVM), stopOrc_* (an oracle for the machine)
-/
import Aqv.Lemmas.Supply
import Aqv.Lemmas.TxVmInv
import Aqv.Lemmas.TxVm
import Aqv.Props.C07
namespace Aqv.Props.C05
open Aqv.Tx Aqv.Supply

/-! ## the primitive alphabet never creates coins -/

/-- `Q` of the current state and of every live snapshot of the alphabet machine (what `TxVm.DbInv` is for the C07 machine) -/
def MInv (Q : SState → Prop) (M : Machine) : Prop := Q M.cur ∧ ∀ s ∈ M.snaps, Q s

/-- snapshots and reverts only move states that satisfy `Q` around, so it is enough that the letter keeps `Q` when applied
    to the current state (`(step ⟨s, []⟩ op).cur` is `s` itself for `snapshot` and `revert`). -/
theorem step_inv {Q : SState → Prop} {M : Machine} {op : Op} (hop : ∀ s, Q s → Q (step ⟨s, []⟩ op).cur) (h : MInv Q M) :
    MInv Q (step M op) := by
  obtain ⟨hc, hs⟩ := h
  cases op with
  | transfer a b v => exact ⟨hop _ hc, hs⟩
  | suicide a b => exact ⟨hop _ hc, hs⟩
  | createAccount a => exact ⟨hop _ hc, hs⟩
  | snapshot =>
    exact ⟨hc, fun s hmem => (List.mem_append.mp hmem).elim (hs s) fun h => by rw [List.mem_singleton.mp h]; exact hc⟩
  | revert k =>
    simp only [step]
    cases hk : M.snaps[k]? with
    | none => exact ⟨hc, hs⟩
    | some s => exact ⟨hs s (List.mem_of_getElem? hk), fun s' hmem => hs s' (List.mem_of_mem_take hmem)⟩

theorem runOps_inv {Q : SState → Prop} (ops : List Op) (hops : ∀ op ∈ ops, ∀ s, Q s → Q (step ⟨s, []⟩ op).cur) {M : Machine}
    (h : MInv Q M) : MInv Q (runOps M ops) := by
  induction ops generalizing M with
  | nil => exact h
  | cons op ops ih =>
    exact ih (fun o ho => hops o (List.mem_cons_of_mem _ ho)) (step_inv (hops op List.mem_cons_self) h)

theorem step_total_le (s : SState) (op : Op) : total (step ⟨s, []⟩ op).cur.bal ≤ total s.bal := by
  cases op with
  | transfer a b v => exact Nat.le_of_eq (total_transfer s a b v)
  | suicide a b => exact total_suicide_le s a b
  | createAccount a => exact Nat.le_refl _
  | snapshot => exact Nat.le_refl _
  | revert k => exact Nat.le_refl _

theorem step_total_eq {s : SState} {op : Op} (hop : op.isSuicide = false) (hs : s.suicided = []) :
    total (step ⟨s, []⟩ op).cur.bal = total s.bal ∧ (step ⟨s, []⟩ op).cur.suicided = [] := by
  cases op with
  | transfer a b v => exact ⟨total_transfer s a b v, (transfer_suicided s a b v).trans hs⟩
  | suicide a b => cases hop
  | createAccount a => exact ⟨rfl, by simp only [step, createAccount, hs]; rfl⟩
  | snapshot => exact ⟨rfl, hs⟩
  | revert k => exact ⟨rfl, hs⟩

/-- **prim_trace_nonincreasing.** Any finite sequence of value transfers (guarded by CanTransfer), SELFDESTRUCTs, account
    (re)creations, snapshots and reverts to any live snapshot — whatever program produced it — leaves Σ balances at most
    where it started; so does the Finalise that follows. -/
theorem prim_trace_nonincreasing (s : SState) (ops : List Op) :
    total (runOps { cur := s, snaps := [] } ops).cur.bal ≤ total s.bal ∧
    total (finalise (runOps { cur := s, snaps := [] } ops).cur).bal ≤ total s.bal := by
  have h := (runOps_inv (Q := fun x => total x.bal ≤ total s.bal) ops (fun op _ x hx => Nat.le_trans (step_total_le x op) hx)
    (M := { cur := s, snaps := [] }) ⟨Nat.le_refl _, nofun⟩).1
  exact ⟨h, Nat.le_trans (total_finalise_le _) h⟩

/-- **prim_trace_exact_without_selfdestruct.** Without SELFDESTRUCT the same traces conserve Σ exactly (through Finalise too). -/
theorem prim_trace_exact_without_selfdestruct (s : SState) (hs : s.suicided = []) (ops : List Op) (hno : ∀ op ∈ ops, op.isSuicide = false) :
    total (runOps { cur := s, snaps := [] } ops).cur.bal = total s.bal ∧
    (runOps { cur := s, snaps := [] } ops).cur.suicided = [] ∧
    total (finalise (runOps { cur := s, snaps := [] } ops).cur).bal = total s.bal := by
  have h := (runOps_inv (Q := fun x => total x.bal = total s.bal ∧ x.suicided = []) ops
    (fun op hop x hx => (step_total_eq (hno op hop) hx.2).imp (fun e => e.trans hx.1) id)
    (M := { cur := s, snaps := [] }) ⟨⟨rfl, hs⟩, nofun⟩).1
  exact ⟨h.1, h.2, by rw [finalise_nil _ h.2]; exact h.1⟩

/-- **suicide_to_self_burns.** Why the statement says "at most": SELFDESTRUCT with the contract itself as beneficiary
    credits the balance and then zeroes the account — the coins are gone. -/
theorem suicide_to_self_burns : ∃ (s : SState) (a : Addr), total (suicide s a a).bal < total s.bal :=
  ⟨{ bal := [(1, 5), (2, 7)], suicided := [] }, 1, by decide⟩

example : total (runOps { cur := { bal := [(1, 5), (2, 7)], suicided := [] }, snaps := [] }
    [.snapshot, .transfer 1 2 3, .suicide 2 3, .snapshot, .transfer 3 1 4, .revert 1, .createAccount 2]).cur.bal = 12 := by decide
example : total (runOps { cur := { bal := [(1, 5), (2, 7)], suicided := [] }, snaps := [] }
    [.snapshot, .suicide 2 2, .revert 0]).cur.bal = 12 := by decide
example : total (finalise (runOps { cur := { bal := [(1, 5), (2, 7)], suicided := [] }, snaps := [] }
    [.suicide 2 3, .transfer 1 2 4]).cur).bal = 8 := by decide   -- value sent to an account after it self-destructed is deleted with it

/-! ## one transaction -/

/-- **tx_conserves.** The fee machinery is balanced: what `buyGas` takes (gasLimit·price) is exactly what `refundGas` and the
    fee credit give back, for every gasUsed / refund — so a transaction changes Σ by exactly what its EVM run changed it. -/
theorem tx_conserves {ρ : Type} {env : Env ρ} (hE : EvmOk env) {m : Msg} {gp : Nat} {w : World ρ} {r : TxOk ρ}
    (h : transitionDb env m gp w = .ok r) :
    ∃ ig, intrinsicGas m.data m.to.isNone env.homestead = some ig ∧
      total r.world.bal = total (evmOut env m w ig).world.bal + m.gas * m.gasPrice ∧
      total (preWorld m w).bal + m.gas * m.gasPrice = total w.bal ∧
      r.world.rest = (evmOut env m w ig).world.rest := by
  obtain ⟨ig, a⟩ := transitionDb_ok_iff.mp h
  refine ⟨ig, a.intrinsic, ?_, preWorld_total m w a.funds, a.nonce_rest.2⟩
  rw [a.result]
  simp only []
  rw [total_addBal, total_addBal, Nat.add_assoc, fee_split (gasBack_le hE m w a.ig_le)]

def SupplyEvm (env : Env (List Addr)) : Prop := ∀ m g w, total (env.run m g w).world.bal ≤ total w.bal

theorem traceEvm_supplyEvm {env : Env (List Addr)} (hT : TraceEvm env) : SupplyEvm env := by
  intro m g w
  obtain ⟨ops, hb, _⟩ := hT m g w
  rw [hb]; exact (prim_trace_nonincreasing (toS w) ops).1

theorem tx_supply_nonincreasing_of_supplyEvm {env : Env (List Addr)} (hE : EvmOk env) (hS : SupplyEvm env) {m : Msg} {gp : Nat} {w : SWorld}
    {r : TxOk (List Addr)} (h : transitionDb env m gp w = .ok r) :
    total r.world.bal ≤ total w.bal ∧ total (finWorld r.world).bal ≤ total w.bal := by
  obtain ⟨ig, _, h1, h2, _⟩ := tx_conserves hE h
  have h4 : total (evmOut env m w ig).world.bal ≤ total (preWorld m w).bal := hS m (m.gas - ig) (preWorld m w)
  have h5 : total r.world.bal ≤ total w.bal := by omega
  exact ⟨h5, Nat.le_trans (total_finWorld_le _) h5⟩

/-- **tx_supply_nonincreasing.** With an EVM whose balance effects are a word over the alphabet, a whole transaction
    (buy gas, execute, refund, pay the fee, Finalise) never increases Σ. -/
theorem tx_supply_nonincreasing {env : Env (List Addr)} (hE : EvmOk env) (hT : TraceEvm env) {m : Msg} {gp : Nat} {w : SWorld} {r : TxOk (List Addr)}
    (h : transitionDb env m gp w = .ok r) :
    total r.world.bal ≤ total w.bal ∧ total (finWorld r.world).bal ≤ total w.bal :=
  tx_supply_nonincreasing_of_supplyEvm hE (traceEvm_supplyEvm hT) h

def ExactEvm (env : Env (List Addr)) : Prop :=
  ∀ m g w, w.rest = [] → total (env.run m g w).world.bal = total w.bal ∧ (env.run m g w).world.rest = []

theorem traceEvmNoSuicide_exactEvm {env : Env (List Addr)} (hT : TraceEvmNoSuicide env) : ExactEvm env := by
  intro m g w hw
  obtain ⟨ops, hno, hb, hr⟩ := hT m g w
  obtain ⟨e1, e2, _⟩ := prim_trace_exact_without_selfdestruct (toS w) hw ops hno
  exact ⟨by rw [hb]; exact e1, by rw [hr]; exact e2⟩

theorem tx_supply_exact_of_exactEvm {env : Env (List Addr)} (hE : EvmOk env) (hX : ExactEvm env) {m : Msg} {gp : Nat} {w : SWorld}
    {r : TxOk (List Addr)} (h : transitionDb env m gp w = .ok r) (hw : w.rest = []) :
    total (finWorld r.world).bal = total w.bal ∧ (finWorld r.world).rest = [] := by
  obtain ⟨ig, _, h1, h2, hrest⟩ := tx_conserves hE h
  obtain ⟨h4, h5⟩ := hX m (m.gas - ig) (preWorld m w) ((preWorld_rest m w).trans hw)
  have h4' : total (evmOut env m w ig).world.bal = total (preWorld m w).bal := h4
  refine ⟨?_, rfl⟩
  rw [finWorld_bal _ (hrest.trans h5)]
  omega

theorem tx_supply_exact {env : Env (List Addr)} (hE : EvmOk env) (hT : TraceEvmNoSuicide env) {m : Msg} {gp : Nat} {w : SWorld} {r : TxOk (List Addr)}
    (h : transitionDb env m gp w = .ok r) (hw : w.rest = []) :
    total (finWorld r.world).bal = total w.bal ∧ (finWorld r.world).rest = [] :=
  tx_supply_exact_of_exactEvm hE (traceEvmNoSuicide_exactEvm hT) h hw

/-! ## rewards and hard fork 4 -/

/-- **reward_exact.** `accumulateRewards` adds exactly the scheduled issuance to Σ: below the cut-off height the block reward,
    (u + 8 − h)·R/8 for each uncle's miner and R/32 per uncle for the miner; from the cut-off on, nothing. -/
theorem reward_exact (h : Nat) (coinbase : Addr) (uncles : List Uncle) (w : SWorld) :
    total (accumulateRewards h coinbase uncles w).bal = total w.bal + issuance h uncles := by
  unfold accumulateRewards issuance
  split
  · rw [total_addBal, total_payUncles]; omega
  · rfl

/-- **issuance_schedule** (T-gen). The constants of the compiled packages are the ones of the statement: 1 AQUA = 10¹⁸ wei per
    block, cut-off at height 42,000,000, uncle divisor 8, nephew divisor 32. -/
theorem issuance_schedule :
    Gen.Supply.blockReward = 1000000000000000000 ∧ Gen.Supply.maxMoney = 42000000 ∧ Gen.Supply.big8 = 8 ∧ Gen.Supply.big32 = 32 := by
  decide

/-- the issuance in the words of the statement. -/
theorem issuance_formula (h : Nat) (uncles : List Uncle) :
    issuance h uncles =
      if h < 42000000 then
        1000000000000000000 + 31250000000000000 * uncles.length + uncleSum h uncles
      else 0 := by
  unfold issuance
  rw [show nephewReward = 31250000000000000 by decide]
  rfl

theorem uncleReward_formula (h u : Nat) : uncleReward h u = 1000000000000000000 * (u + 8 - h) / 8 := by
  unfold uncleReward; simp only [Gen.Supply.blockReward, Gen.Supply.big8]

/-- **cutoff_is_maxMoney** (T-gen). The height found by bisection on the compiled `accumulateRewards` (first height that pays
    nothing) is `params.MaxMoney`. -/
theorem cutoff_is_maxMoney : Gen.Supply.cutoff = Gen.Supply.maxMoney := by decide

/-- replay of one probe of the compiled function on the model: miner 1000, miner of uncle i = 2000 + i. -/
def probeOk (p : Nat × List Nat × List Nat) : Bool :=
  let (h, us, paid) := p
  let uncles : List Uncle := (List.range us.length).zip us |>.map (fun (i, u) => (u, 2000 + i))
  let w := accumulateRewards h 1000 uncles { bal := [], nonce := [], rest := [] }
  paid == (lookup w.bal 1000 :: (List.range us.length).map (fun i => lookup w.bal (2000 + i)))

/-- **issuance_matches_probes** (T-gen). The model's `accumulateRewards` reproduces every probe dumped from the compiled
    function (heights 1 … 2·MaxMoney, 0–2 uncles at distances 0 … 8 and beyond the block itself). -/
theorem issuance_matches_probes : Gen.Supply.probes.all probeOk = true := by decide

/-- **hf4_only_lowers.** Hard fork 4 zeroes the listed accounts: no balance grows, the listed ones end at zero, Σ does not grow. -/
theorem hf4_only_lowers (dealloc : List Addr) (w : SWorld) :
    total (applyHF4 dealloc w).bal ≤ total w.bal ∧
    (∀ a, lookup (applyHF4 dealloc w).bal a ≤ lookup w.bal a) ∧
    (∀ a ∈ dealloc, lookup (applyHF4 dealloc w).bal a = 0) ∧
    (∀ a, a ∉ dealloc → lookup (applyHF4 dealloc w).bal a = lookup w.bal a) ∧
    (applyHF4 dealloc w).nonce = w.nonce ∧ (applyHF4 dealloc w).rest = w.rest :=
  ⟨total_zeroAll_le _ _, fun a => by rw [applyHF4, lookup_zeroAll]; split <;> omega,
   fun a ha => by rw [applyHF4, lookup_zeroAll, if_pos ha], fun a ha => by rw [applyHF4, lookup_zeroAll, if_neg ha], rfl, rfl⟩

example : total (applyHF4 [1, 3] { bal := [(1, 5), (2, 7)], nonce := [], rest := [] }).bal = 7 := by decide

/-- **hf5_is_noop.** `misc.ApplyHardFork5` as written (it calls the getter `StateDB.Empty` on every listed account) leaves the
    state — every balance, nonce and mark — exactly as it was. A change that makes it "remove the presale accounts" (as its
    doc comment says) breaks this obligation, the call-site inventory (`sites_eq_alphabet`) and the block sums of the harness. -/
theorem hf5_is_noop (dealloc : List Addr) (w : SWorld) : applyHF5 dealloc w = w := by
  induction dealloc generalizing w with
  | nil => rfl
  | cons a as ih => simp only [applyHF5]; exact ih w

theorem hardForkEdits_eq (c : BlockCtx) (w : SWorld) :
    hardForkEdits c w = if c.hf4Height = some c.height then applyHF4 c.dealloc w else w := by
  unfold hardForkEdits
  simp only [hf5_is_noop]
  split <;> rfl

theorem hardForkEdits_le (c : BlockCtx) (w : SWorld) : total (hardForkEdits c w).bal ≤ total w.bal := by
  rw [hardForkEdits_eq]; split
  · exact total_zeroAll_le _ _
  · exact Nat.le_refl _

example : (applyHF5 [5, 6] { bal := [(5, 77), (6, 1)], nonce := [], rest := [] }).bal = [(5, 77), (6, 1)] := by decide

/-! ## whole blocks -/

theorem processBlock_ok {env : Env (List Addr)} {c : BlockCtx} {txs : List Msg} {w : SWorld} {b : BlockOk (List Addr)}
    (h : processBlock env c txs w = .ok b) :
    ∃ b', processTxs env txs c.gasLimit (hardForkEdits c w) 0 = .ok b' ∧
      b.world = accumulateRewards c.height c.coinbase c.uncles b'.world := by
  obtain ⟨b', hp, rfl⟩ := process_ok_iff.mp h
  exact ⟨b', hp, rfl⟩

theorem block_supply_le {env : Env (List Addr)} (hE : EvmOk env) (hT : SupplyEvm env) (hfin : env.fin = finWorld)
    (c : BlockCtx) (txs : List Msg) (w : SWorld) {b : BlockOk (List Addr)} (h : processBlock env c txs w = .ok b) :
    total b.world.bal ≤ total (hardForkEdits c w).bal + issuance c.height c.uncles := by
  obtain ⟨b', hp, hb⟩ := processBlock_ok h
  rw [hb, reward_exact]
  exact Nat.add_le_add_right (processTxs_inv (I := fun x => total x.bal ≤ total (hardForkEdits c w).bal)
    (fun m gp x r hx hr => by rw [hfin]; exact Nat.le_trans (tx_supply_nonincreasing_of_supplyEvm hE hT hr).2 hx)
    txs _ _ _ hp (Nat.le_refl _)) _

theorem block_supply_bound_of_supplyEvm {env : Env (List Addr)} (hE : EvmOk env) (hT : SupplyEvm env) (hfin : env.fin = finWorld)
    (c : BlockCtx) (txs : List Msg) (w : SWorld) {b : BlockOk (List Addr)} (h : processBlock env c txs w = .ok b) :
    total b.world.bal ≤ total w.bal + issuance c.height c.uncles :=
  Nat.le_trans (block_supply_le hE hT hfin c txs w h) (Nat.add_le_add_right (hardForkEdits_le c w) _)

/-- **block_supply_bound.** Applying a block — hard fork 4 at its height, any transactions over any bytecode, Finalise after
    each, then the rewards — changes Σ balances by at most the issuance scheduled for (height, uncles). -/
theorem block_supply_bound {env : Env (List Addr)} (hE : EvmOk env) (hT : TraceEvm env) (hfin : env.fin = finWorld)
    (c : BlockCtx) (txs : List Msg) (w : SWorld) {b : BlockOk (List Addr)} (h : processBlock env c txs w = .ok b) :
    total b.world.bal ≤ total w.bal + issuance c.height c.uncles :=
  block_supply_bound_of_supplyEvm hE (traceEvm_supplyEvm hT) hfin c txs w h

theorem block_supply_exact_of_exactEvm {env : Env (List Addr)} (hE : EvmOk env) (hT : ExactEvm env) (hfin : env.fin = finWorld)
    (c : BlockCtx) (txs : List Msg) (w : SWorld) (hw0 : w.rest = []) {b : BlockOk (List Addr)} (h : processBlock env c txs w = .ok b) :
    total b.world.bal =
      total (if c.hf4Height = some c.height then applyHF4 c.dealloc w else w).bal + issuance c.height c.uncles ∧
    (c.hf4Height ≠ some c.height → total b.world.bal = total w.bal + issuance c.height c.uncles) := by
  obtain ⟨b', hp, hb⟩ := processBlock_ok h
  have h1 := (processTxs_inv (I := fun x => total x.bal = total (hardForkEdits c w).bal ∧ x.rest = [])
    (fun m gp x r hx hr => by
      rw [hfin]
      exact (tx_supply_exact_of_exactEvm hE hT hr hx.2).imp (fun e => e.trans hx.1) id)
    txs _ _ _ hp ⟨rfl, by rw [hardForkEdits_eq]; split <;> exact hw0⟩).1
  rw [hb, reward_exact, h1, hardForkEdits_eq]
  exact ⟨rfl, fun hne => by rw [if_neg hne]⟩

/-- **block_supply_exact_without_selfdestruct.** If no contract self-destructs in the block, Σ grows by exactly the issuance
    (relative to the state after the one-time HF4 zeroing, when the block is the HF4 block; HF5 changes nothing). -/
theorem block_supply_exact_without_selfdestruct {env : Env (List Addr)} (hE : EvmOk env) (hT : TraceEvmNoSuicide env) (hfin : env.fin = finWorld)
    (c : BlockCtx) (txs : List Msg) (w : SWorld) (hw0 : w.rest = []) {b : BlockOk (List Addr)} (h : processBlock env c txs w = .ok b) :
    total b.world.bal =
      total (if c.hf4Height = some c.height then applyHF4 c.dealloc w else w).bal + issuance c.height c.uncles ∧
    (c.hf4Height ≠ some c.height → total b.world.bal = total w.bal + issuance c.height c.uncles) :=
  block_supply_exact_of_exactEvm hE (traceEvmNoSuicide_exactEvm hT) hfin c txs w hw0 h

/-- **block_supply_bound_hf4.** At the HF4 block the bound tightens by what was zeroed: Σ' ≤ Σ(after zeroing) + issuance ≤ Σ + issuance. -/
theorem block_supply_bound_hf4 {env : Env (List Addr)} (hE : EvmOk env) (hT : TraceEvm env) (hfin : env.fin = finWorld)
    (c : BlockCtx) (txs : List Msg) (w : SWorld) (hhf : c.hf4Height = some c.height) {b : BlockOk (List Addr)} (h : processBlock env c txs w = .ok b) :
    total b.world.bal ≤ total (applyHF4 c.dealloc w).bal + issuance c.height c.uncles ∧
    total (applyHF4 c.dealloc w).bal ≤ total w.bal := by
  have h1 := block_supply_le hE (traceEvm_supplyEvm hT) hfin c txs w h
  rw [hardForkEdits_eq, if_pos hhf] at h1
  exact ⟨h1, total_zeroAll_le _ _⟩

/-! ## nothing else writes balances (T-gen inventory) -/

/-- **sites_eq_alphabet** (T-gen). Every mention of AddBalance / SubBalance / SetBalance / Suicide / CreateAccount outside
    core/state (go/ast inventory of the tree under test) is one of the modelled sites; a new balance mutator anywhere breaks this. -/
theorem sites_eq_alphabet : Gen.Supply.balanceMutatorSites = modelledSites := by rfl

/-- **state_writers_eq** (T-gen). Inside core/state the functions that write a balance are exactly the mutators of the alphabet
    and their journal undo entries. -/
theorem state_writers_eq : Gen.Supply.stateBalanceWriters = modelledStateWriters := by rfl

/-! ## non-vacuity: a trace EVM that obeys all the hypotheses -/

/-- an EVM that performs the top-level transfer (to account 9 for creations) and then lets the callee self-destruct to itself
    when `burn` is set: a word over the alphabet. -/
def demoEnv (cb : Addr) (burn : Bool) : Env (List Addr) :=
  { run := fun m g w =>
      if lookup w.bal m.sender < m.value then { world := w, gasLeft := g, err := some .insufficientBalance }
      else
        let t := m.to.getD 9
        let M := runOps { cur := toS w, snaps := [] } ([.snapshot, .transfer m.sender t m.value] ++ (if burn then [.suicide t t] else []))
        { world := { w with bal := M.cur.bal, rest := M.cur.suicided }, gasLeft := g, err := none }
    refund := fun _ => 0, fin := finWorld, coinbase := cb, homestead := true, byzantium := true }

theorem demoEnv_err {cb : Addr} {burn : Bool} {m : Msg} {g : Nat} {w : SWorld} {e : VmErr}
    (h : ((demoEnv cb burn).run m g w).err = some e) : e = .insufficientBalance := by
  simp only [demoEnv] at h
  split at h <;> cases h
  rfl

theorem demoEnv_ok (cb : Addr) (burn : Bool) : EvmOk (demoEnv cb burn) := by
  constructor
  · intro m g w; simp only [demoEnv]; split <;> exact Nat.le_refl _
  · intro m g w; simp only [demoEnv]; split <;> simp [*]
  · exact fun m g w e _ herr hne => absurd (demoEnv_err herr) hne
  · exact fun _ m g w e _ herr hne => absurd (demoEnv_err herr) hne

theorem demoEnv_trace (cb : Addr) (burn : Bool) : TraceEvm (demoEnv cb burn) := by
  intro m g w
  simp only [demoEnv]
  split
  · exact ⟨[], rfl, rfl⟩
  · exact ⟨_, rfl, rfl⟩

theorem demoEnv_trace_nosuicide (cb : Addr) : TraceEvmNoSuicide (demoEnv cb false) := by
  intro m g w
  simp only [demoEnv]
  split
  · exact ⟨[], nofun, rfl, rfl⟩
  · refine ⟨[.snapshot, .transfer m.sender (m.to.getD 9) m.value], ?_, rfl, rfl⟩
    intro op hop
    simp only [List.mem_cons, List.not_mem_nil, or_false] at hop
    rcases hop with h | h <;> rw [h] <;> rfl

def w0 : SWorld := { bal := [(1, 1000000), (2, 50), (5, 77)], nonce := [(1, 5)], rest := [] }
def m0 : Msg := { sender := 1, to := some 3, nonce := 5, checkNonce := true, gasPrice := 2, gas := 30000, value := 100, data := [] }
def c0 : BlockCtx := { height := 10, coinbase := 2, uncles := [(9, 7), (4, 8)], hf4Height := some 10, dealloc := [5, 6], gasLimit := 100000 }

def sumAfter (x : Except TxErr (BlockOk (List Addr))) : Option Nat :=
  match x with
  | .ok b => some (total b.world.bal)
  | .error _ => none

-- a block at the HF4 height with two uncles, no self-destruct: Σ = Σ − 77 (zeroed) + R + 7R/8 + 2R/8 + 2·R/32, exactly
example : sumAfter (processBlock (demoEnv 2 false) c0 [m0] w0) =
    some (1000127 - 77 + (1000000000000000000 + 875000000000000000 + 250000000000000000 + 2 * 31250000000000000)) := by decide
-- the same block when the callee self-destructs to itself: the 100 wei it received are burnt
example : sumAfter (processBlock (demoEnv 2 true) c0 [m0] w0) =
    some (1000127 - 77 - 100 + (1000000000000000000 + 875000000000000000 + 250000000000000000 + 2 * 31250000000000000)) := by decide
-- at the cut-off height nothing is issued
example : sumAfter (processBlock (demoEnv 2 false) { c0 with height := 42000000, hf4Height := none, uncles := [] } [m0] w0) = some 1000127 := by decide
example : issuance 41999999 [] = 1000000000000000000 ∧ issuance 42000000 [(41999999, 1)] = 0 := by decide

/-! ## over the modelled interpreter (C07): the machine's run is a trace over the alphabet -/

open Aqv.TxVm in
/-- every effect function of an oracle entry acts on balances as some finite word over the alphabet (which word may depend on
    the world it is applied to). This is the semantic content of "opcodes reach balances only through the inventoried sites"
    (`sites_eq_alphabet` checks it syntactically): SSTORE/LOG/AddRefund/SetNonce/SetCode effects are the empty word, the
    transfer legs of CALL/CREATE are `transfer`, CreateAccount is `createAccount`, SELFDESTRUCT is `suicide`. -/
def AlphabetEffect (f : SWorld → SWorld) : Prop :=
  ∀ w, ∃ ops : List Op, (f w).bal = (runOps { cur := toS w, snaps := [] } ops).cur.bal

def AlphabetOracle (o : Nat → Vm.StepIn SWorld) : Prop :=
  ∀ t, AlphabetEffect (o t).eff ∧ AlphabetEffect (o t).gasEff ∧ AlphabetEffect (o t).neutralEff ∧ AlphabetEffect (o t).xferEff ∧
    AlphabetEffect (o t).nonceEff ∧ AlphabetEffect (o t).setCodeEff

theorem alphabetEffect_le {f : SWorld → SWorld} (hf : AlphabetEffect f) (B : Nat) : TxVm.Pres (fun w : SWorld => total w.bal ≤ B) f := by
  intro w hw
  obtain ⟨ops, h⟩ := hf w
  rw [h]; exact Nat.le_trans (prim_trace_nonincreasing (toS w) ops).1 hw

theorem alphabetOracle_effOk {o : Nat → Vm.StepIn SWorld} (hA : AlphabetOracle o) (B : Nat) :
    TxVm.EffOk 0 (fun w : SWorld => total w.bal ≤ B) o :=
  fun t _ => (Vm.allEff_iff.mpr (hA t)).imp fun _ hf => alphabetEffect_le hf B

/-- **vm_run_supply_nonincreasing.** The C07 machine — `Interpreter.Run` on any frame, with any oracle (program, inputs,
    state answers) whose effects are words over the alphabet, from any StateDB whose current world and live snapshots hold at
    most B — ends in a StateDB whose current world and live snapshots hold at most B: the interleaving of the effects with the
    machine's own snapshots and reverts is again a trace over the alphabet, and `prim_trace_nonincreasing` is program independent.
    Same for `evm.Call` and `evm.Create` at depth 0 from a fresh journal: Σ after ≤ Σ before. -/
theorem vm_run_supply_nonincreasing (venv : Vm.Env) (o : Nat → Vm.StepIn SWorld) (hA : AlphabetOracle o) (B : Nat) :
    (∀ fuel fr db t, TxVm.DbInv (fun w : SWorld => total w.bal ≤ B) db →
      TxVm.DbInv (fun w : SWorld => total w.bal ≤ B) (Vm.run venv o fuel fr db t).db) ∧
    (∀ fuel k gas v (w : SWorld), total w.bal ≤ B → total (Vm.topCall venv o fuel k gas v ⟨w, [], 0⟩).db.cur.bal ≤ B) ∧
    (∀ fuel gas (w : SWorld), total w.bal ≤ B → total (Vm.topCreate venv o fuel gas ⟨w, [], 0⟩).db.cur.bal ≤ B) :=
  have hO := alphabetOracle_effOk hA B
  ⟨fun fuel fr _ t h => TxVm.run_inv venv hO fuel fr (Nat.zero_le t) h,
    fun fuel k gas v w hw => (TxVm.topCall_inv venv hO fuel k gas v (db := ⟨w, [], 0⟩) ⟨hw, nofun⟩).cur,
    fun fuel gas w hw => (TxVm.topCreate_inv venv hO fuel gas (db := ⟨w, [], 0⟩) ⟨hw, nofun⟩).cur⟩

theorem vmEnv_supplyEvm (venv : Vm.Env) (orc : TxVm.Oracle (List Addr)) (hA : ∀ m g w, AlphabetOracle (orc m g w))
    (refund : SWorld → Nat) (cb : Addr) : SupplyEvm (TxVm.vmEnv venv orc refund finWorld cb) :=
  fun m g w => TxVm.machine_inv venv orc m g w (alphabetOracle_effOk (hA m g w) _) (Nat.le_refl _)

/-- **tx_supply_nonincreasing_over_vm.** `TransitionDb` over the modelled interpreter (no `EvmOk`, no `TraceEvm` hypothesis):
    buy gas, run the C07 machine, refund, pay the fee, Finalise — Σ never increases. -/
theorem tx_supply_nonincreasing_over_vm (venv : Vm.Env) (hE : Vm.EnvOK venv) (orc : TxVm.Oracle (List Addr)) (hO : TxVm.OracleOk orc)
    (hA : ∀ m g w, AlphabetOracle (orc m g w)) (refund : SWorld → Nat) (cb : Addr) {m : Msg} {gp : Nat} {w : SWorld} {r : TxOk (List Addr)}
    (h : transitionDb (TxVm.vmEnv venv orc refund finWorld cb) m gp w = .ok r) :
    total r.world.bal ≤ total w.bal ∧ total (finWorld r.world).bal ≤ total w.bal :=
  tx_supply_nonincreasing_of_supplyEvm (TxVm.vmEnv_ok venv hE orc hO refund finWorld cb) (vmEnv_supplyEvm venv orc hA refund cb) h

/-- **block_supply_bound_over_vm.** Whole blocks over the modelled interpreter: Σ' ≤ Σ + issuance. -/
theorem block_supply_bound_over_vm (venv : Vm.Env) (hE : Vm.EnvOK venv) (orc : TxVm.Oracle (List Addr)) (hO : TxVm.OracleOk orc)
    (hA : ∀ m g w, AlphabetOracle (orc m g w)) (refund : SWorld → Nat) (c : BlockCtx) (txs : List Msg) (w : SWorld)
    {b : BlockOk (List Addr)} (h : processBlock (TxVm.vmEnv venv orc refund finWorld c.coinbase) c txs w = .ok b) :
    total b.world.bal ≤ total w.bal + issuance c.height c.uncles :=
  block_supply_bound_of_supplyEvm (TxVm.vmEnv_ok venv hE orc hO refund finWorld c.coinbase) (vmEnv_supplyEvm venv orc hA refund c.coinbase) rfl c txs w h

/-- … a word without the letter `suicide` (and the effect reports the marks of the word's final state). -/
def AlphabetEffectNoSuicide (f : SWorld → SWorld) : Prop :=
  ∀ w, ∃ ops : List Op, (∀ op ∈ ops, op.isSuicide = false) ∧
    (f w).bal = (runOps { cur := toS w, snaps := [] } ops).cur.bal ∧ (f w).rest = (runOps { cur := toS w, snaps := [] } ops).cur.suicided

def AlphabetOracleNoSuicide (o : Nat → Vm.StepIn SWorld) : Prop :=
  ∀ t, AlphabetEffectNoSuicide (o t).eff ∧ AlphabetEffectNoSuicide (o t).gasEff ∧ AlphabetEffectNoSuicide (o t).neutralEff ∧
    AlphabetEffectNoSuicide (o t).xferEff ∧ AlphabetEffectNoSuicide (o t).nonceEff ∧ AlphabetEffectNoSuicide (o t).setCodeEff

theorem alphabetEffectNoSuicide_conserves {f : SWorld → SWorld} (hf : AlphabetEffectNoSuicide f) (B : Nat) :
    TxVm.Pres (fun w : SWorld => total w.bal = B ∧ w.rest = []) f := by
  intro w hw
  obtain ⟨ops, hno, hb, hr⟩ := hf w
  obtain ⟨e1, e2, _⟩ := prim_trace_exact_without_selfdestruct (toS w) hw.2 ops hno
  exact ⟨by rw [hb, e1]; exact hw.1, by rw [hr]; exact e2⟩

theorem vmEnv_exactEvm (venv : Vm.Env) (orc : TxVm.Oracle (List Addr)) (hA : ∀ m g w, AlphabetOracleNoSuicide (orc m g w))
    (refund : SWorld → Nat) (cb : Addr) : ExactEvm (TxVm.vmEnv venv orc refund finWorld cb) :=
  fun m g w hw => TxVm.machine_inv venv orc m g w
    (fun t _ => (Vm.allEff_iff.mpr (hA m g w t)).imp fun _ hf => alphabetEffectNoSuicide_conserves hf (total w.bal)) ⟨rfl, hw⟩

/-- **block_supply_exact_without_selfdestruct_over_vm.** Whole blocks over the modelled interpreter, no `EvmOk`/`TraceEvm`
    hypothesis: if no effect word of any step contains the letter `suicide`, Σ' = Σ(after the HF4 zeroing, if any) + issuance. -/
theorem block_supply_exact_without_selfdestruct_over_vm (venv : Vm.Env) (hE : Vm.EnvOK venv) (orc : TxVm.Oracle (List Addr)) (hO : TxVm.OracleOk orc)
    (hA : ∀ m g w, AlphabetOracleNoSuicide (orc m g w)) (refund : SWorld → Nat) (c : BlockCtx) (txs : List Msg) (w : SWorld) (hw0 : w.rest = [])
    {b : BlockOk (List Addr)} (h : processBlock (TxVm.vmEnv venv orc refund finWorld c.coinbase) c txs w = .ok b) :
    total b.world.bal =
      total (if c.hf4Height = some c.height then applyHF4 c.dealloc w else w).bal + issuance c.height c.uncles ∧
    (c.hf4Height ≠ some c.height → total b.world.bal = total w.bal + issuance c.height c.uncles) :=
  block_supply_exact_of_exactEvm (TxVm.vmEnv_ok venv hE orc hO refund finWorld c.coinbase) (vmEnv_exactEvm venv orc hA refund c.coinbase) rfl c txs w hw0 h

/-- non-vacuity: an oracle for a callee that is `STOP`, whose call transfers the value to account 3 and whose other effects
    are empty words; under the spring rule set of C07. -/
def stopOrc : TxVm.Oracle (List Addr) := fun m _ w _ =>
  { op := 0, args := [], canTransfer := decide (m.value ≤ lookup w.bal m.sender),
    nonceEff := fun w' => setNonce w' m.sender (nonceInc (lookup w'.nonce m.sender)),
    xferEff := fun w' => { w' with bal := (transfer (toS w') m.sender 3 m.value).bal } }

theorem stopOrc_ok : TxVm.OracleOk stopOrc := ⟨fun _ _ _ => rfl, fun _ _ _ _ => rfl⟩

theorem stopOrc_word (m : Msg) (g : Nat) (w : SWorld) (t : Nat) :
    Vm.AllEff (fun f => ∀ w', ∃ ops : List Op, (∀ op ∈ ops, op = .transfer m.sender 3 m.value) ∧
      toS (f w') = (runOps { cur := toS w', snaps := [] } ops).cur) (stopOrc m g w t) := by
  refine ⟨fun w' => ⟨[], nofun, rfl⟩, fun w' => ⟨[], nofun, rfl⟩, fun w' => ⟨[], nofun, rfl⟩,
    fun w' => ⟨[.transfer m.sender 3 m.value], fun op h => List.mem_singleton.mp h, ?_⟩,
    fun w' => ⟨[], nofun, rfl⟩, fun w' => ⟨[], nofun, rfl⟩⟩
  simp only [stopOrc, toS, runOps, step, transfer]
  by_cases hlt : lookup w'.bal m.sender < m.value <;> simp [hlt]

theorem stopOrc_alphabet (m : Msg) (g : Nat) (w : SWorld) : AlphabetOracle (stopOrc m g w) :=
  fun t => Vm.allEff_iff.mp ((stopOrc_word m g w t).imp fun _ hf w' => let ⟨ops, _, h⟩ := hf w'; ⟨ops, congrArg SState.bal h⟩)

example : (match transitionDb (TxVm.vmEnv Props.C07.envSpring stopOrc (fun _ => 0) finWorld 2) m0 100000 w0 with
    | .ok r => some (r.usedGas, r.failed, total r.world.bal, lookup r.world.bal 3) | .error _ => none) = some (21000, false, 1000127, 100) := by decide

/-! ### the run's NET balance effect as ONE word -/

/-- letters that act on the current state only (the machine's own revision stack does the snapshots and reverts). -/
def _root_.Aqv.Supply.Op.isFlat : Op → Bool
  | .snapshot => false
  | .revert _ => false
  | _ => true

theorem runOps_append (M : Machine) (a b : List Op) : runOps M (a ++ b) = runOps (runOps M a) b := by
  induction a generalizing M with
  | nil => rfl
  | cons op ops ih => simp only [List.cons_append, runOps]; exact ih _

theorem step_flat_cur {M M' : Machine} {op : Op} (hf : op.isFlat = true) (h : M.cur = M'.cur) : (step M op).cur = (step M' op).cur := by
  cases op with
  | transfer a b v => simp only [step]; rw [h]
  | suicide a b => simp only [step]; rw [h]
  | createAccount a => simp only [step]; rw [h]
  | snapshot => cases hf
  | revert k => cases hf

theorem runOps_flat_cur (ops : List Op) (hf : ∀ op ∈ ops, op.isFlat = true) {M M' : Machine} (h : M.cur = M'.cur) :
    (runOps M ops).cur = (runOps M' ops).cur := by
  induction ops generalizing M M' with
  | nil => exact h
  | cons op ops ih =>
    simp only [runOps]
    exact ih (fun o ho => hf o (List.mem_cons_of_mem _ ho)) (step_flat_cur (hf op List.mem_cons_self) h)

def FlatEffect (f : SWorld → SWorld) : Prop :=
  ∀ w, ∃ ops : List Op, (∀ op ∈ ops, op.isFlat = true) ∧ toS (f w) = (runOps { cur := toS w, snaps := [] } ops).cur

def FlatOracle (o : Nat → Vm.StepIn SWorld) : Prop :=
  ∀ t, FlatEffect (o t).eff ∧ FlatEffect (o t).gasEff ∧ FlatEffect (o t).neutralEff ∧ FlatEffect (o t).xferEff ∧
    FlatEffect (o t).nonceEff ∧ FlatEffect (o t).setCodeEff

def WordFrom (s0 : SState) (w : SWorld) : Prop :=
  ∃ ops : List Op, (∀ op ∈ ops, op.isFlat = true) ∧ toS w = (runOps { cur := s0, snaps := [] } ops).cur

theorem flatEffect_wordFrom {f : SWorld → SWorld} (hf : FlatEffect f) (s0 : SState) : TxVm.Pres (WordFrom s0) f := by
  intro w ⟨ops, h1, h2⟩
  obtain ⟨ops', h1', h2'⟩ := hf w
  refine ⟨ops ++ ops', fun op hop => (List.mem_append.mp hop).elim (h1 op) (h1' op), ?_⟩
  rw [h2', runOps_append]
  exact runOps_flat_cur ops' h1' (M := { cur := toS w, snaps := [] }) (M' := runOps { cur := s0, snaps := [] } ops) h2

/-- **vm_run_is_word.** The NET effect of `evm.Call` / `evm.Create` of the C07 machine on balances and suicide marks — whatever
    the program, however its frames nest, snapshot and revert — is ONE finite word over the alphabet applied to the entry
    state (the machine's reverts only ever return to a world that was itself reached by such a word). -/
theorem vm_run_is_word (venv : Vm.Env) (o : Nat → Vm.StepIn SWorld) (hF : FlatOracle o) (w : SWorld) :
    (∀ fuel k gas v, WordFrom (toS w) (Vm.topCall venv o fuel k gas v ⟨w, [], 0⟩).db.cur) ∧
    (∀ fuel gas, WordFrom (toS w) (Vm.topCreate venv o fuel gas ⟨w, [], 0⟩).db.cur) :=
  have hO : TxVm.EffOk 0 (WordFrom (toS w)) o := fun t _ => (Vm.allEff_iff.mpr (hF t)).imp fun _ hf => flatEffect_wordFrom hf _
  have h0 : TxVm.DbInv (WordFrom (toS w)) (⟨w, [], 0⟩ : Vm.Db SWorld) := ⟨⟨[], nofun, rfl⟩, nofun⟩
  ⟨fun fuel k gas v => (TxVm.topCall_inv venv hO fuel k gas v h0).cur, fun fuel gas => (TxVm.topCreate_inv venv hO fuel gas h0).cur⟩

theorem wordFrom_supply {s0 : SState} {w : SWorld} (h : WordFrom s0 w) : total w.bal ≤ total s0.bal := by
  obtain ⟨ops, _, h2⟩ := h
  have : w.bal = (runOps { cur := s0, snaps := [] } ops).cur.bal := congrArg SState.bal h2
  rw [this]; exact (prim_trace_nonincreasing s0 ops).1

theorem stopOrc_flat (m : Msg) (g : Nat) (w : SWorld) : FlatOracle (stopOrc m g w) :=
  fun t => Vm.allEff_iff.mp ((stopOrc_word m g w t).imp fun _ hf w' =>
    let ⟨ops, h1, h⟩ := hf w'; ⟨ops, fun op hop => by rw [h1 op hop]; rfl, h⟩)

theorem stopOrc_alphabet_nosuicide (m : Msg) (g : Nat) (w : SWorld) : AlphabetOracleNoSuicide (stopOrc m g w) :=
  fun t => Vm.allEff_iff.mp ((stopOrc_word m g w t).imp fun _ hf w' => let ⟨ops, h1, h⟩ := hf w'
    ⟨ops, fun op hop => by rw [h1 op hop]; rfl, congrArg SState.bal h, congrArg SState.suicided h⟩)

-- a block over the real machine, HF4 height, two uncles, no self-destruct: exact
example : sumAfter (processBlock (TxVm.vmEnv Props.C07.envSpring stopOrc (fun _ => 0) finWorld 2) c0 [m0] w0) =
    some (1000127 - 77 + (1000000000000000000 + 875000000000000000 + 250000000000000000 + 2 * 31250000000000000)) := by decide

end Aqv.Props.C05
