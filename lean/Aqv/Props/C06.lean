/-
  Aqv.Props.C06 — "Every included transaction is charged, nonced and rolled back exactly".

  Theorems about `Aqv.Tx.transitionDb / applyTransaction / processTxs / process` (model of core/state_transition.go,
  core/gaspool.go, core/state_processor.go) for ALL messages, worlds, pools and ALL EVMs obeying the contract `EvmOk`
  (gas left ≤ gas given; ErrInsufficientBalance iff the value cannot be paid; state reverted on error).

  Clause map (statement of C06 → theorem):
    nonce + 1 ............................................ nonce_plus_one
    sender pays gasUsed·price (+ value iff success) ....... sender_debit, sender_debit_failed, sender_debit_success_plain
    coinbase gets gasUsed·price ........................... coinbase_credit, coinbase_credit_untouched
    intrinsic ≤ gasUsed ≤ gasLimit, refund ≤ consumed/2 ... gas_bounds_partial  (+ gas_below_intrinsic_witness: the literal
                                                            clause `intrinsic ≤ gasUsed` is FALSE for refund-heavy transactions)
    cumulative gas = Σ receipts ≤ block gas limit ......... pool_conserved, cumulative_gas, process_gas_le_limit, validate_gas_iff
    failed execution: nothing but gas and nonce survives .. failed_exec_only_gas
    invalid tx ⇒ whole block invalid ...................... invalid_tx_rejected, tx_accepted_iff, invalid_tx_invalidates_block
    intrinsic gas formula with overflow guards ............ intrinsic_gas_formula, intrinsic_gas_data, intrinsic_gas_real_data
    receipt fields (both formats) ......................... receipt_fields
    Impl ⊑ Spec ........................................... impl_refines_spec
    fast-sync receipts (`SetReceiptsData`) ................ setReceiptsData_sum, setReceiptsData_recovers_gas
    non-vacuity ........................................... scriptEnv_* (a scripted EVM obeying `EvmOk`), gas_below_intrinsic_witness
    over the C07 machine: `EvmOk` proved, not assumed ..... evm_contract_over_vm, the `*_over_vm` instances; nonce_plus_one_over_vm
                                                            (`SenderIsEOA` derived from `NoCodeAtSigner` + `CodeDiscipline`);
                                                            invalidOrc_*, eoaOrc_* (non-vacuity); builtin_configs_homestead
    ties by translation ................................... gasPool_code_is_model, useGas_code_is_model, gasUsed_code_is_model
-/
import Aqv.Lemmas.Tx
import Aqv.Lemmas.TxVm
import Aqv.Props.C07
import Aqv.Lemmas.TxVmNonce
import Aqv.Lemmas.Translated.Tx
namespace Aqv.Props.C06
open Aqv.Tx

variable {ρ : Type}

/-! ## intrinsic gas -/

def igBase (creation homestead : Bool) : Nat :=
  if creation && homestead then Gen.TxParams.txGasContractCreation else Gen.TxParams.txGas

theorem igBase_le (c h : Bool) : igBase c h ≤ 53000 := by unfold igBase; split <;> decide

/-- `IntrinsicGas` = base + 68·nz + 4·z (generated constants), and the two overflow guards fire exactly when that sum does
    not fit a uint64 — so the uint64 arithmetic of the Go code never wraps. -/
theorem intrinsic_gas_formula (nz z : Nat) (c h : Bool) :
    intrinsicGasN nz z c h =
      if igBase c h + nz * Gen.TxParams.txDataNonZeroGas + z * Gen.TxParams.txDataZeroGas ≤ uint64Max
      then some (igBase c h + nz * Gen.TxParams.txDataNonZeroGas + z * Gen.TxParams.txDataZeroGas) else none := by
  have e1 : Gen.TxParams.txDataNonZeroGas = 68 := rfl
  have e2 : Gen.TxParams.txDataZeroGas = 4 := rfl
  have e3 : uint64Max = 18446744073709551615 := rfl
  unfold intrinsicGasN igBase
  have hB : (if (c && h) = true then Gen.TxParams.txGasContractCreation else Gen.TxParams.txGas) ≤ 53000 := igBase_le c h
  generalize (if (c && h) = true then Gen.TxParams.txGasContractCreation else Gen.TxParams.txGas) = B at hB ⊢
  dsimp only
  by_cases h0 : nz + z > 0
  · rw [if_pos h0]
    -- each guard fires exactly when the sum up to its term leaves the uint64 range
    by_cases h1 : (uint64Max - B) / Gen.TxParams.txDataNonZeroGas < nz
    · rw [if_pos h1, if_neg (by rw [e1, e3] at *; omega)]
    · rw [if_neg h1]
      by_cases h2 : (uint64Max - (B + nz * Gen.TxParams.txDataNonZeroGas)) / Gen.TxParams.txDataZeroGas < z
      · rw [if_pos h2, if_neg (by rw [e1, e2, e3] at *; omega)]
      · rw [if_neg h2, if_pos (by rw [e1, e2, e3] at *; omega)]
  · -- no data: the base alone
    obtain ⟨rfl, rfl⟩ : nz = 0 ∧ z = 0 := by omega
    rw [if_neg h0, if_pos (by rw [e3]; omega)]; rfl

example : intrinsicGasN 3 5 false true = some (21000 + 3 * 68 + 5 * 4) := by decide
example : intrinsicGasN 0 0 true true = some 53000 := by decide
example : intrinsicGasN 0 0 true false = some 21000 := by decide
example : intrinsicGasN 271275648142787214 0 false true = some (21000 + 271275648142787214 * 68) := by decide
example : intrinsicGasN 271275648142787215 0 false true = none := by decide

/-- on real data: nz = number of non-zero bytes, z = the rest. -/
theorem intrinsic_gas_data (data : List UInt8) (c h : Bool) :
    intrinsicGas data c h =
      if igBase c h + countNz data * Gen.TxParams.txDataNonZeroGas + (data.length - countNz data) * Gen.TxParams.txDataZeroGas ≤ uint64Max
      then some (igBase c h + countNz data * Gen.TxParams.txDataNonZeroGas + (data.length - countNz data) * Gen.TxParams.txDataZeroGas)
      else none := by
  unfold intrinsicGas; exact intrinsic_gas_formula _ _ c h

theorem countNz_le (data : List UInt8) : countNz data ≤ data.length := by
  induction data with
  | nil => simp [countNz]
  | cons b t ih => simp only [countNz, List.length_cons]; split <;> omega

/-- for every byte slice a machine can hold (< 2^56 bytes) the guards never fire. -/
theorem intrinsic_gas_real_data (data : List UInt8) (c h : Bool) (hlen : data.length < 2 ^ 56) :
    (intrinsicGas data c h).isSome = true := by
  rw [intrinsic_gas_data]
  have := countNz_le data
  have hb := igBase_le c h
  have hle : igBase c h + countNz data * Gen.TxParams.txDataNonZeroGas + (data.length - countNz data) * Gen.TxParams.txDataZeroGas ≤ uint64Max := by
    simp only [Gen.TxParams.txDataNonZeroGas, Gen.TxParams.txDataZeroGas, uint64Max]; omega
  rw [if_pos hle]; rfl

example : (intrinsicGas [0, 1, 0, 2] false true) = some (21000 + 2 * 68 + 2 * 4) := by decide

/-! ## one transaction (`TransitionDb`) -/

/-- the sender's nonce after an accepted transaction is the bump `TransitionDb` (or, for a creation, the EVM) makes once:
    the fee machinery writes no nonce and the EVM no nonce of an externally owned sender. -/
theorem tx_nonce {env : Env ρ} (hEOA : SenderIsEOA env) {m : Msg} {gp : Nat} {w : World ρ} {r : TxOk ρ}
    (h : transitionDb env m gp w = .ok r) : lookup r.world.nonce m.sender = nonceInc (lookup w.nonce m.sender) := by
  obtain ⟨ig, a⟩ := transitionDb_ok_iff.mp h
  exact a.sender_nonce (hEOA m (m.gas - ig) (preWorld m w) a.can_pay)

/-- **nonce_plus_one.** An accepted transaction carries exactly the account's nonce and leaves the sender's nonce one higher
    (sender = externally owned account: the EVM itself cannot bump it; uint64 wrap excluded explicitly). -/
theorem nonce_plus_one {env : Env ρ} (hEOA : SenderIsEOA env) {m : Msg} {gp : Nat} {w : World ρ} {r : TxOk ρ}
    (h : transitionDb env m gp w = .ok r) (hwrap : lookup w.nonce m.sender < uint64Max) :
    lookup r.world.nonce m.sender = lookup w.nonce m.sender + 1 ∧
    (m.checkNonce = true → m.nonce = lookup w.nonce m.sender) := by
  rw [tx_nonce hEOA h, nonceInc_eq hwrap]
  exact ⟨rfl, fun hc => have ⟨_, a⟩ := transitionDb_ok_iff.mp h; (a.nonce hc).symm⟩

/-- the literal clause is `intrinsic ≤ gasUsed ≤ gasLimit`; the code implements (and every Ethereum-family chain of that era
    defines) `gasUsed = consumed − min(consumed/2, refundCounter)` with `intrinsic ≤ consumed ≤ gasLimit`, so only
    `⌈intrinsic/2⌉ ≤ gasUsed` holds in general — see `gas_below_intrinsic_witness`.
    **gas_bounds_partial**: everything the clause says except `intrinsic ≤ gasUsed`, which is replaced by
    `intrinsic ≤ gasUsed + refund` and `intrinsic ≤ 2·gasUsed`; with an empty refund counter the literal clause holds. -/
theorem gas_bounds_partial {env : Env ρ} (hE : EvmOk env) {m : Msg} {gp : Nat} {w : World ρ} {r : TxOk ρ}
    (h : transitionDb env m gp w = .ok r) :
    ∃ ig refund, intrinsicGas m.data m.to.isNone env.homestead = some ig ∧
      r.usedGas ≤ m.gas ∧
      refund ≤ (m.gas - (evmOut env m w ig).gasLeft) / 2 ∧
      refund ≤ env.refund (evmOut env m w ig).world ∧
      r.usedGas + refund = m.gas - (evmOut env m w ig).gasLeft ∧
      ig ≤ r.usedGas + refund ∧
      ig ≤ 2 * r.usedGas ∧
      (env.refund (evmOut env m w ig).world = 0 → ig ≤ r.usedGas) := by
  obtain ⟨ig, a⟩ := transitionDb_ok_iff.mp h
  obtain rfl := a.result
  obtain ⟨a2, a3, a4, a5⟩ := refund_arith a.ig_le (hE.gas_le m (m.gas - ig) (preWorld m w))
    (Nat.min_le_left _ (env.refund (evmOut env m w ig).world))
  exact ⟨ig, refundOf m.gas (evmOut env m w ig).gasLeft (env.refund (evmOut env m w ig).world), a.intrinsic, Nat.sub_le _ _,
    Nat.min_le_left _ _, Nat.min_le_right _ _, a2, a3, a4, fun h0 => a5 (Nat.le_zero.mp (h0 ▸ Nat.min_le_right _ _))⟩

/-- every balance after an accepted transaction: what the EVM left, plus the unused gas at the sender, plus the fee at the coinbase -/
theorem tx_balance {env : Env ρ} (hE : EvmOk env) {m : Msg} {gp : Nat} {w : World ρ} {ig : Nat} {r : TxOk ρ}
    (a : Accepted env m gp w ig r) :
    r.usedGas ≤ m.gas ∧
      ∀ x, lookup r.world.bal x = lookup (evmOut env m w ig).world.bal x
        + (if m.sender = x then (m.gas - r.usedGas) * m.gasPrice else 0) + (if env.coinbase = x then r.usedGas * m.gasPrice else 0) := by
  obtain rfl := a.result
  refine ⟨Nat.sub_le _ _, fun x => ?_⟩
  simp only []
  rw [lookup_addBal, lookup_addBal, Nat.sub_sub_self (gasBack_le hE m w a.ig_le)]

/-- **sender_debit** (general form). The sender ends with what the EVM left it plus the unused gas at the original price
    (and the fee, when it is its own coinbase): net of the EVM's own effects the charge is exactly gasUsed·price. -/
theorem sender_debit {env : Env ρ} (hE : EvmOk env) {m : Msg} {gp : Nat} {w : World ρ} {r : TxOk ρ}
    (h : transitionDb env m gp w = .ok r) :
    ∃ ig, intrinsicGas m.data m.to.isNone env.homestead = some ig ∧
      lookup r.world.bal m.sender =
        lookup (evmOut env m w ig).world.bal m.sender + (m.gas - r.usedGas) * m.gasPrice
          + (if env.coinbase = m.sender then r.usedGas * m.gasPrice else 0) ∧
      lookup (preWorld m w).bal m.sender + m.gas * m.gasPrice = lookup w.bal m.sender := by
  obtain ⟨ig, a⟩ := transitionDb_ok_iff.mp h
  refine ⟨ig, a.intrinsic, by rw [(tx_balance hE a).2, if_pos rfl], ?_⟩
  have := a.funds
  rw [preWorld_bal, lookup_subBal, if_pos rfl]; omega

/-- **coinbase_credit.** The coinbase ends with what the EVM left it plus exactly gasUsed·price (plus the sender's refund if
    it is the sender). -/
theorem coinbase_credit {env : Env ρ} (hE : EvmOk env) {m : Msg} {gp : Nat} {w : World ρ} {r : TxOk ρ}
    (h : transitionDb env m gp w = .ok r) :
    ∃ ig, intrinsicGas m.data m.to.isNone env.homestead = some ig ∧
      lookup r.world.bal env.coinbase =
        lookup (evmOut env m w ig).world.bal env.coinbase + r.usedGas * m.gasPrice
          + (if env.coinbase = m.sender then (m.gas - r.usedGas) * m.gasPrice else 0) := by
  obtain ⟨ig, a⟩ := transitionDb_ok_iff.mp h
  refine ⟨ig, a.intrinsic, ?_⟩
  rw [(tx_balance hE a).2, if_pos rfl]
  by_cases hc : env.coinbase = m.sender
  · rw [if_pos hc, if_pos hc.symm]; omega
  · rw [if_neg hc, if_neg (Ne.symm hc)]; omega

theorem bystander_untouched {env : Env ρ} {m : Msg} {gp : Nat} {w : World ρ} {r : TxOk ρ}
    (h : transitionDb env m gp w = .ok r) {a : Addr} (hs : m.sender ≠ a) (hc : env.coinbase ≠ a) :
    ∃ ig, intrinsicGas m.data m.to.isNone env.homestead = some ig ∧
      lookup r.world.bal a = lookup (evmOut env m w ig).world.bal a ∧ r.world.nonce = (evmOut env m w ig).world.nonce ∧
      r.world.rest = (evmOut env m w ig).world.rest := by
  obtain ⟨ig, a⟩ := transitionDb_ok_iff.mp h
  refine ⟨ig, a.intrinsic, ?_, a.nonce_rest⟩
  rw [a.result]
  simp only []
  rw [lookup_addBal, lookup_addBal, if_neg hc, if_neg hs]
  rfl

/-- the world after a failed EVM run, by the contract: the snapshot (plus the creator's nonce bump). -/
theorem failed_world {env : Env ρ} (hE : EvmOk env) (hHs : env.homestead = true) (m : Msg) (w : World ρ) (ig : Nat)
    (hf : (evmOut env m w ig).err.isSome = true) (hne : (evmOut env m w ig).err ≠ some .insufficientBalance) :
    (evmOut env m w ig).world =
      if m.to.isSome then preWorld m w else setNonce (preWorld m w) m.sender (nonceInc (lookup (preWorld m w).nonce m.sender)) := by
  cases he : (evmOut env m w ig).err with
  | none => rw [he] at hf; cases hf
  | some e =>
    have hne' : e ≠ .insufficientBalance := fun h => hne (by rw [he, h])
    cases hto : m.to with
    | none =>
      simp only [Option.isSome_none, Bool.false_eq_true, if_false]
      exact hE.create_fail_reverts hHs m (m.gas - ig) (preWorld m w) e hto he hne'
    | some t =>
      simp only [Option.isSome_some, if_true]
      exact hE.call_fail_reverts m (m.gas - ig) (preWorld m w) e (by rw [hto]; rfl) he hne'

/-- **failed_exec_only_gas.** After a failed execution (any non-consensus VM error) the state differs from the state before
    the transaction in exactly three places: the sender's nonce (+1), the sender's balance (−gasUsed·price) and the
    coinbase's balance (+gasUsed·price). Storage, code, logs, suicide marks, the refund counter (`rest`) and every other
    balance and nonce are untouched; in particular the value is NOT transferred. -/
theorem failed_exec_only_gas {env : Env ρ} (hE : EvmOk env) (hHs : env.homestead = true) {m : Msg} {gp : Nat} {w : World ρ} {r : TxOk ρ}
    (h : transitionDb env m gp w = .ok r) (hf : r.failed = true) :
    r.world.rest = w.rest ∧
    (∀ a, lookup r.world.nonce a = if a = m.sender then nonceInc (lookup w.nonce m.sender) else lookup w.nonce a) ∧
    (∀ a, a ≠ m.sender → a ≠ env.coinbase → lookup r.world.bal a = lookup w.bal a) ∧
    (env.coinbase ≠ m.sender →
      lookup r.world.bal m.sender + r.usedGas * m.gasPrice = lookup w.bal m.sender ∧
      lookup r.world.bal env.coinbase = lookup w.bal env.coinbase + r.usedGas * m.gasPrice) ∧
    (env.coinbase = m.sender → lookup r.world.bal m.sender = lookup w.bal m.sender) := by
  obtain ⟨ig, a⟩ := transitionDb_ok_iff.mp h
  obtain ⟨hu, hbal⟩ := tx_balance hE a
  have hb := a.funds
  obtain ⟨hrn, hrr⟩ := a.nonce_rest
  have hw := failed_world hE hHs m w ig (by rw [← hf, a.result]) a.can_pay
  have wb : (evmOut env m w ig).world.bal = (preWorld m w).bal := by
    rw [hw]
    split <;> rfl
  have wr : (evmOut env m w ig).world.rest = w.rest := by
    rw [hw, ← preWorld_rest m w]
    split <;> rfl
  have wn : ∀ x, lookup (evmOut env m w ig).world.nonce x =
      if x = m.sender then nonceInc (lookup w.nonce m.sender) else lookup w.nonce x :=
    fun x => hw ▸ lookup_failed_nonce m w x
  -- every balance in terms of the state before: only the gas bought from the sender is missing
  have hbal' : ∀ a, lookup r.world.bal a = lookup w.bal a - (if m.sender = a then m.gas * m.gasPrice else 0)
      + (if m.sender = a then (m.gas - r.usedGas) * m.gasPrice else 0) + (if env.coinbase = a then r.usedGas * m.gasPrice else 0) :=
    fun a => by rw [hbal, wb, preWorld_bal, lookup_subBal]
  have hsplit := fee_split (Nat.sub_le m.gas r.usedGas) m.gasPrice
  rw [Nat.sub_sub_self hu] at hsplit
  refine ⟨hrr.trans wr, fun x => hrn ▸ wn x, fun x has hac => ?_, fun hc => ⟨?_, ?_⟩, fun hc => ?_⟩
  · simp [hbal', Ne.symm has, Ne.symm hac]
  · simp only [hbal', ↓reduceIte, if_neg hc]; omega
  · simp [hbal', Ne.symm hc]
  · simp only [hbal', ↓reduceIte, if_pos hc]; omega

/-- **sender_debit_failed.** A failed transaction costs its sender exactly gasUsed·price — the value stays. -/
theorem sender_debit_failed {env : Env ρ} (hE : EvmOk env) (hHs : env.homestead = true) {m : Msg} {gp : Nat} {w : World ρ} {r : TxOk ρ}
    (h : transitionDb env m gp w = .ok r) (hf : r.failed = true) (hc : env.coinbase ≠ m.sender) :
    lookup r.world.bal m.sender + r.usedGas * m.gasPrice = lookup w.bal m.sender :=
  ((failed_exec_only_gas hE hHs h hf).2.2.2.1 hc).1

/-- **sender_debit_success_plain.** If the EVM's only effect on the sender is the top-level value transfer (a callee that does
    not send anything back), a successful transaction costs exactly gasUsed·price + value. -/
theorem sender_debit_success_plain {env : Env ρ} (hE : EvmOk env) {m : Msg} {gp : Nat} {w : World ρ} {r : TxOk ρ}
    (h : transitionDb env m gp w = .ok r) (hc : env.coinbase ≠ m.sender)
    (hplain : ∀ ig, lookup (evmOut env m w ig).world.bal m.sender + m.value = lookup (preWorld m w).bal m.sender) :
    lookup r.world.bal m.sender + r.usedGas * m.gasPrice + m.value = lookup w.bal m.sender := by
  obtain ⟨ig, a⟩ := transitionDb_ok_iff.mp h
  obtain ⟨hu, hbal⟩ := tx_balance hE a
  have hb := a.funds
  have h1 := hbal m.sender
  have h2 := hplain ig
  have hsplit := fee_split (Nat.sub_le m.gas r.usedGas) m.gasPrice
  rw [Nat.sub_sub_self hu] at hsplit
  rw [if_pos rfl, if_neg hc] at h1
  rw [preWorld_bal, lookup_subBal, if_pos rfl] at h2
  omega

/-- **coinbase_credit_untouched.** If the EVM leaves the coinbase's balance alone, it grows by exactly gasUsed·price. -/
theorem coinbase_credit_untouched {env : Env ρ} (hE : EvmOk env) {m : Msg} {gp : Nat} {w : World ρ} {r : TxOk ρ}
    (h : transitionDb env m gp w = .ok r) (hc : env.coinbase ≠ m.sender)
    (hplain : ∀ ig, lookup (evmOut env m w ig).world.bal env.coinbase = lookup (preWorld m w).bal env.coinbase) :
    lookup r.world.bal env.coinbase = lookup w.bal env.coinbase + r.usedGas * m.gasPrice := by
  obtain ⟨ig, a⟩ := transitionDb_ok_iff.mp h
  rw [(tx_balance hE a).2, hplain ig, preWorld_bal, lookup_subBal, if_neg (Ne.symm hc), if_neg (Ne.symm hc), if_pos rfl]; rfl

/-- **pool_conserved.** The block gas pool shrinks by exactly gasUsed (and `AddGas` cannot panic). -/
theorem pool_conserved {env : Env ρ} (hE : EvmOk env) {m : Msg} {gp : Nat} {w : World ρ} {r : TxOk ρ}
    (h : transitionDb env m gp w = .ok r) : r.gp + r.usedGas = gp ∧ m.gas ≤ gp := by
  obtain ⟨ig, a⟩ := transitionDb_ok_iff.mp h
  obtain rfl := a.result
  have := gasBack_le hE m w a.ig_le
  have := a.pool
  simp only []; omega

/-! ## invalid transactions -/

/-- the five ways the statement lists for a transaction to be invalid at (pool, world). -/
def Invalid (env : Env ρ) (m : Msg) (gp : Nat) (w : World ρ) : Prop :=
  (m.checkNonce = true ∧ lookup w.nonce m.sender ≠ m.nonce) ∨          -- wrong nonce
  lookup w.bal m.sender < m.gas * m.gasPrice ∨                           -- cannot prepay gasLimit × gasPrice
  gp < m.gas ∨                                                            -- gas limit above the gas left in the block
  (∀ ig, intrinsicGas m.data m.to.isNone env.homestead = some ig → m.gas < ig) ∨   -- gas limit below the intrinsic cost
  lookup w.bal m.sender - m.gas * m.gasPrice < m.value                    -- … and then cannot pay its value

theorem evmOut_insufficient_iff {env : Env ρ} (hE : EvmOk env) (m : Msg) (w : World ρ) (ig : Nat) :
    (evmOut env m w ig).err = some .insufficientBalance ↔ lookup w.bal m.sender - m.gas * m.gasPrice < m.value := by
  unfold evmOut
  rw [hE.insufficient_iff, preWorld_bal, lookup_subBal, if_pos rfl]

/-- **invalid_tx_rejected.** Each of the five defects makes `TransitionDb` return a (consensus) error. -/
theorem invalid_tx_rejected {env : Env ρ} (hE : EvmOk env) {m : Msg} {gp : Nat} {w : World ρ}
    (hinv : Invalid env m gp w) : ∃ e, transitionDb env m gp w = .error e := by
  cases hr : transitionDb env m gp w with
  | error e => exact ⟨e, rfl⟩
  | ok r =>
    exfalso
    obtain ⟨ig, a⟩ := transitionDb_ok_iff.mp hr
    rcases hinv with ⟨hc, hx⟩ | h | h | h | h
    · exact hx (a.nonce hc)
    · exact Nat.lt_irrefl _ (Nat.lt_of_lt_of_le h a.funds)
    · exact Nat.lt_irrefl _ (Nat.lt_of_lt_of_le h a.pool)
    · exact Nat.lt_irrefl _ (Nat.lt_of_lt_of_le (h ig a.intrinsic) a.ig_le)
    · exact a.can_pay ((evmOut_insufficient_iff hE m w ig).mpr h)

/-- **tx_accepted_iff.** Conversely a transaction with none of the defects is accepted (the pool being a uint64):
    the validity predicate of the statement is exactly the acceptance condition of the code. -/
theorem tx_accepted_iff {env : Env ρ} (hE : EvmOk env) (m : Msg) (gp : Nat) (w : World ρ) (hgp : gp ≤ uint64Max) :
    (∃ r, transitionDb env m gp w = .ok r) ↔ ¬ Invalid env m gp w := by
  constructor
  · rintro ⟨r, hr⟩ hinv
    obtain ⟨e, he⟩ := invalid_tx_rejected hE hinv
    rw [hr] at he; cases he
  · intro hv
    unfold Invalid at hv
    simp only [not_or, not_and, Nat.not_lt, Decidable.not_not] at hv
    obtain ⟨h1, h2, h3, h4', h5⟩ := hv
    cases hig : intrinsicGas m.data m.to.isNone env.homestead with
    | none => exact absurd (fun ig h => by rw [hig] at h; cases h) h4'
    | some ig =>
    have h4 : ig ≤ m.gas := Nat.le_of_not_lt (fun hlt => h4' (fun ig' h' => by rw [hig] at h'; cases h'; exact hlt))
    have := gasBack_le hE m w h4
    exact ⟨_, transitionDb_ok_iff.mpr ⟨ig, h1, h2, h3, hig, h4,
      fun h => Nat.not_lt.mpr h5 ((evmOut_insufficient_iff hE m w ig).mp h), by omega, rfl⟩⟩

/-! ## blocks: `ApplyTransaction`, the loop of `Process`, `ValidateState` -/

/-- **receipt_fields.** Status mirrors the VM error, the consensus format depends on Byzantium only, cumulative gas is the
    running total. -/
theorem receipt_fields {env : Env ρ} {m : Msg} {gp used : Nat} {w : World ρ} {a : ApplyOk ρ}
    (h : applyTransaction env m gp w used = .ok a) :
    ∃ r, transitionDb env m gp w = .ok r ∧
      a.receipt.hasRoot = !env.byzantium ∧ a.receipt.failed = r.failed ∧ a.receipt.gasUsed = r.usedGas ∧
      a.receipt.cumulativeGasUsed = used + r.usedGas ∧ a.usedGas = used + r.usedGas ∧ a.receipt.creation = m.to.isNone ∧
      a.gp = r.gp ∧ a.world = env.fin r.world := by
  obtain ⟨r, hr, rfl⟩ := applyTransaction_ok_iff.mp h
  exact ⟨r, hr, rfl, rfl, rfl, rfl, rfl, rfl, rfl, rfl⟩

def CumOk : Nat → List Receipt → Prop
  | _, [] => True
  | used, r :: rs => r.cumulativeGasUsed = used + r.gasUsed ∧ CumOk r.cumulativeGasUsed rs

def sumGas : List Receipt → Nat
  | [] => 0
  | r :: rs => r.gasUsed + sumGas rs

/-- **cumulative_gas.** Through the loop of `Process`: every receipt's cumulative gas is the running sum, the reported total
    is `used₀ + Σ gasUsed`, and pool + total is invariant (so the total can never exceed the block gas limit). -/
theorem cumulative_gas {env : Env ρ} (hE : EvmOk env) (ms : List Msg) (gp : Nat) (w : World ρ) (used : Nat) {b : BlockOk ρ}
    (h : processTxs env ms gp w used = .ok b) :
    CumOk used b.receipts ∧ b.usedGas = used + sumGas b.receipts ∧ b.gp + b.usedGas = gp + used ∧
    b.receipts.length = ms.length := by
  induction ms generalizing gp w used b with
  | nil => cases h; simp [CumOk, sumGas]
  | cons m ms ih =>
    obtain ⟨a, b', ha, hb, rfl⟩ := processTxs_cons_ok_iff.mp h
    obtain ⟨r, hr, rfl⟩ := applyTransaction_ok_iff.mp ha
    obtain ⟨i1, i2, i3, i4⟩ := ih _ _ _ hb
    obtain ⟨p1, _⟩ := pool_conserved hE hr
    simp only [] at i1 i2 i3 ⊢
    exact ⟨⟨rfl, i1⟩, by simp only [sumGas]; omega, by omega, by simp [i4]⟩

/-- **process_gas_le_limit.** `Process` reports `Σ receipts' gasUsed`, which is at most the block gas limit; the last receipt's
    cumulative gas is that total. -/
theorem process_gas_le_limit {env : Env ρ} (hE : EvmOk env) (hf fz : World ρ → World ρ) (limit : Nat) (ms : List Msg) (w : World ρ) {b : BlockOk ρ}
    (h : process env hf fz limit ms w = .ok b) :
    b.usedGas = sumGas b.receipts ∧ b.usedGas ≤ limit ∧ CumOk 0 b.receipts ∧ b.gp + b.usedGas = limit := by
  obtain ⟨b', hp, rfl⟩ := process_ok_iff.mp h
  obtain ⟨c1, c2, c3, _⟩ := cumulative_gas hE ms _ _ _ hp
  simp only []
  exact ⟨by omega, by omega, c1, by omega⟩

/-- **validate_gas_iff.** `ValidateState` accepts the header's gasUsed iff it equals the sum over the receipts. -/
theorem validate_gas_iff {env : Env ρ} (hE : EvmOk env) (hf fz : World ρ → World ρ) (limit : Nat) (ms : List Msg) (w : World ρ) {b : BlockOk ρ}
    (h : process env hf fz limit ms w = .ok b) (headerGasUsed : Nat) :
    validateGasUsed headerGasUsed b.usedGas = true ↔ headerGasUsed = sumGas b.receipts := by
  rw [← (process_gas_le_limit hE hf fz limit ms w h).1]
  simp [validateGasUsed]

theorem processTxs_append_error {env : Env ρ} (pre : List Msg) (m : Msg) (post : List Msg) (gp : Nat) (w : World ρ) (used : Nat)
    {b : BlockOk ρ} (hpre : processTxs env pre gp w used = .ok b) {e : TxErr} (hm : transitionDb env m b.gp b.world = .error e) :
    processTxs env (pre ++ m :: post) gp w used = .error e := by
  induction pre generalizing gp w used b with
  | nil => cases hpre; simp only [List.nil_append, processTxs, applyTransaction, hm]
  | cons p ps ih =>
    obtain ⟨a, b', ha, hb, rfl⟩ := processTxs_cons_ok_iff.mp hpre
    simp only [List.cons_append, processTxs, ha, ih _ _ _ hb hm]

/-- **invalid_tx_invalidates_block.** If the transactions before position i process and the i-th one has any of the five
    defects in the state/pool reached there, `Process` returns an error for the whole block (whatever follows). -/
theorem invalid_tx_invalidates_block {env : Env ρ} (hE : EvmOk env) (hf fz : World ρ → World ρ) (limit : Nat)
    (pre : List Msg) (m : Msg) (post : List Msg) (w : World ρ) {b : BlockOk ρ}
    (hpre : processTxs env pre limit (hf w) 0 = .ok b) (hinv : Invalid env m b.gp b.world) :
    ∃ e, process env hf fz limit (pre ++ m :: post) w = .error e := by
  obtain ⟨e, he⟩ := invalid_tx_rejected hE hinv
  exact ⟨e, by rw [process_eq, processTxs_append_error pre m post limit (hf w) 0 hpre he]⟩

/-! ## receipts recorded by the fast-sync import path (`core.SetReceiptsData`) -/

/-- the uint64 subtraction `c − prev` of `SetReceiptsData` does not wrap for non-decreasing uint64 cumulative values. -/
theorem sub_uint64 {prev c : Nat} (h1 : prev ≤ c) (h2 : c ≤ uint64Max) :
    (c + (uint64Max + 1) - prev) % (uint64Max + 1) = c - prev := by
  rw [show c + (uint64Max + 1) - prev = (c - prev) + (uint64Max + 1) by omega, Nat.add_mod_right]
  exact Nat.mod_eq_of_lt (by omega)

/-- **setReceiptsData_sum.** For the cumulative values of a valid block (non-decreasing uint64s) the per-transaction gas
    that `SetReceiptsData` derives sums to the last cumulative value: Σ GasUsed = header.GasUsed on the fast-sync path too. -/
theorem setReceiptsData_sum (prev : Nat) (cums : List Nat) (h : CumMonotone prev cums) :
    prev + listSum (setReceiptsData_spec prev cums) = lastCum prev cums := by
  induction cums generalizing prev with
  | nil => simp [setReceiptsData_spec, listSum, lastCum]
  | cons c cs ih =>
    obtain ⟨h1, h2, h3⟩ := h
    have := ih c h3
    simp only [setReceiptsData_spec, listSum, lastCum, sub_uint64 h1 h2]
    omega

/-- **setReceiptsData_recovers_gas.** Fast sync recovers exactly what the full path recorded: for receipts whose cumulative
    gas is the running total of their gas (the shape `cumulative_gas` proves for everything `Process` produces), the
    differences of the cumulative values are the receipts' own `gasUsed`. -/
theorem setReceiptsData_recovers_gas (used : Nat) (rs : List Receipt) (h : CumOk used rs)
    (hb : ∀ r ∈ rs, r.cumulativeGasUsed ≤ uint64Max) :
    setReceiptsData_spec used (rs.map (·.cumulativeGasUsed)) = rs.map (·.gasUsed) := by
  induction rs generalizing used with
  | nil => rfl
  | cons r rs ih =>
    obtain ⟨h1, h2⟩ := h
    simp only [List.map_cons, setReceiptsData_spec]
    rw [sub_uint64 (by omega) (hb r List.mem_cons_self), ih r.cumulativeGasUsed h2 (fun x hx => hb x (List.mem_cons_of_mem _ hx))]
    congr 1; omega

example : setReceiptsData_spec 0 [21000, 62220, 83249] = [21000, 41220, 21029] := by decide
example : listSum (setReceiptsData_spec 0 [21000, 62220, 83249]) = 83249 := by decide
-- the running-total-of-cumulatives derivation is NOT this function (third receipt 29 instead of 21029, then uint64 underflow)
example : setReceiptsData_spec 0 [21000, 62220, 83249] ≠ [21000, 41220, 83249 - (21000 + 62220)] := by decide

/-! ## Impl ⊑ Spec -/

/-- what an observer of the model run sees (the same record the driver builds from the Go run). -/
def observe (env : Env ρ) (m : Msg) (gp : Nat) (w : World ρ) (ig : Nat) (r : TxOk ρ) : Observed :=
  { senderBefore := lookup w.bal m.sender, nonceBefore := lookup w.nonce m.sender, coinbaseBefore := lookup w.bal env.coinbase
    senderAfter := lookup r.world.bal m.sender, nonceAfter := lookup r.world.nonce m.sender, coinbaseAfter := lookup r.world.bal env.coinbase
    evmSender := lookup (evmOut env m w ig).world.bal m.sender, evmSenderIn := lookup (preWorld m w).bal m.sender
    evmCoinbase := lookup (evmOut env m w ig).world.bal env.coinbase, evmCoinbaseIn := lookup (preWorld m w).bal env.coinbase
    gasUsed := r.usedGas, failed := r.failed, gasLeft := (evmOut env m w ig).gasLeft
    refundCounter := env.refund (evmOut env m w ig).world, gpBefore := gp, gpAfter := r.gp }

/-- **impl_refines_spec.** Whatever `TransitionDb` accepts satisfies the executable Spec `specTx` (the acceptor the model
    driver applies to the behaviour of the Go code). -/
theorem impl_refines_spec {env : Env ρ} (hE : EvmOk env) (hEOA : SenderIsEOA env) (hHs : env.homestead = true)
    {m : Msg} {gp : Nat} {w : World ρ} {r : TxOk ρ} (h : transitionDb env m gp w = .ok r) :
    ∃ ig, intrinsicGas m.data m.to.isNone env.homestead = some ig ∧ specTx m env.coinbase ig (observe env m gp w ig r) = true := by
  obtain ⟨ig, rf, hig, b1, b2, b3, b4, b5, _, _⟩ := gas_bounds_partial hE h
  obtain ⟨ig', a⟩ := transitionDb_ok_iff.mp h
  cases hig.symm.trans a.intrinsic
  obtain ⟨_, hbal⟩ := tx_balance hE a
  have hb := a.funds
  obtain ⟨p1, _⟩ := pool_conserved hE h
  have g1 : (evmOut env m w ig).gasLeft ≤ m.gas - ig := hE.gas_le m (m.gas - ig) (preWorld m w)
  have hnonce := tx_nonce hEOA h
  have hfailed : r.failed = (evmOut env m w ig).err.isSome := by rw [a.result]
  have hs := hbal m.sender
  have hc := hbal env.coinbase
  have hpre : lookup (preWorld m w).bal m.sender + m.gas * m.gasPrice = lookup w.bal m.sender := by
    rw [preWorld_bal, lookup_subBal, if_pos rfl]; omega
  rw [if_pos rfl] at hs hc
  refine ⟨ig, hig, ?_⟩
  simp only [specTx, observe, Bool.and_eq_true, Bool.or_eq_true, beq_iff_eq, Bool.not_eq_true']
  have e : m.gas - (evmOut env m w ig).gasLeft - r.usedGas = rf := by rw [← b4, Nat.add_sub_cancel_left]
  -- the twelve checks of `specTx`, in its order
  refine ⟨⟨⟨⟨⟨⟨⟨⟨⟨⟨⟨?_, ?_⟩, ?_⟩, ?_⟩, ?_⟩, ?_⟩, ?_⟩, ?_⟩, ?_⟩, ?_⟩, ?_⟩, ?_⟩
  · -- the nonce carried is the account's, if it is checked
    cases hc' : m.checkNonce
    · exact Or.inl rfl
    · exact Or.inr (a.nonce hc')
  · -- nonce + 1
    exact hnonce
  · -- gasUsed ≤ gasLimit
    exact decide_eq_true b1
  · -- intrinsic ≤ consumed
    exact decide_eq_true (b4 ▸ b5)
  · -- the EVM got gasLimit − intrinsic
    exact decide_eq_true g1
  · -- refund ≤ consumed / 2
    exact decide_eq_true (e ▸ b2)
  · -- refund ≤ the refund counter
    exact decide_eq_true (e ▸ b3)
  · -- gasUsed ≤ consumed
    exact decide_eq_true (b4 ▸ Nat.le_add_right _ _)
  · -- the pool shrinks by gasUsed
    exact p1
  · -- sender and coinbase: what the EVM left them, the unused gas back, the fee
    by_cases hcs : m.sender = env.coinbase
    · rw [if_pos hcs]
      rw [if_pos hcs.symm] at hs
      exact beq_iff_eq.mpr hs
    · rw [if_neg hcs]
      rw [if_neg (Ne.symm hcs), Nat.add_zero] at hs
      rw [if_neg hcs, Nat.add_zero] at hc
      exact (Bool.and_eq_true _ _).mpr ⟨beq_iff_eq.mpr hs, beq_iff_eq.mpr hc⟩
  · -- the EVM was started on the balance less gasLimit · price
    exact hpre
  · -- a failed run left sender and coinbase as it found them
    cases hf : r.failed
    · exact Or.inl rfl
    · have hw := failed_world hE hHs m w ig (by rw [← hfailed]; exact hf) a.can_pay
      refine Or.inr ?_
      rw [hw]
      split <;> exact ⟨rfl, rfl⟩

/-! ## non-vacuity: a scripted EVM that obeys the contract -/

/-- a scripted EVM over `ρ := Nat` (the refund counter). Success moves the value to the recipient (address 7 for creations)
    and sets the refund counter; failure returns the snapshot (with the creator's nonce bump). -/
def scriptEnv (cb : Addr) (gasUse : Nat) (err : Option VmErr) (refund : Nat) : Env Nat :=
  { run := fun m g w =>
      if lookup w.bal m.sender < m.value then { world := w, gasLeft := g, err := some .insufficientBalance }
      else
        let w' := if m.to.isSome then w else setNonce w m.sender (nonceInc (lookup w.nonce m.sender))
        match err with
        | some .reverted => { world := w', gasLeft := g - gasUse, err := some .reverted }
        | some .other => { world := w', gasLeft := 0, err := some .other }
        | _ => { world := { addBal (subBal w' m.sender m.value) (m.to.getD 7) m.value with rest := refund }, gasLeft := g - gasUse, err := none }
    refund := fun w => w.rest, fin := fun w => { w with rest := 0 }, coinbase := cb, homestead := true, byzantium := true }

theorem scriptEnv_run (cb u rf : Nat) (e : Option VmErr) (m : Msg) (g : Nat) (w : World Nat) {r : EvmOut Nat}
    (hr : (scriptEnv cb u e rf).run m g w = r) :
    r.gasLeft ≤ g ∧ (r.err = some .insufficientBalance ↔ lookup w.bal m.sender < m.value) ∧
    (∀ e', r.err = some e' → e' ≠ .insufficientBalance →
      r.world = if m.to.isSome then w else setNonce w m.sender (nonceInc (lookup w.nonce m.sender))) ∧
    (r.err ≠ some .insufficientBalance →
      lookup r.world.nonce m.sender = if m.to.isSome then lookup w.nonce m.sender else nonceInc (lookup w.nonce m.sender)) := by
  subst hr
  by_cases hlt : lookup w.bal m.sender < m.value
  · simp [scriptEnv, hlt]
  · -- four scripts (none, insufficientBalance read as none, reverted, other) × call / creation: the run is a literal record
    rcases e with _ | _ | _ | _ <;> cases hto : m.to <;> simp [scriptEnv, hlt, hto, lookup_setNonce]

theorem scriptEnv_ok (cb u : Nat) (e : Option VmErr) (rf : Nat) : EvmOk (scriptEnv cb u e rf) where
  gas_le m g w := (scriptEnv_run cb u rf e m g w rfl).1
  insufficient_iff m g w := (scriptEnv_run cb u rf e m g w rfl).2.1
  call_fail_reverts m g w e' hto herr hne := by rw [(scriptEnv_run cb u rf e m g w rfl).2.2.1 e' herr hne, if_pos hto]
  create_fail_reverts _ m g w e' hto herr hne := by rw [(scriptEnv_run cb u rf e m g w rfl).2.2.1 e' herr hne, hto]; rfl

theorem scriptEnv_eoa (cb u : Nat) (e : Option VmErr) (rf : Nat) : SenderIsEOA (scriptEnv cb u e rf) :=
  fun m g w => (scriptEnv_run cb u rf e m g w rfl).2.2.2

def summary (x : Except TxErr (TxOk Nat)) (watch : List Addr) : Option (Nat × Bool × Nat × List (Nat × Nat)) :=
  match x with
  | .ok r => some (r.usedGas, r.failed, r.gp, watch.map (fun a => (lookup r.world.bal a, lookup r.world.nonce a)))
  | .error _ => none

theorem summary_some {x : Except TxErr (TxOk Nat)} {l : List Addr} {v} (h : summary x l = some v) : ∃ r, x = .ok r ∧ r.usedGas = v.1 := by
  cases x with
  | error e => cases h
  | ok r => simp only [summary, Option.some.injEq] at h; exact ⟨r, rfl, by rw [← h]⟩

/-- demo world: account 1 (sender, nonce 5) has 10⁶, account 2 is the coinbase. -/
def w0 : World Nat := { bal := [(1, 1000000), (2, 50)], nonce := [(1, 5)], rest := 0 }
def m0 : Msg := { sender := 1, to := some 3, nonce := 5, checkNonce := true, gasPrice := 2, gas := 30000, value := 100, data := [] }

-- a plain successful transfer: 21000 gas; sender pays 21000·2 + 100, coinbase gets 42000, nonce 5 → 6, pool 100000 → 79000
example : summary (transitionDb (scriptEnv 2 0 none 0) m0 100000 w0) [1, 2, 3] =
    some (21000, false, 79000, [(1000000 - 42000 - 100, 6), (50 + 42000, 0), (100, 0)]) := by decide
-- a failed execution that burned everything: 30000 gas; the value stays with the sender
example : summary (transitionDb (scriptEnv 2 0 (some .other) 0) m0 100000 w0) [1, 2, 3] =
    some (30000, true, 70000, [(1000000 - 60000, 6), (50 + 60000, 0), (0, 0)]) := by decide
-- a revert after 5000 gas: the rest of the gas comes back
example : summary (transitionDb (scriptEnv 2 5000 (some .reverted) 0) m0 100000 w0) [1, 2, 3] =
    some (26000, true, 74000, [(1000000 - 52000, 6), (50 + 52000, 0), (0, 0)]) := by decide
-- refund exactly at the cap: consumed 30000, counter 15000 → gasUsed 15000
example : summary (transitionDb (scriptEnv 2 9000 none 15000) m0 100000 w0) [1] = some (15000, false, 85000, [(1000000 - 30000 - 100, 6)]) := by decide
-- contract creation that fails: only the nonce bump and the gas payment remain
example : summary (transitionDb (scriptEnv 2 0 (some .other) 0) { m0 with to := none, gas := 60000 } 100000 w0) [1, 7] =
    some (60000, true, 40000, [(1000000 - 120000, 6), (0, 0)]) := by decide
-- the five defects
example : (transitionDb (scriptEnv 2 0 none 0) { m0 with nonce := 6 } 100000 w0).toOption.isNone = true := by decide
example : (transitionDb (scriptEnv 2 0 none 0) { m0 with gasPrice := 1000 } 100000 w0).toOption.isNone = true := by decide
example : (transitionDb (scriptEnv 2 0 none 0) m0 29999 w0).toOption.isNone = true := by decide
example : (transitionDb (scriptEnv 2 0 none 0) { m0 with gas := 20999 } 100000 w0).toOption.isNone = true := by decide
example : (transitionDb (scriptEnv 2 0 none 0) { m0 with value := 1000000 - 60000 + 1 } 100000 w0).toOption.isNone = true := by decide
-- exactly enough balance is accepted
example : (transitionDb (scriptEnv 2 0 none 0) { m0 with value := 1000000 - 60000 } 100000 w0).toOption.isSome = true := by decide

/-- **gas_below_intrinsic_witness.** The literal clause `intrinsic gas ≤ gasUsed` is false for the code as written: an EVM
    obeying the contract that consumes 5006 gas and leaves a refund counter of 15000 (one SSTORE clear) makes a 21000-intrinsic
    transaction report gasUsed = 13003. (Reproduced on the real code by the harness: known finding `refund-below-intrinsic`.) -/
theorem gas_below_intrinsic_witness :
    ∃ (env : Env Nat) (m : Msg) (gp : Nat) (w : World Nat) (r : TxOk Nat) (ig : Nat),
      EvmOk env ∧ transitionDb env m gp w = .ok r ∧ intrinsicGas m.data m.to.isNone env.homestead = some ig ∧ r.usedGas < ig := by
  have hs : summary (transitionDb (scriptEnv 2 5006 none 15000) m0 100000 w0) [] = some (13003, false, 86997, []) := by decide
  obtain ⟨r, hr, hu⟩ := summary_some hs
  exact ⟨scriptEnv 2 5006 none 15000, m0, 100000, w0, r, 21000, scriptEnv_ok _ _ _ _, hr, by decide, by rw [hu]; decide⟩

/-! ### the hypotheses of the theorems above are jointly satisfiable (non-vacuity) -/

example : ∃ r, transitionDb (scriptEnv 2 0 none 0) m0 100000 w0 = .ok r ∧ lookup w0.nonce m0.sender < uint64Max :=
  (summary_some (l := []) (v := (21000, false, 79000, [])) (by decide)).imp fun _ h => ⟨h.1, by decide⟩
example : ∃ r, transitionDb (scriptEnv 2 0 (some .other) 0) m0 100000 w0 = .ok r ∧ r.failed = true := by
  cases h : transitionDb (scriptEnv 2 0 (some .other) 0) m0 100000 w0 with
  | error e => exact absurd (show (transitionDb (scriptEnv 2 0 (some .other) 0) m0 100000 w0).toOption.isSome = true by decide) (by rw [h]; simp [Except.toOption])
  | ok r => exact ⟨r, rfl, by
      have : (match transitionDb (scriptEnv 2 0 (some .other) 0) m0 100000 w0 with | .ok r => r.failed | .error _ => false) = true := by decide
      rw [h] at this; exact this⟩
example : Invalid (scriptEnv 2 0 none 0) { m0 with nonce := 6 } 100000 w0 := Or.inl ⟨rfl, by decide⟩
example : ¬ Invalid (scriptEnv 2 0 none 0) m0 100000 w0 := by
  rw [← tx_accepted_iff (scriptEnv_ok _ _ _ _) _ _ _ (by decide)]
  exact (summary_some (l := []) (v := (21000, false, 79000, [])) (by decide)).imp fun _ h => h.1
-- a two-transaction block under a 100000 gas limit: both receipts, cumulative gas 21000 and 42000
example : (match process (scriptEnv 2 0 none 0) id id 100000 [m0, { m0 with nonce := 6 }] w0 with
    | .ok b => b.receipts.map (fun r => (r.cumulativeGasUsed, r.gasUsed, r.failed, r.hasRoot)) | .error _ => []) =
    [(21000, 21000, false, false), (42000, 21000, false, false)] := by decide
-- … and the same block with the second nonce wrong is refused as a whole
example : (process (scriptEnv 2 0 none 0) id id 100000 [m0, { m0 with nonce := 7 }] w0).toOption.isNone = true := by decide

/-! ## over the modelled interpreter (C07): the contract `EvmOk` is a theorem, not a hypothesis

  `TxVm.vmEnv venv orc …` is the environment whose `run` IS `Vm.topCall` / `Vm.topCreate` of the C07 machine (world type = the
  C06 state, gas taken mod 2^64, fuel = gas + 1, fresh journal). `evm_contract_over_vm` proves `EvmOk` for it from what C07
  proves of the two depth-0 wrappers (the content of leftover_le_given_call/create, frame_failure_reverts_call/create,
  call/create_terminates, no_modelled_panic; Lemmas/VmMain `call_good`, `create_good`, `call_db`, `create_db`).
  What remains assumed is stated in `TxVm.OracleOk` (the machine does not interpret the world, so its oracle must answer the
  top-level CanTransfer truthfully and its Create nonce effect must be SetNonce(caller, nonce+1)), `Vm.EnvOK` (the gas table is
  one of the generated ones) and — only for `nonce_plus_one` / `impl_refines_spec` — `SenderIsEOA`. -/

open Aqv.TxVm

/-- **evm_contract_over_vm.** gas left ≤ gas given, ErrInsufficientBalance ⇔ CanTransfer fails, failed Call = entry state,
    failed Create = entry state + creator's nonce bump (Homestead): all four clauses for the C07 machine, every oracle. -/
theorem evm_contract_over_vm (venv : Vm.Env) (hE : Vm.EnvOK venv) (orc : Oracle ρ) (hO : OracleOk orc)
    (refund : World ρ → Nat) (fin : World ρ → World ρ) (cb : Addr) : EvmOk (vmEnv venv orc refund fin cb) :=
  vmEnv_ok venv hE orc hO refund fin cb

section OverVm
variable (venv : Vm.Env) (hE : Vm.EnvOK venv) (orc : Oracle ρ) (hO : OracleOk orc)
  (refund : World ρ → Nat) (fin : World ρ → World ρ) (cb : Addr) {m : Msg} {gp : Nat} {w : World ρ} {r : TxOk ρ}
include hE hO

theorem gas_bounds_partial_over_vm (h : transitionDb (vmEnv venv orc refund fin cb) m gp w = .ok r) :
    ∃ ig refund', intrinsicGas m.data m.to.isNone venv.homestead = some ig ∧
      r.usedGas ≤ m.gas ∧
      refund' ≤ (m.gas - (vmRun venv orc m (m.gas - ig) (preWorld m w)).gasLeft) / 2 ∧
      refund' ≤ refund (vmRun venv orc m (m.gas - ig) (preWorld m w)).world ∧
      r.usedGas + refund' = m.gas - (vmRun venv orc m (m.gas - ig) (preWorld m w)).gasLeft ∧
      ig ≤ r.usedGas + refund' ∧ ig ≤ 2 * r.usedGas ∧
      (refund (vmRun venv orc m (m.gas - ig) (preWorld m w)).world = 0 → ig ≤ r.usedGas) :=
  gas_bounds_partial (vmEnv_ok venv hE orc hO refund fin cb) h

/-- **failed_exec_only_gas_over_vm.** A failed execution of the modelled interpreter leaves only the nonce bump and the gas
    payment (Homestead rules). -/
theorem failed_exec_only_gas_over_vm (hHs : venv.homestead = true)
    (h : transitionDb (vmEnv venv orc refund fin cb) m gp w = .ok r) (hf : r.failed = true) :
    r.world.rest = w.rest ∧
    (∀ a, lookup r.world.nonce a = if a = m.sender then nonceInc (lookup w.nonce m.sender) else lookup w.nonce a) ∧
    (∀ a, a ≠ m.sender → a ≠ cb → lookup r.world.bal a = lookup w.bal a) ∧
    (cb ≠ m.sender →
      lookup r.world.bal m.sender + r.usedGas * m.gasPrice = lookup w.bal m.sender ∧
      lookup r.world.bal cb = lookup w.bal cb + r.usedGas * m.gasPrice) ∧
    (cb = m.sender → lookup r.world.bal m.sender = lookup w.bal m.sender) :=
  failed_exec_only_gas (vmEnv_ok venv hE orc hO refund fin cb) hHs h hf

theorem sender_debit_over_vm (h : transitionDb (vmEnv venv orc refund fin cb) m gp w = .ok r) :
    ∃ ig, intrinsicGas m.data m.to.isNone venv.homestead = some ig ∧
      lookup r.world.bal m.sender =
        lookup (vmRun venv orc m (m.gas - ig) (preWorld m w)).world.bal m.sender + (m.gas - r.usedGas) * m.gasPrice
          + (if cb = m.sender then r.usedGas * m.gasPrice else 0) ∧
      lookup (preWorld m w).bal m.sender + m.gas * m.gasPrice = lookup w.bal m.sender :=
  sender_debit (vmEnv_ok venv hE orc hO refund fin cb) h

theorem sender_debit_failed_over_vm (hHs : venv.homestead = true)
    (h : transitionDb (vmEnv venv orc refund fin cb) m gp w = .ok r) (hf : r.failed = true) (hc : cb ≠ m.sender) :
    lookup r.world.bal m.sender + r.usedGas * m.gasPrice = lookup w.bal m.sender :=
  sender_debit_failed (vmEnv_ok venv hE orc hO refund fin cb) hHs h hf hc

theorem sender_debit_success_plain_over_vm (h : transitionDb (vmEnv venv orc refund fin cb) m gp w = .ok r) (hc : cb ≠ m.sender)
    (hplain : ∀ ig, lookup (vmRun venv orc m (m.gas - ig) (preWorld m w)).world.bal m.sender + m.value = lookup (preWorld m w).bal m.sender) :
    lookup r.world.bal m.sender + r.usedGas * m.gasPrice + m.value = lookup w.bal m.sender :=
  sender_debit_success_plain (vmEnv_ok venv hE orc hO refund fin cb) h hc hplain

theorem coinbase_credit_over_vm (h : transitionDb (vmEnv venv orc refund fin cb) m gp w = .ok r) :
    ∃ ig, intrinsicGas m.data m.to.isNone venv.homestead = some ig ∧
      lookup r.world.bal cb =
        lookup (vmRun venv orc m (m.gas - ig) (preWorld m w)).world.bal cb + r.usedGas * m.gasPrice
          + (if cb = m.sender then (m.gas - r.usedGas) * m.gasPrice else 0) :=
  coinbase_credit (vmEnv_ok venv hE orc hO refund fin cb) h

theorem pool_conserved_over_vm (h : transitionDb (vmEnv venv orc refund fin cb) m gp w = .ok r) : r.gp + r.usedGas = gp ∧ m.gas ≤ gp :=
  pool_conserved (vmEnv_ok venv hE orc hO refund fin cb) h

/-- **tx_accepted_iff_over_vm.** The validity predicate of the statement is the acceptance condition over the interpreter. -/
theorem tx_accepted_iff_over_vm (m : Msg) (gp : Nat) (w : World ρ) (hgp : gp ≤ uint64Max) :
    (∃ r, transitionDb (vmEnv venv orc refund fin cb) m gp w = .ok r) ↔ ¬ Invalid (vmEnv venv orc refund fin cb) m gp w :=
  tx_accepted_iff (vmEnv_ok venv hE orc hO refund fin cb) m gp w hgp

theorem invalid_tx_invalidates_block_over_vm (hf fz : World ρ → World ρ) (limit : Nat)
    (pre : List Msg) (m : Msg) (post : List Msg) (w : World ρ) {b : BlockOk ρ}
    (hpre : processTxs (vmEnv venv orc refund fin cb) pre limit (hf w) 0 = .ok b) (hinv : Invalid (vmEnv venv orc refund fin cb) m b.gp b.world) :
    ∃ e, process (vmEnv venv orc refund fin cb) hf fz limit (pre ++ m :: post) w = .error e :=
  invalid_tx_invalidates_block (vmEnv_ok venv hE orc hO refund fin cb) hf fz limit pre m post w hpre hinv

theorem process_gas_le_limit_over_vm (hf fz : World ρ → World ρ) (limit : Nat) (ms : List Msg) (w : World ρ) {b : BlockOk ρ}
    (h : process (vmEnv venv orc refund fin cb) hf fz limit ms w = .ok b) :
    b.usedGas = sumGas b.receipts ∧ b.usedGas ≤ limit ∧ CumOk 0 b.receipts ∧ b.gp + b.usedGas = limit :=
  process_gas_le_limit (vmEnv_ok venv hE orc hO refund fin cb) hf fz limit ms w h

end OverVm

/-- **nonce_plus_one_over_vm.** Over the modelled interpreter `SenderIsEOA` is not assumed: from a pre-state with no code at the
    signer (`NoCodeAtSigner`; a signer has code only if some CREATE address keccak(rlp(creator, nonce)) hit a key-controlled
    address) and an oracle whose effects respect a code-less signer (`CodeDiscipline`: they install no code there and do not
    move its nonce — only a frame executing AS an account bumps that account's nonce), an accepted transaction carries the
    account's nonce, leaves it exactly one higher, and the signer is still code-less afterwards (so the assumption carries
    over to the signer's next transaction). -/
theorem nonce_plus_one_over_vm {hasCode : ρ → Addr → Bool} (venv : Vm.Env) (orc : Oracle ρ) (hO : OracleOk orc)
    (hC : CodeDiscipline hasCode orc) (refund : World ρ → Nat) (fin : World ρ → World ρ) (cb : Addr)
    {m : Msg} {gp : Nat} {w : World ρ} {r : TxOk ρ}
    (h : transitionDb (vmEnv venv orc refund fin cb) m gp w = .ok r) (hno : NoCodeAtSigner hasCode m w)
    (hwrap : lookup w.nonce m.sender < uint64Max) :
    lookup r.world.nonce m.sender = lookup w.nonce m.sender + 1 ∧
    (m.checkNonce = true → m.nonce = lookup w.nonce m.sender) ∧
    hasCode r.world.rest m.sender = false := by
  obtain ⟨ig, a⟩ := transitionDb_ok_iff.mp h
  -- as in `tx_nonce`, for this `w` only: `SenderIsEOA` quantifies over every world, `NoCodeAtSigner` is about the one at hand
  obtain ⟨s1, s2⟩ := signer_nonce_over_vm venv orc hO hC m (m.gas - ig) (preWorld m w) (by rw [preWorld_rest]; exact hno) a.can_pay
  exact ⟨by rw [a.sender_nonce s2, nonceInc_eq hwrap], fun hc => (a.nonce hc).symm, a.nonce_rest.2 ▸ s1⟩

-- (per transaction on purpose: across a block an earlier transaction may CREATE, and that its address is none of the later
--  signers is the hash assumption again — `NoCodeAtSigner` is re-assumed on each transaction's own pre-state.)

/-- non-vacuity over the real machine: a callee that is a single `INVALID` (0xfe) under the spring rule set of C07 — the frame
    fails, all 9000 gas is consumed, the value stays with the sender; and a callee that is `STOP`. -/
def invalidOrc (op : Nat) : Oracle Nat := fun m _ w _ =>
  { op := op, args := [], canTransfer := decide (m.value ≤ lookup w.bal m.sender),
    nonceEff := fun w' => setNonce w' m.sender (nonceInc (lookup w'.nonce m.sender)),
    xferEff := fun w' => addBal (subBal w' m.sender m.value) 3 m.value }

theorem invalidOrc_ok (op : Nat) : OracleOk (invalidOrc op) := ⟨fun _ _ _ => rfl, fun _ _ _ _ => rfl⟩

example : summary (transitionDb (vmEnv Props.C07.envSpring (invalidOrc 0xfe) (fun w => w.rest) id 2) m0 100000 w0) [1, 2, 3] =
    some (30000, true, 70000, [(1000000 - 60000, 6), (50 + 60000, 0), (0, 0)]) := by decide
example : summary (transitionDb (vmEnv Props.C07.envSpring (invalidOrc 0x00) (fun w => w.rest) id 2) m0 100000 w0) [1, 2, 3] =
    some (21000, false, 79000, [(1000000 - 42000 - 100, 6), (50 + 42000, 0), (100, 0)]) := by decide

/-- non-vacuity for `nonce_plus_one_over_vm`: an oracle whose only nonce effect is the depth-0 Create's bump, over a state
    space without code (`hasCode := false`). -/
def eoaOrc (op : Nat) : Oracle Nat := fun m _ w t =>
  { op := op, args := [], canTransfer := decide (m.value ≤ lookup w.bal m.sender),
    nonceEff := fun w' => if t = 0 then setNonce w' m.sender (nonceInc (lookup w'.nonce m.sender)) else w',
    xferEff := fun w' => addBal (subBal w' m.sender m.value) 3 m.value }

theorem eoaOrc_ok (op : Nat) : OracleOk (eoaOrc op) := ⟨fun _ _ _ => rfl, fun _ _ _ _ => rfl⟩

theorem eoaOrc_discipline (op : Nat) : CodeDiscipline (fun _ _ => false) (eoaOrc op) := by
  constructor
  · intro m g w t w' _; exact ⟨rfl, rfl, rfl, rfl, rfl, rfl⟩
  · intro m g w t w' _
    refine ⟨rfl, rfl, rfl, by simp [eoaOrc], rfl, fun ht => ?_⟩
    have : t ≠ 0 := by omega
    simp [eoaOrc, this]

-- a creation through the real machine: nonce 5 → 6, exactly once
example : summary (transitionDb (vmEnv Props.C07.envSpring (eoaOrc 0x00) (fun w => w.rest) id 2) { m0 with to := none, gas := 60000 } 100000 w0) [1] =
    some (53000, false, 47000, [(1000000 - 106000 - 100, 6)]) := by decide
example : NoCodeAtSigner (fun (_ : Nat) _ => false) m0 w0 := rfl

/-- **builtin_configs_homestead** (T-gen). Every built-in chain configuration is Homestead from block 0, so the hypothesis
    `env.homestead = true` of `failed_exec_only_gas` holds on all of them (pre-Homestead rules keep a creation whose code
    cannot be paid for — the harness shows this on a private Frontier config). -/
theorem builtin_configs_homestead : Gen.TxParams.switches.all (fun s => s.2.1 == some 0) = true := by decide

/-! ### tie by translation (T-gen `translated`, DESIGN 2.2 mini-translator): the gas pool and the gas counter

core.(*GasPool).SubGas / AddGas / Gas and core.(*StateTransition).useGas are translated from the go/ssa form of the tree
under test on every run (`Aqv.Gen.Translated`; the pointer receiver is threaded as an argument and an extra result, UInt64 with
Go's wrap-around); the translated code refines the `Nat` model functions `subGas` / `addGas` the theorems above use
(proofs in `Aqv.Lemmas.Translated.Tx`). -/

/-- SubGas: `ErrGasLimitReached` exactly when the model says `none` (pool untouched), otherwise the model's new pool.
    AddGas: panics exactly when the model says `none`, otherwise the model's new pool.  Gas reads the pool. -/
theorem gasPool_code_is_model (gp amount : UInt64) :
    Aqv.Lemmas.Translated.cellRes (Aqv.Gen.Translated.GasPool_SubGas gp amount) = subGas gp.toNat amount.toNat ∧
    (gp < amount → Aqv.Gen.Translated.GasPool_SubGas gp amount = (some "core.ErrGasLimitReached", gp)) ∧
    (Aqv.Gen.Translated.GasPool_AddGas gp amount).map (fun r => r.2.toNat) = addGas gp.toNat amount.toNat ∧
    Aqv.Gen.Translated.GasPool_Gas gp = gp :=
  ⟨Aqv.Lemmas.Translated.GasPool_SubGas_translated_eq gp amount, Aqv.Lemmas.Translated.GasPool_SubGas_translated_err gp amount,
   Aqv.Lemmas.Translated.GasPool_AddGas_translated_eq gp amount, rfl⟩

example : Aqv.Gen.Translated.GasPool_SubGas 100 30 = (none, 70) ∧ Aqv.Gen.Translated.GasPool_SubGas 10 30 = (some "core.ErrGasLimitReached", 10) ∧
    Aqv.Gen.Translated.GasPool_AddGas 0xffffffffffffffff 1 = none ∧ Aqv.Gen.Translated.GasPool_AddGas 5 7 = some ((), 12) := by decide

/-- useGas (the intrinsic-gas charge): `vm.ErrOutOfGas` exactly when the counter is below the amount — the model's
    `m.gas < ig` test — otherwise the counter decreases by the amount. -/
theorem useGas_code_is_model (gas amount : UInt64) :
    Aqv.Lemmas.Translated.cellRes (Aqv.Gen.Translated.StateTransition_useGas gas amount)
      = if gas.toNat < amount.toNat then none else some (gas.toNat - amount.toNat) :=
  Aqv.Lemmas.Translated.StateTransition_useGas_translated_eq gas amount

/-- tie by translation: core.(*StateTransition).gasUsed is `initialGas − gas` (the fields it reads are fixed by named arguments);
    no wrap-around while gas ≤ initialGas, which buyGas / useGas / refundGas maintain. -/
theorem gasUsed_code_is_model (gas initialGas : UInt64) (h : gas ≤ initialGas) :
    (Aqv.Gen.Translated.StateTransition_gasUsed (st_gas := gas) (st_initialGas := initialGas)).toNat
      = initialGas.toNat - gas.toNat :=
  Aqv.Lemmas.Translated.StateTransition_gasUsed_translated_eq gas initialGas h

example : Aqv.Gen.Translated.StateTransition_gasUsed (st_gas := 4000) (st_initialGas := 25000) = 21000 := by decide

end Aqv.Props.C06
