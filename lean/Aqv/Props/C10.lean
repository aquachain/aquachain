/-
  C10 — The Merkle-Patricia trie commits to exactly its content.  Property theorems only (helpers: Aqv/Lemmas/Trie*).
  Model: Aqv.Model.Trie (insert/delete/get = trie/trie.go workers incl. dirty flag and panic outcome, hexToCompact &c =
  trie/encoding.go, ref/body/hashRoot = trie/hasher.go for an ARBITRARY hash function H), Model.TrieProof (proof.go,
  node.go), Model.TrieLoad (partially loaded tries, Commit), Model.TrieGc (database.go reference counts) and
  Model.TrieLoadFast (the driver's shortcuts).
-/
import Aqv.Lemmas.TrieBuild
import Aqv.Lemmas.TrieProof
import Aqv.Lemmas.TrieLoad
import Aqv.Lemmas.TrieGc
import Aqv.Lemmas.TrieLoadFast
namespace Aqv.Props.C10
open Aqv Aqv.Trie Aqv.Rlp

/-! ### map refinement: lookups return exactly the live content -/

/-- On a canonical trie and a terminated key, `insert` does not panic and the new trie answers `get` like the updated
    finite map. -/
theorem get_insert (t : Node) (h : WFRoot t) (k k' : List Nib) (hk : Term k) (hk' : Term k') (v : Bytes) (hv : v ≠ []) :
    ∃ d t', insert t k v = some (d, t') ∧ get t' k' = if k' = k then some (some v) else get t k' := by
  obtain ⟨d, hd⟩ := insert_spec t k v (pos_of_wfroot h hk)
  refine ⟨d, _, hd, ?_⟩
  rw [get_eq_lookup _ _ (pos_of_wfroot (Or.inr (ins_wf t k v hk h hv)) hk'), get_eq_lookup _ _ (pos_of_wfroot h hk'),
    ins_lookup t k v (pos_of_wfroot h hk)]
  split <;> rfl

/-- `delete` does not panic and the new trie answers `get` like the finite map with the key removed. -/
theorem get_delete (t : Node) (h : WFRoot t) (k k' : List Nib) (hk : Term k) (hk' : Term k') :
    ∃ d t', delete t k = some (d, t') ∧ get t' k' = if k' = k then some none else get t k' := by
  obtain ⟨d, hd⟩ := delete_spec t k (pos_of_wfroot h hk)
  refine ⟨d, _, hd, ?_⟩
  rw [get_eq_lookup _ _ (pos_of_wfroot (del_wf t k hk h) hk'), get_eq_lookup _ _ (pos_of_wfroot h hk'),
    del_lookup t k (pos_of_wfroot h hk)]
  split <;> rfl

/-- `get` computes the denotation `lookup` (and never panics) on canonical tries and terminated keys. -/
theorem get_is_lookup (t : Node) (h : WFRoot t) (k : List Nib) (hk : Term k) : get t k = some (lookup t k) :=
  get_eq_lookup t k (pos_of_wfroot h hk)

/-- the dirty flag is only an optimisation: a clean result is the unchanged node. -/
theorem insert_clean_unchanged (t : Node) (k : List Nib) (v : Bytes) (t' : Node) (h : insert t k v = some (false, t')) :
    t' = t := insert_fst_false t k v t' h

theorem delete_clean_unchanged (t : Node) (k : List Nib) (t' : Node) (h : delete t k = some (false, t')) : t' = t :=
  delete_fst_false t k t' h

/-! ### the canonical shape is preserved -/

theorem wf_insert (t : Node) (h : WFRoot t) (k : List Nib) (hk : Term k) (v : Bytes) (hv : v ≠ []) (d : Bool) (t' : Node)
    (hi : insert t k v = some (d, t')) : WF t' := by
  obtain ⟨d', hd⟩ := insert_spec t k v (pos_of_wfroot h hk)
  cases hd.symm.trans hi
  exact ins_wf t k v hk h hv

theorem wf_delete (t : Node) (h : WFRoot t) (k : List Nib) (hk : Term k) (d : Bool) (t' : Node)
    (hi : delete t k = some (d, t')) : WFRoot t' := by
  obtain ⟨d', hd⟩ := delete_spec t k (pos_of_wfroot h hk)
  cases hd.symm.trans hi
  exact del_wf t k hk h

/-! ### uniqueness of the canonical shape ⇒ the root depends on the content only -/

/-- Two canonical tries with the same content are the same tree. -/
theorem wf_unique (t₁ t₂ : Node) (h₁ : WFRoot t₁) (h₂ : WFRoot t₂) (h : ∀ k, lookup t₁ k = lookup t₂ k) : t₁ = t₂ :=
  wfroot_unique h₁ h₂ h

/-- the same, phrased with the Go-shaped `get` over terminated keys only. -/
theorem wf_unique_get (t₁ t₂ : Node) (h₁ : WFRoot t₁) (h₂ : WFRoot t₂) (h : ∀ k, Term k → get t₁ k = get t₂ k) :
    t₁ = t₂ := by
  apply wfroot_unique h₁ h₂
  intro k
  by_cases hk : Term k
  · have := h k hk
    rw [get_is_lookup t₁ h₁ k hk, get_is_lookup t₂ h₂ k hk] at this
    simpa using this
  · rw [wfroot_lookup_of_not_term h₁ hk, wfroot_lookup_of_not_term h₂ hk]

/-- Every history over the public API (update / delete / anything else, in any order) runs without panic, ends in a
    canonical trie, and `TryGet` answers exactly the reference map. -/
theorem run_refines (ops : List Op) :
    ∃ t, run ops = some t ∧ WFRoot t ∧ ∀ kb, tryGet t kb = some (absOf ops kb) := by
  obtain ⟨t, hr, hi⟩ := inv_run ops
  refine ⟨t, hr, hi.wf, ?_⟩
  intro kb
  unfold tryGet
  rw [get_is_lookup t hi.wf _ (term_keybytesToHex kb), hi.content]

/-- **The root is a function of the content alone**: two histories with the same resulting key→value map end in the
    same trie, hence in the same root hash — for ANY hash function `H`, any insertion/deletion order, any interleaving
    of other operations. -/
theorem root_content_only (H : Bytes → Bytes) (ops₁ ops₂ : List Op) (t₁ t₂ : Node)
    (h₁ : run ops₁ = some t₁) (h₂ : run ops₂ = some t₂) (h : ∀ kb, absOf ops₁ kb = absOf ops₂ kb) :
    t₁ = t₂ ∧ hashRoot H t₁ = hashRoot H t₂ := by
  have := inv_unique (inv_of_run h₁) (inv_of_run h₂) h
  exact ⟨this, by rw [this]⟩

/-! ### iteration yields exactly the content, in order; the root is the specification's root of that content -/

/-- The leaf iterator's sequence holds exactly the (key, value) pairs of the denoted map … -/
theorem iter_is_content (t : Node) (k : List Nib) (v : Bytes) : (k, v) ∈ toList t ↔ lookup t k = some v :=
  mem_toList t k v

/-- … strictly increasing in the iteration order (hence without duplicates). -/
theorem iter_sorted (t : Node) : (toList t).Pairwise (fun a b => keyLt a.1 b.1 = true) := toList_sorted t

/-- `hashRoot t` is the Merkle-Patricia root the specification defines (`mptRoot`: Yellow-Paper construction, which
    does not use insert/delete) for the content of `t`, given as ANY list that is sorted and holds exactly the content;
    for every hash function. -/
theorem root_eq_spec (H : Bytes → Bytes) (t : Node) (h : WFRoot t) (kvs : List (List Nib × Bytes))
    (hs : kvs.Pairwise (fun a b => keyLt a.1 b.1 = true)) (hc : ∀ k v, (k, v) ∈ kvs ↔ lookup t k = some v) :
    hashRoot H t = mptRoot H kvs :=
  Trie.root_eq_spec H t h kvs hs hc

/-- History form (what the model driver recomputes on every run): after any history the root equals `mptRoot` of the
    reference map listed in key order. -/
theorem root_eq_spec_run (H : Bytes → Bytes) (ops : List Op) (t : Node) (hr : run ops = some t)
    (m : List (Bytes × Bytes)) (hs : m.Pairwise (fun a b => keyLt (keybytesToHex a.1) (keybytesToHex b.1) = true))
    (hc : ∀ kb v, (kb, v) ∈ m ↔ absOf ops kb = some v) :
    hashRoot H t = mptRoot H (m.map fun kv => (keybytesToHex kv.1, kv.2)) :=
  Trie.root_eq_spec_run H ops t hr m hs hc

/-! ### Merkle proofs -/

/-- `decodeNode` inverts the hasher's node encoding on canonical nodes (children come back as embedded nodes,
    32-byte hash references, nil or values) — the fact behind reloading from the node database and behind proofs.
    `hH`: the hash function has 32-byte outputs; `SizeOk`: every RLP length fits the 8-byte length header. -/
theorem decode_encode_node (H : Bytes → Bytes) (hH : ∀ x, (H x).length = 32) (n : Node) (hw : WF n) (hs : SizeOk H n) :
    decodeNode ((enc (body H n)).length + 1) (enc (body H n)) = .ok (toP H n) :=
  decodeNode_self H hH hw hs

/-- **Completeness.** The node list `Prove` produces for ANY key (present or absent) in ANY canonical trie (the empty
    one included), stored under the hashes of its elements, makes `VerifyProof` return exactly the content's answer —
    provided the hash function does not collide on those finitely many elements (`cf`) nor between the root node and
    the empty string (`hroot`); both explicit and decidable on instances. -/
theorem prove_verify (H : Bytes → Bytes) (hH : ∀ x, (H x).length = 32) (t : Node) (hw : WFRoot t) (hs : SizeOk H t)
    (hroot : t ≠ .nil → hashRoot H t ≠ emptyRoot H)
    (k : List Nib) (hk : Term k) (els : List Bytes) (hp : prove H t k = some els)
    (cf : ∀ e ∈ els, ∀ e' ∈ els, H e = H e' → e = e') :
    verifyProof H (dbOf H els) (verifyFuel k) (hashRoot H t) k =
      match lookup t k with
      | some v => .value v
      | none => .absent := by
  rcases verifyProof_root H (dbOf H els) hw hroot (verifyFuel k) k with ⟨-, e⟩ | ⟨hw, e⟩
  · rw [e]
    cases lookup t k <;> rfl
  · rw [e, prove_verify_core H (dbOf H els) hH hw hs hk hp (dbOf_self H els cf) (verifyFuel k) (by simp [verifyFuel])]
    cases lookup t k <;> rfl

/-- `Prove` itself never panics on a canonical trie and a terminated key. -/
theorem prove_total (H : Bytes → Bytes) (t : Node) (hw : WFRoot t) (k : List Nib) (hk : Term k) :
    ∃ els, prove H t k = some els := by
  obtain ⟨l, hl, -⟩ := provePath_total t k (pos_of_wfroot hw hk)
  exact ⟨proofElems H true l, by simp [prove, hl]⟩

/-- **Soundness: no altered proof verifies to a different value.** For an ARBITRARY node list `p` (altered, truncated,
    extended, forged), stored under the hashes of its elements: whenever `VerifyProof` against the root of `t` returns a
    value it is the value `t` holds, whenever it reports absence the key is absent, and it never panics — under the explicit
    hypothesis `cf` that no element of `p` collides under `H` with a genuine node of `t` without being that node's
    encoding (and `hroot`: the root node does not collide with the empty string). Any amount of fuel (loop iterations). -/
theorem verify_sound (H : Bytes → Bytes) (hH : ∀ x, (H x).length = 32) (t : Node) (hw : WFRoot t) (hs : SizeOk H t)
    (hroot : t ≠ .nil → hashRoot H t ≠ emptyRoot H)
    (p : List Bytes) (cf : ∀ e ∈ p, ∀ m, Sub m t → H e = hashOf H m → e = enc (body H m))
    (k : List Nib) (hk : Term k) (f : Nat) :
    (∀ v, verifyProof H (dbOf H p) f (hashRoot H t) k = .value v → lookup t k = some v) ∧
    (verifyProof H (dbOf H p) f (hashRoot H t) k = .absent → lookup t k = none) ∧
    verifyProof H (dbOf H p) f (hashRoot H t) k ≠ .panic := by
  rcases verifyProof_root H (dbOf H p) hw hroot f k with ⟨rfl, e⟩ | ⟨hw, e⟩ <;> rw [e]
  · simp [resOf, lookup_nil]
  · exact verify_core H (dbOf H p) hH hw hs
      (fun m hsub _ blob hd => cf blob (dbOf_some hd).1 m hsub (dbOf_some hd).2) hk f

/-- **Binding** (the converse of `root_content_only`): two canonical tries with the same root hash are the same trie —
    hence hold the same content — provided `H` does not collide between a node of one and a node of the other (`CFp`,
    explicit). Together: the root determines and is determined by the content. -/
theorem root_binding (H : Bytes → Bytes) (hH : ∀ x, (H x).length = 32) (t₁ t₂ : Node) (h₁ : WF t₁) (h₂ : WF t₂)
    (s₁ : SizeOk H t₁) (s₂ : SizeOk H t₂) (cf : CFp H t₁ t₂) (h : hashRoot H t₁ = hashRoot H t₂) :
    t₁ = t₂ ∧ ∀ k, lookup t₁ k = lookup t₂ k := by
  have := root_binding_core H hH h₁ h₂ s₁ s₂ cf (by rwa [hashOf_eq_hashRoot, hashOf_eq_hashRoot])
  exact ⟨this, fun k => by rw [this]⟩

/-! ### reopening from a committed root (cache eviction / reload from the node database) -/

/-- A trie reopened from its committed root reproduces the trie: resolving every hash reference from the root hash
    through a node database that holds each node of the committed trie under its hash (`hdb`: what `Commit` writes)
    rebuilds exactly `t` — hence the same content, iteration and root. (`∃ f₀`: enough resolution steps.) -/
theorem commit_reopen (H : Bytes → Bytes) (hH : ∀ x, (H x).length = 32) (t : Node) (hw : WF t) (hs : SizeOk H t)
    (db : Bytes → Option Bytes) (hdb : ∀ m, Sub m t → IsSF m → db (hashOf H m) = some (enc (body H m))) :
    ∃ f₀, ∀ f, f₀ ≤ f → loadP db f (.hash (hashRoot H t)) = some t := by
  have htop : Repr H db false false (toP H t) t :=
    repr_refP H db t _ (.inr ⟨wf_isSF hw, rfl⟩) (slot_of_wf hw) hs fun m hm hsf _ => hdb m hm hsf
  have hroot : Repr H db false true (.hash (hashOf H t)) t :=
    .hash true hw hs (.inl rfl) (hdb t (.refl t) (wf_isSF hw)) htop
  exact hashOf_eq_hashRoot H t ▸ loadP_repr H db hH hroot

/-- A lookup that starts from nothing but the root hash and such a node database — resolve, decode, descend, as a
    reopened (fully unloaded) trie does on `TryGet` — returns exactly the content. -/
theorem reopen_get (H : Bytes → Bytes) (hH : ∀ x, (H x).length = 32) (t : Node) (hw : WF t) (hs : SizeOk H t)
    (db : Bytes → Option Bytes) (hdb : ∀ m, Sub m t → IsSF m → db (hashOf H m) = some (enc (body H m)))
    (k : List Nib) (hk : Term k) :
    verify db (verifyFuel k) (hashRoot H t) k =
      match lookup t k with
      | some v => .value v
      | none => .absent := by
  rw [← hashOf_eq_hashRoot, reopen_get_core H db hH hw hs hdb hk (verifyFuel k) (by simp [verifyFuel])]
  cases lookup t k <;> rfl

/-! ### partially loaded tries: on-demand resolution, unloading, Commit, missing nodes

  `Repr H db am r x t` (Lemmas.TrieLoad): the partially loaded node `x` (hash nodes = unloaded subtrees) stands for the
  fully loaded canonical node `t` over the node database `db`; `am = false`: the database holds every referenced node,
  `am = true`: it may lack some. `xget`/`xinsert`/`xdelete` are the workers of trie.go WITH the `hashNode` cases
  (`resolveHash` through `db`), `hashRootX` the hasher on such nodes, `Unload` the hasher's unloading step (any clean
  node, nondeterministically), `commitDb` what `Commit` stores. -/

/-- On any representation of `t`, the on-demand `tryGet` returns the content's answer and a
    node (with the path now loaded) that still stands for `t`. -/
theorem unload_get (H : Bytes → Bytes) (hH : ∀ x, (H x).length = 32) (db : Bytes → Option Bytes) (r : Bool) (x : PNode)
    (t : Node) (hr : Repr H db false r x t) (ht : WFRoot t) (k : List Nib) (hk : Term k) :
    ∃ x', xget db (xfuel k) x k = .ok (lookup t k, x') ∧ Repr H db false r x' t := by
  obtain ⟨x', h, hr'⟩ := (xget_repr H db hH false hr k _ (pos_of_wfroot ht hk) (need_le_xfuel _ _)).resolve_right (by simp)
  exact ⟨x', h, hr'.weaken r⟩

/-- `insert`: same dirty flag as on the fully loaded trie, and the result stands for the updated
    trie `ins t k v` (= what `insert` returns, `insert_spec`). -/
theorem unload_insert (H : Bytes → Bytes) (hH : ∀ x, (H x).length = 32) (db : Bytes → Option Bytes) (r : Bool) (x : PNode)
    (t : Node) (hr : Repr H db false r x t) (ht : WFRoot t) (k : List Nib) (hk : Term k) (v : Bytes) :
    ∃ d x' t', insert t k v = some (d, t') ∧ xinsert db (xfuel k) x k v = .ok (d, x') ∧ Repr H db false false x' t' := by
  obtain ⟨d, x', h⟩ :=
    (xinsert_repr H db hH false hr v k _ (pos_of_wfroot ht hk) (need_le_xfuel _ _)).resolve_right (by simp)
  exact ⟨d, x', _, h⟩

/-- `delete`, including the collapse step that resolves the single remaining child. -/
theorem unload_delete (H : Bytes → Bytes) (hH : ∀ x, (H x).length = 32) (db : Bytes → Option Bytes) (r : Bool) (x : PNode)
    (t : Node) (hr : Repr H db false r x t) (ht : WFRoot t) (k : List Nib) (hk : Term k) :
    ∃ d x' t', delete t k = some (d, t') ∧ xdelete db (xfuel k) x k = .ok (d, x') ∧ Repr H db false false x' t' := by
  obtain ⟨d, x', h1, h2, h3, _⟩ :=
    (xdelete_repr H db hH false hr k _ (pos_of_wfroot ht hk) (need_le_xfuel _ _)).resolve_right (by simp)
  exact ⟨d, x', _, h1, h2, h3⟩

/-- Hashing any representation gives the root of the trie it stands for (a hash node is
    its own reference; no database access, no collision-freedom needed). -/
theorem unload_hashRoot (H : Bytes → Bytes) (db : Bytes → Option Bytes) (am r : Bool) (x : PNode) (t : Node)
    (hr : Repr H db am r x t) : hashRootX H x = hashRoot H t := hashRootX_repr H db am hr

/-- **Unloading is invisible**: replacing ANY clean loaded subtree (stored in `db` with everything loaded below it) by
    its hash node — whatever the cache generation / `SetCacheLimit` made the hasher pick — still stands for `t`. -/
theorem unload_denotation (H : Bytes → Bytes) (db : Bytes → Option Bytes) (r : Bool) (x x' : PNode) (t : Node)
    (hu : Unload H db r x x') (hr : Repr H db false r x t) (ht : WFRoot t) (hs : SizeOk H t) :
    Repr H db false r x' t := unload_repr H db hu hr (slot_of_wfroot ht) hs

/-- **Commit, then reopen from the root hash**: after `Commit` the database extends the old one, the loaded trie still
    stands for `t`, and so does the bare root hash node (what `New(root, db)` starts from). Collision-freedom of `H`
    is needed exactly here: between the nodes of `t` (`hcf`) and against blobs already stored under their hashes
    (`hold`) — `db.insert` keeps the first blob stored under a hash. -/
theorem commit_reopen_partial (H : Bytes → Bytes) (db : Bytes → Option Bytes) (r : Bool) (x : PNode) (t : Node)
    (hr : Repr H db false r x t) (ht : WF t) (hs : SizeOk H t) (hx : isSFX x = true)
    (hold : ∀ m, Sub m t → WF m → ∀ b, db (hashOf H m) = some b → b = enc (body H m)) (hcf : CFp H t t) :
    Repr H (commitDb H db x) false true x t ∧ Repr H (commitDb H db x) false true (.hash (hashRootX H x)) t :=
  commit_reopen_repr H db hr (slot_of_wf ht) hs hx hold hcf

/-- **missing_node_is_reported**: over a database that may LACK nodes (never holds wrong ones), the on-demand workers
    either behave exactly as on the full trie or return the MissingNodeError — never a wrong value, a panic, or a node
    standing for a different trie. -/
theorem missing_node_is_reported (H : Bytes → Bytes) (hH : ∀ x, (H x).length = 32) (db : Bytes → Option Bytes) (r : Bool)
    (x : PNode) (t : Node) (hr : Repr H db true r x t) (ht : WFRoot t) (k : List Nib) (hk : Term k) (v : Bytes) :
    ((∃ x', xget db (xfuel k) x k = .ok (lookup t k, x') ∧ Repr H db true r x' t) ∨ ∃ h, xget db (xfuel k) x k = .missing h) ∧
    ((∃ d x', xinsert db (xfuel k) x k v = .ok (d, x') ∧ Repr H db true false x' (ins t k v)) ∨
      ∃ h, xinsert db (xfuel k) x k v = .missing h) ∧
    ((∃ d x', xdelete db (xfuel k) x k = .ok (d, x') ∧ Repr H db true false x' (del t k)) ∨
      ∃ h, xdelete db (xfuel k) x k = .missing h) := by
  have hp := pos_of_wfroot ht hk
  refine ⟨?_, ?_, ?_⟩
  · rcases xget_repr H db hH true hr k _ hp (need_le_xfuel _ _) with ⟨x', h, hr'⟩ | ⟨_, h⟩
    · exact Or.inl ⟨x', h, hr'.weaken r⟩
    · exact Or.inr h
  · rcases xinsert_repr H db hH true hr v k _ hp (need_le_xfuel _ _) with ⟨d, x', _, h2, h3⟩ | ⟨_, h⟩
    · exact Or.inl ⟨d, x', h2, h3⟩
    · exact Or.inr h
  · rcases xdelete_repr H db hH true hr k _ hp (need_le_xfuel _ _) with ⟨d, x', _, h2, h3, _⟩ | ⟨_, h⟩
    · exact Or.inl ⟨d, x', h2, h3⟩
    · exact Or.inr h

/-- **Histories over partially loaded states.** Any state reachable by update / delete / get / Commit / unloading steps
    in any interleaving (`Reach`; reopen = Commit followed by unloading the root) stands for the canonical trie of the
    history: its `Hash` is that trie's root, every `TryGet` succeeds with the reference map's answer, every further
    update / delete succeeds (no MissingNodeError, no panic). Hypotheses: `H` collision-free on the finitely many nodes
    of the tries the history passes through (`CFHist`, used at Commit only), sizes below 2^64 (`SzHist`). -/
theorem partial_history_refines (H : Bytes → Bytes) (hH : ∀ x, (H x).length = 32) (ops : List Op) (s : XState)
    (hr : Reach H ops s) (hcf : CFHist H ops) (hsz : SzHist H ops) :
    ∃ t, run ops = some t ∧ WFRoot t ∧ hashRootX H s.root = hashRoot H t ∧
      (∀ kb, ∃ n, xget s.db (xfuel (keybytesToHex kb)) s.root (keybytesToHex kb) = .ok (absOf ops kb, n)) ∧
      (∀ kb v, ∃ d n, xinsert s.db (xfuel (keybytesToHex kb)) s.root (keybytesToHex kb) v = .ok (d, n)) ∧
      (∀ kb, ∃ d n, xdelete s.db (xfuel (keybytesToHex kb)) s.root (keybytesToHex kb) = .ok (d, n)) := by
  obtain ⟨t, hi⟩ := reach_xinv H hH hr hcf hsz
  refine ⟨t, hi.run, hi.inv.wf, hashRootX_repr H _ _ hi.repr, ?_, ?_, ?_⟩
  · intro kb
    obtain ⟨x', hx, _⟩ := unload_get H hH s.db true s.root t hi.repr hi.inv.wf _ (term_keybytesToHex kb)
    rw [hi.inv.content] at hx
    exact ⟨x', hx⟩
  · intro kb v
    obtain ⟨d, x', _, _, hx, _⟩ := unload_insert H hH s.db true s.root t hi.repr hi.inv.wf _ (term_keybytesToHex kb) v
    exact ⟨d, x', hx⟩
  · intro kb
    obtain ⟨d, x', _, _, hx, _⟩ := unload_delete H hH s.db true s.root t hi.repr hi.inv.wf _ (term_keybytesToHex kb)
    exact ⟨d, x', hx⟩

/-- `root_content_only` for partially loaded states: two reachable states (different histories, different interleavings
    of Hash / Commit / unload / reopen, different load states) with the same content have the same root hash. -/
theorem root_content_only_partial (H : Bytes → Bytes) (hH : ∀ x, (H x).length = 32) (ops₁ ops₂ : List Op) (s₁ s₂ : XState)
    (h₁ : Reach H ops₁ s₁) (h₂ : Reach H ops₂ s₂) (c₁ : CFHist H ops₁) (c₂ : CFHist H ops₂) (z₁ : SzHist H ops₁)
    (z₂ : SzHist H ops₂) (h : ∀ kb, absOf ops₁ kb = absOf ops₂ kb) : hashRootX H s₁.root = hashRootX H s₂.root := by
  obtain ⟨t₁, r₁, _, e₁, _⟩ := partial_history_refines H hH ops₁ s₁ h₁ c₁ z₁
  obtain ⟨t₂, r₂, _, e₂, _⟩ := partial_history_refines H hH ops₂ s₂ h₂ c₂ z₂
  rw [e₁, e₂, (root_content_only H ops₁ ops₂ t₁ t₂ r₁ r₂ h).2]

/-! ### the reference-counted node store (trie/database.go `reference` / `dereference`; state pruning) -/

section Gc
open Aqv.Gc
variable {α : Type} [DecidableEq α]

/-- **Counting invariant.** After any legal history of `hasher.store` / `Reference(root, {})` / `Dereference(root, {})`
    calls (nodes stored with the child list their content determines; only outstanding pins released) whose cascades ran
    to completion: for every cached node, `parents` = its outstanding root pins + the number of cached parents holding
    a registered reference to it — every reference counted exactly once, repeated root pins included. -/
theorem gc_parents_count (K : α → List α) (fuel : Nat) (ops : List (GcOp α)) (s' : Store α)
    (hl : LegalRun K fuel ops Store.empty) (hr : gcRun fuel ops Store.empty = some s') :
    ∀ n ∈ s'.nodes, s'.parents n = s'.pins n + (inE s' n : Int) := by
  intro n hn
  have := (gcRun_inv K fuel ops _ s' (ginv_empty K) hl hr).count n hn
  simpa using this

/-- **gc_keeps_referenced.** Under the same conditions, every root with at least one outstanding pin is still cached,
    and so is every node reachable from it along registered child references (shared subtries included): releasing other
    roots — or the same root fewer times than it was pinned — never evicts it. -/
theorem gc_keeps_referenced (K : α → List α) (fuel : Nat) (ops : List (GcOp α)) (s' : Store α)
    (hl : LegalRun K fuel ops Store.empty) (hr : gcRun fuel ops Store.empty = some s') (r : α) (hp : 1 ≤ s'.pins r) :
    ∀ d, Desc s' r d → d ∈ s'.nodes :=
  ginv_keeps (gcRun_inv K fuel ops _ s' (ginv_empty K) hl hr) hp

end Gc

/-- Witness for the seeded shape (C10-6): if only the FIRST reference from the meta root bumps `parents` while every
    dereference decrements it, a root pinned twice and released once is evicted together with its subtrie although one
    pin is outstanding; with the real `pin` the same history keeps both nodes. -/
theorem single_count_first_reference_only_loses_node :
    (∃ s : Gc.Store Nat, Gc.unpin 10 (Gc.pinFirstOnly (Gc.pinFirstOnly (Gc.storeNode (Gc.storeNode Gc.Store.empty 2 []) 1 [2]) 1) 1) 1
        = some s ∧ s.pins 1 = 1 ∧ 1 ∉ s.nodes ∧ 2 ∉ s.nodes) ∧
    (∃ s : Gc.Store Nat, Gc.unpin 10 (Gc.pin (Gc.pin (Gc.storeNode (Gc.storeNode Gc.Store.empty 2 []) 1 [2]) 1) 1) 1
        = some s ∧ s.pins 1 = 1 ∧ 1 ∈ s.nodes ∧ 2 ∈ s.nodes) :=
  ⟨⟨_, rfl, by decide, by decide, by decide⟩, ⟨_, rfl, by decide, by decide, by decide⟩⟩

/-! ### the executable shortcuts of the model driver refine the specification-level functions -/

/-- The driver's one-pass commit over a hash-map database IS `commitDb` (and its pass lists exactly `storeList` and
    computes `refX`): replaying `Commit` with it is replaying it in the model. No hypotheses. -/
theorem commit_fast_refines (H : Bytes → Bytes) (m : DbMap) (x : PNode) :
    dbFun (commitMap H m x) = commitDb H (dbFun m) x ∧ (storePass H x).2 = storeList H x ∧ (storePass H x).1 = refX H x :=
  ⟨commitMap_spec H m x, (storePass_spec H x).2, (storePass_spec H x).1⟩

/-- The driver's materialising loader IS `loadP` (so `commit_reopen` speaks about what the driver iterates / proves on). -/
theorem load_fast_refines (db : Bytes → Option Bytes) (f : Nat) (x : PNode) : loadFast db f x = loadP db f x :=
  loadFast_spec db f x

/-! ### key encodings -/

theorem keybytes_hex_roundtrip (s : Bytes) : hexToKeybytes (keybytesToHex s) = some s := keybytes_hex_roundtrip' s

theorem compact_hex_roundtrip (k : List Nib) (hk : Hex k ∨ Term k) : compactToHex (hexToCompact k) = some k :=
  compact_hex_roundtrip' k hk

/-! ### non-vacuity -/

-- a canonical trie with a branch, a value in slot 16 (key "a" is a prefix of key "ab"), an extension and leaves
private def exT : Node := ((tryUpdate ((tryUpdate ((tryUpdate .nil [0x61] [1]).getD .nil) [0x61, 0x62] [2]).getD .nil)
  [0x61, 0x63] [3]).getD .nil)
example : tryGet exT [0x61] = some (some [1]) := by decide
example : tryGet exT [0x61, 0x62] = some (some [2]) := by decide
example : tryGet exT [0x62] = some none := by decide
example : ∃ cs, exT = .short [6, 1] (.full cs) ∧ cs T = .value [1] := ⟨_, rfl, rfl⟩
example : WFRoot exT :=
  (inv_of_run (ops := [.update [0x61] [1], .update [0x61, 0x62] [2], .update [0x61, 0x63] [3]]) rfl).wf
example : Term (keybytesToHex [0x61, 0x62]) := term_keybytesToHex _
-- two different histories, same content
example : absOf [.update [1] [7], .update [2] [8], .delete [1]] [2] = absOf [.update [2] [8]] [2] := by decide
example : run [.update [1] [7], .update [2] [8], .delete [1]] = run [.update [2] [8]] := by rfl
example : compactToHex (hexToCompact [1, 2, 3, T]) = some [1, 2, 3, T] := by decide
example : hexToCompact [1, 2, 3, T] = [0x31, 0x23] := by decide
example : mptRoot (fun b => b) [(keybytesToHex [0x61], [1]), (keybytesToHex [0x61, 0x62], [2])] =
    hashRoot (fun b => b) ((tryUpdate ((tryUpdate .nil [0x61, 0x62] [2]).getD .nil) [0x61] [1]).getD .nil) := by decide
-- Merkle proofs, with a toy 32-byte "hash" (first 32 bytes, zero padded) so that everything is decidable
private def toyH (b : Bytes) : Bytes := (b ++ List.replicate 32 0).take 32
example : ∀ x, (toyH x).length = 32 := by intro x; simp [toyH]
private def leafT : Node := .short (keybytesToHex [0x61]) (.value [7, 7])
example : WF leafT := WF.leaf _ _ (term_keybytesToHex _) (by decide)
example : SizeOk toyH leafT := ⟨by decide, trivial⟩
example : prove toyH leafT (keybytesToHex [0x61]) = some [[0xc6, 0x82, 0x20, 0x61, 0x82, 7, 7]] := by decide
example : verifyProof toyH (dbOf toyH [[0xc6, 0x82, 0x20, 0x61, 0x82, 7, 7]]) 5 (hashRoot toyH leafT) (keybytesToHex [0x61]) =
    .value [7, 7] := by decide
example : verifyProof toyH (dbOf toyH [[0xc6, 0x82, 0x20, 0x61, 0x82, 7, 7]]) 5 (hashRoot toyH leafT) (keybytesToHex [0x62]) =
    .absent := by decide
-- an altered element is simply not found under the root hash
example : verifyProof toyH (dbOf toyH [[0xc6, 0x82, 0x20, 0x61, 0x82, 7, 8]]) 5 (hashRoot toyH leafT) (keybytesToHex [0x61]) =
    .err := by decide
-- the empty trie: the empty proof verifies every key to absence; `hroot` holds for the leaf trie
example : prove toyH .nil (keybytesToHex [0x61]) = some [] := by decide
example : verifyProof toyH (dbOf toyH []) 5 (hashRoot toyH .nil) (keybytesToHex [0x61]) = .absent := by decide
example : hashRoot toyH leafT ≠ emptyRoot toyH := by decide
-- the collision-freedom hypothesis of `verify_sound` is satisfiable (here: the genuine proof against a one-leaf trie)
example : ∀ e ∈ [[0xc6, 0x82, 0x20, 0x61, 0x82, (7 : UInt8), 7]], ∀ m, Sub m leafT → toyH e = hashOf toyH m →
    e = enc (body toyH m) := by
  intro e he m hsub hh
  simp only [List.mem_singleton] at he
  subst he
  cases hsub with
  | refl => decide
  | short _ h =>
    cases h with
    | refl => exact absurd hh (by decide)
private theorem sub_leafT {m : Node} (hs : Sub m leafT) (hw : WF m) : m = leafT := by
  cases hs with
  | refl => rfl
  | short _ h => cases h; exact absurd hw (not_wf_value _)
-- `CFp` is satisfiable: the one-leaf trie against itself
example : CFp toyH leafT leafT := by
  intro m₁ m₂ s₁ s₂ w₁ w₂ _
  rw [sub_leafT s₁ w₁, sub_leafT s₂ w₂]
-- reopening: the node database of the one-leaf trie
example : loadP (fun h => if h = hashRoot toyH leafT then some (enc (body toyH leafT)) else none) 3
    (.hash (hashRoot toyH leafT)) = some leafT := by rfl
-- partially loaded tries: a reachable committed + fully unloaded state, its hypotheses, and a lacking database
private def xleaf : PNode := .short (keybytesToHex [0x61]) (.value [7, 7])
private def exOps : List Op := [.update [0x61] [7, 7], .other, .other]

example : Repr toyH (fun _ => none) false true xleaf leafT := .short _ _ (.value _ _)

private theorem exReach : Reach toyH exOps ⟨commitDb toyH (fun _ => none) xleaf, .hash (hashRootX toyH xleaf)⟩ :=
  Reach.unload _ (Reach.commit (Reach.insert [0x61] [7, 7] true xleaf Reach.init (by decide) rfl))
    (Unload.here true xleaf rfl (Or.inl rfl) (by decide) (by intro kv h; revert kv; decide))

private theorem exHist : ∀ pre t, pre <+: exOps → run pre = some t → t = .nil ∨ t = leafT := by
  intro pre t hp hr
  obtain ⟨n, hn, rfl⟩ : ∃ n, n ≤ 3 ∧ pre = exOps.take n := ⟨_, hp.length_le, List.prefix_iff_eq_take.1 hp⟩
  match n, hn with
  | 0, _ => exact Or.inl (Option.some.inj hr).symm
  | 1, _ | 2, _ | 3, _ => exact Or.inr (Option.some.inj hr).symm

private theorem exNode : ∀ m, HistNode exOps m → m = leafT := by
  intro m ⟨pre, t, hp, hr, hs, hw⟩
  rcases exHist pre t hp hr with rfl | rfl
  · cases hs; exact absurd hw not_wf_nil
  · exact sub_leafT hs hw

example : CFHist toyH exOps := by
  intro m₁ m₂ h₁ h₂ _
  rw [exNode m₁ h₁, exNode m₂ h₂]

example : SzHist toyH exOps := by
  intro pre t hp hr
  rcases exHist pre t hp hr with rfl | rfl
  · trivial
  · exact ⟨by decide, trivial⟩

-- the unloaded, reopened state answers from the database, and a database lacking the node reports it
example : ∃ n, xget (commitDb toyH (fun _ => none) xleaf) 6 (.hash (hashRootX toyH xleaf)) (keybytesToHex [0x61]) =
    .ok (some [7, 7], n) := ⟨_, rfl⟩
example : xget (fun _ => none) 6 (.hash (hashRootX toyH xleaf)) (keybytesToHex [0x61]) =
    .missing (hashRootX toyH xleaf) := rfl
example : Repr toyH (fun _ => none) true true (.hash (hashOf toyH leafT)) leafT :=
  .gone _ rfl (WF.leaf _ _ (term_keybytesToHex _) (by decide)) (Or.inl rfl) rfl

-- the reference-counted store: a legal history (child 2 stored before its parent 1, two pins on root 1, one released)
private def exK : Nat → List Nat := fun n => if n = 1 then [2] else []
private def exGc : List (Gc.GcOp Nat) := [.store 2 [], .store 1 [2], .pin 1, .pin 1, .unpin 1]
example : Gc.LegalRun exK 10 exGc Gc.Store.empty := by
  refine ⟨rfl, fun s h => ?_⟩
  obtain rfl := Option.some.inj h
  refine ⟨rfl, fun s h => ?_⟩
  obtain rfl := Option.some.inj h
  refine ⟨trivial, fun s h => ?_⟩
  obtain rfl := Option.some.inj h
  refine ⟨trivial, fun s h => ?_⟩
  obtain rfl := Option.some.inj h
  exact ⟨(by decide : (1 : Int) ≤ (Gc.pin (Gc.pin (Gc.storeNode (Gc.storeNode Gc.Store.empty 2 []) 1 [2]) 1) 1).pins 1),
    fun _ _ => trivial⟩
example : ∃ s, Gc.gcRun 10 exGc Gc.Store.empty = some s ∧ s.pins 1 = 1 ∧ s.parents 1 = 1 ∧ s.parents 2 = 1 :=
  ⟨_, rfl, by decide, by decide, by decide⟩
-- the fast commit on a concrete node: one entry (the forced root), found again through `dbFun`
example : (dbFun (commitMap toyH {} xleaf)) (hashRootX toyH xleaf) = some (enc (bodyX toyH xleaf)) := by
  have h0 : dbFun ({} : DbMap) = fun _ => none := by funext h; simp [dbFun]
  rw [(commit_fast_refines toyH {} xleaf).1, h0]; decide
-- hostile node blobs: decode error, and the modelled Go panic (empty compact key)
private def outcome : Except DErr PNode → Nat
  | .ok _ => 0
  | .error .err => 1
  | .error .panic => 2
example : outcome (decodeNode 9 [0xc2, 0x80, 0x01]) = 2 := by decide
example : outcome (decodeNode 9 [0xc3, 0x20, 0x01, 0x02]) = 1 := by decide
example : outcome (decodeNode 9 [0xc2, 0x20, 0x01]) = 0 := by decide
-- the panic outcomes of the workers are real (non-canonical positions): they are not totalised away
example : get (.full emptyCs) [] = none := rfl
example : insert (.short [1, 2] (.value [9])) [1] [7] = none := rfl

end Aqv.Props.C10
