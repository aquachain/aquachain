/-
  C07 — EVM execution is total, gas-bounded and sandboxed for every program.

  Model: Aqv.Model.Vm (generic metered machine over the GENERATED instruction tables Gen.VmFlags; Run's loop order, all gas
  and memory-size functions, callGas, the five call wrappers with snapshot/revert, depth check, stipend, precompile
  dispatch). "Every program" = every oracle `o : Nat → StepIn W` (opcode, operand values, StateDB answers, effects of state
  mutations at every step of every frame), every world type `W`, every gas budget < 2^64, every instruction-set epoch and
  both gas tables. Fuel is a model artefact; `run_terminates` shows it is never exhausted when it exceeds the gas budget.

  Most theorems are followed by an `example` exhibiting their hypotheses on a non-trivial instance.
-/
import Aqv.Lemmas.VmMain
import Aqv.Lemmas.VmMemAccess
import Aqv.Lemmas.VmPrecompile
import Aqv.Lemmas.VmConv
import Aqv.Lemmas.Translated.VmNat
import Aqv.Lemmas.Translated.VmPre
namespace Aqv.Props.C07
open Aqv.Vm Aqv.Gen.VmFlags

variable {W V : Type}

/-! ## facts about the generated tables (re-decided against core/vm/jump_table.go on every run) -/

/-- `writes_flag_complete`: every opcode whose execute function (opSstore, makeLog, opSuicide, opCreate) or gas function
    (gasSStore, gasSuicide: AddRefund) modifies the StateDB directly carries the `writes` flag enforceRestrictions tests.
    (Value-bearing CALL is tested separately by enforceRestrictions and covered by `static_no_write`.) -/
theorem writes_flag_complete :
    ∀ ep : Epoch, ∀ f ∈ table ep,
      (execWrites f.execFn || f.execFn == .opCreate || gasTouchesState f.gasFn) = true → f.writes = true :=
  fun _ _ hf => (table_opOK hf).writes

example : ∃ f ∈ table .spring, (execWrites f.execFn || f.execFn == .opCreate || gasTouchesState f.gasFn) = true ∧ f.op = 0x55 := by decide

/-- every opcode with a memorySize function has a gas function that calls memoryGasCost (nothing resizes memory for free) -/
theorem memory_resizing_ops_charge_memory :
    ∀ ep : Epoch, ∀ f ∈ table ep, f.memFn ≠ .none → gasChargesMem f.gasFn = true :=
  fun _ _ hf => (table_opOK hf).chargesMem

example : ∃ f ∈ table .byzantium, f.memFn ≠ .none ∧ f.op = 0x3e := by decide

/-- `stack_reads_within_validated_height`: in every instruction set, the stack height an opcode's memory-size function, gas
    function and execute function need on entry — GENERATED from the source of core/vm by a go/ssa pass (go/extract/cmd/vmaccess:
    pops, peeks, Back(n), dup(n), swap(n), stack.data[len-k] on every path; closures instantiated with the constant arguments
    of their maker; makeLog's counted loop) — is at most the height validateStack guarantees (`pops`, probed from the compiled
    table). So `st.data[len-1-n]`, `pop()` and `peek()` never index out of range. -/
theorem stack_reads_within_validated_height :
    ∀ ep : Epoch, ∀ f ∈ table ep, f.memReads ≤ f.pops ∧ f.gasReads ≤ f.pops ∧ f.execReads ≤ f.pops :=
  fun _ _ hf => (table_opOK hf).reads

-- CALL needs 7 / 7 / 3 (execute / memory-size / gas function), LOG4 needs 6, SWAP16 needs 17: exactly their arities
set_option maxRecDepth 4096 in
example : (table .spring).any (fun f => f.op == 0xf1 && f.execReads == 7 && f.memReads == 7 && f.gasReads == 3 && f.pops == 7) = true := by decide
set_option maxRecDepth 4096 in
example : (table .spring).any (fun f => f.op == 0xa4 && f.execReads == 6 && f.pops == 6) = true := by decide
set_option maxRecDepth 4096 in
example : (table .spring).any (fun f => f.op == 0x9f && f.execReads == 17 && f.pops == 17) = true := by decide

/-- `mem_access_in_bounds`: in every instruction set, for every operand values, each memory range `(offset, length)` with
    length > 0 that the execute function of an opcode dereferences — GENERATED from the source by vmaccess: every call of
    memory.Get / GetPtr / Set and every element access memory.store[i], with offset and size expressed in the entry stack
    operands — ends at or below the size computed by the opcode's memorySize function, to which Run has resized the memory
    (after charging for it) before `execute` runs. -/
theorem mem_access_in_bounds (ep : Epoch) (f : OpF) (hf : f ∈ table ep) (args : List Nat) (memorySize : Nat)
    (hms : memorySizeOf (memReq f.memFn args) = .ok memorySize) :
    ∀ r ∈ f.execRanges, 0 < r.2.eval args → r.1.eval args + r.2.eval args ≤ memorySize :=
  exec_ranges_covered hf args memorySize hms

-- CALL with input [0x40, 0x40+0x20) and output [0x100, 0x100+0x40): memorySize = 0x140 covers both generated ranges
example : memorySizeOf (memReq .memoryCall [0, 0, 0, 0x40, 0x20, 0x100, 0x40]) = .ok 0x140 := rfl
set_option maxRecDepth 4096 in
example : (table .spring).any (fun f => f.op == 0xf1 && f.execRanges == [(.back 3 0, .back 4 0), (.back 5 0, .back 6 0)]) = true := by decide
set_option maxRecDepth 4096 in
example : (table .spring).any (fun f => f.op == 0x53 && f.execRanges == [(.back 0 0, .const 1)]) = true := by decide

instance (env : Env) : Decidable (EnvOK env) := by unfold EnvOK; infer_instance

/-- the rule sets the harness runs (and `Gen.VmFlags.configs` records) satisfy the hypothesis `EnvOK` of the theorems below -/
theorem generated_configs_envOK :
    ∀ c ∈ configs, ∀ e ∈ c.sets, EnvOK ⟨e, c.gasTable, c.homestead, c.eip150, c.eip158, c.byzantium⟩ := by
  decide

/-! ## total: every non-halting step costs gas, hence the interpreter terminates -/

/-- `nonhalting_costs_gas`: in every instruction set, under every gas table, for every stack / memory / state, an opcode
    after which Run's loop continues (neither `halts` nor `reverts`) costs at least 1 gas. -/
theorem nonhalting_costs_gas (env : Env) (hE : EnvOK env) (f : OpF) (hf : f ∈ table env.ep)
    (hh : f.halts = false) (hr : f.reverts = false) (i : StepIn W) (contractGas : Nat) (m : Mem) (memorySize : Nat) (out : GasOut)
    (hg : gasCost env f i contractGas m memorySize = some out) : 1 ≤ out.cost :=
  continuing_costs hE (table_opOK hf) hg hh hr

def envSpring : Env := ⟨.spring, gasTableHF1, true, true, true, true⟩
def envSpringPre7 : Env := ⟨.spring, gasTableHF1, true, true, false, false⟩
def envHomestead : Env := ⟨.homestead, gasTableHomestead, true, true, false, false⟩
def envFrontierRules : Env := ⟨.frontier, gasTableHomestead, false, true, false, false⟩

theorem envSpring_ok : EnvOK envSpring := by decide
theorem envHomestead_ok : EnvOK envHomestead := by decide

example : ∃ f ∈ table envSpring.ep, f.halts = false ∧ f.reverts = false ∧ f.op = 0x5b ∧
    gasCost envSpring f (⟨0x5b, [], 2, true, false, false, id, false, id, true, none, false, false, 0, id, id, id, false, id⟩ : StepIn Nat)
      100 ⟨0, 0⟩ 0 = some ⟨1, ⟨0, 0⟩, 0⟩ := by decide

theorem EvOK.depth_le {env : Env} {e : Event} (h : EvOK env e) : e.depth ≤ 1025 := by
  simpa [Spec.depthOk, consts_ok.depth] using h.2.1

/-- `run_terminates`: the fuelled interpreter never runs out of fuel when the fuel exceeds the frame's gas — for every
    program (oracle), frame state, world and call depth. (Fuel bounds the height of the call/continuation tree; each
    loop iteration and each callee gets strictly less gas than its parent had.) -/
theorem run_terminates (env : Env) (hE : EnvOK env) (o : Nat → StepIn W) (fuel : Nat) (fr : Frame) (db : Db W) (t : Nat)
    (hfr : FrameInv fr) (hw : db.WF) (hfuel : fr.gas < fuel) : (run env o fuel fr db t).out ≠ .outOfFuel :=
  (frame_good hE o fuel t hfr).fuel_ok hfuel

/-- termination of the five call wrappers (Call, CallCode, DelegateCall, StaticCall by `k`; Create below) -/
theorem call_terminates (env : Env) (hE : EnvOK env) (o : Nat → StepIn W) (fuel : Nat) (k : CallKind) (i : StepIn W)
    (depth : Nat) (ro : Bool) (gas : Nat) (valueNZ : Bool) (db : Db W) (t : Nat) (hw : db.WF) (hg : gas < two64)
    (hfuel : gas < fuel) : (callWrap env (run env o fuel) k i depth ro gas valueNZ db t).out ≠ .outOfFuel :=
  (call_good hE o fuel hg).fuel_ok hfuel

theorem create_terminates (env : Env) (hE : EnvOK env) (o : Nat → StepIn W) (fuel : Nat) (i : StepIn W)
    (depth : Nat) (ro : Bool) (gas : Nat) (db : Db W) (t : Nat) (hw : db.WF) (hg : gas < two64)
    (hfuel : gas < fuel) : (createWrap env (run env o fuel) i depth ro gas db t).out ≠ .outOfFuel :=
  (create_good hE o fuel hg).fuel_ok hfuel

/-! a small program as an oracle (world = a counter of state mutations):
    PUSH1 PUSH1 MSTORE(0) PUSH1 PUSH1 SSTORE(0→x) then: the callee of step 0 exists and has code -/
def oStore (last : Nat) : Nat → StepIn Nat := fun t =>
  match t with
  | 0 => { op := 0, args := [] }
  | 1 => { op := 0x60, args := [] }
  | 2 => { op := 0x60, args := [] }
  | 3 => { op := 0x52, args := [0] }
  | 4 => { op := 0x60, args := [] }
  | 5 => { op := 0x60, args := [] }
  | 6 => { op := 0x55, args := [], sstoreKind := 0, eff := fun w => w + 1 }
  | 7 => { op := 0x60, args := [] }
  | 8 => { op := 0x60, args := [] }
  | _ => { op := last, args := [0, 0] }

def db0 : Db Nat := ⟨0, [], 0⟩
theorem db0_wf : db0.WF := by intro p hp; cases hp

-- the program runs to completion (STOP) on 30000 gas, uses 20024 of them, grows memory to 32 bytes and writes once
example : (topCall envSpring (oStore 0x00) 30001 .call 30000 false db0).out = .ok := by decide
example : (topCall envSpring (oStore 0x00) 30001 .call 30000 false db0).gas = 9976 := by decide
example : (topCall envSpring (oStore 0x00) 30001 .call 30000 false db0).db.cur = 1 := by decide
example : ((topCall envSpring (oStore 0x00) 30001 .call 30000 false db0).trace.map (·.memLen)) = [0, 0, 32, 32, 32, 32, 32, 32, 32] := by decide
-- with too little fuel the model does report exhaustion (so `run_terminates` is not vacuous)
example : (topCall envSpring (oStore 0x00) 3 .call 30000 false db0).out = .outOfFuel := by decide

-- the hypotheses of the theorems are jointly satisfiable on this instance (EnvOK, FrameInv, WF, fuel bound)
example : (run envSpring (oStore 0x00) 30001 (newFrame 30000 1 false) db0 1).out ≠ .outOfFuel :=
  run_terminates envSpring envSpring_ok (oStore 0x00) 30001 (newFrame 30000 1 false) db0 1
    (FrameInv.new (by decide) (by decide)) db0_wf (by decide)
example : (topCall envSpring (oStore 0x00) 30001 .call 30000 false db0).out ≠ .outOfFuel :=
  call_terminates envSpring envSpring_ok (oStore 0x00) 30001 .call _ 0 false 30000 false db0 1 db0_wf (by decide) (by decide)
example : (topCreate envHomestead (oStore 0x00) 30001 30000 db0).out ≠ .outOfFuel :=
  create_terminates envHomestead envHomestead_ok (oStore 0x00) 30001 _ 0 false 30000 db0 1 db0_wf (by decide) (by decide)

/-! ## gas-bounded -/

/-- `gas_monotone`: from ANY state of a frame (hence from every intermediate state, since the rest of a run is itself a run)
    the gas the frame ends with is at most the gas it has now: contract.Gas only decreases, except by a callee's leftover,
    and that never lifts it above the value before the call step. -/
theorem gas_monotone (env : Env) (hE : EnvOK env) (o : Nat → StepIn W) (fuel : Nat) (fr : Frame) (db : Db W) (t : Nat)
    (hfr : FrameInv fr) (hw : db.WF) : (run env o fuel fr db t).gas ≤ fr.gas :=
  (frame_good hE o fuel t hfr).gas_le

/-- `leftover_le_given` for Call / CallCode / DelegateCall / StaticCall at any depth, for any callee (code, precompile,
    empty, non-existent) -/
theorem leftover_le_given_call (env : Env) (hE : EnvOK env) (o : Nat → StepIn W) (fuel : Nat) (k : CallKind) (i : StepIn W)
    (depth : Nat) (ro : Bool) (gas : Nat) (valueNZ : Bool) (db : Db W) (t : Nat) (hw : db.WF) (hg : gas < two64) :
    (callWrap env (run env o fuel) k i depth ro gas valueNZ db t).gas ≤ gas :=
  (call_good hE o fuel hg).gas_le

/-- `leftover_le_given` for Create -/
theorem leftover_le_given_create (env : Env) (hE : EnvOK env) (o : Nat → StepIn W) (fuel : Nat) (i : StepIn W)
    (depth : Nat) (ro : Bool) (gas : Nat) (db : Db W) (t : Nat) (hw : db.WF) (hg : gas < two64) :
    (createWrap env (run env o fuel) i depth ro gas db t).gas ≤ gas :=
  (create_good hE o fuel hg).gas_le

example : (topCall envSpring (oStore 0xfe) 30001 .call 30000 false db0).gas = 0 := by decide

/-- 63/64 rule: with either generated gas table a CALL-family gas function forwards at most all but one 64th of what is
    left after the call's own cost -/
theorem call_forwards_at_most_63_64 (gt : GasTable) (hgt : gt ∈ gasTables) (availableGas base callCost tmp : Nat)
    (hav : availableGas < two64) (hb : base ≤ availableGas) (h : callGas gt availableGas base callCost = some tmp) :
    tmp ≤ (availableGas - base) - (availableGas - base) / 64 :=
  callGas_le (gasTables_ok gt hgt).1 hav hb h

example : callGas gasTableHF1 6400 0 (2 ^ 256 - 1) = some 6300 := by decide

/-! ## memory is paid for -/

/-- `memory_paid`: at every executed step of every frame (any depth) of a run, with w = len(memory)/32 after Resize,
    3·w + w²/512 + gas left in the frame ≤ gas the frame was given — the memory held is bounded by the gas spent. -/
theorem memory_paid (env : Env) (hE : EnvOK env) (o : Nat → StepIn W) (fuel : Nat) (fr : Frame) (db : Db W) (t : Nat)
    (hfr : FrameInv fr) (hw : db.WF) : ∀ e ∈ (run env o fuel fr db t).trace, Spec.memoryPaid e = true :=
  fun e he => ((frame_good hE o fuel t hfr).events e he).1

theorem memory_paid_call (env : Env) (hE : EnvOK env) (o : Nat → StepIn W) (fuel : Nat) (k : CallKind) (i : StepIn W)
    (depth : Nat) (ro : Bool) (gas : Nat) (valueNZ : Bool) (db : Db W) (t : Nat) (hw : db.WF) (hg : gas < two64) :
    ∀ e ∈ (callWrap env (run env o fuel) k i depth ro gas valueNZ db t).trace, Spec.memoryPaid e = true :=
  fun e he => ((call_good hE o fuel hg).events e he).1

theorem memory_paid_create (env : Env) (hE : EnvOK env) (o : Nat → StepIn W) (fuel : Nat) (i : StepIn W)
    (depth : Nat) (ro : Bool) (gas : Nat) (db : Db W) (t : Nat) (hw : db.WF) (hg : gas < two64) :
    ∀ e ∈ (createWrap env (run env o fuel) i depth ro gas db t).trace, Spec.memoryPaid e = true :=
  fun e he => ((create_good hE o fuel hg).events e he).1

-- the Spec check is not trivially true: a step record with 64 KiB of memory and only 100 gas spent is rejected
example : Spec.memoryPaid ⟨1, 0x52, 1000, 100, 65536, 2, 1000, false, false⟩ = false := by decide
example : Spec.memoryPaid ⟨1, 0x52, 30000 - 6, 6, 32, 2, 30000, false, false⟩ = true := by decide

/-! ## failing frames leave the world as it was -/

/-- `frame_failure_reverts` (Call, CallCode, DelegateCall, StaticCall): if the wrapper returns an error
    (errExecutionReverted or any other) the world is exactly the world at entry — whatever the callee and its callees did.
    Uses only the revision discipline of the wrappers (every RevertToSnapshot finds its id; proved, not assumed). -/
theorem frame_failure_reverts_call (env : Env) (hE : EnvOK env) (o : Nat → StepIn W) (fuel : Nat) (k : CallKind) (i : StepIn W)
    (depth : Nat) (ro : Bool) (gas : Nat) (valueNZ : Bool) (db : Db W) (t : Nat) (hw : db.WF) (hg : gas < two64)
    (herr : (callWrap env (run env o fuel) k i depth ro gas valueNZ db t).out.isErr = true) :
    (callWrap env (run env o fuel) k i depth ro gas valueNZ db t).db.cur = db.cur :=
  (call_db env o fuel k i depth ro gas valueNZ db t).reverts trivial herr

-- SSTORE executes (world 0 → 1), then INVALID: the frame fails and the world is 0 again
example : (topCall envSpring (oStore 0xfe) 30001 .call 30000 false db0).out = .fail .invalidOpcode := by decide
example : (topCall envSpring (oStore 0xfe) 30001 .call 30000 false db0).db.cur = 0 := by decide
-- same with REVERT: reverted, but the remaining gas is kept
example : (topCall envSpring (oStore 0xfd) 30001 .call 30000 false db0).out = .revert := by decide
example : (topCall envSpring (oStore 0xfd) 30001 .call 30000 false db0).db.cur = 0 ∧
          (topCall envSpring (oStore 0xfd) 30001 .call 30000 false db0).gas = 9976 := by decide

/-- `frame_failure_reverts` for Create, with `create_failure_keeps_nonce`: under Homestead rules (every built-in chain
    configuration has HomesteadBlock = 0) a failing Create leaves the world at entry, plus the creator's nonce increment —
    the latter exactly when the failure is not the depth or balance check, which precede the increment. -/
theorem frame_failure_reverts_create (env : Env) (hE : EnvOK env) (hH : env.homestead = true) (o : Nat → StepIn W) (fuel : Nat)
    (i : StepIn W) (depth : Nat) (ro : Bool) (gas : Nat) (db : Db W) (t : Nat) (hw : db.WF) (hg : gas < two64)
    (herr : (createWrap env (run env o fuel) i depth ro gas db t).out.isErr = true) :
    (createWrap env (run env o fuel) i depth ro gas db t).db.cur =
      (if depth > callCreateDepth ∨ i.canTransfer = false then db.cur else i.nonceEff db.cur) :=
  (create_db env o fuel i depth ro gas db t).reverts hH herr

/-- init code: PUSH1 PUSH1 SSTORE INVALID; the creator's nonce bump is +100, account creation/transfer +10, SSTORE +1 -/
def oCreate (last : Nat) : Nat → StepIn Nat := fun t =>
  match t with
  | 0 => { op := 0, args := [], nonceEff := fun w => w + 100, xferEff := fun w => w + 10, setCodeEff := fun w => w + 1000 }
  | 1 => { op := 0x60, args := [] }
  | 2 => { op := 0x60, args := [] }
  | 3 => { op := 0x55, args := [], sstoreKind := 0, eff := fun w => w + 1 }
  | 4 => { op := 0x60, args := [] }
  | 5 => { op := 0x60, args := [] }
  | _ => { op := last, args := [0, 40] }

example : (topCreate envSpring (oCreate 0xfe) 100000 99999 db0).out = .fail .invalidOpcode ∧
          (topCreate envSpring (oCreate 0xfe) 100000 99999 db0).db.cur = 100 := by decide
-- successful creation: RETURN(0, 40) deploys 40 bytes: all effects stay
example : (topCreate envSpring (oCreate 0xf3) 100000 99999 db0).out = .ok ∧
          (topCreate envSpring (oCreate 0xf3) 100000 99999 db0).db.cur = 1111 := by decide
-- code deposit unaffordable (40·200 gas): ErrCodeStoreOutOfGas, reverted, nonce kept
example : (topCreate envSpring (oCreate 0xf3) 100000 22000 db0).out = .fail .codeStoreOutOfGas ∧
          (topCreate envSpring (oCreate 0xf3) 100000 22000 db0).db.cur = 100 := by decide

/-- Gap, recorded not flagged: the Homestead hypothesis is necessary. Under Frontier rules (IsHomestead = false, outside the
    property's three epochs and unreachable with the built-in configurations) `Create` returns ErrCodeStoreOutOfGas WITHOUT
    reverting: account creation, transfer and the init code's writes stay. -/
theorem frontier_code_store_failure_witness :
    (topCreate envFrontierRules (oCreate 0xf3) 100000 22000 db0).out = .fail .codeStoreOutOfGas ∧
    (topCreate envFrontierRules (oCreate 0xf3) 100000 22000 db0).db.cur = 111 := by decide

/-! ## static context -/

/-- `static_no_write` (step level): under Byzantium rules no step that executes in read-only mode is a state-modifying
    opcode (SSTORE, LOGn, SELFDESTRUCT, CREATE — by `writes_flag_complete`) or a value-bearing CALL. For every program, at
    every depth. -/
theorem static_no_write (env : Env) (hE : EnvOK env) (o : Nat → StepIn W) (fuel : Nat) (k : CallKind) (i : StepIn W)
    (depth : Nat) (ro : Bool) (gas : Nat) (valueNZ : Bool) (db : Db W) (t : Nat) (hw : db.WF) (hg : gas < two64) :
    ∀ e ∈ (callWrap env (run env o fuel) k i depth ro gas valueNZ db t).trace,
      env.byzantium = true → e.ro = true → e.writesWorld = false := by
  intro e he hb hro
  simpa [Spec.staticOk, hb, hro] using ((call_good hE o fuel hg).events e he).2.2

/-- `static_no_write` (world level): under Byzantium rules a StaticCall frame — and any call made from read-only context
    that does not itself carry value — returns with every observation `view` of the world unchanged, provided the
    zero-value Call plumbing (CreateAccount of a non-existent address, Transfer of 0: "touch") is invisible to `view`
    (balance, nonce, code, storage and logs are such a view; account existence is not). -/
theorem static_call_preserves_view (env : Env) (hE : EnvOK env) (hB : env.byzantium = true) (o : Nat → StepIn W) (view : W → V)
    (hN : ∀ t w, view ((o t).neutralEff w) = view w) (fuel : Nat) (k : CallKind) (i : StepIn W)
    (hNi : ∀ w, view (i.neutralEff w) = view w)
    (depth : Nat) (ro : Bool) (gas : Nat) (valueNZ : Bool) (db : Db W) (t : Nat) (hw : db.WF) (hg : gas < two64)
    (hst : (ro || k == .static) = true) (hnv : (k == .call && valueNZ) = false) :
    view (callWrap env (run env o fuel) k i depth ro gas valueNZ db t).db.cur = view db.cur :=
  call_view env hB o view hN fuel k i hNi depth ro gas valueNZ db t hst hnv

-- a top-level StaticCall into the storing program: SSTORE is refused, nothing changes
example : (topCall envSpring (oStore 0x00) 30001 .static 30000 false db0).out = .fail .writeProtection ∧
          (topCall envSpring (oStore 0x00) 30001 .static 30000 false db0).db.cur = 0 := by decide

/-- Gap, recorded not flagged (DESIGN §4 C07): between HF5 and HF7 the instruction set already contains STATICCALL while
    `IsByzantium` is false, so enforceRestrictions does nothing: a static frame writes. The property speaks of static calls
    "under Byzantium rules"; the theorems above carry that hypothesis and it is necessary. -/
theorem static_unenforced_without_byzantium_witness :
    (topCall envSpringPre7 (oStore 0x00) 30001 .static 30000 false db0).out = .ok ∧
    (topCall envSpringPre7 (oStore 0x00) 30001 .static 30000 false db0).db.cur = 1 := by decide

/-- `static_subtree_readonly`: no state-changing operation executes under a STATICCALL at any depth. Every step executed
    anywhere below a StaticCall frame — in the frame itself and in every frame it reaches through any nesting of CALL, CALLCODE,
    DELEGATECALL, STATICCALL and CREATE — runs with interpreter.readOnly = true (the flag is inherited by every callee and
    survives every return: `Sound.ro_events`, by the induction over the call tree), and therefore, under Byzantium rules, is neither SSTORE,
    LOGn, SELFDESTRUCT, CREATE nor a value-bearing CALL. For every program, caller flag, depth and gas. -/
theorem static_subtree_readonly (env : Env) (hE : EnvOK env) (o : Nat → StepIn W) (fuel : Nat) (i : StepIn W)
    (depth : Nat) (ro : Bool) (gas : Nat) (valueNZ : Bool) (db : Db W) (t : Nat) (hw : db.WF) (hg : gas < two64) :
    ∀ e ∈ (callWrap env (run env o fuel) .static i depth ro gas valueNZ db t).trace,
      e.ro = true ∧ (env.byzantium = true → e.writesWorld = false) := by
  intro e he
  have hro := (callWrap_sound (run_sound hE o fuel) hg).ro_events (by simp) e he
  exact ⟨hro, fun hb => static_no_write env hE o fuel .static i depth ro gas valueNZ db t hw hg e he hb hro⟩

/-- StaticCall → 7×PUSH, CALL (value 0) → callee: PUSH PUSH SSTORE; then the caller STOPs -/
def oNested : Nat → StepIn Nat := fun t =>
  match t with
  | 0 => { op := 0, args := [] }
  | 8 => { op := 0xf1, args := [50000, 0xbb, 0, 0, 0, 0, 0] }
  | 11 => { op := 0x55, args := [], sstoreKind := 0, eff := fun w => w + 1 }
  | n => if n < 12 then { op := 0x60, args := [] } else { op := 0x00, args := [] }

-- the SSTORE two frames below the StaticCall is refused; both frames ran read-only; the world is untouched
example : ((topCall envSpring oNested 100001 .static 100000 false db0).trace.map (fun e => (e.depth, e.op, e.ro))) =
    [(1, 0x60, true), (1, 0x60, true), (1, 0x60, true), (1, 0x60, true), (1, 0x60, true), (1, 0x60, true), (1, 0x60, true),
     (1, 0xf1, true), (2, 0x60, true), (2, 0x60, true), (1, 0x00, true)] := by decide
example : (topCall envSpring oNested 100001 .static 100000 false db0).out = .ok ∧
          (topCall envSpring oNested 100001 .static 100000 false db0).db.cur = 0 := by decide
-- the same program entered by a plain Call writes (so the theorem is about the static subtree, not vacuous)
set_option maxRecDepth 8192 in
example : (topCall envSpring oNested 100001 .call 100000 false db0).db.cur = 1 := by decide

/-! ## depth -/

/-- `depth_le_1024`: every frame that executes a step runs at evm.depth ≤ CallCreateDepth + 1 = 1025, i.e. at most 1024
    frames are nested below the outermost one. -/
theorem depth_le_1024 (env : Env) (hE : EnvOK env) (o : Nat → StepIn W) (fuel : Nat) (k : CallKind) (i : StepIn W)
    (depth : Nat) (ro : Bool) (gas : Nat) (valueNZ : Bool) (db : Db W) (t : Nat) (hw : db.WF) (hg : gas < two64) :
    callCreateDepth = 1024 ∧
    ∀ e ∈ (callWrap env (run env o fuel) k i depth ro gas valueNZ db t).trace, e.depth ≤ 1025 :=
  ⟨consts_ok.depth, fun e he => EvOK.depth_le ((call_good hE o fuel hg).events e he)⟩

theorem depth_le_1024_create (env : Env) (hE : EnvOK env) (o : Nat → StepIn W) (fuel : Nat) (i : StepIn W)
    (depth : Nat) (ro : Bool) (gas : Nat) (db : Db W) (t : Nat) (hw : db.WF) (hg : gas < two64) :
    ∀ e ∈ (createWrap env (run env o fuel) i depth ro gas db t).trace, e.depth ≤ 1025 :=
  fun e he => EvOK.depth_le ((create_good hE o fuel hg).events e he)

-- a call attempted from a frame at depth 1025 is refused with ErrDepth and returns all its gas
example : (callWrap envSpring (run envSpring (oStore 0) 10) .call (oStore 0 0) 1025 false 500 false db0 1).out = .fail .depth ∧
          (callWrap envSpring (run envSpring (oStore 0) 10) .call (oStore 0 0) 1025 false 500 false db0 1).gas = 500 := by decide
example : ((topCall envSpring (oStore 0x00) 30001 .call 30000 false db0).trace.map (·.depth)) = [1, 1, 1, 1, 1, 1, 1, 1, 1] := by decide

/-! ## no modelled panic -/

/-- `no_modelled_panic` (revision ids): RevertToSnapshot — which panics on an unknown revision id — is always applied to a live
    id by the five wrappers, for every program and nesting. -/
theorem no_modelled_panic (env : Env) (hE : EnvOK env) (o : Nat → StepIn W) (fuel : Nat) (k : CallKind) (i : StepIn W)
    (depth : Nat) (ro : Bool) (gas : Nat) (valueNZ : Bool) (db : Db W) (t : Nat) (hw : db.WF) (hg : gas < two64) :
    (callWrap env (run env o fuel) k i depth ro gas valueNZ db t).out ≠ .panic ∧
    (createWrap env (run env o fuel) i depth ro gas db t).out ≠ .panic :=
  ⟨(call_good hE o fuel hg).no_panic, (create_good hE o fuel hg).no_panic⟩

-- the panic outcome is reachable in the model when the discipline is broken: reverting to an id that was never issued
example : (finishCall (⟨.fail .outOfGas, 5, db0, 0, 0, []⟩ : Res Nat) 7).out = .panic := by decide

/-- `no_modelled_panic` (stack and memory accesses): whenever an iteration of Run gets past validateStack, the restrictions,
    the memory-size computation and UseGas (`pre … = .go`), in any frame of any program: every stack access of the
    memory-size function, the gas function and the execute function stays within the current stack, and every memory range
    the execute function dereferences (length > 0) lies inside the memory as resized by Run. Depths and ranges are the
    generated ones (derived from the source of core/vm on every run), so no hand transcription is involved. -/
theorem no_modelled_panic_stack_memory (env : Env) (i : StepIn W) (fr : Frame) (db : Db W) (t : Nat)
    (f : OpF) (g : GasOut) (memorySize : Nat) (db1 : Db W) (hpre : pre env i fr db t = .go f g memorySize db1) :
    f.memReads ≤ fr.stack ∧ f.gasReads ≤ fr.stack ∧ f.execReads ≤ fr.stack ∧
    ∀ r ∈ f.execRanges, 0 < r.2.eval i.args → r.1.eval i.args + r.2.eval i.args ≤ (paidFrame fr f g memorySize).mem.len := by
  obtain ⟨hl, hst, _, hms, _, _, _⟩ := pre_go hpre
  obtain ⟨h1, h2, h3⟩ := stack_reads_within_validated_height env.ep f (lookup_mem hl).1
  refine ⟨by omega, by omega, by omega, fun r hr hpos => ?_⟩
  have hcov := exec_ranges_covered (lookup_mem hl).1 i.args memorySize hms r hr hpos
  have hlen : memorySize ≤ (paidFrame fr f g memorySize).mem.len := by
    simp only [paidFrame]
    split <;> omega
  omega

/-- `mem_operand_conversions_exact_partial`: the big.Int → int64/uint64 conversions of the operands that feed the generated
    memory ranges are exact whenever the range is dereferenced (length > 0): offset + length ≤ memorySize ≤ 0xffffffffe0 < 2^63,
    because every opcode with a memory-size function has a gas function that went through memoryGasCost.
    PARTIAL: this theorem covers the memory operands; all other conversions of the execute functions (opJump's pos, getDataBig's
    slices and RightPadBytes size, return-data slicing, shifts, BYTE, SIGNEXTEND, BLOCKHASH) are classified by
    `conversions_guarded` below. NOT derived, by name: makePush's slicing of contract.Code (plain int arithmetic with explicit
    min-clamps, no big.Int conversion), the polarity of a dominating check (which branch the conversion sits on), the bodies
    of common.RightPadBytes/LeftPadBytes/PaddedBigBytes, destinations.has/codeBitmap, and contracts.go (precompile bodies) — for
    these the harness' recover() on the real code is the only check. -/
theorem mem_operand_conversions_exact_partial (env : Env) (i : StepIn W) (fr : Frame) (db : Db W) (t : Nat)
    (f : OpF) (g : GasOut) (memorySize : Nat) (db1 : Db W) (hpre : pre env i fr db t = .go f g memorySize db1) :
    ∀ r ∈ f.execRanges, 0 < r.2.eval i.args → r.1.eval i.args + r.2.eval i.args ≤ 0xffffffffe0 := by
  obtain ⟨hl, _, _, hms, hg, _, _⟩ := pre_go hpre
  intro r hr hpos
  have hcov := exec_ranges_covered (lookup_mem hl).1 i.args memorySize hms r hr hpos
  obtain ⟨fee, hmg, _⟩ := step_chargesMem hl hms hg
  have := memoryGasCost_some_bound hmg
  omega

-- MSTORE at offset 0x40 in a fresh frame passes `pre` with memorySize 0x60: the hypotheses of the two theorems above hold
example : ∃ f g db1, pre envSpring (⟨0x52, [0x40, 7], 2, true, false, false, id, false, id, true, none, false, false, 0, id, id, id, false, id⟩ : StepIn Nat)
    ⟨1000, 2, ⟨0, 0⟩, 1000, 1, false⟩ db0 0 = .go f g 0x60 db1 ∧ f.execRanges = [(.back 0 0, .const 32)] ∧
    (paidFrame ⟨1000, 2, ⟨0, 0⟩, 1000, 1, false⟩ f g 0x60).mem.len = 0x60 := by
  refine ⟨_, _, _, rfl, rfl, rfl⟩

/-! ## big.Int → machine-integer conversions of the execute functions -/

/-- `conversions_guarded`: every `(*big.Int).Uint64()` / `Int64()` call in every execute function of core/vm (and in the helpers
    they hand operands to: getDataBig, bigUint64, callGas) — GENERATED from the source by the go/ssa pass vmaccess: receiver
    (entry operand Back(k) / big.Int computed from operands / BigMin result / helper parameter / other), what the result feeds,
    and the dominating check — falls in one of the classes of `convOK`; every `size` handed to getDataBig is big32 or the
    size operand of a generated memory range of the same function (`helperOK`); no function was left unanalysed. By op:
    * opSha3, opMload, opMstore, opMstore8 (offset), opCallDataCopy/opCodeCopy/opExtCodeCopy/opReturnDataCopy (memOffset, length),
      opCreate, opCall/opCallCode/opDelegateCall/opStaticCall, opReturn, opRevert, makeLog: feed Memory accessors only — class B,
      bounded and exact by `mem_access_in_bounds` / `mem_operand_conversions_exact_partial` (the memory-size check of Run);
    * opMstore8 (value `& 0xff`), makeLog (evm.BlockNumber → Log.BlockNumber): stored as data — class B;
    * opJump / opJumpi: `pos.Uint64()` → `*pc` and → contract.GetOp (bounds-checked itself): dominated by destinations.has(pos),
      which rejects BitLen ≥ 63 — class A;
    * opReturnDataCopy: `end.Uint64()` (slice bound, comparison) dominated by `end.BitLen() > 64`; `dataOffset.Uint64()` (slice
      bound) and `length.Uint64()` are addends of that checked sum — class A (`sum`);
    * opBlockhash (Cmp window), opByte (Cmp 32), opSignExtend (Cmp 31), opSHL/opSHR/opSAR (Cmp 256): class A;
    * getDataBig: both slice bounds are results of math.BigMin with len(data) — class A (`min`); `size.Uint64()` → RightPadBytes:
      class D, per call site: opCallDataLoad passes big32, the three copy opcodes pass their `length` operand, which is the size
      of their generated memory range;
    * bigUint64: returns `v.BitLen() > 64` with the value (class C; its callers — Run and the gas functions — test the flag: modelled
      as the `≥ 2^64` checks of `memorySizeOf` / `gasCost`, tied by trace replay); callGas: dominated by BitLen — class A. -/
theorem conversions_guarded :
    convs.all convOK = true ∧ helperCalls.all (fun h => helperOK h && helperKnown h) = true ∧ convUnanalysed = [] :=
  ⟨convs_ok, helpers_ok, conv_all_analysed⟩

-- the table is not trivial: a slice bound from a bare operand with no check would be rejected
example : convOK ⟨"opX", "Uint64", .back 1, [.slice], .none, "", ""⟩ = false := by decide
-- … and so would one whose only "check" compares the already truncated value
example : convOK ⟨"opX", "Uint64", .back 1, [.slice], .direct, "Uint64", ""⟩ = false := by decide
example : convs.any (fun c => c.fn == "opReturnDataCopy" && c.src == .back 1 && c.uses == [.slice] && c.guard == .sum) = true := by decide
example : convs.any (fun c => c.fn == "opJump" && c.uses == [.pc] && c.guard == .direct) = true := by decide
example : helperCalls.any (fun h => h.fn == "opCodeCopy" && h.helper == "getDataBig" && h.arg == 2 && h.opnd == some 2) = true := by decide

/-! ## precompiles: buffers materialised from announced lengths are paid for -/

/-- `modexp_alloc_bounded_by_gas`: for every input byte string and every gas budget below MaxUint64 under which
    RunPrecompiledContract gets past `UseGas(RequiredGas(input))`, the bytes bigModExp.Run materialises from the three ANNOUNCED
    lengths of the header (the getData buffers, each right-padded to its announced uint64 size, and the LeftPadBytes output;
    nothing on the `baseLen == 0 && modLen == 0` early return) are at most 64·(gas charged + 1) + 32. The early return is
    essential: with base and modulus length 0 the charged gas is 0 whatever exponent length is announced. -/
theorem modexp_alloc_bounded_by_gas (input : Aqv.Bytes) (gas : Nat) (hgas : gas < Pre.two64 - 1)
    (hrun : (Pre.runPrecompile 5 input gas).1 = true) :
    Pre.modexpRunBuffers (Pre.hdrWord input 0) (Pre.hdrWord input 32) (Pre.hdrWord input 64)
      ≤ 64 * (gas - (Pre.runPrecompile 5 input gas).2 + 1) + 32 := by
  unfold Pre.runPrecompile at hrun ⊢
  simp only at hrun ⊢
  split at hrun
  · cases hrun
  · next hge =>
    simp only [hge, if_false]
    have hreq : Pre.requiredGas 5 input = Pre.modexpRequiredGas input := rfl
    rw [hreq] at hge ⊢
    have hcore := Pre.modexp_core (Pre.hdrWord input 0) (Pre.hdrWord input 32) (Pre.hdrWord input 64)
      (Pre.msbOf (Pre.modexpExpHead input)) (Pre.modexpRequiredGas input) rfl (by omega)
    omega

-- header announcing baseLen = 0, expLen = 2^26, modLen = 0: gas 0, and (thanks to the early return) nothing materialised
example : Pre.modexpGas 0 (2 ^ 26) 0 0 = 0 ∧ Pre.modexpRunBuffers 0 (2 ^ 26) 0 = 0 := by decide
-- baseLen = 0, expLen = 2^16, modLen = 1: 26201 gas for 65538 materialised bytes
example : Pre.modexpGas 0 (2 ^ 16) 1 0 = 26201 ∧ Pre.modexpRunBuffers 0 (2 ^ 16) 1 = 65538 := by decide
-- hypotheses satisfiable: a 96-byte header (1, 1, 1) with 10000 gas runs and is charged 0 (1·1·1/20)
example : (Pre.runPrecompile 5 ((List.replicate 31 0 ++ [1]) ++ (List.replicate 31 0 ++ [1]) ++ (List.replicate 31 0 ++ [1])) 10000) = (true, 10000) := by decide

/-- `precompile_alloc_bounded_by_gas` for ecrecover (1), sha256 (2), ripemd160 (3), identity (4) and the bn256 stand-ins (6–8):
    the bytes `Run` materialises are a constant (≤ 225, plus constant-size hash / curve scratch), the output is 32 bytes, empty,
    or the input slice itself, and the number of block steps is at most the gas RequiredGas charges — for every input. What
    grows with the input is only the input itself, which is not allocated by the precompile: at top level it is the caller's
    slice, inside the EVM it is `memory.Get(inOffset, inSize)` of the CALL step, paid for by that step's memory expansion
    (next theorem). -/
theorem precompile_alloc_bounded_by_gas (addr : Nat) (h1 : 1 ≤ addr) (h8 : addr ≤ 8) (h5 : addr ≠ 5) (input : Aqv.Bytes) :
    Pre.runBuffers addr input ≤ 225 ∧
    (∀ n, Pre.outLen addr input = some n → n ≤ max 32 input.length) ∧
    Pre.runSteps addr input ≤ Pre.requiredGas addr input :=
  ⟨Pre.runBuffers_const addr h5 input, fun n h => Pre.outLen_le addr h5 input n h, Pre.runSteps_le_gas addr h5 h1 h8 input⟩

example : Pre.runBuffers 1 [] = 225 ∧ Pre.requiredGas 2 (List.replicate 100 0) = 108 ∧ Pre.runSteps 2 (List.replicate 100 0) = 3 := by decide

/-- `precompile_input_paid_by_call_memory`: the dependency made explicit. At a CALL-family (or any) step that gets past `pre`,
    every memory range the execute function dereferences — for opCall/opCallCode/opDelegateCall/opStaticCall the generated
    ranges are exactly the callee's input (inOffset, inSize) and the return area (retOffset, retSize) — has its length within
    the frame's memory, and that memory's total fee 3w + w²/512 plus the gas left is at most the gas the frame was given
    (`memory_paid`): the input a precompile receives was paid for by the caller's memory expansion. -/
theorem precompile_input_paid_by_call_memory (env : Env) (i : StepIn W) (fr : Frame) (db : Db W) (t : Nat)
    (f : OpF) (g : GasOut) (memorySize : Nat) (db1 : Db W) (hfr : FrameInv fr) (hpre : pre env i fr db t = .go f g memorySize db1) :
    ∀ r ∈ f.execRanges, 0 < r.2.eval i.args →
      r.2.eval i.args ≤ (paidFrame fr f g memorySize).mem.len ∧ Spec.memoryPaid (eventOf fr i f g memorySize) = true := by
  intro r hr hpos
  have h := (no_modelled_panic_stack_memory env i fr db t f g memorySize db1 hpre).2.2.2 r hr hpos
  exact ⟨by omega, (paid_inv hfr hpre).2.1.1⟩

-- CALL with 0x20 bytes of input at 0x40 from a fresh frame holding 10000 gas: passes `pre`; input and return ranges generated
example : ∃ f g db1, pre envSpring (⟨0xf1, [100, 2, 0, 0x40, 0x20, 0, 0], 2, true, false, false, id, false, id, true, none, false, false, 0, id, id, id, false, id⟩ : StepIn Nat)
    ⟨10000, 7, ⟨0, 0⟩, 10000, 1, false⟩ db0 0 = .go f g 0x60 db1 ∧ f.execRanges = [(.back 3 0, .back 4 0), (.back 5 0, .back 6 0)] := by
  refine ⟨_, _, _, rfl, rfl⟩

/-! ### tie by translation (T-gen `translated`, DESIGN 2.2 mini-translator)

core/vm.toWordSize and core/vm.memoryGasCost are translated from the go/ssa form of the tree under test on every run
(`Aqv.Gen.Translated`, UInt64 with Go's wrap-around); the theorems state that the translated code refines the `Nat` model the
theorems above are stated on (proofs in `Aqv.Lemmas.Translated.VmNat`). -/

/-- core/vm.toWordSize: for every uint64 the code computes the model's `toWordSize`. -/
theorem toWordSize_code_is_model (size : UInt64) :
    (Aqv.Gen.Translated.toWordSize size).toNat = toWordSize size.toNat :=
  Aqv.Lemmas.Translated.toWordSize_translated_nat size

example : (Aqv.Gen.Translated.toWordSize 0xffffffffffffffff).toNat = toWordSize 0xffffffffffffffff := by decide

/-- core/vm.memoryGasCost (with `(*Memory).Len`; `mem.lastGasCost` threaded as an extra argument/result): the code computes
    the model's `memoryGasCost` for every request of at most 0x1fffffffe0 bytes (2^32 − 1 words: the range in which the Go
    code's `words * words` does not wrap; memory of that size costs more gas than any frame can hold). -/
theorem memoryGasCost_code_refines_model (storeLen : Int64) (hs : 0 ≤ storeLen.toInt) (lastGasCost newMemSize : UInt64)
    (hn : newMemSize.toNat ≤ 0x1fffffffe0) :
    Aqv.Lemmas.Translated.memResNat storeLen.toInt.toNat (Aqv.Gen.Translated.memoryGasCost storeLen lastGasCost newMemSize)
      = memoryGasCost ⟨storeLen.toInt.toNat, lastGasCost.toNat⟩ newMemSize.toNat :=
  Aqv.Lemmas.Translated.memoryGasCost_translated_nat storeLen hs lastGasCost newMemSize hn

example : Aqv.Lemmas.Translated.memResNat 0 (Aqv.Gen.Translated.memoryGasCost 0 0 64) = memoryGasCost ⟨0, 0⟩ 64 := by decide

/-- the bound is sharp: at 2^37 bytes the Go code's square wraps to 0 (it charges 3·2^32) while the unbounded `Nat` model
    charges 3·2^32 + 2^55 (recorded for C08 as evm-memgas-square-wraps-uint64; unreachable within any gas limit the model's
    theorems consider, since both amounts exceed 2^33). -/
theorem memoryGasCost_code_diverges_above_bound_witness :
    Aqv.Lemmas.Translated.memResNat 0 (Aqv.Gen.Translated.memoryGasCost 0 0 0x2000000000) = some (12884901888, ⟨0, 12884901888⟩) ∧
    memoryGasCost ⟨0, 0⟩ 0x2000000000 = some (36028809903865856, ⟨0, 36028809903865856⟩) :=
  Aqv.Lemmas.Translated.memoryGasCost_nat_model_diverges_witness

/-- tie by translation, precompiles: `RequiredGas` of the seven non-modexp precompiled contracts (ecrecover, sha256hash,
    ripemd160hash, dataCopy, fakebn256Add, fakebn256ScalarMul, fakebn256Pairing — translated from go/ssa on every run; the input
    slice is visible only through `len`) computes the model's `Pre.requiredGas addr input` (addresses 1–4, 6–8) for every input
    below 2^48 bytes. -/
theorem precompile_requiredGas_code_is_model (input : Aqv.Bytes) (h : input.length < 2 ^ 48) :
    (Aqv.Gen.Translated.ecrecover_RequiredGas (input_len := Int64.ofNat input.length)).toNat = Pre.requiredGas 1 input ∧
    (Aqv.Gen.Translated.sha256hash_RequiredGas (input_len := Int64.ofNat input.length)).toNat = Pre.requiredGas 2 input ∧
    (Aqv.Gen.Translated.ripemd160hash_RequiredGas (input_len := Int64.ofNat input.length)).toNat = Pre.requiredGas 3 input ∧
    (Aqv.Gen.Translated.dataCopy_RequiredGas (input_len := Int64.ofNat input.length)).toNat = Pre.requiredGas 4 input ∧
    (Aqv.Gen.Translated.fakebn256Add_RequiredGas (input_len := Int64.ofNat input.length)).toNat = Pre.requiredGas 6 input ∧
    (Aqv.Gen.Translated.fakebn256ScalarMul_RequiredGas (input_len := Int64.ofNat input.length)).toNat = Pre.requiredGas 7 input ∧
    (Aqv.Gen.Translated.fakebn256Pairing_RequiredGas (input_len := Int64.ofNat input.length)).toNat = Pre.requiredGas 8 input :=
  Aqv.Lemmas.Translated.requiredGas_translated_eq input h

example : (Aqv.Gen.Translated.sha256hash_RequiredGas (input_len := 33)).toNat = Pre.requiredGas 2 (List.replicate 33 0) ∧
    Aqv.Gen.Translated.fakebn256Pairing_RequiredGas (input_len := 384) = 260000 := by decide

/-- tie by translation: gasBalance / gasExtCodeSize / gasSLoad return exactly the gas-table field of their name. -/
theorem gasTableReads_code_is_model (x ms : UInt64) :
    Aqv.Gen.Translated.gasBalance (gt_Balance := x) ms = (x, none) ∧
    Aqv.Gen.Translated.gasExtCodeSize (gt_ExtcodeSize := x) ms = (x, none) ∧
    Aqv.Gen.Translated.gasSLoad (gt_SLoad := x) ms = (x, none) :=
  Aqv.Lemmas.Translated.gasTableReads_translated_eq x ms

end Aqv.Props.C07
