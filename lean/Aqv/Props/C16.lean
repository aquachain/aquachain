/-
  C16 — Log blooms have no false negatives and log queries are exact.  Property theorems only (helpers in Aqv/Lemmas/LogFilter*).
  Model: Aqv.Model.LogFilter (bloom9.go, filters/filter.go, bloombits/generator.go + matcher.go, aqua/bloombits.go).
  Every theorem holds for an ARBITRARY hash function `H` (crypto.Keccak256 in the code), all logs/receipts/chains, all criteria,
  all ranges, all section sizes the generator accepts and every index progress.

  The matcher's goroutine pipeline is modelled as a transition system (Aqv.Model.MatcherPipeline: source feed, one two-channel stage
  per filter group, scheduler de-duplication and cache, an arbitrary delivery environment); `matcher_session_spec` shows that every
  schedule computes the input/output function `matcherRun` used by `logs_exact`. Channel capacities, the quit/kill shutdown path,
  context cancellation and retrieval errors are outside the model.
-/
import Aqv.Lemmas.LogFilterQuery
import Aqv.Lemmas.LogFilterGen
import Aqv.Lemmas.LogFilterCompress
import Aqv.Lemmas.MatcherPipeline
import Aqv.Lemmas.HashMemo
import Aqv.Gen.Bloom
namespace Aqv.Props.C16
open Aqv.LogFilter

/-! ## 1. blooms have no false negatives -/

/-- For every receipt set, every receipt `r` in it and every log in `r`: the address and every topic of the log test positive
    (`BloomLookup`) both in the receipt's own bloom `CreateBloom({r})` and in the header bloom `CreateBloom(receipts)`. -/
theorem bloom_no_false_negative (H : HashFn) (receipts : List (List Log)) (r : List Log) (hr : r ∈ receipts)
    (log : Log) (hlog : log ∈ r) :
    (bloomLookup H (createBloom H [r]) log.address = true ∧ ∀ t ∈ log.topics, bloomLookup H (createBloom H [r]) t = true) ∧
    (bloomLookup H (createBloom H receipts) log.address = true ∧ ∀ t ∈ log.topics, bloomLookup H (createBloom H receipts) t = true) := by
  exact ⟨createBloom_hasLog H [r] r (by simp) log hlog, createBloom_hasLog H receipts r hr log hlog⟩

-- non-vacuity: a log with two topics in the second of two receipts (any hash, here the identity).
example : bloomLookup id (createBloom id [[], [⟨[1, 2], [[3], [4]], false, 7⟩]]) [4] = true :=
  ((bloom_no_false_negative id [[], [⟨[1, 2], [[3], [4]], false, 7⟩]] [⟨[1, 2], [[3], [4]], false, 7⟩] (by simp)
    ⟨[1, 2], [[3], [4]], false, 7⟩ (by simp)).2).2 [4] (by simp)

/-- `Bloom.TestBytes` is `BloomLookup` on the bytes it is given — for every item, leading zero bytes included
    (unconditional since fix 7d17e77: the item does not go through `big.Int`, which would strip them). -/
theorem testBytes_eq_lookup (H : HashFn) (bin item : Bytes) : bloomTestBytes H bin item = bloomLookup H bin item := rfl

/-- The exported bloom test has no false negatives either: every address and topic of every covered log — whatever its
    leading bytes — tests positive with `TestBytes` in the receipt bloom and in the header bloom. -/
theorem testBytes_no_false_negative (H : HashFn) (receipts : List (List Log)) (r : List Log) (hr : r ∈ receipts)
    (log : Log) (hlog : log ∈ r) :
    (bloomTestBytes H (createBloom H [r]) log.address = true ∧ ∀ t ∈ log.topics, bloomTestBytes H (createBloom H [r]) t = true) ∧
    (bloomTestBytes H (createBloom H receipts) log.address = true ∧
      ∀ t ∈ log.topics, bloomTestBytes H (createBloom H receipts) t = true) :=
  bloom_no_false_negative H receipts r hr log hlog

-- non-vacuity, on an input with a leading zero byte: the address `00 01` of a covered log tests positive.
example : bloomTestBytes id (createBloom id [[⟨[0, 1], [], false, 0⟩]]) [0, 1] = true :=
  ((testBytes_no_false_negative id [[⟨[0, 1], [], false, 0⟩]] [⟨[0, 1], [], false, 0⟩] (by simp) ⟨[0, 1], [], false, 0⟩ (by simp)).2).1

/-- `CreateBloom` never reaches the panic of `SetBytes` (the accumulated integer fits 256 bytes) and yields exactly 256 bytes. -/
theorem createBloom_total (H : HashFn) (receipts : List (List Log)) :
    (beBytes (createBloomNat H receipts)).length ≤ 256 ∧ (createBloom H receipts).length = 256 :=
  ⟨createBloom_fits H receipts, createBloom_length H receipts⟩

/-- A bloom test never excludes a block that holds a matching log: if `bloomFilter` rejects the header bloom of a block whose
    bloom is the one `ValidateState` enforces, no log of the block passes `filterLogs`. -/
theorem bloomFilter_sound (H : HashFn) (blk : Block) (hv : blk.valid H) (c : Criteria)
    (hf : bloomFilter H blk.bloom c = false) : filterLogs blk.logs c = [] :=
  filterLogs_nil_of_bloomFilter_false H blk.bloom c blk.logs (block_bloom_has_logs H blk hv) hf

-- non-vacuity: valid blocks exist for every receipt list.
example (H : HashFn) (rs : List (List Log)) : (Block.mk (createBloom H rs) rs).valid H := rfl

/-- The positive form used by the scans: a log that passes `filterLogs` forces `bloomFilter` to accept the block. -/
theorem bloomFilter_complete_on_matches (H : HashFn) (blk : Block) (hv : blk.valid H) (c : Criteria) (log : Log)
    (hl : log ∈ blk.logs) (hm : logMatches c log = true) : bloomFilter H blk.bloom c = true :=
  bloomFilter_of_logMatches H blk.bloom c log (block_bloom_has_logs H blk hv log hl) hm

example : logMatches ⟨[[1]], [[], [[9]]]⟩ ⟨[1], [[5], [9]], false, 0⟩ = true := by decide

/-- The loop-shaped `filterLogs` predicate equals the declarative one of the Spec (addresses OR, positional topics AND of ORs,
    empty position = wildcard, more positions than topics = no match). -/
theorem logMatches_spec (c : Criteria) (log : Log) : logMatches c log = Spec.logMatches c log :=
  logMatches_eq_spec c log

/-! ## 2. the bloom-bits index -/

/-- `calcBloomIndexes` (matcher.go) = the three bit positions set by `bloom9` (bloom9.go), for every hash value. -/
theorem indexes_agree (H : HashFn) (b : Bytes) :
    calcBloomIndexes H b = (bloom9Idx (H b) 0, bloom9Idx (H b) 2, bloom9Idx (H b) 4) ∧
    ∀ j, (bloom9 H b).testBit j = (decide (bloom9Idx (H b) 0 = j) || decide (bloom9Idx (H b) 2 = j) || decide (bloom9Idx (H b) 4 = j)) :=
  ⟨calcBloomIndexes_eq H b, bloom9_testBit H b⟩

/-- The generator transposes with exactly this orientation: after `size` blooms (256 bytes each) were added in order, `Bitset(i)`
    succeeds for every bit `i < 2048`, has `size/8` bytes, and its bit `n` (MSB-first: byte `n/8`, mask `1 << (7 - n%8)`) is bit `i`
    of the integer `Big()` of the `n`-th bloom. Preconditions are the generator's own: `size % 8 = 0` and `2048 ≤ size`. -/
theorem transpose_spec (size : Nat) (h8 : size % 8 = 0) (h2048 : 2048 ≤ size) (blooms : List Bytes) (hlen : blooms.length = size)
    (h256 : ∀ b ∈ blooms, b.length = 256) :
    ∃ vs, generateSection size blooms = .ok vs ∧ vs.length = 2048 ∧
      ∀ i, i < 2048 → (vs.getD i []).length = size / 8 ∧
        ∀ n, n < size → vecBit (vs.getD i []) n = (beNat (blooms.getD n [])).testBit i := by
  obtain ⟨vs, hgen, hl, _⟩ := generateSection_spec size h8 h2048 blooms hlen
  exact ⟨vs, hgen, hl, fun i hi => generateSection_testBit h8 h2048 hlen h256 hgen hi⟩

-- non-vacuity: 2048 header blooms produced by CreateBloom satisfy the hypotheses.
example (H : HashFn) (rs : List (List Log)) :
    (List.replicate 2048 (createBloom H rs)).length = 2048 ∧ ∀ b ∈ List.replicate 2048 (createBloom H rs), b.length = 256 :=
  ⟨List.length_replicate, fun b hb => by rw [List.eq_of_mem_replicate hb]; exact createBloom_length H rs⟩

/-- Side observation carried as a precondition everywhere: `Bitset(idx)` compares the BIT index with the SECTION SIZE, so for
    every section size below 2048 (multiple of 8, section completely filled) committing the section fails with
    `errSectionOutOfBounds` — the index can never advance and queries are served by the header scan. -/
theorem generator_rejects_small_sections (size : Nat) (h8 : size % 8 = 0) (hsmall : size < 2048) (blooms : List Bytes)
    (hlen : blooms.length = size) : generateSection size blooms = .error .sectionOutOfBounds := by
  obtain ⟨g, hinv, hgen⟩ := generateSection_eq size h8 blooms (by omega)
  rw [hgen]
  refine mapM_error _ _ _ size (List.mem_range.mpr hsmall) (bitset_oob hinv hlen (Nat.le_refl _)) fun i hi => ?_
  by_cases h : i < size
  · exact Or.inr ⟨_, bitset_ok hinv hlen h (List.mem_range.mp hi)⟩
  · exact Or.inl (bitset_oob hinv hlen (by omega))

example : (8 : Nat) % 8 = 0 ∧ 8 < 2048 ∧ (List.replicate 8 (List.replicate 256 (0 : UInt8))).length = 8 := by decide

/-- The matcher pipeline on one section (AND over the filter groups of OR over the alternatives of AND over three bit vectors,
    sections with no bit left dropped), fed with the generator's vectors of that section, leaves bit `n` set ⇔ `bloomFilter`
    accepts the `n`-th header bloom — for the filter `filters.New`/`NewMatcher` build from the criteria (empty groups skipped). -/
theorem matcher_spec (H : HashFn) (size : Nat) (h8 : size % 8 = 0) (h2048 : 2048 ≤ size) (blooms : List Bytes)
    (hlen : blooms.length = size) (h256 : ∀ b ∈ blooms, b.length = 256) (vs : List Bytes)
    (hgen : generateSection size blooms = .ok vs) (c : Criteria) (n : Nat) (hn : n < size) :
    sectionBit (runSection (fun bit => vs.getD bit []) size (newMatcherFilters H (flattenCriteria c))) n =
      bloomFilter H (blooms.getD n []) c :=
  runSection_bloomFilter H _ size h8 (fun _ hi => (generateSection_testBit h8 h2048 hlen h256 hgen hi).1) _ n hn
    (fun _ hi => (generateSection_testBit h8 h2048 hlen h256 hgen hi).2 n hn) c

/-- The extraction loop of `Matcher.Start` (including its `i += 7` skip over zero bytes) delivers, for section `s`, exactly the
    block numbers `j` with `max(begin, s·size) ≤ j ≤ min(end, s·size+size-1)` whose bit `j - s·size` is set, in increasing order. -/
theorem extraction_spec (size b e s : Nat) (hs : 0 < size) (h8 : size % 8 = 0) (bitset : Bytes) :
    extract size b e s bitset =
      (List.range' (max b (s * size)) (min (e + 1) ((s + 1) * size) - max b (s * size))).filter (fun j => vecBit bitset (j - s * size)) :=
  extract_spec size b e s hs h8 bitset

-- the skip matters: a vector whose first byte is zero and second byte has its top bit set yields block 8 only.
example : extract 16 0 15 0 [0x00, 0x80] = [8] := by decide

/-- A whole matcher session over the committed index (`begin ≤`/`>` `end`, any alignment, `end` inside the indexed part):
    the input/output function `matcherRun` yields exactly the `n ∈ [begin, end]` whose header bloom passes `bloomFilter`, in
    increasing order. That the concurrent pipeline computes this function under every delivery schedule is `matcher_session_spec`. -/
theorem matcher_run_spec (H : HashFn) (chain : List Block) (hv : ChainValid H chain) (size sections : Nat)
    (h8 : size % 8 = 0) (h2048 : 2048 ≤ size) (hidx : sections * size ≤ chain.length) (c : Criteria) (b e : Nat)
    (he : e < sections * size) :
    ∃ index, buildIndex size (chain.map (·.bloom)) sections = .ok index ∧
      matcherRun index size (newMatcherFilters H (flattenCriteria c)) b e =
        (List.range' b (e + 1 - b)).filter (fun n => bloomFilter H (bloomAt chain n) c) := by
  obtain ⟨index, hb, rfl, hT⟩ := buildIndex_transposed size (chain.map (·.bloom)) sections (fun _ => ⟨h8, h2048⟩) (by simpa using hidx)
  exact ⟨index, hb, matcherRun_chain H chain hv size index hT c b e he⟩

/-- T-gen tie (regenerated from the compiled packages on every run): the constants the model hard-wires are the code's —
    256-byte / 2048-bit blooms, three bit indexes per key — and the generator's behaviourally probed limits are the model's
    preconditions (`NewGenerator` refuses sizes that are not multiples of 8; the smallest section size whose filled generator
    hands out bit vector 2047 is 2048). -/
theorem constants_agree :
    Gen.Bloom.bloomByteLength = 256 ∧ Gen.Bloom.bloomBitLength = 2048 ∧ Gen.Bloom.indexesPerKey = 3 ∧
    Gen.Bloom.generatorMinSection = 2048 ∧ Gen.Bloom.generatorRejects7 = true := by decide

/-- The section sizes the node actually deploys (`params.BloomBitsBlocks`, `params.BloomBitsBlocksClient`) satisfy the
    generator's preconditions, so `transpose_spec`, `matcher_spec` and the indexed branch of `logs_exact` apply to them. -/
theorem deployed_section_sizes_accepted :
    (Gen.Bloom.bloomBitsBlocks % 8 = 0 ∧ 2048 ≤ Gen.Bloom.bloomBitsBlocks) ∧
    (Gen.Bloom.bloomBitsBlocksClient % 8 = 0 ∧ 2048 ≤ Gen.Bloom.bloomBitsBlocksClient) := by decide

/-! ## 2b. the index as stored: compression round trip, section commit -/

/-- `DecompressBytes(CompressBytes(v), len v) = v` for EVERY byte vector (bitset encoding with recursion on the bitset, and the raw
    fallback: the encoding is kept only when strictly shorter, because the decoder takes an input of exactly `target` bytes as raw). -/
theorem decompress_compress (v : Bytes) : decompressBytes (compressBytes v) v.length = .ok v :=
  decompress_compress_all v

/-- the break-even clause by name: a vector whose encoding is exactly as long as the vector is stored raw. -/
theorem compress_raw_at_break_even (v : Bytes) (h : (bitsetEncodeBytes v).length = v.length) : compressBytes v = v := by
  unfold compressBytes
  simp [h]

-- non-vacuity: a 16-byte vector with 13 non-zero bytes in both 8-byte groups encodes to 13 + 2 + 1 = 16 bytes.
example : (bitsetEncodeBytes [1, 1, 1, 1, 1, 1, 1, 0, 1, 1, 1, 1, 1, 1, 0, 0]).length = 16 := by decide

/-- Every vector of the committed index survives storage: what `startBloomHandlers` hands to the matcher
    (`DecompressBytes(CompressBytes(bits), size/8)`) is the vector the generator produced. -/
theorem stored_vectors_roundtrip (size sections : Nat) (h8 : size % 8 = 0) (h2048 : 2048 ≤ size) (blooms : List Bytes)
    (hidx : sections * size ≤ blooms.length) :
    ∃ index, buildIndex size blooms sections = .ok index ∧
      ∀ s, s < sections → ∀ i, i < 2048 → storedVec size (indexVec index s i) = .ok (indexVec index s i) := by
  obtain ⟨index, hb, rfl, hT⟩ := buildIndex_transposed size blooms sections (fun _ => ⟨h8, h2048⟩) hidx
  refine ⟨index, hb, fun s hs i hi => ?_⟩
  unfold storedVec
  rw [← hT.len s hs i hi]
  exact decompress_compress_all _

example : (2 : Nat) * 2048 ≤ (List.replicate 5000 ([] : Bytes)).length := by
  rw [List.length_replicate]; decide

/-- `section_commit_requires_contiguous_headers`: if `processSection` commits, the headers it walked form a parent-linked run
    starting after the previous section head, the returned section head is the hash of the last header walked, and the committed
    bits are the generator's transposition of exactly those headers' blooms. If moreover the canonical section at commit time
    (`canon`: parent-linked, same length) ends in that same head — the key under which the vectors are stored and served — and
    equal hashes mean equal headers, then the walked headers ARE the canonical ones: the section describes the canonical chain. -/
theorem section_commit_requires_contiguous_headers (size lastHead : Nat) (walk : List Hdr) (newHead : Nat) (vs : List Bytes)
    (h : processSection size lastHead walk = .ok (newHead, vs)) :
    (Linked lastHead walk ∧ newHead = runHead lastHead walk ∧ generateSection size (walk.map (·.bloom)) = .ok vs) ∧
    ∀ (canon : List Hdr) (lastCanon : Nat), canon.length = walk.length → walk ≠ [] → Linked lastCanon canon →
      runHead lastCanon canon = newHead → (∀ x ∈ walk, ∀ y ∈ canon, x.hash = y.hash → x = y) →
      walk = canon ∧ generateSection size (canon.map (·.bloom)) = .ok vs := by
  obtain ⟨hw, hg⟩ := (processSection_ok_iff size lastHead walk newHead vs).mp h
  obtain ⟨hl, hh⟩ := (walkSection_ok_iff lastHead walk newHead).mp hw
  refine ⟨⟨hl, hh, hg⟩, fun canon lastCanon hlen hne hlc hhead hinj => ?_⟩
  obtain rfl := linked_unique walk canon lastHead lastCanon hlen.symm hl hlc hne (by rw [← hh, hhead]) hinj
  exact ⟨rfl, hg⟩

/-- conversely a parent-linked walk is never refused by the continuity check (the commit then only depends on the generator). -/
theorem linked_walk_accepted (lastHead : Nat) (walk : List Hdr) (h : Linked lastHead walk) :
    walkSection lastHead walk = .ok (runHead lastHead walk) := (walkSection_ok_iff lastHead walk _).mpr ⟨h, rfl⟩

-- non-vacuity: a mixed walk (second header from another fork: its parent is not the first header) is refused, a linked one passes.
example : walkSection 0 [⟨1, 0, []⟩, ⟨22, 11, []⟩] = .error .reorged := rfl
example : Linked 0 [⟨1, 0, []⟩, ⟨2, 1, []⟩] := ⟨rfl, rfl, trivial⟩

/-! ## 2c. the matcher session as a concurrent pipeline -/

/-- `matcher_session_spec`: for EVERY schedule (any interleaving of the source feed, the stages' two goroutines and the deliveries —
    in any order, repeated, missing-and-re-requested, or unrequested) over the committed index, every reachable state of the session
    satisfies: (1) the sink has received a PREFIX of the per-section results of the pure pipeline (`matcher_spec`'s `runSection`),
    each at most once and nothing else; (2) when all channels are empty and the range is exhausted, what `Start` delivers from the
    sink is exactly the blocks `n ∈ [begin, end]` whose header bloom passes `bloomFilter`, ascending — the function `matcherRun`
    that `Filter.Logs` consumes; (3) termination: once the requested vectors have been delivered the session is finished or takes a
    step that strictly decreases the measure `mu` (and no step ever increases it), so it cannot run forever or get stuck. -/
theorem matcher_session_spec (H : HashFn) (chain : List Block) (hv : ChainValid H chain) (size sections : Nat)
    (h8 : size % 8 = 0) (h2048 : 2048 ≤ size) (hidx : sections * size ≤ chain.length) (c : Criteria) (b e : Nat)
    (he : e < sections * size) :
    ∃ index, buildIndex size (chain.map (·.bloom)) sections = .ok index ∧
      ∀ σ, Reach (indexVec index) size (initSess (newMatcherFilters H (flattenCriteria c)) (sessionSections size b e)) σ →
        (∃ rest, σ.output ++ rest =
          (sessionSections size b e).filterMap (fun s =>
            (runSection (indexVec index s) size (newMatcherFilters H (flattenCriteria c))).map (fun r => (s, r)))) ∧
        (σ.final → deliverMatches size b e σ.output =
          (List.range' b (e + 1 - b)).filter (fun n => bloomFilter H (bloomAt chain n) c)) ∧
        ((∀ p ∈ σ.requested, p ∈ σ.cached) → σ.final ∨ ∃ σ', Step (indexVec index) size σ σ' ∧ σ'.mu < σ.mu) ∧
        (∀ σ', Step (indexVec index) size σ σ' → σ'.mu ≤ σ.mu) := by
  obtain ⟨index, hb, hrun⟩ := matcher_run_spec H chain hv size sections h8 h2048 hidx c b e he
  refine ⟨index, hb, fun σ hreach => ?_⟩
  have hinv := sessInv_reach (indexVec index) size _ _ σ hreach
  refine ⟨⟨_, by rw [← List.append_assoc]; exact hinv.flow⟩, fun hfin => ?_, session_progress (indexVec index) size _ _ σ hreach,
    fun σ' hs => (step_mu (indexVec index) size σ σ' hs).1⟩
  rw [sessInv_final (indexVec index) size _ _ σ hinv hfin, ← hrun]
  exact deliverMatches_expected size index _ b e _ _

/-- `no_result_before_all_vectors`: in every reachable state, for every item at the sink, every bit vector of every filter group for
    that section has been requested from the distributor and delivered; and requests are forwarded to the distributor at most once
    per (bit, section) however many stages and alternatives share the bit (scheduler de-duplication). -/
theorem no_result_before_all_vectors (vec : Nat → Nat → Bytes) (size : Nat) (groups : List Group) (sections : List Nat) (σ : Sess)
    (h : Reach vec size (initSess groups sections) σ) :
    (∀ y ∈ σ.output, ∀ g ∈ groups, ∀ bit ∈ groupBits g, (bit, y.1) ∈ σ.cached ∧ (bit, y.1) ∈ σ.requested) ∧ σ.sent.Nodup := by
  have hout := (readyInv_reach vec size groups sections σ h).output
  have hreq := reqInv_reach vec size groups sections σ h
  exact ⟨fun y hy g hg bit hb => ⟨hout y hy g hg bit hb, hreq.cached_requested _ (hout y hy g hg bit hb)⟩, hreq.nodup⟩

/-- `sections_emitted_in_order`: whatever the delivery order, the sections arrive at the sink in strictly increasing order (hence
    each at most once), for a session over an increasing section range such as `begin/size … end/size`. -/
theorem sections_emitted_in_order (vec : Nat → Nat → Bytes) (size : Nat) (groups : List Group) (s0 k : Nat) (σ : Sess)
    (h : Reach vec size (initSess groups (List.range' s0 k)) σ) : List.Pairwise (fun a b => a < b) (σ.output.map (·.1)) := by
  have hinv := (sessInv_reach vec size groups _ σ h).flow
  have hsub : (σ.output.map (·.1)).Sublist (List.range' s0 k) := by
    refine List.Sublist.trans ?_ (expected_sections_sublist vec size groups (List.range' s0 k))
    rw [← hinv, List.append_assoc, List.map_append]
    exact List.sublist_append_left _ _
  exact List.Pairwise.sublist hsub (List.pairwise_lt_range' 1)

-- non-vacuity: sessions have reachable states beyond the initial one (here: after `run` fed section 0 into the single stage).
example : ∃ σ, Reach (fun _ _ => []) 16 (initSess [[(1, 2, 3)]] [0, 1]) σ ∧ σ.source = [1] :=
  ⟨_, Reach.step _ _ Reach.refl (Step.feedStage _ 0 [1] ⟨[(1, 2, 3)], [], []⟩ [] rfl rfl), rfl⟩

/-! ## 2d. helpers the model driver relies on -/

/-- The driver's memoised hash is the hash: a table built by `memo` (from the empty table, over any item lists, in any number of
    rounds) never changes a value — `mkH K tbl = K` for every hash function `K` (the driver takes Keccak-256) — and it is effective:
    every listed item is answered from the table. -/
theorem memoised_hash_is_the_hash (K : Bytes → Bytes) (pool items : List Bytes) :
    HashMemo.mkH K (HashMemo.memo K (HashMemo.memo K [] pool) items) = K ∧
    ∀ b, b ∈ pool ∨ b ∈ items → ((HashMemo.memo K (HashMemo.memo K [] pool) items).lookup b).isSome := by
  have h0 : HashMemo.TableOK K [] := fun p hp => by cases hp
  refine ⟨HashMemo.mkH_eq K _ (HashMemo.memo_ok K _ items (HashMemo.memo_ok K [] pool h0)), ?_⟩
  intro b hb
  rcases hb with hb | hb
  · exact HashMemo.memo_hit K _ items b (Or.inr (HashMemo.memo_hit K [] pool b (Or.inl hb)))
  · exact HashMemo.memo_hit K _ items b (Or.inl hb)

example : HashMemo.mkH (fun b => b ++ [7]) (HashMemo.memo (fun b => b ++ [7]) [] [[1], [2], [1]]) [2] = [2, 7] := by decide

/-- The column the driver accepts as an alternative generator answer (`specColumn`) IS, byte for byte, the bit vector `Bitset(i)` of a
    filled generator — so accepting it as "spec-ok" never accepts a wrong vector. -/
theorem specColumn_is_bitset (size : Nat) (h8 : size % 8 = 0) (h2048 : 2048 ≤ size) (blooms : List Bytes)
    (hlen : blooms.length = size) (h256 : ∀ b ∈ blooms, b.length = 256) (i : Nat) (hi : i < 2048) :
    ∃ vs, generateSection size blooms = .ok vs ∧ vs.getD i [] = specColumn blooms size i := by
  obtain ⟨vs, hgen, _, _⟩ := generateSection_spec size h8 h2048 blooms hlen
  exact ⟨vs, hgen, bitset_eq_specColumn size h8 h2048 blooms hlen h256 vs hgen i hi⟩

-- non-vacuity: bit 9 of the second of 16 blooms (integer 2^9) gives the MSB-first column 0x40 0x00.
example : specColumn ([[], [2, 0]] ++ List.replicate 14 []) 16 9 = [0x40, 0x00] := by decide

/-! ## 3. log queries are exact -/

/-- `Filter.Logs` = brute force, in chain order: for every hash function, every chain whose header blooms are the validated ones,
    every criteria, every range (−1 = latest at either end, `begin > end`, `end` beyond the head, ranges inside, outside and
    straddling the indexed boundary), every section size the generator accepts and every index progress `sections` with
    `sections·size ≤ head+1` (the indexer only commits complete sections of canonical headers): the index builds and the query
    returns exactly the matching logs of the canonical receipts of blocks `[begin, min(end, head)]`, in order.
    With `sections = 0` (nothing indexed, any section size — in particular every size the generator rejects) this is the pure
    header scan. The matcher session enters as its input/output function `matcherRun` (see `matcher_session_spec` and the head
    comment for what stays outside the model).
    The hypotheses `-1 ≤ begin`, `-1 ≤ end` delimit the modelled domain (Go converts other negative values with `uint64(·)`;
    −2 = "pending" is not a canonical block); the proof does not need them because model and Spec resolve ends alike. -/
theorem logs_exact (H : HashFn) (chain : List Block) (hv : ChainValid H chain) (size sections : Nat)
    (hsz : 0 < sections → size % 8 = 0 ∧ 2048 ≤ size) (hidx : sections * size ≤ chain.length)
    (c : Criteria) (begin_ end_ : Int) (_hb : -1 ≤ begin_) (_he : -1 ≤ end_) :
    ∃ index, buildIndex size (chain.map (·.bloom)) sections = .ok index ∧
      filterLogsQuery H index chain size c begin_ end_ = Spec.bruteForce chain c begin_ end_ := by
  obtain ⟨index, hbi, _, hT⟩ := buildIndex_transposed size (chain.map (·.bloom)) sections hsz (by simpa using hidx)
  exact ⟨index, hbi, (query_core H chain hv size index hT c begin_ end_).trans (bruteForce_eq chain c begin_ end_).symm⟩

-- non-vacuity: a 4100-block chain with one log in block 2050 (section size 2048, two committed sections, a query with
-- both ends open) satisfies every hypothesis.
example (H : HashFn) :
    let lg : Log := ⟨[1], [[2]], false, 0⟩
    let chain : List Block := List.replicate 2050 ⟨createBloom H [], []⟩ ++ [⟨createBloom H [[lg]], [[lg]]⟩] ++
      List.replicate 2049 ⟨createBloom H [], []⟩
    ChainValid H chain ∧ (0 < 2 → 2048 % 8 = 0 ∧ 2048 ≤ 2048) ∧ 2 * 2048 ≤ chain.length ∧ (-1 : Int) ≤ -1 := by
  intro lg chain
  refine ⟨?_, fun _ => ⟨by decide, by decide⟩, ?_, by decide⟩
  · intro blk hblk
    simp only [chain, List.mem_append, List.mem_replicate, List.mem_singleton] at hblk
    rcases hblk with (⟨_, h⟩ | h) | ⟨_, h⟩ <;> subst h <;> rfl
  · simp only [chain, List.length_append, List.length_replicate, List.length_singleton]
    decide

/-- Ranges straddling the indexed boundary, explicitly: with `begin < sections·size ≤ end` the answer is the indexed answer
    on `[begin, sections·size − 1]` followed by the header scan of `[sections·size, end]` — and equals brute force (instance of
    `logs_exact`, recorded because it is the clause the property names). -/
theorem logs_exact_straddling (H : HashFn) (chain : List Block) (hv : ChainValid H chain) (size sections : Nat)
    (h8 : size % 8 = 0) (h2048 : 2048 ≤ size) (hidx : sections * size ≤ chain.length) (c : Criteria) (b e : Nat)
    (_hlo : b < sections * size) (_hhi : sections * size ≤ e) :
    ∃ index, buildIndex size (chain.map (·.bloom)) sections = .ok index ∧
      filterLogsQuery H index chain size c (b : Int) (e : Int) = Spec.bruteForce chain c (b : Int) (e : Int) :=
  logs_exact H chain hv size sections (fun _ => ⟨h8, h2048⟩) hidx c b e (by omega) (by omega)

example : (5 : Nat) < 1 * 2048 ∧ 1 * 2048 ≤ 3000 := by decide

end Aqv.Props.C16
