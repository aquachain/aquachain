/-
  Property C02 — "The head is always a heaviest fully validated block".

  Model: `Aqv.Model.Chain` — `WriteBlockWithState` (fork choice `externTd > localTd`, exact tie: lower number wins, equal
  number: coin), the import loop `insertChain2` with the known-block and the ErrPrunedAncestor side-chain branches
  (blocks written without state while lighter, re-imported with state when the branch overtakes), Stop+reopen;
  `HeaderChain.WriteHeader` for header-first imports (`>` or tie → coin).  `seen` is the ghost set of blocks that went
  through `WriteBlockWithState` successfully (fully validated).  The theorems quantify over ALL block universes `U`
  (`World U`: any branching, lengths, difficulties), ALL import histories (orders, batchings, re-deliveries, restarts of a
  pruning node) and ALL resolutions of the coin (`coins` inside the operations).
-/
import Aqv.Lemmas.ChainHist
import Aqv.Lemmas.ChainHdr
import Aqv.Lemmas.ChainMixed
namespace Aqv.Props.C02
open Aqv.Chain

variable {U : Map Blk}

/-- an operation of an import history: `InsertChain` of blocks of the universe, or a restart (no rewind) -/
def ImportOk (U : Map Blk) : Op → Prop
  | .insert chain _ => ∀ b ∈ chain, U b.id = some b
  | .setHead _ => False
  | .reopen => True

instance (U : Map Blk) : (op : Op) → Decidable (ImportOk U op)
  | .insert chain _ => inferInstanceAs (Decidable (∀ b ∈ chain, U b.id = some b))
  | .setHead _ => isFalse (fun h => h)
  | .reopen => isTrue trivial

def Imports (U : Map Blk) (ops : List Op) : Prop := ∀ op ∈ ops, ImportOk U op

instance (U : Map Blk) (ops : List Op) : Decidable (Imports U ops) :=
  inferInstanceAs (Decidable (∀ op ∈ ops, ImportOk U op))

theorem ImportOk.ok {op : Op} (h : ImportOk U op) (s : St) : IsImport op ∧ OpOk U s op := importOp_ok s h

theorem good_of_imports (W : World U) (g : Blk) (archive : Bool) (hgU : U g.id = some g) (hg0 : g.number = 0)
    (hgt : g.txs = []) (ops : List Op) (hops : Imports U ops) :
    Admissible U (init g archive) ops ∧ Good U g g.diff (run (init g archive) ops) :=
  imports_admissible W ops (good_init g archive hgU hg0 hgt) fun op hop => (hops op hop).ok _

/-- Every stored block's total difficulty equals its parent's total difficulty plus its own difficulty (the parent of
    every stored block is stored and has a record; the genesis record is its difficulty). -/
theorem td_recurrence (W : World U) (g : Blk) (archive : Bool) (hgU : U g.id = some g) (hg0 : g.number = 0)
    (hgt : g.txs = []) (ops : List Op) (hops : Imports U ops) :
    let s := run (init g archive) ops
    s.td g.id = some g.diff ∧
    ∀ k x, s.store k = some x → x.id ≠ g.id →
      ∃ p tp, parentOf s.store x = some p ∧ s.td p.id = some tp ∧ s.td k = some (tp + x.diff) := by
  intro s
  have hG := (good_of_imports W g archive hgU hg0 hgt ops hops).2
  obtain ⟨hb, C, hI⟩ := hG.inv
  have hcl := hG.closed
  have hgen := hG.gen
  constructor
  · obtain ⟨tg, htg⟩ := Option.isSome_iff_exists.mp (hI.storeTd _ _ ((hI.idx W).genStored W))
    rw [hgen] at htg
    obtain ⟨l, hp, ht⟩ := TdAt.tdof (hI.tdIntr _ _ htg) hgU
    rw [hgen] at hp ht
    cases hp with
    | nil => rw [htg, ht]; simp [diffSum]
    | cons hpar _ => have := (parentOf_some hpar).2; omega
  · intro k x hx hne
    obtain ⟨l, hl⟩ := hcl k x hx
    have hxid := (hI.idx W).storeIds W k x hx
    cases hl with
    | nil => rw [hgen] at hne; exact absurd rfl hne
    | cons hpar hrest =>
      rename_i p l'
      have hps := (parentOf_some hpar).1
      have hpid := (hI.idx W).storeIds W _ _ hps
      obtain ⟨tp, htp⟩ := Option.isSome_iff_exists.mp (hI.storeTd _ _ hps)
      obtain ⟨tx, htx⟩ := Option.isSome_iff_exists.mp (hI.storeTd _ _ hx)
      have hxU : U x.id = some x := by rw [hxid]; exact hI.sub _ _ hx
      have := td_child_eq W hI.tdIntr hxU (parentOf_mono hI.sub hpar) (by rw [hxid]; exact htx)
        (by rw [hpid]; exact htp)
      exact ⟨p, tp, hpar, by rw [hpid]; exact htp, by rw [htx, this]⟩

/-- the recurrence also holds after rewinds, wherever both records exist -/
theorem td_recurrence_any (W : World U) {s : St} (h : Inv U s) {k : Nat} {x p : Blk} {tx tp : Nat}
    (hx : s.store k = some x) (hpar : parentOf s.store x = some p) (htx : s.td k = some tx)
    (htp : s.td p.id = some tp) : tx = tp + x.diff := by
  obtain ⟨hb, C, hI⟩ := h
  have hxid := (hI.idx W).storeIds W k x hx
  have hxU : U x.id = some x := by rw [hxid]; exact hI.sub _ _ hx
  exact td_child_eq W hI.tdIntr hxU (parentOf_mono hI.sub hpar) (by rw [hxid]; exact htx) htp

/-- After any import history, whatever the coin did, the head is a fully validated block whose total difficulty is
    at least that of every fully validated block. -/
theorem head_is_max (W : World U) (g : Blk) (archive : Bool) (hgU : U g.id = some g) (hg0 : g.number = 0)
    (hgt : g.txs = []) (ops : List Op) (hops : Imports U ops) :
    let s := run (init g archive) ops
    s.seen s.head = true ∧
    ∀ k t, s.seen k = true → s.td k = some t → ∃ th, s.td s.head = some th ∧ t ≤ th := by
  intro s
  have hG := (good_of_imports W g archive hgU hg0 hgt ops hops).2
  obtain ⟨hb, C, hI⟩ := hG.inv
  refine ⟨?_, hG.headMax⟩
  have := hI.canonSeen hb hI.path.head_mem
  rwa [hI.headId W] at this

/-- a block that `WriteBlockWithState` accepted is in the fully validated set -/
theorem validated_is_seen (s : St) (b : Blk) (coin : Bool) (h : (writeBlockWithState s b coin).err = none) :
    (writeBlockWithState s b coin).st.seen b.id = true := by
  rw [wbws_ok_seen h]; exact updB_same _ _ _

/-- in an import history no call ever fails to reorganise: every validated block is accounted for -/
theorem imports_never_fail (W : World U) (g : Blk) (archive : Bool) (hgU : U g.id = some g) (hg0 : g.number = 0)
    (hgt : g.txs = []) (ops : List Op) (hops : Imports U ops) : Admissible U (init g archive) ops :=
  (good_of_imports W g archive hgU hg0 hgt ops hops).1

/-- The head's total difficulty never decreases as further blocks are imported. -/
theorem head_td_monotone (W : World U) (g : Blk) (archive : Bool) (hgU : U g.id = some g) (hg0 : g.number = 0)
    (hgt : g.txs = []) (ops : List Op) (op : Op) (hops : Imports U (ops ++ [op])) :
    let s := run (init g archive) ops
    let s' := (step s op).st
    ∃ th th', s.td s.head = some th ∧ s'.td s'.head = some th' ∧ th ≤ th' := by
  intro s s'
  have hops1 : Imports U ops := fun o ho => hops o (List.mem_append_left _ ho)
  have hop := hops op (by simp)
  obtain ⟨_, hG⟩ := good_of_imports W g archive hgU hg0 hgt ops hops1
  -- `Good` carries "the head's td is ≥ t0" through every step: re-aim `t0` at the current head's td, then step once
  obtain ⟨th, hth, _⟩ := hG.headTdGe
  have hG' := good_retarget hG ⟨th, hth, Nat.le_refl _⟩
  obtain ⟨th', hth', hle⟩ := (good_step W hG' op (hop.ok s).1 (hop.ok s).2).2.headTdGe
  exact ⟨th, th', hth, hth', hle⟩

/-! ### non-vacuity: a longer-lighter and a shorter-heavier branch, an exact tie resolved both ways -/

def g : Blk := ⟨0, 0, 0, 100, []⟩
def a1 : Blk := ⟨1, 0, 1, 10, [1]⟩
def a2 : Blk := ⟨2, 1, 2, 10, [2]⟩
def a3 : Blk := ⟨3, 2, 3, 10, [3]⟩       -- td 130, height 3
def b1 : Blk := ⟨4, 0, 1, 20, [1]⟩
def b2 : Blk := ⟨5, 4, 2, 20, [4]⟩       -- td 140, height 2: shorter but heavier
def t2 : Blk := ⟨6, 4, 2, 20, []⟩        -- sibling of b2 with the same difficulty: exact tie at equal height
def blocks : List Blk := [g, a1, a2, a3, b1, b2, t2]
def U0 : Map Blk := mapOf blocks

theorem world0 : World U0 := world_of_check (by decide)

def hist (coin : Bool) : List Op :=
  [.insert [b1] [], .insert [a1, a2, a3] [], .reopen, .insert [b2] [], .insert [t2] [[coin]]]

example (coin : Bool) : Imports U0 (hist coin) := by cases coin <;> decide

/-- the shorter-heavier branch wins over the longer-lighter one (arriving child-chain-first, then the long branch, then
    the overtaking block); the exact tie between b2 and t2 resolves either way, and both outcomes satisfy the theorem -/
example :
    (run (init g false) (hist false)).head = 5 ∧ (run (init g false) (hist true)).head = 6 ∧
    (run (init g false) (hist true)).td 6 = some 140 ∧ (run (init g false) (hist true)).td 3 = some 130 := by decide

example (coin : Bool) :
    let s := run (init g false) (hist coin)
    ∀ k t, s.seen k = true → s.td k = some t → ∃ th, s.td s.head = some th ∧ t ≤ th :=
  (head_is_max world0 g false (by decide) rfl rfl (hist coin) (by cases coin <;> decide)).2

/-! ### the header chain (`HeaderChain.WriteHeader`: `>` or exact tie → coin) -/

/-- header chain: every record is the parent's record plus the header's difficulty -/
theorem header_td_recurrence (W : World U) {s : HSt} (h : HInv U s) {x p : Blk} {tx tp : Nat}
    (hx : s.store x.id = some x) (hpar : parentOf s.store x = some p) (htx : s.td x.id = some tx)
    (htp : s.td p.id = some tp) : tx = tp + x.diff := by
  obtain ⟨hb, C, hI⟩ := h
  exact td_child_eq W hI.tdIntr (hI.sub _ _ hx) (parentOf_mono hI.sub hpar) htx htp

/-- After any history of header imports, whatever the coin did: no call crashed, every stored header has a record, the
    header head is at least as heavy as every stored header, and its total difficulty is at least the genesis's. -/
theorem header_head_is_max (W : World U) (g : Blk) (hgU : U g.id = some g) (hg0 : g.number = 0) (ops : List HOp)
    (hops : HImports U ops) :
    let s := hrun (hinit g) ops
    HAdmissible U (hinit g) ops ∧
    (∀ k x, s.store k = some x → (s.td k).isSome = true) ∧
    (∀ k t, s.td k = some t → ∃ th, s.td s.hhead = some th ∧ t ≤ th) := by
  intro s
  have hst := himports_run W ops ⟨g, [], hinvC_init g hgU hg0⟩ (hclosed_init g) hops
  obtain ⟨hb, C, hI⟩ := hst.inv
  exact ⟨himports_admissible hops _, hI.storeTd, hst.max rfl (hmax_init g)⟩

/-- the header head's total difficulty never decreases as further headers are imported -/
theorem header_head_td_monotone (W : World U) (g : Blk) (hgU : U g.id = some g) (hg0 : g.number = 0)
    (ops ops' : List HOp) (hops : HImports U (ops ++ ops')) :
    let s := hrun (hinit g) ops
    let s' := hrun s ops'
    ∃ th th', s.td s.hhead = some th ∧ s'.td s'.hhead = some th' ∧ th ≤ th' := by
  intro s s'
  have h1 : HImports U ops := fun o ho => hops o (List.mem_append_left _ ho)
  have h2 : HImports U ops' := fun o ho => hops o (List.mem_append_right _ ho)
  have hst := himports_run W ops ⟨g, [], hinvC_init g hgU hg0⟩ (hclosed_init g) h1
  obtain ⟨hb, C, hI'⟩ := hst.inv
  obtain ⟨th, hth⟩ := Option.isSome_iff_exists.mp (hI'.storeTd _ _ hI'.headStored)
  obtain ⟨th', hth', hle⟩ := (himports_run W ops' ⟨hb, C, hI'⟩ (hst.closed (hclosed_init g)) h2).mono th hth
  exact ⟨th, th', hth, hth', hle⟩

/-- header-first non-vacuity: the shorter heavier branch wins; the exact tie between b2 and t2 goes either way -/
example :
    (hrun (hinit g) [.insert [a1, a2, a3] [], .insert [b1, b2] [], .insert [t2] [false]]).hhead = 5 ∧
    (hrun (hinit g) [.insert [a1, a2, a3] [], .insert [b1, b2] [], .insert [t2] [true]]).hhead = 6 := by decide

example : HImports U0 [.insert [a1, a2, a3] [], .insert [b1, b2] [], .insert [t2] [true]] := by
  intro op hop
  simp at hop
  rcases hop with rfl | rfl | rfl <;> decide

/-! ### mixed histories: ONE chain fed through `InsertChain` and `InsertHeaderChain`

The two import paths share the `HeaderChain` state (header store, td records, the head header from which `WriteHeader`
takes the local total difficulty).  Model: `Aqv.Model.ChainMixed` (td level; where block imports leave the head header is
an input like the coin).  The theorems hold for every interleaving of block and header batches, every coin and every such
choice. -/

/-- a mixed history: every batch consists of blocks of the universe -/
def Mixed (U : Map Blk) (ops : List MOp) : Prop := ∀ op ∈ ops, MOpOk U op

instance (U : Map Blk) (ops : List MOp) : Decidable (Mixed U ops) :=
  inferInstanceAs (Decidable (∀ op ∈ ops, MOpOk U op))

theorem mrun_append (s : MSt) (a b : List MOp) : mrun s (a ++ b) = mrun (mrun s a) b := by
  induction a generalizing s with
  | nil => rfl
  | cons op a ih => exact ih _

theorem mixed_reachable (W : World U) (g : Blk) (hgU : U g.id = some g) (ops : List MOp) (hops : Mixed U ops) :
    MInv U (mrun (minit g) ops) := (mstep_run W ops (minv_init g hgU) hops).inv

/-- every record is the parent's record plus the difficulty, whichever path wrote it -/
theorem mixed_td_recurrence (W : World U) (g : Blk) (hgU : U g.id = some g) (ops : List MOp) (hops : Mixed U ops) :
    let s := mrun (minit g) ops
    ∀ k x p tx tp, s.hdr k = some x → parentOf s.hdr x = some p → s.td k = some tx → s.td p.id = some tp →
      tx = tp + x.diff := by
  intro s k x p tx tp hx hpar htx htp
  have h := mixed_reachable W g hgU ops hops
  have hxU := h.sub _ _ hx
  rw [← W.ids _ _ hxU] at htx hxU
  exact td_child_eq W h.tdI hxU (parentOf_mono h.sub hpar) htx htp

/-- the head block is a fully validated block at least as heavy as every fully validated block, whatever headers were
    imported in between -/
theorem mixed_head_is_max (W : World U) (g : Blk) (hgU : U g.id = some g) (ops : List MOp) (hops : Mixed U ops) :
    let s := mrun (minit g) ops
    s.blk s.head = true ∧ ∀ k t, s.blk k = true → s.td k = some t → ∃ th, s.td s.head = some th ∧ t ≤ th := by
  intro s
  have h := mixed_reachable W g hgU ops hops
  exact ⟨h.headBlk, h.headMax⟩

/-- the head block's total difficulty never decreases along a mixed history -/
theorem mixed_head_td_monotone (W : World U) (g : Blk) (hgU : U g.id = some g) (ops ops' : List MOp)
    (hops : Mixed U (ops ++ ops')) :
    let s := mrun (minit g) ops
    let s' := mrun (minit g) (ops ++ ops')
    ∃ th th', s.td s.head = some th ∧ s'.td s'.head = some th' ∧ th ≤ th' := by
  intro s s'
  have h1 : Mixed U ops := fun o ho => hops o (List.mem_append_left _ ho)
  have h2 : Mixed U ops' := fun o ho => hops o (List.mem_append_right _ ho)
  have hI := mixed_reachable W g hgU ops h1
  obtain ⟨x, hx⟩ := Option.isSome_iff_exists.mp (hI.blkHdr _ hI.headBlk)
  obtain ⟨th, hth⟩ := Option.isSome_iff_exists.mp (hI.hdrTd _ _ hx)
  obtain ⟨th', hth', hle⟩ := (mstep_run W ops' hI h2).headMono th hth
  refine ⟨th, th', hth, ?_, hle⟩
  have e : s' = mrun (mrun (minit g) ops) ops' := mrun_append _ _ _
  rw [e]; exact hth'

/-- `InsertHeaderChain` at any point of a mixed history: the head block is untouched, the head header's total difficulty
    does not decrease, and afterwards it is at least as heavy as every header the call has newly stored (the local total
    difficulty is that of the CURRENT head header, wherever block imports have put it) -/
theorem mixed_header_import_monotone (W : World U) {s : MSt} (h : MInv U s) (chain : List Blk)
    (hU : ∀ x ∈ chain, U x.id = some x) (coins : List Bool) :
    let s' := (mImportHeaders s chain coins).1.st
    s'.head = s.head ∧
    (∀ th, s.td s.hhead = some th → ∃ th', s'.td s'.hhead = some th' ∧ th ≤ th') ∧
    (∀ k, s.hdr k = none → (s'.hdr k).isSome = true → ∃ t th, s'.td k = some t ∧ s'.td s'.hhead = some th ∧ t ≤ th) := by
  intro s'
  have := mhstep_importHeaders h chain hU coins
  exact ⟨this.headSame, this.hheadMono, this.newMax⟩

/-- non-vacuity: full blocks of the long branch a1–a2–a3 (td 130), then bare headers of the lighter fork b1 (td 120): the
    head header stays on a3; headers of the heavier fork b1–b2 (td 140) move it to b2 while the head block stays a3 -/
example :
    let follow : List (Bool × Option Nat) := [(false, some 0), (false, some 0), (false, some 0)]  -- head header follows
    let s1 := mrun (minit g) [.blocks [a1, a2, a3] follow, .headers [b1] [true]]
    let s2 := mrun (minit g) [.blocks [a1, a2, a3] follow, .headers [b1, b2] []]
    s1.head = 3 ∧ s1.hhead = 3 ∧ s2.head = 3 ∧ s2.hhead = 5 ∧ s2.td 5 = some 140 := by decide

example : Mixed U0 [.blocks [a1, a2, a3] [], .headers [b1, b2] []] := by decide

/-! ### concurrency: the fork choice has to be made under the lock

The models treat `WriteBlockWithState` as ONE atomic step: the local total difficulty it compares with is that of the head
at the moment the block is written (`bc.mu` is held from before `CurrentBlock()` is read until `insert` returns).  This is
an ASSUMPTION of every theorem above about concurrent callers (`InsertChain` is serialised by `chainmu`, the miner calls
`WriteBlockWithState` directly); the harness ties it to the code with a controlled two-writer schedule.  The witness below
shows what the assumption buys: a writer that sampled the head's total difficulty BEFORE another writer made the heavier
sibling X head, and applies its decision afterwards, reorganises to its lighter block M. -/

/-- a write whose fork-choice decision was sampled in state `old` and is applied in state `s` -/
def staleWrite (old s : MSt) (b : Blk) : MSt :=
  match old.td old.head, s.td b.parent with
  | some sampled, some ptd =>
    let s1 : MSt := { s with td := upd s.td b.id (some (ptd + b.diff)), hdr := upd s.hdr b.id (some b),
                             blk := updB s.blk b.id true }
    if ptd + b.diff > sampled then { s1 with head := b.id, hhead := b.id } else s1
  | _, _ => s

theorem fork_choice_not_atomic_witness :
    let x : Blk := ⟨7, 4, 2, 30, []⟩        -- heavier sibling X of b2 on top of b1 (td 150)
    let s0 := mrun (minit g) [.blocks [b1] []]
    let sX := mrun s0 [.blocks [x] []]
    -- atomic (the model, the code under bc.mu): the lighter b2 (td 140) stays a side block
    (mrun sX [.blocks [b2] []]).head = 7 ∧
    -- decision sampled before X became head, applied after: the head moves to the lighter block, its td decreases
    (staleWrite s0 sX b2).head = 5 ∧ (staleWrite s0 sX b2).td 5 = some 140 ∧ sX.td 7 = some 150 := by decide

end Aqv.Props.C02
