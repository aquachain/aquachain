/-
  C13 — Headers and uncles are accepted iff they satisfy the consensus rules.
  Model: Aqv.Model.Consensus (Impl = consensus/aquahash/{consensus,difficulty}.go as written; Spec = the statement's rule list,
  the era-by-era difficulty formula, the declarative uncle rules, one-by-one verification).
  Constants and fork maps come from Aqv.Gen.Params / Aqv.Gen.Pow (regenerated from the compiled Go packages on every run).
-/
import Aqv.Lemmas.ConsensusBatch
import Aqv.Lemmas.ConsensusUncles
import Aqv.Model.ConsensusGen
import Aqv.Gen.UncleExemptions
import Aqv.Lemmas.Translated.Params
import Aqv.Lemmas.Translated.Consensus
namespace Aqv.Props.C13
open Aqv.Consensus

/-! ## T-gen: what the code says now is what the statement says -/

/-- the difficulty minima / bound divisors / duration limits and the header-rule constants dumped from the compiled
    `params` and `aquahash` packages are the statement's (changing one in the Go source breaks this obligation). -/
theorem gen_constants_are_the_statements : Gen.diffParams = Spec.diffParams ∧ Gen.vParams = Spec.vParams := by
  constructor <;> decide

/-- the generated fork maps of mainnet, testnet and the test schedule are the schedules of record. -/
theorem gen_schedules_of_record :
    Gen.config? "mainnet" = some { chainId := 61717561, forks := Spec.mainnetForks } ∧
    Gen.config? "testnet" = some { chainId := 617175611, forks := Spec.testnetForks } ∧
    Gen.config? "test" = some { chainId := 3, forks := Spec.testForks } := by
  refine ⟨?_, ?_, ?_⟩ <;> decide

/-- every built-in schedule has an unambiguous era reading (no HF10, HF6/HF7 inside the HF2 era and off the reset blocks). -/
theorem builtin_schedules_ordered : ∀ c ∈ Aqv.Gen.Params.configs, (cfgOf c).ordered = true := by decide

/-! ## difficulty -/

/-- `calcDifficultyHFX` (the Go switch, as written) computes the era-by-era formula of the Spec — for ALL parameter sets,
    ALL fork maps with an unambiguous era reading, all heights, times and parents. -/
theorem difficulty_spec (P : DiffParams) (cfg : Config) (hord : cfg.ordered = true) (time : Nat) (parent : Header) (grand : Option Header) :
    calcDifficultyHFX P cfg time parent grand = .val (difficultySpec P cfg time parent) :=
  calcDifficultyHFX_eq_spec P cfg hord time parent grand

/-- … in particular, with the regenerated constants on every generated built-in schedule the code computes the statement's formula. -/
theorem difficulty_spec_builtin : ∀ c ∈ Aqv.Gen.Params.configs, ∀ (time : Nat) (parent : Header) (grand : Option Header),
    calcDifficultyHFX Gen.diffParams (cfgOf c) time parent grand = .val (difficultySpec Spec.diffParams (cfgOf c) time parent) := by
  intro c hc time parent grand
  rw [gen_constants_are_the_statements.1]
  exact difficulty_spec _ _ (builtin_schedules_ordered c hc) time parent grand

/-- without the ordering hypothesis the two readings can differ: if HF5 and HF6 activate at the same block the code does
    NOT reset the difficulty there (the HF6 case of the switch comes first). -/
theorem difficulty_unordered_witness :
    let cfg : Config := { chainId := 3, forks := [(5, 5), (6, 5)] }
    let parent : Header := { hash := 0, parentHash := 0, number := 4, time := 1000, difficulty := 99999999, gasLimit := 0, gasUsed := 0, extraLen := 0 }
    cfg.ordered = false ∧ calcDifficultyHFX Spec.diffParams cfg 1010 parent none ≠ .val (difficultySpec Spec.diffParams cfg 1010 parent) := by
  decide

/-- resets: at a scheduled reset block (activation of HF8, HF5, HF3, HF1) the difficulty is that fork's minimum whatever
    the parent's difficulty and the timestamps. -/
theorem difficulty_reset (P : DiffParams) (cfg : Config) (hord : cfg.ordered = true) (time : Nat) (parent : Header) (grand : Option Header)
    (v : Int) (h : resetValue P cfg (parent.number + 1) = some v) :
    calcDifficultyHFX P cfg time parent grand = .val v := by
  rw [difficulty_spec P cfg hord, difficultySpec_of_reset h]

/-- the reset blocks of the mainnet schedule and their values, from the generated constants. -/
theorem mainnet_resets (time : Nat) (parent : Header) (grand : Option Header) :
    (parent.number + 1 = 3600 → calcDifficultyHFX Gen.diffParams (cfgOf Aqv.Gen.Params.mainnet) time parent grand = .val 100001792) ∧
    (parent.number + 1 = 13026 → calcDifficultyHFX Gen.diffParams (cfgOf Aqv.Gen.Params.mainnet) time parent grand = .val 30959185800) ∧
    (parent.number + 1 = 22800 → calcDifficultyHFX Gen.diffParams (cfgOf Aqv.Gen.Params.mainnet) time parent grand = .val 46039386) := by
  have key : ∀ n v, resetValue Gen.diffParams (cfgOf Aqv.Gen.Params.mainnet) n = some v → parent.number + 1 = n →
      calcDifficultyHFX Gen.diffParams (cfgOf Aqv.Gen.Params.mainnet) time parent grand = .val v :=
    fun n v hv hn => difficulty_reset _ _ (builtin_schedules_ordered _ (by decide)) time parent grand v (hn ▸ hv)
  exact ⟨key 3600 _ rfl, key 13026 _ rfl, key 22800 _ rfl⟩

/-- schedules on which every reset value is the minimum of the era it opens. -/
def minConsistent (c : Config) : Bool :=
  (match c.getHF 8 with | none => true | some a => a == 0 || c.isHF 5 a) &&
  (match c.getHF 3 with | none => true | some a => a == 0 || c.getHF 8 == some a || !c.isHF 5 a) &&
  (match c.getHF 1 with | none => true | some a => a == 0 || c.getHF 8 == some a || c.getHF 5 == some a || c.getHF 3 == some a || (!c.isHF 5 a && !c.isHF 3 a))

theorem minConsistent_reset (P : DiffParams) (c : Config) (hc : minConsistent c = true) (next : Nat) (hn : next ≠ 0) (v : Int)
    (h : resetValue P c next = some v) : v = eraMin P c next := by
  unfold minConsistent at hc
  simp only [Bool.and_eq_true] at hc
  obtain ⟨⟨c8, c3⟩, c1⟩ := hc
  unfold eraMin
  by_cases e8 : c.getHF 8 = some next
  · rw [e8] at c8
    have : c.isHF 5 next = true := by simpa [hn] using c8
    rw [resetValue_hf8 P e8, Option.some.injEq] at h
    simp [this, h]
  by_cases e5 : c.getHF 5 = some next
  · rw [resetValue_hf5 P e8 e5, Option.some.injEq] at h
    simp [isHF_of_getHF e5, h]
  by_cases e3 : c.getHF 3 = some next
  · rw [e3] at c3
    have : c.isHF 5 next = false := by simpa [hn, e8] using c3
    rw [resetValue_hf3 P e8 e5 e3, Option.some.injEq] at h
    simp [this, isHF_of_getHF e3, h]
  by_cases e1 : c.getHF 1 = some next
  · rw [e1] at c1
    have : c.isHF 5 next = false ∧ c.isHF 3 next = false := by simpa [hn, e8, e5, e3] using c1
    rw [resetValue_hf1 P e8 e5 e3 e1, Option.some.injEq] at h
    simp [this.1, this.2, isHF_of_getHF e1, h]
  · rw [(resetValue_eq_none_iff _ _ _).2 ⟨e8, e5, e3, e1⟩] at h
    cases h

/-- **never below the active minimum**: on a schedule whose resets open their eras consistently, in every era that has a
    minimum (HF2 onwards on any chain; before HF2 on mainnet — the code deliberately has "testnet no minimum" there),
    the scheduled difficulty is at least the era minimum, for all times and parents (even nonsensical ones). -/
theorem difficulty_ge_min (P : DiffParams) (cfg : Config) (hc : minConsistent cfg = true) (time : Nat) (parent : Header)
    (hera : resetValue P cfg (parent.number + 1) = none → cfg.isHF 2 (parent.number + 1) = true ∨
      (cfg.chainId = P.mainnetChainId ∧ cfg.isHF 3 (parent.number + 1) = false ∧ cfg.isHF 5 (parent.number + 1) = false)) :
    eraMin P cfg (parent.number + 1) ≤ difficultySpec P cfg time parent := by
  cases hr : resetValue P cfg (parent.number + 1) with
  | some v =>
    rw [difficultySpec_of_reset hr, minConsistent_reset P cfg hc _ (by omega) v hr]
    exact Int.le_refl _
  | none =>
    by_cases h2 : cfg.isHF 2 (parent.number + 1) = true
    · rw [difficultySpec_of_hf2 hr h2]
      exact le_simpleAdjust ..
    · obtain ⟨hm, h3, h5⟩ := (hera hr).resolve_left h2
      unfold difficultySpec eraFormula eraMin
      simp only [hr, h2, hm, h3, h5, if_true]
      split <;> omega

/-- … in particular on mainnet, the public testnet, the test schedule and the dev schedule (generated fork maps, generated
    constants) the difficulty the code computes is never below the minimum of the active era, at any height. -/
theorem difficulty_ge_min_builtin :
    ∀ c ∈ [Aqv.Gen.Params.mainnet, Aqv.Gen.Params.testnet, Aqv.Gen.Params.test, Aqv.Gen.Params.dev],
    ∀ (time : Nat) (parent : Header) (grand : Option Header),
      ∃ d, calcDifficultyHFX Gen.diffParams (cfgOf c) time parent grand = .val d ∧ eraMin Spec.diffParams (cfgOf c) (parent.number + 1) ≤ d := by
  intro c hc time parent grand
  simp only [List.mem_cons, List.not_mem_nil, or_false] at hc
  have hmem : c ∈ Aqv.Gen.Params.configs := by rcases hc with rfl | rfl | rfl | rfl <;> decide
  refine ⟨_, difficulty_spec_builtin c hmem time parent grand, ?_⟩
  -- the blocks before the HF2 era: on mainnet they precede HF3 and HF5; testnet and test have only the HF1 reset block; dev none
  have early : ∀ cfg : Config, cfg.getHF 1 = some 1 → cfg.getHF 2 = some 2 →
      resetValue Spec.diffParams cfg (parent.number + 1) = none → cfg.isHF 2 (parent.number + 1) = true := by
    intro cfg h1 h2 hr
    have n1 := ((resetValue_eq_none_iff _ _ _).1 hr).2.2.2
    rw [h1, ne_eq, Option.some.injEq] at n1
    rw [isHF_eq_of_getHF h2, decide_eq_true_eq]
    omega
  rcases hc with rfl | rfl | rfl | rfl
  · refine difficulty_ge_min _ _ (by decide) _ _ fun _ => ?_
    rw [isHF_eq_of_getHF (s := 7200) rfl, isHF_eq_of_getHF (s := 13026) rfl, isHF_eq_of_getHF (s := 22800) rfl]
    by_cases h2 : 7200 ≤ parent.number + 1
    · exact Or.inl (decide_eq_true h2)
    · exact Or.inr ⟨by decide, decide_eq_false (by omega), decide_eq_false (by omega)⟩
  · exact difficulty_ge_min _ _ (by decide) _ _ fun hr => Or.inl (early _ rfl rfl hr)
  · exact difficulty_ge_min _ _ (by decide) _ _ fun hr => Or.inl (early _ rfl rfl hr)
  · exact difficulty_ge_min _ _ (by decide) _ _ fun _ => Or.inl (by rw [isHF_eq_of_getHF (s := 0) rfl]; exact decide_eq_true (Nat.zero_le _))

/-- the late-era private test network `testnet2` (HF5…HF9 without HF1/HF2) is NOT covered: the switch falls through to the
    genesis-era algorithm, which has no minimum off mainnet, so the difficulty can sink below the HF5 minimum. -/
theorem testnet2_below_min_witness :
    let parent : Header := { hash := 0, parentHash := 0, number := 9, time := 1000, difficulty := 46039386, gasLimit := 0, gasUsed := 0, extraLen := 0 }
    calcDifficultyHFX Gen.diffParams (cfgOf Aqv.Gen.Params.testnet2) 1020 parent none = .val 46016906 ∧
    (46016906 : Int) < eraMin Spec.diffParams (cfgOf Aqv.Gen.Params.testnet2) 10 := by
  decide

/-! ## verifyHeader -/

/-- the environment the real engine runs in: constants regenerated from the Go packages, any schedule, clock, seal verdict. -/
def genEnv (cfg : Config) (now : Nat) (sealBad : Header → Bool) : Env :=
  { P := Gen.diffParams, V := Gen.vParams, cfg := cfg, now := now, sealBad := sealBad }

/-- the regenerated constants being the statement's, the engine's environment is the Spec's. -/
theorem genEnv_eq (cfg : Config) (now : Nat) (sealBad : Header → Bool) :
    genEnv cfg now sealBad = { P := Spec.diffParams, V := Spec.vParams, cfg := cfg, now := now, sealBad := sealBad } := by
  rw [genEnv, gen_constants_are_the_statements.1, gen_constants_are_the_statements.2]

/-- when a header is rejected, the error is the first violated rule in the order of the statement's list. -/
theorem verifyHeader_reports_first_violation (cfg : Config) (now : Nat) (sealBad : Header → Bool) (h parent : Header) (grand : Option Header)
    (uncle doSeal : Bool) (hord : cfg.ordered = true) (hpg : parent.gasLimit < two63) (hnow : uncle = false → now + 15 < two64)
    (htime : uncle = true → h.time < two64) :
    verifyHeader (genEnv cfg now sealBad) h parent grand uncle doSeal = headerRule Spec.diffParams cfg now sealBad h parent uncle doSeal := by
  rw [genEnv_eq]
  exact verifyHeader_eq_rule _ h parent grand uncle doSeal rfl hord hpg hnow htime

/-- **accepted iff valid, both directions** (non-uncle headers: for ALL parents below the gas cap, candidates, clocks in
    the uint64 range, schedules with an unambiguous era reading; uncles: additionally the timestamp below 2^64, see
    `uncle_time_truncation_witness`).  The code's int64/uint64 arithmetic, big.Int truncations and rule order are in `verifyHeader`;
    `HeaderValid` is the rule list of the statement. -/
theorem verifyHeader_iff (cfg : Config) (now : Nat) (sealBad : Header → Bool) (h parent : Header) (grand : Option Header) (uncle doSeal : Bool)
    (hord : cfg.ordered = true) (hpg : parent.gasLimit < two63) (hnow : uncle = false → now + 15 < two64) (htime : uncle = true → h.time < two64) :
    verifyHeader (genEnv cfg now sealBad) h parent grand uncle doSeal = none ↔
      HeaderValid Spec.diffParams cfg now sealBad h parent uncle doSeal := by
  rw [verifyHeader_reports_first_violation cfg now sealBad h parent grand uncle doSeal hord hpg hnow htime]
  exact headerRule_none_iff _ _ _ _ _ _ _ _

/-- the public entry point `VerifyHeader`: a header that is not yet known is accepted iff its parent (by hash and number) is
    known, above height 2 its grandparent too, and it is valid relative to that parent. (A known header is accepted outright.) -/
theorem verifyHeaderEntry_iff (cfg : Config) (now : Nat) (sealBad : Header → Bool) (chain : Chain) (h : Header) (doSeal : Bool)
    (hord : cfg.ordered = true) (hnow : now + 15 < two64) (hunknown : chain.getHeader h.hash h.number = none)
    (hpg : ∀ p, chain.getHeader h.parentHash (subU64 h.number 1) = some p → p.gasLimit < two63) :
    verifyHeaderEntry (genEnv cfg now sealBad) chain h doSeal = none ↔
      ∃ p, chain.getHeader h.parentHash (subU64 h.number 1) = some p ∧
        (h.number > 2 → (chain.getHeader p.parentHash (subU64 h.number 2)).isSome = true) ∧
        HeaderValid Spec.diffParams cfg now sealBad h p false doSeal := by
  unfold verifyHeaderEntry
  simp only [hunknown, Option.isSome_none, Bool.false_eq_true, if_false]
  cases hp : chain.getHeader h.parentHash (subU64 h.number 1) with
  | none => simp
  | some p =>
    simp only [Option.some.injEq, exists_eq_left', ite_some_eq_none]
    refine and_congr ?_ (verifyHeader_iff cfg now sealBad h p _ false doSeal hord (hpg p hp) (fun _ => hnow) (fun hc => by cases hc))
    by_cases h2 : h.number > 2 <;> simp [h2, Option.isSome_iff_ne_none]

/-- **finding** — uncle timestamps of 2^64 and above: `verifyHeader` hands `header.Time.Uint64()` (the low 64 bits) to the
    difficulty function, so the difficulty rule is evaluated on a wrapped timestamp.  Witness on the test schedule: an uncle
    with time `2^64 + 5` on a parent with time 1000 is ACCEPTED with the "fast block → increase" difficulty although the
    formula on its real timestamp demands the decrease. -/
theorem uncle_time_truncation_witness :
    let cfg : Config := { chainId := 3, forks := Spec.testForks }
    let parent : Header := { hash := 1, parentHash := 0, number := 20, time := 1000, difficulty := 4603938600, gasLimit := 4712388, gasUsed := 0, extraLen := 0 }
    let u : Header := { hash := 2, parentHash := 1, number := 21, time := 18446744073709551616 + 5, difficulty := 4603938600 + 35968270, gasLimit := 4712388, gasUsed := 0, extraLen := 0 }
    verifyHeader (genEnv cfg 0 (fun _ => false)) u parent none true true = none ∧
    ¬ HeaderValid Spec.diffParams cfg 0 (fun _ => false) u parent true true ∧
    difficultySpec Spec.diffParams cfg u.time parent = 4603938600 - 35968270 := by
  decide

/-- the hypothesis on the parent's gas limit is needed (and holds for every verified parent, whose own limit is ≤ 2^63-1):
    with a parent gas limit of 2^64-1 (possible only in a genesis block) the int64 subtraction wraps and a child with gas
    limit 5000 passes the "moved by less than parent/1024" rule. -/
theorem parent_gas_cap_witness :
    gasLimitBad Spec.vParams 18446744073709551615 5000 = false ∧
    ¬ ((if (18446744073709551615 : Nat) ≤ 5000 then 5000 - 18446744073709551615 else 18446744073709551615 - 5000) < 18446744073709551615 / 1024) := by
  decide

/-! ## uncles -/

/-- T-gen: the exemption table the model uses is the one in the source now (go/ast over `VerifyUncles`: three pairs keyed by
    the including block's hash, two by the uncle's parent hash, three by the uncle's hash; one threshold 15000 guarding both chains). -/
theorem gen_exemptions_are_the_models :
    Aqv.Gen.UncleExemptions.dup = dupExemptions ∧ Aqv.Gen.UncleExemptions.danglingParent = danglingParentExemptions ∧
    Aqv.Gen.UncleExemptions.danglingHash = danglingHashExemptions ∧ Aqv.Gen.UncleExemptions.threshold = 15000 ∧
    Aqv.Gen.UncleExemptions.guards = 2 := by decide

/-- **uncle sets accepted iff valid-or-grandfathered, at ALL heights**: `VerifyUncles` accepts exactly when the declarative
    rules hold, where — while the loop variable `number` is not above the generated threshold 15000 — an already rewarded
    uncle is tolerated iff (block hash, uncle number) is one of the generated pairs, and a dangling uncle ends the check
    with acceptance iff (uncle parent hash, number) or (uncle hash, number) is one of the generated pairs.  For every ordered
    schedule (in particular mainnet, see the corollary); uncle timestamps below 2^64, no hash cycle, ancestors within the gas cap.
    The clause is not tied to the chain id: finding `uncle_exemption_witness`. -/
theorem verifyUncles_iff_with_exemptions (cfg : Config) (sealBad : Header → Bool) (chain : Chain) (block : Block)
    (hord : cfg.ordered = true)
    (hgas : ∀ a ∈ ancestorsOf chain 7 block.header.parentHash (subU64 block.header.number 1), a.header.gasLimit < two63)
    (hu : ∀ u ∈ block.uncles, u.parentHash ≠ block.header.hash ∧ u.time < two64) :
    verifyUncles (genEnv cfg 0 sealBad) chain block = none ↔ UnclesValidEx Spec.diffParams cfg sealBad chain block := by
  rw [genEnv_eq]
  exact verifyUncles_none_iff _ chain block rfl hord hgas hu

/-- … on the generated mainnet schedule. -/
theorem verifyUncles_iff_with_exemptions_mainnet (sealBad : Header → Bool) (chain : Chain) (block : Block)
    (hgas : ∀ a ∈ ancestorsOf chain 7 block.header.parentHash (subU64 block.header.number 1), a.header.gasLimit < two63)
    (hu : ∀ u ∈ block.uncles, u.parentHash ≠ block.header.hash ∧ u.time < two64) :
    verifyUncles (genEnv (cfgOf Aqv.Gen.Params.mainnet) 0 sealBad) chain block = none ↔
      UnclesValidEx Spec.diffParams (cfgOf Aqv.Gen.Params.mainnet) sealBad chain block :=
  verifyUncles_iff_with_exemptions _ sealBad chain block (builtin_schedules_ordered _ (by decide)) hgas hu

/-- **uncle sets accepted iff valid** — partial: outside the reach of the hard-coded historic exemptions (the loop variable
    `number` above 15000, which holds for every block from height 15009 on, see `uncle_window_high_blocks`), with uncle
    timestamps below 2^64 (see `uncle_time_truncation_witness`), ancestors within the gas cap and no hash cycle
    (an uncle cannot name the including block as its parent).  Full statement (no `hnum`):
    `verifyUncles … = none ↔ UnclesValid …` — false on any chain below height 15009, see `uncle_exemption_witness`. -/
theorem verifyUncles_iff_partial (cfg : Config) (sealBad : Header → Bool) (chain : Chain) (block : Block)
    (hord : cfg.ordered = true)
    (hnum : 15000 < (gatherFamily chain 7 block.header.parentHash (subU64 block.header.number 1) { ancestors := [], pastUncles := [], number := 0 }).number)
    (hgas : ∀ a ∈ ancestorsOf chain 7 block.header.parentHash (subU64 block.header.number 1), a.header.gasLimit < two63)
    (hu : ∀ u ∈ block.uncles, u.parentHash ≠ block.header.hash ∧ u.time < two64) :
    verifyUncles (genEnv cfg 0 sealBad) chain block = none ↔ UnclesValid Spec.diffParams cfg sealBad chain block :=
  (verifyUncles_iff_with_exemptions cfg sealBad chain block hord hgas hu).trans (unclesValidEx_iff_of_high _ _ _ _ _ hnum)

/-- **the uncle limit depends on the block's own number only**: a block with more uncles than `uncleLimit cfg block.number`
    (2; 1 from HF5 — generated `maxUncles`, `maxUnclesHF5`) is refused with `too-many-uncles` whatever the chain reader holds —
    stored ancestors, local head, clock play no part; and two blocks with the same number and uncle count get the same count verdict. -/
theorem uncle_limit_depends_on_block_number_only (cfg : Config) (now : Nat) (sealBad : Header → Bool) (chain : Chain) (block : Block)
    (h : uncleLimit cfg block.header.number < block.uncles.length) :
    verifyUncles (genEnv cfg now sealBad) chain block = some .tooManyUncles := by
  rw [genEnv_eq, verifyUncles_eq _ chain block rfl]
  exact if_pos h

/-- the head-number variant is a different rule: on the test schedule (HF5 at 5) a block #4 may carry two uncles while a node whose
    local head is at #9 would, keyed by the head, allow only one — and a block #9 with two uncles would pass on a node whose head is at #3. -/
theorem uncle_limit_head_variant_witness :
    uncleLimit { chainId := 3, forks := Spec.testForks } 4 = 2 ∧ uncleLimit { chainId := 3, forks := Spec.testForks } 9 = 1 ∧
    uncleLimit { chainId := 3, forks := Spec.testForks } 3 = 2 := by decide

/-- from height 15009 on the historic exemptions are out of reach, whatever the chain reader returns. -/
theorem uncle_window_high_blocks (chain : Chain) (block : Block) (h1 : 15009 ≤ block.header.number) (h2 : block.header.number < two64) :
    15000 < (gatherFamily chain 7 block.header.parentHash (subU64 block.header.number 1) { ancestors := [], pastUncles := [], number := 0 }).number := by
  rw [subU64_of_le _ 1 (by omega) h2]
  have := gatherFamily_number chain 7 block.header.parentHash (block.header.number - 1) { ancestors := [], pastUncles := [], number := 0 }
    (by omega) (by omega)
  omega

/-- **finding** — the mainnet-history exemptions in `VerifyUncles` are not tied to mainnet: on ANY chain a block below height
    15009 may carry an "uncle" whose `ParentHash` is 0x6b81…2923 and whose number is 14003; `VerifyUncles` returns nil
    without looking at the uncle's ancestry, validity or the remaining uncles.  Witness on the test schedule, block 10. -/
theorem uncle_exemption_witness :
    let cfg : Config := { chainId := 3, forks := Spec.testForks }
    let fake : Header := { hash := 77, parentHash := 0x6b818656fb5059ab4dd070e2c2822a7774065090e74ff31515764212c88e2923, number := 14003,
                           time := 0, difficulty := 0, gasLimit := 0, gasUsed := 0, extraLen := 999 }
    let block : Block := { header := { hash := 10, parentHash := 9, number := 10, time := 5000, difficulty := 46039386, gasLimit := 4712388, gasUsed := 0, extraLen := 0 },
                           uncles := [fake] }
    let chain : Chain := { getHeader := fun _ _ => none, getBlock := fun _ _ => none }
    verifyUncles (genEnv cfg 0 (fun _ => false)) chain block = none ∧ ¬ UnclesValid Spec.diffParams cfg (fun _ => false) chain block := by
  decide

/-! ## batch verification -/

/-- whatever subset of the workers has completed, in whatever order, the results sent so far are the per-header results
    in input order — a prefix of the final sequence (so a consumer that stops at the first failure sees the same one). -/
theorem coordinator_prefix {α : Type} (errors : Nat → α) (n : Nat) (completion : List Nat) :
    ∃ k, k ≤ n ∧ coordinator errors n completion = (List.range k).map errors :=
  let ⟨k, hk, _, _, he⟩ := coordinator_spec errors n completion
  ⟨k, hk, he⟩

/-- for EVERY completion order of the workers (any list in which each index occurs; in particular every permutation of
    0..n-1) the result channel carries `errors[0], …, errors[n-1]` in input order. -/
theorem coordinator_complete {α : Type} (errors : Nat → α) (n : Nat) (completion : List Nat) (hall : ∀ i, i < n → i ∈ completion) :
    coordinator errors n completion = (List.range n).map errors := by
  obtain ⟨k, hk, _, hstop, he⟩ := coordinator_spec errors n completion
  -- the loop cannot have stopped short of `n`: the index it waits for has completed
  rw [he, Nat.le_antisymm hk (Nat.not_lt.1 fun hlt => hstop hlt (hall _ hlt))]

/-- **batch = one-by-one, for every worker schedule**: for a contiguous batch over a parent-closed, collision-free chain
    reader (`BatchOk`: what `InsertChain` / `ValidateHeaderChain` enforce before calling `VerifyHeaders`), for every
    completion order of the workers, `VerifyHeaders` delivers the per-header results in order and its first failure
    (index and error) is the first failure of verifying the headers one at a time, inserting each accepted one. -/
theorem batch_equals_sequential (env : Env) (chain : Chain) (hs : List Header) (seals : List Bool) (completion : List Nat)
    (ok : BatchOk chain hs) (hall : ∀ i, i < hs.length → i ∈ completion) :
    verifyHeadersBatch env chain hs seals completion = (List.range hs.length).map (workerResult env chain hs seals) ∧
    firstFailure (verifyHeadersBatch env chain hs seals completion) = sequentialFirstFailure env seals chain hs 0 := by
  have h1 : verifyHeadersBatch env chain hs seals completion = (List.range hs.length).map (workerResult env chain hs seals) :=
    coordinator_complete _ _ _ hall
  exact ⟨h1, by rw [h1, sequential_eq_workers env chain hs seals ok]⟩

/-- **the tie of the contiguity hypothesis**: the pre-check `ValidateHeaderChain` (and `insertChain`) performs before it hands a
    batch to `VerifyHeaders` — consecutive numbers AND `chain[i].ParentHash == chain[i-1].Hash()` — holds exactly when the batch
    satisfies the contiguity hypothesis `BatchOk.contiguous` of `batch_equals_sequential` (numbers in the uint64 range). -/
theorem validateHeaderChain_establishes_contiguity (hs : List Header) (hsm : ∀ a ∈ hs, a.number + 1 < two64) :
    linked hs = true ↔
      (∀ i a b, hs[i]? = some a → hs[i + 1]? = some b → b.number = a.number + 1 ∧ b.parentHash = a.hash) := by
  exact ⟨linked_contiguous hs hsm, contiguous_linked hs⟩

/-- a batch that fails the pre-check is refused outright — no header of it is verified or written — for every schedule. -/
theorem validateHeaderChain_rejects_unlinked (env : Env) (chain : Chain) (hs : List Header) (seals : List Bool) (completion : List Nat)
    (h : linked hs = false) : validateHeaderChain env chain hs seals completion = .nonContiguous := by
  unfold validateHeaderChain; simp [h]

/-- **header-batch import = one-by-one verification**: `ValidateHeaderChain` (pre-check + `VerifyHeaders` + first failure), for
    every completion order of the workers, accepts a batch iff it is linked and every header passes `VerifyHeader` against the
    chain extended by its predecessors, and otherwise reports the same first failure — over a parent-closed, collision-free
    chain reader, without assuming contiguity (the pre-check provides it). -/
theorem validateHeaderChain_equals_sequential (env : Env) (chain : Chain) (hs : List Header) (seals : List Bool) (completion : List Nat)
    (hsm : ∀ a ∈ hs, a.number + 1 < two64) (hfirst : ∀ a, hs[0]? = some a → 1 ≤ a.number)
    (hwf : ∀ hash n x, chain.getHeader hash n = some x → x.hash = hash ∧ x.number = n)
    (hclosed : ∀ a ∈ hs, (chain.getHeader a.hash a.number).isSome →
      ∃ p, chain.getHeader a.parentHash (a.number - 1) = some p ∧ (2 < a.number → (chain.getHeader p.parentHash (a.number - 2)).isSome))
    (hnocoll : ∀ hash n x, chain.getHeader hash n = some x → ∀ y ∈ hs, y.hash = x.hash → y = x)
    (hall : ∀ i, i < hs.length → i ∈ completion) :
    validateHeaderChain env chain hs seals completion =
      if linked hs then
        (match sequentialFirstFailure env seals chain hs 0 with
         | none => .accepted
         | some (i, e) => .rejected i e)
      else .nonContiguous := by
  by_cases hl : linked hs = true
  · have ok : BatchOk chain hs :=
      { contiguous := (validateHeaderChain_establishes_contiguity hs hsm).1 hl, first := hfirst, small := fun a ha => by have := hsm a ha; omega,
        wf := hwf, closed := hclosed, nocoll := hnocoll }
    unfold validateHeaderChain
    simp only [hl, Bool.not_true, Bool.false_eq_true, if_false, if_true]
    rw [(batch_equals_sequential env chain hs seals completion ok hall).2]
    cases sequentialFirstFailure env seals chain hs 0 with
    | none => rfl
    | some ie => rfl
  · have hl' : linked hs = false := by simpa using hl
    rw [validateHeaderChain_rejects_unlinked env chain hs seals completion hl']
    simp [hl']

/-- **results are consumed in lock-step** (the assumption under which the per-index theorems speak about `InsertChain`, made
    explicit and proved for the loop as written): `insertChain2` receives exactly one result per block, in order, before any
    `continue`; hence, for every completion order of the workers, block `i` of the batch is judged by `workerResult i` — and by
    `batch_equals_sequential` by what one-by-one `VerifyHeader` says about it. -/
theorem results_consumed_in_lockstep (env : Env) (chain : Chain) (hs : List Header) (seals : List Bool) (completion : List Nat)
    (hall : ∀ i, i < hs.length → i ∈ completion) :
    consumeResults (fun _ => false) 0 hs.length (verifyHeadersBatch env chain hs seals completion) =
      (List.range hs.length).map (fun i => (i, workerResult env chain hs seals i)) := by
  unfold verifyHeadersBatch
  rw [coordinator_complete _ _ _ hall, List.range_eq_range']
  exact consumeResults_lockstep_map _ _ 0

/-- the alignment is load-bearing: a `continue` placed before the receive (e.g. for an already imported block) makes the NEXT
    block be judged by the skipped block's result — here block 1 (whose own result is `extra`) is judged by block 0's `nil`. -/
theorem skip_before_receive_misaligns :
    consumeResults (fun i => i == 0) 0 2 [(none : Option VErr), some .extra] = [(1, none)] ∧
    consumeResults (fun _ => false) 0 2 [(none : Option VErr), some .extra] = [(0, none), (1, some .extra)] := by
  decide

/-- **the verdict does not depend on the offer history**: after any history of import attempts that were all refused (a block
    offered before its parent, after a failed sibling, …) the chain is what it was, and the verdict on a header is the one it
    would have got had the history not happened — acceptance is a function of (header, chain) only. -/
theorem accept_history_independent (env : Env) (doSeal : Bool) (chain : Chain) (history : List Header) (h : Header)
    (hrej : ∀ v ∈ (offerAll env doSeal chain history).2, v ≠ none) :
    (offerAll env doSeal chain history).1 = chain ∧
    (offer env (offerAll env doSeal chain history).1 h doSeal).2 = verifyHeaderEntry env chain h doSeal := by
  have hc := offerAll_fst_of_rejected env doSeal history chain hrej
  rw [hc]
  exact ⟨rfl, offer_snd env chain h doSeal⟩

/-- … in particular a header refused as `unknown-ancestor` is accepted later exactly when it is valid relative to the chain then. -/
theorem early_offer_is_harmless (env : Env) (doSeal : Bool) (chain : Chain) (early parent : Header)
    (h1 : verifyHeaderEntry env chain early doSeal = some .unknownAncestor)
    (h2 : verifyHeaderEntry env chain parent doSeal = none) :
    (offerAll env doSeal chain [early, parent, early]).2 =
      [some .unknownAncestor, none, verifyHeaderEntry env (chain.insert parent) early doSeal] := by
  simp only [offerAll, offer, h1, h2]
  cases verifyHeaderEntry env (chain.insert parent) early doSeal <;> rfl

/-- two schedules of the same batch report the same thing. -/
theorem batch_schedule_independent (env : Env) (chain : Chain) (hs : List Header) (seals : List Bool) (c₁ c₂ : List Nat)
    (h₁ : ∀ i, i < hs.length → i ∈ c₁) (h₂ : ∀ i, i < hs.length → i ∈ c₂) :
    verifyHeadersBatch env chain hs seals c₁ = verifyHeadersBatch env chain hs seals c₂ := by
  unfold verifyHeadersBatch
  rw [coordinator_complete _ _ _ h₁, coordinator_complete _ _ _ h₂]

/-! ## non-vacuity -/

-- `difficulty_spec` / `verifyHeader_iff`: the hypotheses are met by every generated schedule (`builtin_schedules_ordered`); a
-- concrete accepted header on the test schedule (HF6 era: +parent/128 for a 100 s block), and a rejected neighbour:
def exCfg : Config := { chainId := 3, forks := Spec.testForks }
def exParent : Header := { hash := 101, parentHash := 100, number := 19998, time := 1000, difficulty := 92078772, gasLimit := 4712388, gasUsed := 0, extraLen := 0 }
def exChild : Header := { hash := 102, parentHash := 101, number := 19999, time := 1100, difficulty := 92798137, gasLimit := 4712388 + 4600, gasUsed := 21000, extraLen := 32 }

example : exCfg.ordered = true ∧ exParent.gasLimit < two63 ∧ 1700000000 + 15 < two64 := by decide
example : verifyHeader (genEnv exCfg 1700000000 (fun _ => false)) exChild exParent none false true = none := by decide
example : HeaderValid Spec.diffParams exCfg 1700000000 (fun _ => false) exChild exParent false true := by decide
example : verifyHeader (genEnv exCfg 1700000000 (fun _ => false)) { exChild with gasLimit := 4712388 + 4601 } exParent none false true = some .gasLimit := by decide
example : verifyHeader (genEnv exCfg 1700000000 (fun _ => false)) { exChild with difficulty := 92798138 } exParent none false true = some .difficulty := by decide

-- `difficulty_ge_min` / `difficulty_reset`: a reset block and an era with a clamped decrease
example : minConsistent exCfg = true ∧ resetValue Spec.diffParams exCfg 5 = some 46039386 := by decide
example : difficultySpec Spec.diffParams exCfg 2000 { exParent with difficulty := 46039386 + 10 } = 46039386 := by decide

-- `verifyUncles_iff_partial`: block 20000 of a small stored chain with one valid uncle (a sibling of its parent)
def exUncle : Header := { hash := 201, parentHash := 101, number := 19999, time := 1100, difficulty := 92798137, gasLimit := 4712388, gasUsed := 0, extraLen := 0 }
def exB1 : Block := { header := exParent, uncles := [] }
def exB2 : Block := { header := { exChild with extraLen := 0 }, uncles := [] }
def exBlock : Block := { header := { hash := 103, parentHash := 102, number := 20000, time := 1300, difficulty := 93523122, gasLimit := 4712388 + 4600, gasUsed := 0, extraLen := 0 },
                         uncles := [exUncle] }
def exChain : Chain :=
  { getHeader := fun hash n => if hash = 101 ∧ n = 19998 then some exB1.header else if hash = 102 ∧ n = 19999 then some exB2.header else none
    getBlock := fun hash n => if hash = 101 ∧ n = 19998 then some exB1 else if hash = 102 ∧ n = 19999 then some exB2 else none }

example : 15000 < (gatherFamily exChain 7 exBlock.header.parentHash (subU64 exBlock.header.number 1) { ancestors := [], pastUncles := [], number := 0 }).number :=
  uncle_window_high_blocks exChain exBlock (by decide) (by decide)
example : (∀ a ∈ ancestorsOf exChain 7 exBlock.header.parentHash (subU64 exBlock.header.number 1), a.header.gasLimit < two63) ∧
    (∀ u ∈ exBlock.uncles, u.parentHash ≠ exBlock.header.hash ∧ u.time < two64) := by decide
example : verifyUncles (genEnv exCfg 0 (fun _ => false)) exChain exBlock = none := by decide
example : UnclesValid Spec.diffParams exCfg (fun _ => false) exChain exBlock := by decide
example : verifyUncles (genEnv exCfg 0 (fun _ => false)) exChain { exBlock with uncles := [exUncle, exUncle] } = some .tooManyUncles := by decide
example : verifyUncles (genEnv exCfg 0 (fun _ => false)) exChain { exBlock with uncles := [exB2.header] } = some .uncleIsAncestor := by decide

-- `verifyUncles_iff_with_exemptions`: a low block with a listed dangling pair satisfies the grandfathered rules (and an unlisted one does not)
example :
    let fake : Header := { hash := 77, parentHash := 0x6b818656fb5059ab4dd070e2c2822a7774065090e74ff31515764212c88e2923, number := 14003,
                           time := 0, difficulty := 0, gasLimit := 0, gasUsed := 0, extraLen := 0 }
    let block : Block := { header := { hash := 10, parentHash := 9, number := 14010, time := 5000, difficulty := 46039386, gasLimit := 4712388, gasUsed := 0, extraLen := 0 },
                           uncles := [fake] }
    let chain : Chain := { getHeader := fun _ _ => none, getBlock := fun _ _ => none }
    verifyUncles (genEnv (cfgOf Aqv.Gen.Params.mainnet) 0 (fun _ => false)) chain block = none ∧
    verifyUncles (genEnv (cfgOf Aqv.Gen.Params.mainnet) 0 (fun _ => false)) chain { block with uncles := [{ fake with number := 14002 }] } = some .danglingUncle := by
  decide

-- `uncle_limit_depends_on_block_number_only`: block 20000 (HF5 active) with two uncles exceeds the limit, on any chain
example : uncleLimit exCfg exBlock.header.number < ({ exBlock with uncles := [exUncle, exUncle] } : Block).uncles.length := by decide

-- `coordinator_complete`: a permutation of 0..3
example : coordinator (fun i => i * 10) 4 [2, 0, 3, 1] = [0, 10, 20, 30] := by decide
example : coordinator (fun i => i * 10) 4 [2, 3] = [] ∧ coordinator (fun i => i * 10) 4 [2, 0, 1] = [0, 10, 20] := by decide

-- `batch_equals_sequential`: `BatchOk` holds for a two-header batch on top of one stored header …
def exGrand : Header := { exParent with hash := 100, parentHash := 99, number := 19997, time := 900 }
def exStored : Chain :=
  { getHeader := fun hash n => if hash = 101 ∧ n = 19998 then some exParent else if hash = 100 ∧ n = 19997 then some exGrand else none
    getBlock := fun _ _ => none }
def exBatch : List Header := [{ exChild with extraLen := 0 }, { exBlock.header with gasLimit := 4712388 + 4600 }]

example : BatchOk exStored exBatch where
  contiguous := (validateHeaderChain_establishes_contiguity exBatch (by decide)).1 (by decide)
  first := by intro a ha; simp [exBatch] at ha; subst ha; decide
  small := by decide
  wf := by
    intro hash n x h
    simp only [exStored] at h
    split at h
    · rename_i hc; cases h; exact ⟨hc.1.symm, hc.2.symm⟩
    · split at h
      · rename_i hc; cases h; exact ⟨hc.1.symm, hc.2.symm⟩
      · cases h
  closed := by decide
  nocoll := by
    intro hash n x h y hy hyx
    simp only [exStored] at h
    split at h
    · cases h; revert hyx; revert y; decide
    · split at h
      · cases h; revert hyx; revert y; decide
      · cases h

-- `validateHeaderChain_*`: the example batch passes the pre-check; re-pointing its second header at another parent, a number gap
-- or swapping the order fails it (and the import is refused whatever the workers would say)
example : linked exBatch = true ∧ (∀ a ∈ exBatch, a.number + 1 < two64) := by decide
example : linked [exBatch[0]!, { exBatch[1]! with parentHash := 999 }] = false ∧ linked exBatch.reverse = false ∧
    linked [exBatch[0]!, { exBatch[1]! with number := 20001 }] = false := by decide
example : validateHeaderChain (genEnv exCfg 1700000000 (fun _ => false)) exStored [exBatch[0]!, { exBatch[1]! with parentHash := 999 }] [true, true] [1, 0] = .nonContiguous := by decide

-- `accept_history_independent` / `early_offer_is_harmless`: the second header of the example batch offered before the first is an unknown ancestor, then accepted in order
example : (offerAll (genEnv exCfg 1700000000 (fun _ => false)) true exStored
    [{ exBatch[1]! with difficulty := 92073152 }, exBatch[0]!, { exBatch[1]! with difficulty := 92073152 }]).2 = [some .unknownAncestor, none, none] := by decide

-- … and the first header failing its seal is reported at index 0 by both paths, for any schedule
example : firstFailure (verifyHeadersBatch (genEnv exCfg 1700000000 (fun h => h.number == 19999)) exStored exBatch [true, true] [1, 0]) = some (0, .sealErr) ∧
    sequentialFirstFailure (genEnv exCfg 1700000000 (fun h => h.number == 19999)) [true, true] exStored exBatch 0 = some (0, .sealErr) := by decide

/-! ### tie by translation (T-gen `translated`, DESIGN 2.2 mini-translator): the fork predicates of package params

params.isForked and (*ChainConfig).IsHF / GetHF are translated from the go/ssa form of the tree under test on every run
(`Aqv.Gen.Translated`; a `*big.Int` is an `Option Int`, nil = none; the map `c.HF` is a function; result `none` = panic).
On the fork map of the model (`hfMapOf c`) the translated code never panics and computes `Config.isHF` / `Config.getHF`,
the predicates every header-rule theorem above is stated on (proofs in `Aqv.Lemmas.Translated.Params`). -/
theorem isHF_code_is_model (c : Config) (hf : Nat) (h : hf < 2 ^ 63) (num : Nat) :
    Aqv.Gen.Translated.ChainConfig_IsHF (Aqv.Lemmas.Translated.hfMapOf c) (Int64.ofNat hf) (some (num : Int)) = some (c.isHF hf num) ∧
    Aqv.Gen.Translated.ChainConfig_GetHF (Aqv.Lemmas.Translated.hfMapOf c) (Int64.ofNat hf) = some ((c.getHF hf).map Nat.cast) :=
  ⟨Aqv.Lemmas.Translated.ChainConfig_IsHF_translated_eq c hf h num, Aqv.Lemmas.Translated.ChainConfig_GetHF_translated_eq c hf h⟩

example : Aqv.Gen.Translated.ChainConfig_IsHF (Aqv.Lemmas.Translated.hfMapOf ⟨1, [(5, 100)]⟩) 5 (some 100) = some true ∧
    Aqv.Gen.Translated.ChainConfig_IsHF (Aqv.Lemmas.Translated.hfMapOf ⟨1, [(5, 100)]⟩) 5 (some 99) = some false ∧
    Aqv.Gen.Translated.ChainConfig_IsHF (Aqv.Lemmas.Translated.hfMapOf ⟨1, [(5, 100)]⟩) 6 (some 1000) = some false := by decide

/-- tie by translation, difficulty rules: consensus/aquahash.calcDifficultyStarting and calcDifficultyHF1 (math/big code updating
    `x`, `y` in place; translated from go/ssa on every run) never panic on a parent header with non-nil Time / Difficulty and
    compute the model's `calcDifficultyStarting` / `calcDifficultyHF1`, at the regenerated difficulty parameters
    (`Gen.diffParams`: divisor, minima and mainnet chain id dumped from the compiled params package) and big1 = 1, big10 = 10,
    bigMinus99 = −99.  Every package-level variable the Go code reads is a named argument. -/
theorem calcDifficulty_homestead_code_is_model (time : UInt64) (parent : Header) (chainId : UInt64) :
    Aqv.Gen.Translated.calcDifficultyStarting (g_aquahash_big1 := 1) (g_aquahash_big10 := 10) (g_aquahash_bigMinus99 := -99)
        (g_params_DifficultyBoundDivisor := Gen.diffParams.div) (g_params_MinimumDifficultyGenesis := Gen.diffParams.minGenesis)
        (g_params_MainnetChainConfig_ChainId := some (Gen.diffParams.mainnetChainId : Int)) time
        (parent_Difficulty := some parent.difficulty) (parent_Time := some (parent.time : Int)) chainId
      = some (calcDifficultyStarting Gen.diffParams time.toNat parent chainId.toNat) ∧
    Aqv.Gen.Translated.calcDifficultyHF1 (g_aquahash_big1 := 1) (g_aquahash_big10 := 10) (g_aquahash_bigMinus99 := -99)
        (g_params_DifficultyBoundDivisor := Gen.diffParams.div) (g_params_MinimumDifficultyHF1 := Gen.diffParams.minHF1)
        (g_params_MainnetChainConfig_ChainId := some (Gen.diffParams.mainnetChainId : Int)) time
        (parent_Difficulty := some parent.difficulty) (parent_Time := some (parent.time : Int)) chainId
      = some (calcDifficultyHF1 Gen.diffParams time.toNat parent chainId.toNat) :=
  ⟨Aqv.Lemmas.Translated.calcDifficultyStarting_translated_eq Gen.diffParams (by decide) (by decide) time parent chainId,
   Aqv.Lemmas.Translated.calcDifficultyHF1_translated_eq Gen.diffParams (by decide) (by decide) time parent chainId⟩

example : calcDifficultyStarting Gen.diffParams 1000 ⟨0, 0, 5, 900, 1000000, 0, 0, 0⟩ 7 = 995608 := by decide

end Aqv.Props.C13
