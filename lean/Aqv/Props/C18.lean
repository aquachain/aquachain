/-
  Aqv.Props.C18 — "No RPC endpoint can make the node sign unless explicitly opted in".

  The quantifier of the property is a finite table regenerated from the source on every run (Aqv.Gen.Rpc): every exported
  method and subscription of every service the node registers, with its namespace, the Go method name RegisterName filters on,
  and static reachability to the keystore signing entry points; plus the string constants of isProtectedMethodName and the
  per-transport flag table of RegisterName. The theorems below are therefore re-proved against what the code says now; when
  the code falsifies one, the rows on which `decide` fails are the counterexample (the harness reproduces them on the real node).

  Node kinds: `pow` — aqua.CreateConsensusEngine builds aquahash (chainConfig.Clique == nil: mainnet, testnet, testnet2);
  `clique` — it builds the proof-of-authority engine, whose block sealing signs with a keystore key: testnet3, and a developer-mode
  chain (core.DeveloperGenesisBlock copies params.AllCliqueProtocolChanges; the configuration REGISTERED under the name "dev",
  which `builtinNets` lists, is params.AllAquahashProtocolChanges and has no Clique section).
-/
import Aqv.Gen.Rpc
import Aqv.Lemmas.Rpc
import Aqv.Lemmas.Translated.Rpc
namespace Aqv.Props.C18
open Aqv.Model.Rpc Aqv.Gen.Rpc Aqv.Lemmas.Rpc

/-! ### the generated table against the specification -/

/-- RegisterName gates every transport by exactly the variable designated for it. -/
theorem flag_table_is_designated : ∀ t, flagOf t = some (designated t) := by
  intro t; cases t <;> rfl

/-- `signers` lists exactly the rows of the table that can reach a signing entry point (on some node kind). -/
theorem signers_complete : methods.filter (fun m => m.reachesSign || m.reachesSignPow) = signers := by decide +kernel

theorem mem_methods_of_signers {m : Method} (h : m ∈ signers) : m ∈ methods :=
  (List.mem_filter.1 (signers_complete ▸ h)).1

theorem mem_signers {m : Method} (hm : m ∈ methods) {k : Kind} (hs : signs k m = true) : m ∈ signers := by
  rw [← signers_complete]
  refine List.mem_filter.2 ⟨hm, ?_⟩
  cases k <;> simp only [signs] at hs <;> simp [hs]

/-- on a pow node, every method that can reach a keystore signing entry point is a callback (not a subscription) whose
    Go name is in isProtectedMethodName. This is the table fact; it fails exactly on unprotected signing methods. -/
theorem pow_signers_are_protected :
    ∀ m ∈ signers, m.reachesSignPow = true → m.isSub = false ∧ isProtected params m.goName = true := by decide

/-- the methods that reach signing only through the clique engine's block sealing (they start the miner). -/
def cliqueSealStarters : List (String × String) := [("aqua", "getWork"), ("miner", "start"), ("testing", "getBlockTemplate")]

/-- apart from the seal starters, the same holds on a clique node. -/
theorem clique_signers_are_protected :
    ∀ m ∈ signers, m.reachesSign = true → (m.ns, m.name) ∉ cliqueSealStarters →
      m.isSub = false ∧ isProtected params m.goName = true := by decide

/-! ### C18, first sentence -/

/-- the two table facts through the filter of RegisterName. -/
theorem optedIn_of_exposed_signer (k : Kind) {m : Method} (hm : m ∈ methods)
    (hk : k = .pow ∨ (m.ns, m.name) ∉ cliqueSealStarters) (cfg : Cfg) (t : Transport) (env : Env)
    (hx : exposed params k cfg env t m = true) (hs : signs k m = true) : optedIn env t = true := by
  have hmem := mem_signers hm hs
  have ⟨hsub, hprot⟩ : m.isSub = false ∧ isProtected params m.goName = true := by
    cases k with
    | pow => exact pow_signers_are_protected m hmem hs
    | clique => exact clique_signers_are_protected m hmem hs (hk.resolve_left nofun)
  exact allowed_eq_optedIn params flag_table_is_designated env t ▸ allowed_of_exposed_protected params k cfg env t m hx hsub hprot

/-- **No signing unless opted in** (pow nodes: mainnet and every aquahash network). For every registered method, every module
    white-list configuration, every transport and every environment: if the method is exposed on the transport and can reach a
    keystore signing entry point, the transport was explicitly opted in. -/
theorem no_signing_unless_opted_in :
    ∀ m ∈ methods, ∀ (cfg : Cfg) (t : Transport) (env : Env),
      exposed params .pow cfg env t m = true → signs .pow m = true → optedIn env t = true :=
  fun _ hm => optedIn_of_exposed_signer .pow hm (Or.inl rfl)

example : ∃ m ∈ methods, exposed params .pow Cfg.default ⟨false, false, true, false, false⟩ .http m = true ∧ signs .pow m = true :=
  ⟨⟨"aqua", "sign", "Sign", "aquaapi.PublicTransactionPoolAPI", false, true, false, false, true, true⟩,
    mem_methods_of_signers (by decide), by decide, by decide⟩

/-- in the default environment no transport of a pow node exposes a method that can reach a signing entry point. -/
theorem default_env_exposes_no_signer :
    ∀ m ∈ methods, ∀ (cfg : Cfg) (t : Transport), exposed params .pow cfg Env.default t m = true → signs .pow m = false := by
  intro m hm cfg t hx
  cases hs : signs .pow m with
  | false => rfl
  | true =>
    have h := no_signing_unless_opted_in m hm cfg t Env.default hx hs
    cases t <;> simp [optedIn, designated, Env.get, Env.default] at h

example : ∃ m ∈ methods, exposed params .pow Cfg.default Env.default .ipc m = true :=
  ⟨⟨"personal", "listAccounts", "ListAccounts", "aquaapi.PrivateAccountAPI", false, false, false, false, false, false⟩, by decide, by decide⟩

/-- FULL STATEMENT over both node kinds (false for the code as written, see `clique_sealing_witness`):
      ∀ k, ∀ m ∈ methods, ∀ cfg t env, exposed params k cfg env t m → signs k m → optedIn env t
    What is provable: the same with the three miner-starting methods excluded on clique nodes. What is missing: on a node
    whose engine is clique, starting the miner (miner_start, aqua_getWork, testing_getBlockTemplate) makes the sealing loop sign
    block headers with the unlocked aquabase key through KeyStore.SignHashAllowed, and none of the three is gated. -/
theorem no_signing_unless_opted_in_anykind_partial :
    ∀ (k : Kind), ∀ m ∈ methods, (m.ns, m.name) ∉ cliqueSealStarters → ∀ (cfg : Cfg) (t : Transport) (env : Env),
      exposed params k cfg env t m = true → signs k m = true → optedIn env t = true :=
  fun k _ hm hex => optedIn_of_exposed_signer k hm (Or.inr hex)

example : ∃ m ∈ methods, (m.ns, m.name) ∉ cliqueSealStarters ∧
    exposed params .clique Cfg.default ⟨false, true, false, false, false⟩ .ipc m = true ∧ signs .clique m = true :=
  ⟨⟨"personal", "sign", "Sign", "aquaapi.PrivateAccountAPI", false, false, false, false, true, true⟩,
    mem_methods_of_signers (by decide), by decide, by decide, by decide⟩

/-- the negation of the full statement on a concrete witness: on a clique node, in the default environment and with the default
    module configuration, the HTTP endpoint exposes the public method aqua_getWork, which reaches KeyStore.SignHashAllowed
    (confirmed on the real node by the harness: the chain head advances to a block sealed by the keystore account). -/
theorem clique_sealing_witness :
    ∃ m ∈ methods, exposed params .clique Cfg.default Env.default .http m = true ∧ signs .clique m = true ∧
      optedIn Env.default .http = false :=
  ⟨⟨"aqua", "getWork", "GetWork", "aqua.PublicMinerAPI", false, true, false, false, true, false⟩,
    mem_methods_of_signers (by decide), by decide, by decide, by decide⟩

/-! ### how the variables are read (sense.EnvBool): only an opting-in value opts in -/

/-- tie: the model of sense.EnvBool agrees with the real function on the regenerated value lattice (unset, empty, every
    spelling in several cases, unparsable values) — dumped from the compiled package on every run. -/
theorem envbool_table_agrees : ∀ r ∈ envBoolTable, envBool r.1 = r.2 := by decide +kernel

/-- hence the real function gives the documented reading on every row of the lattice. -/
theorem envbool_table_is_documented : ∀ r ∈ envBoolTable, envOn r.1 = r.2 := by
  intro r hr
  rw [← envBool_eq_envOn]; exact envbool_table_agrees r hr

example : (some "", false) ∈ envBoolTable ∧ (some " 1", true) ∈ envBoolTable ∧ (none, false) ∈ envBoolTable := by decide

/-- **A variable that is present but empty does not opt in** (`export UNSAFE_ALLOW_SIGN_IPC=`, an empty `.env` line, an
    undefined `${VAR}` substitution): neither for the documented reading nor for the model of EnvBool, on any transport. -/
theorem empty_value_is_off :
    envOn (some "") = false ∧ envBool (some "") = false ∧
    ∀ (r : RawEnv) (t : Transport), r.get (designated t) = some "" → optedInRaw r t = false ∧ optedIn r.read t = false := by
  have off : envOn (some "") = false := by decide +kernel
  refine ⟨off, (envBool_eq_envOn _).trans off, ?_⟩
  intro r t h
  have h1 : optedInRaw r t = false := by rw [optedInRaw, h, off]
  exact ⟨h1, by rw [optedIn_read, h1]⟩

example : ∃ r : RawEnv, r.get (designated .ipc) = some "" := ⟨{ RawEnv.unset with ipc := some "" }, rfl⟩

/-- falsy spellings and an unset variable do not opt in either; any other non-empty value does (documented reading). -/
theorem only_opting_values_opt_in (v : Option String) :
    envOn v = true ↔ ∃ x, v = some x ∧ x.toLower ≠ "" ∧ x.toLower ∉ falsyWords := by
  cases v with
  | none => simp [envOn]
  | some x => simp [envOn]

/-- **No signing unless opted in, on the raw process environment** (pow nodes): whatever the five variables contain, a
    transport exposes a method that can reach a signing entry point only if its designated variable carries an opting-in value. -/
theorem no_signing_unless_opted_in_raw :
    ∀ m ∈ methods, ∀ (cfg : Cfg) (t : Transport) (r : RawEnv),
      exposed params .pow cfg r.read t m = true → signs .pow m = true → optedInRaw r t = true := by
  intro m hm cfg t r hx hs
  rw [← optedIn_read]
  exact no_signing_unless_opted_in m hm cfg t r.read hx hs

example : ∃ m ∈ methods, exposed params .pow Cfg.default ({ RawEnv.unset with http := some "yes" }).read .http m = true ∧ signs .pow m = true :=
  ⟨⟨"aqua", "sign", "Sign", "aquaapi.PublicTransactionPoolAPI", false, true, false, false, true, true⟩,
    mem_methods_of_signers (by decide), by decide +kernel, by decide⟩

/-! ### the full statement for every chain configuration, the clique sealing finding being the only exclusion -/

/-- tie: the only config-gated engine is clique, and its guard is the `Clique` field of the chain configuration (T-gen). -/
theorem clique_engine_guard :
    gatedEngines = [("gitlab.com/aquachain/aquachain/consensus/clique.Clique", "params.ChainConfig.Clique != nil")] := by decide

/-- **Every chain configuration without a Clique section** (`chainConfig.Clique == nil`): the full statement, over the raw
    process environment, every module configuration and every transport. -/
theorem no_signing_unless_opted_in_nonclique :
    ∀ (cliqueSet : Bool), cliqueSet = false → ∀ m ∈ methods, ∀ (cfg : Cfg) (t : Transport) (r : RawEnv),
      exposed params (kindOfCfg cliqueSet) cfg r.read t m = true → signs (kindOfCfg cliqueSet) m = true → optedInRaw r t = true := by
  intro c hc m hm cfg t r hx hs
  subst hc
  exact no_signing_unless_opted_in_raw m hm cfg t r hx hs

example : kindOfCfg false = .pow ∧ kindOfCfg true = .clique := by decide

/-- **Any chain configuration**: a method that is exposed and can reach a signing entry point either had its transport opted in,
    or the configuration selects clique and the method is one of the three miner starters (the recorded finding) — nothing else. -/
theorem no_signing_unless_opted_in_anychain :
    ∀ (cliqueSet : Bool), ∀ m ∈ methods, ∀ (cfg : Cfg) (t : Transport) (r : RawEnv),
      exposed params (kindOfCfg cliqueSet) cfg r.read t m = true → signs (kindOfCfg cliqueSet) m = true →
      optedInRaw r t = true ∨ (cliqueSet = true ∧ (m.ns, m.name) ∈ cliqueSealStarters) := by
  intro c m hm cfg t r hx hs
  cases c with
  | false => exact Or.inl (no_signing_unless_opted_in_nonclique false rfl m hm cfg t r hx hs)
  | true =>
    by_cases hex : (m.ns, m.name) ∈ cliqueSealStarters
    · exact Or.inr ⟨rfl, hex⟩
    · left
      rw [← optedIn_read]
      exact no_signing_unless_opted_in_anykind_partial .clique m hm hex cfg t r.read hx hs

example : ∃ m ∈ methods, exposed params (kindOfCfg true) Cfg.default RawEnv.unset.read .http m = true ∧ signs (kindOfCfg true) m = true ∧
    (m.ns, m.name) ∈ cliqueSealStarters :=
  ⟨⟨"aqua", "getWork", "GetWork", "aqua.PublicMinerAPI", false, true, false, false, true, false⟩,
    mem_methods_of_signers (by decide), by decide, by decide, by decide⟩

/-- of the chain configurations registered in package params (regenerated: `Clique != nil` per name) exactly testnet3 has a
    Clique section … -/
theorem builtin_clique_networks : (builtinNets.filter (·.2)).map (·.1) = ["testnet3"] := by decide

/-- … so on mainnet, testnet, testnet2 and the dev/test configurations the full statement holds. -/
theorem no_signing_unless_opted_in_builtin_networks :
    ∀ n ∈ builtinNets, n.1 ≠ "testnet3" → ∀ m ∈ methods, ∀ (cfg : Cfg) (t : Transport) (r : RawEnv),
      exposed params (kindOfCfg n.2) cfg r.read t m = true → signs (kindOfCfg n.2) m = true → optedInRaw r t = true := by
  intro n hn hne m hm cfg t r hx hs
  have h : ∀ n ∈ builtinNets, n.1 ≠ "testnet3" → n.2 = false := by decide
  exact no_signing_unless_opted_in_nonclique n.2 (h n hn hne) m hm cfg t r hx hs

example : ("mainnet", false) ∈ builtinNets ∧ ("mainnet", false).1 ≠ "testnet3" := by decide

/-! ### C18, second sentence: opting in is per transport -/

/-- **Opt-in is per transport**: setting (or clearing) the variable designated for transport t' changes nothing about what any
    other transport t exposes — for every method (not only those of the table), node kind and module configuration. -/
theorem opt_in_is_per_transport :
    ∀ (t t' : Transport), t ≠ t' → ∀ (k : Kind) (cfg : Cfg) (env : Env) (b : Bool) (m : Method),
      exposed params k cfg (env.set (designated t') b) t m = exposed params k cfg env t m := by
  intro t t' hne k cfg env b m
  apply exposed_set_other
  rw [show params.flagOf t = flagOf t from rfl, flag_table_is_designated t]
  exact fun h => hne (designated_inj (Option.some.inj h))

example : (Transport.http ≠ Transport.ws) := by decide

/-- UNSAFE_RPC_SIGNING, which the doc comment of RegisterName names, is read but never consulted: it enables nothing. -/
theorem global_flag_is_inert :
    ∀ (k : Kind) (cfg : Cfg) (env : Env) (b : Bool) (t : Transport) (m : Method),
      exposed params k cfg (env.set .rpcSigning b) t m = exposed params k cfg env t m := by
  intro k cfg env b t m
  apply exposed_set_other
  rw [show params.flagOf t = flagOf t from rfl, flag_table_is_designated t]
  exact fun h => designated_ne_rpcSigning t (Option.some.inj h)

/-- opting in for exactly one transport enables signing methods on that transport only (pow nodes). -/
theorem only_the_opted_transport_signs :
    ∀ (t t' : Transport), t' ≠ t → ∀ m ∈ methods, ∀ (cfg : Cfg),
      exposed params .pow cfg (Env.default.set (designated t) true) t' m = true → signs .pow m = false := by
  intro t t' hne m hm cfg hx
  rw [opt_in_is_per_transport t' t hne] at hx
  exact default_env_exposes_no_signer m hm cfg t' hx

example : ∃ m ∈ methods, exposed params .pow Cfg.default (Env.default.set (designated .ipc) true) .ws m = true :=
  ⟨⟨"aqua", "accounts", "Accounts", "aquaapi.PublicAccountAPI", false, true, false, false, false, false⟩, by decide, by decide⟩

/-- and it does enable them there: an opted-in transport registers the protected methods of every module it serves. -/
theorem opt_in_enables :
    ∀ (k : Kind) (cfg : Cfg) (env : Env) (t : Transport) (m : Method),
      optedIn env t = true → m.builtin = false → moduleAllowed cfg t m = true → present k m = true →
      exposed params k cfg env t m = true := by
  intro k cfg env t m ho hb hm hp
  exact exposed_of_optedIn params flag_table_is_designated k cfg env t m ho hb hm hp

example : exposed params .pow Cfg.default ⟨false, true, false, false, false⟩ .ipc
    ⟨"personal", "sign", "Sign", "aquaapi.PrivateAccountAPI", false, false, false, false, true, true⟩ = true := by decide

/-! ### tie by translation (T-gen `translated`, DESIGN 2.2 mini-translator): rpc.isProtectedMethodName -/

/-- the go/ssa body of rpc.isProtectedMethodName, translated to Lean on every run (`Aqv.Gen.Translated`, regenerated from the
    tree under test), IS the protected-name test `isProtected params` that every theorem above is stated on.  (The string
    constants in `params` are extracted independently, from the syntax, by the rpcsign extractor: the two must agree.  The proof
    compares the two sets of names, so reordering the disjuncts or rewriting them as a `switch` keeps it provable.) -/
theorem isProtectedMethodName_code_is_model :
    Aqv.Gen.Translated.isProtectedMethodName = isProtected params :=
  Aqv.Lemmas.Translated.isProtectedMethodName_translated_eq

example : Aqv.Gen.Translated.isProtectedMethodName "Sign" = true ∧
    Aqv.Gen.Translated.isProtectedMethodName "Accounts" = false := by decide

/-- … so the table fact transfers to the code: on a pow node the translated isProtectedMethodName answers `true` for the Go
    name of every method that can reach a keystore signing entry point; and the four names of the hand-written list
    `protectedNamesRef` (not regenerated) are still protected by the code as it is now (protecting more is allowed). -/
theorem pow_signers_are_protected_by_code :
    (∀ m ∈ signers, m.reachesSignPow = true → Aqv.Gen.Translated.isProtectedMethodName m.goName = true) ∧
    (∀ n ∈ Aqv.Lemmas.Translated.protectedNamesRef, Aqv.Gen.Translated.isProtectedMethodName n = true) := by
  refine ⟨fun m hm hs => ?_, Aqv.Lemmas.Translated.isProtectedMethodName_translated_ref⟩
  rw [isProtectedMethodName_code_is_model]
  exact (pow_signers_are_protected m hm hs).2

example : ∃ m ∈ signers, m.reachesSignPow = true ∧ m.goName ∈ Aqv.Lemmas.Translated.protectedNamesRef :=
  ⟨⟨"aqua", "sign", "Sign", "aquaapi.PublicTransactionPoolAPI", false, true, false, false, true, true⟩, by decide, by decide, by decide⟩

end Aqv.Props.C18
