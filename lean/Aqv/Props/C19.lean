/-
  C19 — Event feeds deliver every value exactly once to every live subscriber.

  The Feed safety theorems quantify over `Reach s`: ALL states reachable from the empty feed under ANY interleaving of any
  number of Subscribe / Send / Unsubscribe calls and receiver steps of the small-step model `Aqv.Model.Feed` (one step = the
  code between two points where the real `aqua/event/feed.go` can be interleaved); the liveness theorems over fair infinite
  executions of it.  Statements are about the chronological history `s.tr` only (events: subRet, sendCall, sendRet,
  unsubCall, unsubRet, place, recv); `Before tr a b` means an `a` occurs strictly before a `b`.
  Further sections, each over its own model: the `f.mu` / `f.etype` protocol (Model.FeedMu), SubscriptionScope (Model.Scope),
  TypeMux (Model.Mux), and a feed user that sends under its own mutex (Model.FeedUser).
-/
import Aqv.Lemmas.FeedInvC
import Aqv.Lemmas.FeedInvD
import Aqv.Lemmas.FeedInvE
import Aqv.Lemmas.FeedInvF
import Aqv.Lemmas.FeedTrace
import Aqv.Lemmas.FeedLive
import Aqv.Lemmas.FeedExec
import Aqv.Model.FeedMu
import Aqv.Lemmas.ScopeInv
import Aqv.Lemmas.MuxInvB
import Aqv.Model.FeedUser
namespace Aqv.Props.C19
open Aqv.Feed

/-- `cases` is the not-yet-delivered prefix: while Send g is in its delivery loop (TrySend sweep, Select, removeSub
    branch), the slice `cases` = `sendCases[:active]` contains exactly the channels of `sendCases` that have not yet been
    given g's value — the `deactivate` swap and the `delete`/`len(cases)-1` arithmetic of the removeSub branch keep it so. -/
theorem cases_is_active_prefix {s : St} (h : Reach s) (g : Sid) (hg : (s.spc g).merged = true) :
    s.active ≤ s.sendCases.length ∧ s.sendCases.Nodup ∧
    ∀ c ∈ s.sendCases, (c ∈ activeCases s ↔ Ev.place c g ∉ s.tr) := by
  have ha := invA_reach h
  have hb := invB_reach h
  have he := invE_reach h
  refine ⟨ha.act_le g hg, ha.nodup_cases, ?_⟩
  intro c hc
  rw [← mem_placesOf, he.t_place]
  exact hb.pre g hg c hc

/-- `delete(find(ch))` is never reached with an absent channel (no slice-bounds panic in Send or remove). -/
theorem never_panics {s : St} (h : Reach s) : (∀ g, s.spc g ≠ .panicked) ∧ (∀ c, s.rpc c ≠ .panicked) :=
  ⟨(invA_reach h).no_panic_s, (invA_reach h).no_panic_r⟩

/-- the sendLock token: at most one goroutine is between taking and returning it. -/
theorem token_exclusive {s : St} (h : Reach s) :
    (∀ g g', (s.spc g).held = true → (s.spc g').held = true → g = g') ∧
    (∀ c c', (s.rpc c).held = true → (s.rpc c').held = true → c = c') ∧
    (∀ g c, (s.spc g).held = true → (s.rpc c).held = true → False) ∧
    (∀ g, (s.spc g).held = true → s.tokenFree = false) ∧ (∀ c, (s.rpc c).held = true → s.tokenFree = false) :=
  have o := (invA_reach h).toOwn
  ⟨o.sender_unique, o.remover_unique, o.sender_remover, o.sender_busy, o.remover_busy⟩

/-- no value of one Send is ever placed twice into the same channel (no duplicate), for every channel whatsoever. -/
theorem at_most_once {s : St} (h : Reach s) (c : Chan) (g : Sid) : s.tr.count (Ev.place c g) ≤ 1 := by
  rw [← count_placesOf, (invE_reach h).t_place]
  exact List.nodup_iff_count.mp (invB_reach h).pnodup (c, g)

/-- EXACTLY ONCE.  If `Send g` has returned, then every channel whose Subscribe returned before `Send g` was called and
    whose Unsubscribe was not called before `Send g` returned was given g's value exactly once. -/
theorem exactly_once {s : St} (h : Reach s) (g : Sid) (n : Nat) (c : Chan)
    (hret : Ev.sendRet g n ∈ s.tr)
    (hsub : Before s.tr (.subRet c) (.sendCall g))
    (hlive : ¬ Before s.tr (.unsubCall c) (.sendRet g n)) :
    s.tr.count (Ev.place c g) = 1 := by
  have hb := invB_reach h
  have he := invE_reach h
  have hd := (he.t_sret g n).mp hret
  have h1 := (he.t_atCall g c).mpr hsub
  have h2 : s.atRet g c = false := by
    cases hx : s.atRet g c with
    | false => rfl
    | true => exact absurd ((he.t_atRet g n c hret).mp hx) hlive
  have hin := hb.done_all g n c hd h1 h2
  have hle := at_most_once h c g
  have : 0 < s.tr.count (Ev.place c g) := by
    rw [← count_placesOf, he.t_place]; exact List.count_pos_iff.mpr hin
  omega

/-- the value returned by `Send g` is the number of placements it made. -/
theorem nsent_correct {s : St} (h : Reach s) (g : Sid) (n : Nat) (hret : Ev.sendRet g n ∈ s.tr) :
    n = placesBy g s.tr := by
  have he := invE_reach h
  have hd := (he.t_sret g n).mp hret
  rw [placesBy_eq, he.t_place]
  exact (invB_reach h).done_eq g n hd

/-- every channel is a FIFO between placement and receipt: what the subscriber has read so far, followed by what is
    still buffered, is exactly what was placed, in placement order (so receipts are a prefix of placements). -/
theorem channel_fifo {s : St} (h : Reach s) (c : Chan) : recvsOf c s.tr ++ s.buf c = placesOn c s.tr := by
  rw [placesOn_eq, (invE_reach h).t_place, (invE_reach h).t_recv]
  exact (invC_reach h).fifo c

/-- COMMON ORDER.  Placements of two sends never occur in opposite orders on two channels (sends are serialised by the
    token); together with `channel_fifo` all subscribers read concurrent sends in one common order. -/
theorem common_order {s : St} (h : Reach s) (c₁ c₂ : Chan) (g₁ g₂ : Sid) (hne : g₁ ≠ g₂)
    (h₁ : Before s.tr (.place c₁ g₁) (.place c₁ g₂))
    (h₂ : Before s.tr (.place c₂ g₂) (.place c₂ g₁)) : False := by
  have hb := invB_reach h
  have hc := invC_reach h
  have he := invE_reach h
  have s1 := before_place _ _ _ _ _ h₁
  have s2 := before_place _ _ _ _ _ h₂
  rw [he.t_place] at s1 s2
  have r1 := hc.sorted _ _ s1
  have r2 := hc.sorted _ _ s2
  have m1 := sub2_mem s1
  have acq : ∀ c g, (c, g) ∈ s.placed → s.spc g ≠ .idle ∧ s.spc g ≠ .start := by
    intro c g hm
    constructor <;> intro e <;> exact hb.unmerged g c (by simp [e]) hm
  have a1 := acq _ _ m1.1
  have a2 := acq _ _ m1.2
  exact hne (hc.rank_inj g₁ g₂ a1.1 a1.2 a2.1 a2.2 (by simp at r1 r2; omega))

/-- NO DELIVERY AFTER UNSUBSCRIBE: once `Unsubscribe` of a channel has returned, nothing is placed into that channel
    any more (values already sitting in a buffered channel may still be read: `channel_fifo`). -/
theorem no_delivery_after_unsubscribe {s : St} (h : Reach s) (c : Chan) (g : Sid) :
    ¬ Before s.tr (.unsubRet c) (.place c g) :=
  (invF_reach h).p_late c g


/-- a value is only ever placed into a channel whose Subscribe has returned, and only between the call and the return of
    the Send that carries it (nothing is delivered "from the past" or to a channel that is not subscribed). -/
theorem placement_only_to_subscribers_during_send {s : St} (h : Reach s) (c : Chan) (g : Sid)
    (hp : Ev.place c g ∈ s.tr) :
    Before s.tr (.subRet c) (.place c g) ∧ Before s.tr (.sendCall g) (.place c g) ∧
    ∀ n, ¬ Before s.tr (.sendRet g n) (.place c g) :=
  ⟨(invF_reach h).p_sub c g hp, (invF_reach h).p_call c g hp, fun n => (invF_reach h).p_ret c g n⟩

/-- at quiescence (nobody holds the token) the feed's two lists together contain exactly the live subscriptions —
    `Subscribe` returned and `Unsubscribe` not called — each once (compared with the real `f.sendCases`/`f.inbox` by the
    harness after every round). -/
theorem quiescent_membership {s : St} (h : Reach s) (hq : s.tokenFree = true) (c : Chan)
    (hc : s.rpc c = .idle ∨ s.rpc c = .done) :
    (s.inbox ++ s.sendCases).Nodup ∧
    ((c ∈ s.inbox ∨ c ∈ s.sendCases) ↔ (Ev.subRet c ∈ s.tr ∧ Ev.unsubCall c ∉ s.tr)) := by
  have ha := invA_reach h
  have he := invE_reach h
  refine ⟨ha.nodup, ?_⟩
  rw [he.t_sub, he.t_ucall, Decidable.not_not]
  constructor
  · intro hm
    exact ⟨ha.sub_mem c hm, hc.resolve_right fun hd => hm.elim (ha.not_mem_of_done hq hd).1 (ha.not_mem_of_done hq hd).2⟩
  · exact fun ⟨hsub, hi⟩ => ha.loc_idle c hsub (.inl hi)

/-! ### Progress and liveness.

State-level facts (every reachable state).  `holder_can_step` and `send_measure_decreases` are what the liveness proof
rests on (there as `can_*` of Lemmas/FeedFrame and `sendMeasure_lt` of Lemmas/FeedLive, next to `InvD.sel_pos` and the
exclusivity of the token, `Own`).  `token_never_lost`, `select_waits_only_for_receivers` and `waiters_enabled` (bundled as
`progress_partial`) say of the same states that nobody who could move is forgotten; the liveness proof does not use them.
The liveness theorems `send_terminates` / `remove_terminates` below hold on every infinite FAIR execution (`Aqv.Feed.Exec`,
`Aqv.Feed.Fair`, Lemmas/FeedLive): every Send that has been called and every Unsubscribe that has been called returns.
What `Fair` assumes, and nothing else:
* scheduler — weak fairness per goroutine: a Send goroutine holding the token, or a `remove` at a step that needs nobody
  else, that is continuously able to take SOME step eventually takes a step.  Nothing is assumed about WHICH ready case
  `reflect.Select` picks (every choice that stays in the delivery loop decreases `sendMeasure`); `reflect.Select` is only assumed to return when
  some case is ready, which is what "able to take a step" means for a goroutine blocked in it;
* receivers — no channel stays forever both in `f.sendCases` and unable to accept a value (a full/unbuffered channel of
  a subscriber that is not unsubscribed is eventually received from);
* the sendLock hand-off — a goroutine blocked in `<-f.sendLock` does not wait forever while the token becomes free again
  and again (strong fairness of that one channel; in Go it follows from the FIFO wait queue of a channel).
Not covered: the Go memory model (data races) and real-time bounds. -/

theorem token_never_lost {s : St} (h : Reach s) (hq : s.tokenFree = false) :
    (∃ g, (s.spc g).held = true) ∨ (∃ c, (s.rpc c).held = true) := by
  have ha := invA_reach h
  have h1 := ha.tok; have h2 := ha.hs; have h3 := ha.hr
  cases hh : s.holder with
  | none => simp [hh] at h1; simp [h1] at hq
  | sender g => exact Or.inl ⟨g, (h2 g).mpr hh⟩
  | remover c => exact Or.inr ⟨c, (h3 c).mpr hh⟩

theorem holder_can_step {s : St} (h : Reach s) :
    (∀ g, s.spc g = .locked → (step s (.merge g)).isSome) ∧
    (∀ g i, s.spc g = .sweep i → (step s (.tryOk g)).isSome ∨ (step s (.tryFail g)).isSome ∨ (step s (.sweepEnd g)).isSome) ∧
    (∀ g c, s.spc g = .removing c → ∃ s', step s (.doRemove g) = some s' ∧ s'.spc g = .sweep 0) ∧
    (∀ c, s.rpc c = .start → (step s (.rmInbox c)).isSome) ∧
    (∀ c, s.rpc c = .token → ∃ s', step s (.rmDelete c) = some s' ∧ s'.rpc c = .deleted) ∧
    (∀ c, s.rpc c = .deleted → (step s (.rmRelease c)).isSome) :=
  have ha := invA_reach h
  ⟨can_merge, can_sweep, ha.can_doRemove, can_rmInbox, ha.can_rmDelete, can_rmRelease⟩

theorem select_waits_only_for_receivers {s : St} (h : Reach s) (g : Sid) (hg : s.spc g = .sel) :
    0 < s.active ∧
    (∀ i, i < s.active → ∀ s₁, step s (.recvBegin (s.sendCases.getD i 0)) = some s₁ → (step s₁ (.selPlace g i)).isSome) ∧
    (∀ c, s.rpc c = .sel → (step s (.selRecv g c)).isSome) := by
  have hd := invD_reach h
  refine ⟨hd.sel_pos g hg, ?_, ?_⟩
  · intro i hi s₁ h1
    -- the channel held at most `cap + waiting` values, and one more receiver waits now
    have ho := hd.occ (s.sendCases.getD i 0)
    cases Step.of_step h1
    refine Step.isSome (Step.selPlace hg hi ?_)
    simp only [canPlace, upd_apply, if_true, decide_eq_true_eq]
    omega
  · exact fun c hc => (Step.selRecv hg hc).isSome

theorem waiters_enabled {s : St} (hq : s.tokenFree = true) :
    (∀ g, s.spc g = .start → (step s (.acquire g)).isSome) ∧ (∀ c, s.rpc c = .sel → (step s (.rmToken c)).isSome) :=
  ⟨fun _ hg => (Step.acquire hg hq).isSome, fun _ hc => (Step.rmToken hc hq).isSome⟩

theorem send_measure_decreases {s s' : St} (g : Sid) (a : Act)
    (ha : a = .tryOk g ∨ a = .tryFail g ∨ a = .sweepEnd g ∨ (∃ i, a = .selPlace g i) ∨ (∃ c, a = .selRecv g c) ∨ a = .doRemove g)
    (hs : step s a = some s') (hm : (s'.spc g).merged = true) :
    Prod.Lex (· < ·) (· < ·) (sendMeasure s' g) (sendMeasure s g) := by
  rcases ha with rfl | rfl | rfl | ⟨i, rfl⟩ | ⟨c, rfl⟩ | rfl <;>
    exact sendMeasure_lt (x := _) (show actSender _ = some g from rfl) (by simp) hs hm

/-- SEND TERMINATES: on every fair execution, once `Send g` has been called it eventually returns. -/
theorem send_terminates (e : Exec) (hf : Fair e) (g : Sid) (n : Nat) (hcall : Ev.sendCall g ∈ (e.σ n).tr) :
    ∃ m, n ≤ m ∧ ∃ r, Ev.sendRet g r ∈ (e.σ m).tr := by
  have h0 := ((invE_reach (e.reach n)).t_scall g).mp hcall
  obtain ⟨m, hm, r, hr⟩ := send_leads e hf g n h0
  exact ⟨m, hm, r, ((invE_reach (e.reach m)).t_sret g r).mpr hr⟩

/-- REMOVE TERMINATES: on every fair execution, once `Unsubscribe` of c has been called it eventually returns —
    whether it finds the channel in the inbox, rendezvouses with a running Send, or takes the token itself. -/
theorem remove_terminates (e : Exec) (hf : Fair e) (c : Chan) (n : Nat) (hcall : Ev.unsubCall c ∈ (e.σ n).tr) :
    ∃ m, n ≤ m ∧ Ev.unsubRet c ∈ (e.σ m).tr := by
  have h0 := ((invE_reach (e.reach n)).t_ucall c).mp hcall
  obtain ⟨m, hm, hr⟩ := remove_leads e hf c n h0
  exact ⟨m, hm, ((invE_reach (e.reach m)).t_uret c).mpr hr⟩

/-- no infinite fair execution keeps a started Send unfinished (the bounded reading of `send_terminates`). -/
theorem no_fair_execution_starves_send (e : Exec) (hf : Fair e) (g : Sid) (n : Nat) (hcall : Ev.sendCall g ∈ (e.σ n).tr) :
    ¬ ∀ m r, Ev.sendRet g r ∉ (e.σ m).tr := by
  intro h
  obtain ⟨m, _, r, hr⟩ := send_terminates e hf g n hcall
  exact h m r hr

/-- state-level progress facts bundled (see the section comment). -/
theorem progress_partial {s : St} (h : Reach s) :
    (s.tokenFree = false → (∃ g, (s.spc g).held = true) ∨ (∃ c, (s.rpc c).held = true)) ∧
    (∀ g, s.spc g = .sel → 0 < s.active ∧
      ∀ i, i < s.active → ∀ s₁, step s (.recvBegin (s.sendCases.getD i 0)) = some s₁ → (step s₁ (.selPlace g i)).isSome) ∧
    (s.tokenFree = true → (∀ g, s.spc g = .start → (step s (.acquire g)).isSome) ∧
      (∀ c, s.rpc c = .sel → (step s (.rmToken c)).isSome)) :=
  ⟨token_never_lost h, fun g hg => ⟨(select_waits_only_for_receivers h g hg).1, (select_waits_only_for_receivers h g hg).2.1⟩,
   fun hq => waiters_enabled hq⟩


/-! ### Non-vacuity: a concrete interleaving in which an Unsubscribe lands while the Send is blocked in Select on that very
subscriber; every hypothesis used above is satisfied on it. -/

def demo : List Act :=
  [.subscribe 1 1, .subscribe 2 0, .sendCall 7, .acquire 7, .merge 7,
   .tryOk 7,                    -- channel 1 (buffered) takes the value; deactivate swaps: sendCases = [2, 1], active = 1
   .tryFail 7,                  -- channel 2 is unbuffered and nobody receives
   .sweepEnd 7,                 -- Send 7 enters Select, blocked on channel 2
   .unsubCall 2, .rmInbox 2,    -- Unsubscribe(2): inbox miss, remove waits at its select
   .selRecv 7 2,                -- rendezvous on removeSub: Unsubscribe(2) returns
   .doRemove 7,                 -- find = 0 < len(cases): delete and shrink cases
   .sweepEnd 7,                 -- nothing left to deliver: Send 7 returns 1
   .subscribe 3 0, .sendCall 8, .acquire 8, .merge 8,
   .tryFail 8, .tryFail 8,      -- channel 1 is full (still holds 7), channel 3 is unbuffered
   .sweepEnd 8,                 -- Send 8 blocked in Select on both
   .recvBegin 1, .recvTake 1,   -- the receiver of channel 1 takes 7
   .selPlace 8 0,               -- Select picks channel 1
   .tryFail 8, .sweepEnd 8, .recvBegin 3, .selPlace 8 0, .sweepEnd 8, .recvTake 3]

def demoState : St := (run init demo).getD init

theorem demo_reach : Reach demoState := by
  have h : run init demo = some demoState := by unfold demoState; rfl
  exact reach_run Reach.init h

theorem demo_tr : demoState.tr =
    [.subRet 1, .subRet 2, .sendCall 7, .place 1 7, .unsubCall 2, .unsubRet 2, .sendRet 7 1,
     .subRet 3, .sendCall 8, .recv 1 7, .place 1 8, .place 3 8, .sendRet 8 2, .recv 3 8] := by rfl

instance (tr : List Ev) (a b : Ev) : Decidable (Before tr a b) := inferInstanceAs (Decidable (List.Sublist [a, b] tr))

-- hypotheses of `exactly_once` (and of `nsent_correct`) hold for Send 7 / channel 1 and for Send 8 / channel 3
example : Ev.sendRet 7 1 ∈ demoState.tr ∧ Before demoState.tr (.subRet 1) (.sendCall 7) ∧
    ¬ Before demoState.tr (.unsubCall 1) (.sendRet 7 1) := by rw [demo_tr]; decide
example : Ev.sendRet 8 2 ∈ demoState.tr ∧ Before demoState.tr (.subRet 3) (.sendCall 8) ∧
    ¬ Before demoState.tr (.unsubCall 3) (.sendRet 8 2) := by rw [demo_tr]; decide
-- channel 2 was unsubscribed during Send 7 (no obligation, and indeed nothing was placed)
example : Before demoState.tr (.unsubCall 2) (.sendRet 7 1) ∧ demoState.tr.count (.place 2 7) = 0 := by rw [demo_tr]; decide
-- the conclusion of `exactly_once` on the instance
example : demoState.tr.count (.place 1 7) = 1 := exactly_once demo_reach 7 1 1 (by rw [demo_tr]; decide) (by rw [demo_tr]; decide) (by rw [demo_tr]; decide)
-- hypothesis of `cases_is_active_prefix`: a state in the middle of the delivery loop with a non-trivial prefix
example : ∃ s, Reach s ∧ (s.spc 7).merged = true ∧ s.sendCases = [2, 1] ∧ s.active = 1 ∧ activeCases s = [2] :=
  ⟨(run init (demo.take 8)).getD init, reach_run Reach.init (by rfl : run init (demo.take 8) = some _), by decide, by rfl, by rfl, by rfl⟩
-- hypothesis of `common_order`/`no_delivery_after_unsubscribe`: both kinds of events occur
example : Before demoState.tr (.place 1 7) (.place 1 8) ∧ Before demoState.tr (.unsubRet 2) (.place 3 8) := by rw [demo_tr]; decide
-- hypothesis of `placement_only_to_subscribers_during_send`
example : Ev.place 3 8 ∈ demoState.tr := by rw [demo_tr]; decide
-- hypothesis of `quiescent_membership` and of `select_waits_only_for_receivers`
example : demoState.tokenFree = true ∧ demoState.rpc 2 = .done ∧ demoState.rpc 1 = .idle := by decide
example : ∃ s, Reach s ∧ s.spc 7 = .sel ∧ s.active = 1 :=
  ⟨(run init (demo.take 8)).getD init, reach_run Reach.init (by rfl : run init (demo.take 8) = some _), by decide, by rfl⟩
-- hypothesis of `send_measure_decreases`: the measure on the way
example : sendMeasure ((run init (demo.take 6)).getD init) 7 = (3, 3) ∧ sendMeasure ((run init (demo.take 7)).getD init) 7 = (3, 2)
    ∧ sendMeasure ((run init (demo.take 8)).getD init) 7 = (3, 1) ∧ sendMeasure ((run init (demo.take 12)).getD init) 7 = (1, 2) := by decide


/-! ### Misuse path (documented, outside the property): a `Send` whose value has the wrong type.

The property quantifies over interleavings of well-typed Send/Subscribe/Unsubscribe calls; `Send` of a wrong-typed value is
documented to panic.  As written it panics with `f.mu` still locked, so if the panic is recovered every later
Subscribe/Send on that feed blocks.  Reproduced on the real code by the harness (`misuse:feed-after-recovered-send-type-panic`);
kept as a note, not a finding against C19. -/

/-- witness: feed of element type 0, `Send` of a value of type 1: the call panics, the sendLock token is back, `f.mu` is
    still held, and no later critical section can start. -/
theorem send_type_mismatch_panics_with_lock_held_witness :
    (FeedMu.sendPrologue ⟨true, false, some 0⟩ 1).2 = .panics ∧
    (FeedMu.sendPrologue ⟨true, false, some 0⟩ 1).1.tokenFree = true ∧
    (FeedMu.sendPrologue ⟨true, false, some 0⟩ 1).1.muLocked = true ∧
    FeedMu.canLockMu (FeedMu.sendPrologue ⟨true, false, some 0⟩ 1).1 = false := by decide

/-- well-typed calls (the only ones the property ranges over) always leave `f.mu` unlocked and keep the token -/
theorem send_well_typed_releases_mu (s : FeedMu.Pro) (ty : Nat) (h : s.etype = none ∨ s.etype = some ty) :
    (FeedMu.sendPrologue s ty).2 = .proceeds ∧ (FeedMu.sendPrologue s ty).1.muLocked = false ∧
    (FeedMu.sendPrologue s ty).1.tokenFree = false := by
  rcases h with h | h <;>
    simp [FeedMu.sendPrologue, FeedMu.runOps, FeedMu.sendOps, FeedMu.typecheckOps, FeedMu.apply, h]

/-- `f.etype` is written (lazily, on first use) only with `f.mu` held — and read only with `f.mu` held — in BOTH `Send` and
    `Subscribe`, for every current element type and every argument type.  This is the obligation behind the "no data race
    on first use" clause; the race-detector sub-run of the harness checks the real code against it. -/
theorem etype_write_requires_mu (et : Option Nat) (ty : Nat) :
    FeedMu.accessesGuarded false (FeedMu.sendOps et ty) = true ∧
    FeedMu.accessesGuarded false (FeedMu.subscribeOps et ty) = true := by
  cases et with
  | none => simp [FeedMu.sendOps, FeedMu.subscribeOps, FeedMu.typecheckOps, FeedMu.accessesGuarded]
  | some t =>
    by_cases h : t = ty <;>
      simp [FeedMu.sendOps, FeedMu.subscribeOps, FeedMu.typecheckOps, FeedMu.accessesGuarded, h]

/-- the seeded shape (type check hoisted in front of the locks) breaks exactly that obligation: first use writes `f.etype`
    without `f.mu`. -/
theorem etype_write_hoisted_unguarded_witness :
    FeedMu.accessesGuarded false (FeedMu.sendOpsHoisted none 0) = false := by decide

example : (⟨true, false, none⟩ : FeedMu.Pro).etype = none ∨ (⟨true, false, none⟩ : FeedMu.Pro).etype = some 3 := Or.inl rfl

/-! ### SubscriptionScope (Aqv.Model.Scope): Track / Close / Count / wrapper Unsubscribe under ANY interleaving of any
number of Track, Close, Count and wrapper-Unsubscribe calls. -/

/-- when a `Close` returns, every subscription for which `Track` had returned a wrapper has been unsubscribed before
    that return (by this Close, by an earlier Close, or through its wrapper) — whatever the order of the map iteration. -/
theorem scope_close_unsubscribes_all {s : Scope.St} (h : Scope.Reach s) (k : Scope.Cid) (i : Scope.Sub)
    (hret : Scope.Ev.closeRet k ∈ s.tr) (htr : Scope.Ev.trackOk i ∈ s.tr) :
    Scope.Before s.tr (.unsub i) (.closeRet k) :=
  (Scope.inv_reach h).all_before i k hret htr

/-- after a `Close` has returned, `Track` never returns a wrapper again (it returns nil and takes no ownership). -/
theorem scope_track_after_close_returns_nil {s : Scope.St} (h : Scope.Reach s) (k : Scope.Cid) (i : Scope.Sub) :
    ¬ Scope.Before s.tr (.closeRet k) (.trackOk i) :=
  (Scope.inv_reach h).no_track_after i k

/-- … as a statement about the step itself: on a closed scope `Track` yields `trackNil` and leaves `sc.subs` alone. -/
theorem scope_track_on_closed {s s' : Scope.St} (i : Scope.Sub) (hc : s.closed = true)
    (hs : Scope.step false s (.track i) = some s') : s'.tr = s.tr ++ [.trackNil i] ∧ s'.subs = s.subs := by
  simp only [Scope.step] at hs
  split at hs
  · simp only [hc, Option.some.injEq] at hs
    subst hs; exact ⟨rfl, rfl⟩
  · cases hs

/-- `Count()` after a `Close` has returned is 0. -/
theorem scope_count_after_close_zero {s : Scope.St} (h : Scope.Reach s) (k : Scope.Cid) (n : Nat)
    (hb : Scope.Before s.tr (.closeRet k) (.count n)) : n = 0 :=
  (Scope.inv_reach h).count_zero k n hb

/-- `sc.mu` is held exactly while one Close is running; a returned Close leaves the scope closed, unlocked and empty. -/
theorem scope_mutex_and_final_state {s : Scope.St} (h : Scope.Reach s) :
    (∀ k k', (s.cpc k).isRunning = true → (s.cpc k').isRunning = true → k = k') ∧
    (∀ k, (s.cpc k).isRunning = true → s.muFree = false) ∧
    (∀ k, Scope.Ev.closeRet k ∈ s.tr → s.closed = true ∧ s.muFree = true ∧ s.subs = []) := by
  have hi := Scope.inv_reach h
  refine ⟨fun k k' hk hk' => ?_, fun k hk => ?_, fun k hret => ?_⟩
  · -- both are the one `closer`
    exact Option.some.inj (((hi.run k).mp hk).symm.trans ((hi.run k').mp hk'))
  · -- `sc.mu` is free only when there is no closer
    exact Bool.eq_false_iff.mpr fun hf => nomatch ((hi.run k).mp hk).symm.trans (hi.mu.mp hf)
  · obtain ⟨hc, hn⟩ := hi.done_ k ((hi.t_ret k).mp hret)
    exact ⟨hc, hi.mu.mpr hn, hi.empty hc hn⟩

/-- once ANY `Close` call has returned, every tracked subscription has been unsubscribed — also with several overlapping
    Close calls: the second one waits on `sc.mu` until the first has unsubscribed everything (Close is atomic with respect to
    other Closes).  (Membership form of `scope_close_unsubscribes_all`.) -/
theorem close_returned_implies_all_unsubscribed {s : Scope.St} (h : Scope.Reach s) (k : Scope.Cid)
    (hret : Scope.Ev.closeRet k ∈ s.tr) : ∀ i, Scope.Ev.trackOk i ∈ s.tr → Scope.Ev.unsub i ∈ s.tr :=
  fun i htr => (Aqv.Feed.sub2_mem ((Scope.inv_reach h).all_before i k hret htr)).1

/-- WITNESS (seeded shape C19-9): if Close marks the scope closed and releases `sc.mu` BEFORE unsubscribing (`step true`), a
    second overlapping Close hits `if sc.closed { return }` and returns while the tracked subscription is still subscribed. -/
theorem scope_close_early_unlock_witness :
    ∃ s, Scope.run true Scope.init [.track 1, .closeCall 10, .closeEnter 10, .closeCall 11, .closeEnter 11] = some s ∧
      Scope.Ev.closeRet 11 ∈ s.tr ∧ Scope.Ev.trackOk 1 ∈ s.tr ∧ Scope.Ev.unsub 1 ∉ s.tr ∧ s.unsubbed 1 = false := by
  refine ⟨(Scope.run true Scope.init [.track 1, .closeCall 10, .closeEnter 10, .closeCall 11, .closeEnter 11]).getD Scope.init,
    by rfl, ?_⟩
  have htr : ((Scope.run true Scope.init [.track 1, .closeCall 10, .closeEnter 10, .closeCall 11, .closeEnter 11]).getD
      Scope.init).tr = [.trackOk 1, .closeCall 10, .closeCall 11, .closeRet 11] := by rfl
  rw [htr]
  exact ⟨by decide, by decide, by decide, by rfl⟩

-- … while in the code as written the second Close cannot even enter while the first is running (it waits on sc.mu)
example : Scope.run false Scope.init [.track 1, .closeCall 10, .closeEnter 10, .closeCall 11, .closeEnter 11] = none := by rfl

-- non-vacuity: two subscriptions tracked, one unsubscribed through its wrapper while a Close is waiting, Close visits the
-- map in the "other" order, a second Close and a late Track follow, then Count
def scopeDemo : List Scope.Act :=
  [.track 1, .track 2, .count, .wrapCall 2, .closeCall 10, .wrapInner 2, .closeEnter 10, .closeStep 10 2, .closeStep 10 1,
   .closeExit 10, .wrapDelete 2, .closeCall 11, .closeEnter 11, .track 3, .count]
def scopeDemoState : Scope.St := (Scope.run false Scope.init scopeDemo).getD Scope.init
theorem scopeDemo_reach : Scope.Reach scopeDemoState :=
  Scope.reach_run Scope.Reach.init (by unfold scopeDemoState; rfl : Scope.run false Scope.init scopeDemo = some scopeDemoState)
theorem scopeDemo_tr : scopeDemoState.tr =
    [.trackOk 1, .trackOk 2, .count 2, .wrapCall 2, .closeCall 10, .unsub 2, .unsub 2, .unsub 1, .closeRet 10, .wrapRet 2,
     .closeCall 11, .closeRet 11, .trackNil 3, .count 0] := by rfl
instance (tr : List Scope.Ev) (a b : Scope.Ev) : Decidable (Scope.Before tr a b) :=
  inferInstanceAs (Decidable (List.Sublist [a, b] tr))
example : Scope.Ev.closeRet 10 ∈ scopeDemoState.tr ∧ Scope.Ev.trackOk 1 ∈ scopeDemoState.tr ∧
    Scope.Ev.closeRet 11 ∈ scopeDemoState.tr := by rw [scopeDemo_tr]; decide
example : Scope.Before scopeDemoState.tr (.closeRet 10) (.count 0) ∧ Scope.Before scopeDemoState.tr (.closeRet 10) (.trackNil 3) := by
  rw [scopeDemo_tr]; decide
example : scopeDemoState.closed = true := by decide

/-! ### TypeMux (Aqv.Model.Mux) — the package's second entry point (`event.go`): Subscribe / Post / Unsubscribe / Stop under
ANY interleaving of any number of posters, subscribers and unsubscribers and one Stop.  `Mux.Reach` is the code as written
(`del` and Subscribe build FRESH arrays); the in-place variant is only used in the witness at the end. -/

theorem mux_count_delivs (tr : List Mux.Ev) (c : Mux.Sub) (p : Mux.Pid) :
    (Mux.delivs tr).count (c, p) = tr.count (Mux.Ev.deliver c p) := by
  induction tr with
  | nil => rfl
  | cons e es ih =>
    simp only [Mux.delivs, List.filterMap_cons] at ih ⊢
    cases e <;> simp_all [List.count_cons] <;> grind

-- `hp` is not used: `Mux.Mem.snapImm` and `Mux.Lists.snap_nodup` hold of every Post at all times, in its loop or not
set_option linter.unusedVariables false in
/-- the slice a Post iterates is immutable: between taking the snapshot and returning, the backing array it reads still
    holds exactly what it held when the snapshot was taken (nothing writes to a published array). -/
theorem mux_snapshot_immutable {s : Mux.St} (h : Mux.Reach s) (p : Mux.Pid) (i : Nat) (hp : (s.ppc p).idx = some i) :
    s.heap (s.snap p).1 = s.snapL p ∧ (s.snap p).2 = (s.snapL p).length ∧ (s.snapL p).Nodup :=
  ⟨((Mux.invA_reach h).snapImm p).2.1, ((Mux.invA_reach h).snapImm p).2.2, (Mux.invA_reach h).snap_nodup p⟩

/-- no event is delivered twice to the same receiver. -/
theorem mux_at_most_once {s : Mux.St} (h : Mux.Reach s) (c : Mux.Sub) (p : Mux.Pid) :
    s.tr.count (Mux.Ev.deliver c p) ≤ 1 :=
  (Mux.invB_reach h).once c p

/-- EXACTLY ONCE for TypeMux: if `Post p` of type t returned nil, every receiver whose `Subscribe(t)` returned before the
    Post was called, whose `Unsubscribe` was not called before the Post returned, and with no `Stop` called before the Post
    returned, received the event exactly once. -/
theorem mux_exactly_once {s : Mux.St} (h : Mux.Reach s) (p : Mux.Pid) (c : Mux.Sub) (t : Mux.Ty)
    (hret : Mux.Ev.postRet p true ∈ s.tr)
    (hsub : Mux.Before s.tr (.subRet c t) (.postCall p t))
    (hlive : ¬ Mux.Before s.tr (.unsubCall c) (.postRet p true))
    (hstop : ¬ Mux.Before s.tr .stopCall (.postRet p true)) :
    s.tr.count (Mux.Ev.deliver c p) = 1 := by
  have ha := Mux.invA_reach h
  have hb := Mux.invB_reach h
  have hd : s.ppc p = .done true := (ha.seen _).mp hret
  have hin : c ∈ s.snapL p := by
    rcases hb.covered p c t hd hsub with h1 | h1
    · exact h1
    · exact absurd h1 hlive
  have hfresh := ha.sub_le_post c t p t hsub
  have hdel : Mux.Ev.deliver c p ∈ s.tr := by
    rcases hb.served p c hd hin with h1 | h1 | h1 | h1
    · exact h1
    · omega
    · exact absurd h1 hlive
    · exact absurd h1 hstop
  have hle := mux_at_most_once h c p
  have : 0 < s.tr.count (Mux.Ev.deliver c p) := List.count_pos_iff.mpr hdel
  omega

/-- nothing is delivered to a receiver after its `Unsubscribe` has returned (its channel is closed and `postC` is nil). -/
theorem mux_no_delivery_after_unsubscribe_returned {s : Mux.St} (h : Mux.Reach s) (c : Mux.Sub) (p : Mux.Pid) :
    ¬ Mux.Before s.tr (.unsubRet c) (.deliver c p) :=
  (Mux.invB_reach h).late c p

/-- a Post that is called after `Stop` has returned does not deliver anything and does not return nil. -/
theorem mux_post_after_stop_fails {s : Mux.St} (h : Mux.Reach s) (p : Mux.Pid) (t : Mux.Ty)
    (hb : Mux.Before s.tr .stopRet (.postCall p t)) :
    Mux.Ev.postRet p true ∉ s.tr ∧ ∀ c, Mux.Ev.deliver c p ∉ s.tr := by
  have hpc := (Mux.invB_reach h).after_stop p t hb
  refine ⟨fun hr => ?_, fun c => (Mux.invB_reach h).none_yet p c (.inr hpc)⟩
  have : s.ppc p = .done true := ((Mux.invA_reach h).seen _).mp hr
  rcases hpc with h1 | h1 <;> rw [h1] at this <;> cases this

-- non-vacuity: receivers 1, 2, 3 of type 0; Post 9 is parked on receiver 1, which is unsubscribed under it (the `closing`
-- case lets the Post go on); 2 and 3 get the event once each.
def muxDemo : List Mux.Act :=
  [.subNew 1 0, .subReg 1, .subNew 2 0, .subReg 2, .subNew 3 0, .subReg 3, .tick, .postCall 9 0, .postSnap 9, .postNext 9,
   .unsubCall 1, .unsubDel 1, .cwBegin 1, .deliverSkip 9, .cwEnd 1, .postNext 9, .deliverSend 9, .postNext 9, .deliverSend 9,
   .postNext 9]
def muxDemoState : Mux.St := (Mux.run false Mux.init muxDemo).getD Mux.init
theorem muxDemo_reach : Mux.Reach muxDemoState :=
  Mux.reach_run Mux.Reach.init (by unfold muxDemoState; rfl : Mux.run false Mux.init muxDemo = some muxDemoState)
theorem muxDemo_tr : muxDemoState.tr =
    [.subRet 1 0, .subRet 2 0, .subRet 3 0, .postCall 9 0, .unsubCall 1, .unsubRet 1, .deliver 2 9, .deliver 3 9,
     .postRet 9 true] := by rfl
instance (tr : List Mux.Ev) (a b : Mux.Ev) : Decidable (Mux.Before tr a b) :=
  inferInstanceAs (Decidable (List.Sublist [a, b] tr))
example : Mux.Ev.postRet 9 true ∈ muxDemoState.tr ∧ Mux.Before muxDemoState.tr (.subRet 2 0) (.postCall 9 0) ∧
    ¬ Mux.Before muxDemoState.tr (.unsubCall 2) (.postRet 9 true) ∧ ¬ Mux.Before muxDemoState.tr .stopCall (.postRet 9 true) := by
  rw [muxDemo_tr]; decide
example : muxDemoState.tr.count (.deliver 2 9) = 1 :=
  mux_exactly_once muxDemo_reach 9 2 0 (by rw [muxDemo_tr]; decide) (by rw [muxDemo_tr]; decide) (by rw [muxDemo_tr]; decide)
    (by rw [muxDemo_tr]; decide)

/-- WITNESS that compacting the receiver list IN PLACE (`append(slice[:pos], slice[pos+1:]...)`) breaks the property: the
    same interleaving run with `step true` — Post 9 parked on receiver 1, receiver 1 unsubscribes, the shared array becomes
    [2, 3, 3] under the Post's snapshot — delivers the event to receiver 3 twice and never to receiver 2, although Post returns
    nil and receiver 2 was subscribed before the Post and never unsubscribed. -/
theorem mux_inplace_delete_witness :
    ∃ s, Mux.run true Mux.init muxDemo = some s ∧
      Mux.Ev.postRet 9 true ∈ s.tr ∧ Mux.Before s.tr (.subRet 2 0) (.postCall 9 0) ∧ Mux.Ev.unsubCall 2 ∉ s.tr ∧
      s.tr.count (.deliver 2 9) = 0 ∧ s.tr.count (.deliver 3 9) = 2 ∧ s.heap (s.snap 9).1 = [2, 3, 3] := by
  refine ⟨(Mux.run true Mux.init muxDemo).getD Mux.init, by rfl, ?_⟩
  have htr : ((Mux.run true Mux.init muxDemo).getD Mux.init).tr =
      [.subRet 1 0, .subRet 2 0, .subRet 3 0, .postCall 9 0, .unsubCall 1, .unsubRet 1, .deliver 3 9, .deliver 3 9,
       .postRet 9 true] := by rfl
  rw [htr]
  refine ⟨by decide, by decide, by decide, by decide, by decide, by rfl⟩

/-! ### A feed USER that sends while holding its own mutex (Aqv.Model.FeedUser; core/tx_pool.go `add()` under `pool.mu`, with a
subscriber that calls `pool.Stats()` between receives).  Because Send waits for every subscriber (that is C19), the user must
not wait for the Send while it holds the lock: with the Send spawned (`go pool.txFeed.Send`, the code as written) no reachable
state is a deadlock; with a synchronous Send two announcements in one critical section deadlock. -/

def _root_.Aqv.FeedUser.UPc.isLocked : FeedUser.UPc → Bool
  | .locked _ => true
  | _ => false

theorem feed_user_lock_invariant {sync : Bool} {s : FeedUser.St} (h : FeedUser.Reach sync s) :
    (s.mu = .user ↔ s.upc.isLocked = true) ∧ (s.mu = .sub ↔ s.spc = .inStats) := by
  induction h with
  | init => simp [FeedUser.start, FeedUser.UPc.isLocked]
  | step a _ hs ih =>
    obtain ⟨h1, h2⟩ := ih
    cases a with
    | userLock | userUnlock | subLock | subUnlock =>
      -- takes or gives back the mutex, and moves the program counter that says so
      simp only [FeedUser.step] at hs
      split at hs <;> cases hs
      simp_all [FeedUser.UPc.isLocked]
    | userEmit =>
      -- leaves the mutex alone; the user stays inside its critical section, the subscriber is not in `Stats()`
      simp only [FeedUser.step] at hs
      (repeat' split at hs) <;> cases hs <;> simp_all [FeedUser.UPc.isLocked]
    | asyncDeliver =>
      -- leaves the mutex alone; the subscriber goes from `recv` to `wantMu`
      simp only [FeedUser.step] at hs
      split at hs <;> cases hs
      simp_all

/-- with the Send spawned, every reachable state either can take a step or is final (all calls returned, every event
    received): the user and its lock-taking subscriber never deadlock, for any number of announcements per critical section. -/
theorem feed_user_async_send_never_deadlocks {s : FeedUser.St} (h : FeedUser.Reach false s) :
    FeedUser.Enabled false s ∨ FeedUser.Final s := by
  obtain ⟨h1, h2⟩ := feed_user_lock_invariant h
  -- the user is outside its critical section: the subscriber can move, or everything is over
  have unlocked : s.upc = .done ∨ s.upc = .idle → FeedUser.Enabled false s ∨ FeedUser.Final s := by
    intro hu
    cases hs : s.spc with
    | inStats => left; exact ⟨.subUnlock, _, by simp [FeedUser.step, hs]; rfl⟩
    | wantMu =>
      left
      have hm : s.mu = .free := by
        rcases hu with hu | hu <;> cases hmu : s.mu <;> simp_all [FeedUser.UPc.isLocked]
      exact ⟨.subLock, _, by simp [FeedUser.step, hs, hm]; rfl⟩
    | recv =>
      by_cases hp : 0 < s.pending
      · left; exact ⟨.asyncDeliver, _, by simp [FeedUser.step, hs, hp]; rfl⟩
      · right; exact ⟨hu, by omega, hs⟩
  cases hu : s.upc with
  | locked k =>
    left
    cases k with
    | zero => exact ⟨.userUnlock, _, by simp [FeedUser.step, hu]; rfl⟩
    | succ k => exact ⟨.userEmit, _, by simp [FeedUser.step, hu]; rfl⟩
  | idle => exact unlocked (.inr hu)
  | done => exact unlocked (.inl hu)

/-- WITNESS (seeded shape C19-8): with a synchronous Send, a critical section that announces two events deadlocks — after the
    first rendezvous the subscriber waits for the mutex in `Stats()`, the user waits in `Send` for the subscriber's next
    receive; no step is enabled and nothing is final. -/
theorem feed_user_sync_send_deadlock_witness :
    ∃ s, FeedUser.Reach true s ∧ ¬ FeedUser.Enabled true s ∧ ¬ FeedUser.Final s := by
  let s1 : FeedUser.St := { mu := .user, upc := .locked 2, spc := .recv, pending := 0, delivered := 0 }
  let s2 : FeedUser.St := { mu := .user, upc := .locked 1, spc := .wantMu, pending := 0, delivered := 1 }
  have r1 : FeedUser.Reach true s1 := FeedUser.Reach.step (.userLock 2) FeedUser.Reach.init (by rfl)
  have r2 : FeedUser.Reach true s2 := FeedUser.Reach.step .userEmit r1 (by rfl)
  refine ⟨s2, r2, ?_, ?_⟩
  · rintro ⟨a, s', hs⟩
    cases a <;> simp [FeedUser.step, s2] at hs
  · rintro ⟨h1, _, _⟩
    rcases h1 with h1 | h1 <;> simp [s2] at h1

-- a single synchronous announcement per critical section does not deadlock (why the seeded change passes every existing test)
example : FeedUser.step true { mu := .user, upc := .locked 1, spc := .recv, pending := 0, delivered := 0 } .userEmit =
    some { mu := .user, upc := .locked 0, spc := .wantMu, pending := 0, delivered := 1 } := by rfl

/-! ### Non-vacuity of the fairness assumptions: the `demo` interleaving (a Send blocked in Select on a subscriber that is
unsubscribed under it, then a second Send), continued until every receiver is waiting again and then idle forever, is a
fair execution; the liveness theorems apply to it. -/

def demoFair : List Act := demo ++ [.recvBegin 1, .recvTake 1, .recvBegin 3]
def demoFairState : St := (run init demoFair).getD init
theorem demoFair_run : run init demoFair = some demoFairState := by unfold demoFairState; rfl
theorem demoFair_tr : demoFairState.tr = demoState.tr ++ [.recv 1 8] := by rfl

theorem demoFair_fair : Fair (Exec.ofSchedule demoFair demoFairState demoFair_run) := by
  have hreach : Reach demoFairState := reach_run Reach.init demoFair_run
  have he := invE_reach hreach
  have htr := demoFair_tr.trans (congrArg (· ++ [Ev.recv 1 8]) demo_tr)
  apply fair_of_quiescent_tail
  · decide
  · intro g hg
    have hc := (he.t_scall g).mpr (by rw [hg]; simp)
    rw [htr] at hc
    have : g = 7 ∨ g = 8 := by simpa using hc
    rcases this with rfl | rfl
    · have := (he.t_sret 7 1).mp (by rw [htr]; decide)
      rw [hg] at this; cases this
    · have := (he.t_sret 8 2).mp (by rw [htr]; decide)
      rw [hg] at this; cases this
  · intro c
    have key : demoFairState.rpc c = .idle ∨ demoFairState.rpc c = .done := by
      by_cases hi : demoFairState.rpc c = .idle
      · exact Or.inl hi
      · have hc := (he.t_ucall c).mpr hi
        rw [htr] at hc
        have : c = 2 := by simpa using hc
        subst this
        exact Or.inr ((he.t_uret 2).mp (by rw [htr]; decide))
    rcases key with h0 | h0 <;> simp [h0]
  · intro c hc
    have hsc : demoFairState.sendCases = [3, 1] := by rfl
    rw [hsc] at hc
    have : c = 3 ∨ c = 1 := by simpa using hc
    rcases this with rfl | rfl <;> decide

-- the hypothesis of `send_terminates` / `remove_terminates` holds on it at step 3 resp. 9, and so does the conclusion
example : Ev.sendCall 7 ∈ ((Exec.ofSchedule demoFair demoFairState demoFair_run).σ 3).tr := by decide
example : Ev.unsubCall 2 ∈ ((Exec.ofSchedule demoFair demoFairState demoFair_run).σ 9).tr := by decide
example : ∃ m, 3 ≤ m ∧ ∃ r, Ev.sendRet 7 r ∈ ((Exec.ofSchedule demoFair demoFairState demoFair_run).σ m).tr :=
  send_terminates _ demoFair_fair 7 3 (by decide)

end Aqv.Props.C19
