/-
  Property C03 — "The canonical index describes exactly the chain that ends at the head".

  Model: `Aqv.Model.Chain` (`BlockChain.insertChain2 / WriteBlockWithState / reorg / insert / SetHead / Stop`,
  `HeaderChain.WriteHeader / InsertHeaderChain / SetHead`), mirroring /repo at 3f14ce8.  `U` is the static universe of
  blocks (hash ↦ block, `World U`: valid blocks — positive difficulty, no transaction twice along one chain);
  `SpecInv s` is the property as stated (number index = ancestry of the head and nothing above it; header, body, receipts
  and td retrievable for every canonical block; a lookup resolves iff the transaction is in a canonical block, at that
  position; header/fast heads on the block head); `Inv U s` is the inductive invariant implying it (`spec_of_inv`).

  Scope of the theorems (all for arbitrary histories, unbounded):
    * full imports, reorganisations to longer or SHORTER heavier branches, re-deliveries, side-chain imports on a pruned
      node, Stop+reopen: unconditional (`inv_reachable_imports`);
    * rewinds: `SetHead(n)` for ANY n.  When the block it lands on still has its state (always on an archive node) the
      three heads stay equal and `SpecInv` holds (`inv_setHead`, `inv_reachable`).  Otherwise `SetHead` deliberately leaves
      the block head on a lower block with state, below the header head (the header-first situation of the statement):
      `GInv` is the invariant for that — index and lookups describe the chain of the HEADER head, block head and fast head
      are blocks of that chain — and it is kept by every operation (`ginv_setHead` without premise, `ginv_insertChain`,
      `ginv_reopen`, `ginv_reachable`); the statement read with the header head as the head (`SpecLag`) follows
      (`spec_lag_reachable`).  Without 3f14ce8 an import after such a rewind breaks the property (finding
      `sethead-stateless-leaves-index`; `setHead_stateless_witness`);
    * ONE chain fed through `InsertChain` and `InsertHeaderChain` in any order: the number index is exactly the ancestry of
      the header head after every mixed history (`inv_reachable_mixed`; without 3f14ce8 it is not — finding
      `mixed-import-stale-numbers-above-head`, `mixed_*_witness`);
    * after a rewind has orphaned side-chain blocks, `reorg` may return "invalid new chain": `inv_reachable` /
      `ginv_reachable` cover the histories in which that error is not returned (`Admissible`), and it is proved impossible
      without a rewind;
    * no import ever reaches a nil dereference (`insertChain_never_panics`, `hinv_insertHeaderChain`): with 7235ac1 and
      2ee9efd the imports that would are refused (`*_orphan_refused_witness`), and the header-chain theorems need no
      side condition.
-/
import Aqv.Lemmas.ChainHist
import Aqv.Lemmas.ChainHdr
import Aqv.Lemmas.ChainMixedIdx
import Aqv.Lemmas.ChainLag
import Aqv.Lemmas.ChainCoins
namespace Aqv.Props.C03
open Aqv.Chain

variable {U : Map Blk}

/-- a fresh chain satisfies the invariant -/
theorem inv_init (g : Blk) (archive : Bool) (hgU : U g.id = some g) (hg0 : g.number = 0) (hgt : g.txs = []) :
    Inv U (init g archive) := ⟨g, [], invC_init g archive hgU hg0 hgt⟩

/-- `WriteBlockWithState` of a valid block whose parent is stored and has state: extension of the head, reorganisation
    (to a longer OR shorter heavier branch, either coin), or side block -/
theorem inv_insertBlock (W : World U) {s : St} (h : Inv U s) {b p : Blk} (hbU : U b.id = some b)
    (hpar : parentOf s.store b = some p) (hps : s.hasState b.parent = true) (coin : Bool)
    (hok : (writeBlockWithState s b coin).err ≠ some .reorgFail) : Inv U (writeBlockWithState s b coin).st :=
  inv_wbws W h hbU hpar hps coin hok

/-- `InsertChain` of any batch (known blocks, pruned ancestors, non-contiguous batches, errors included) -/
theorem inv_insertChain (W : World U) {s : St} (h : Inv U s) (chain : List Blk) (hU : ∀ b ∈ chain, U b.id = some b)
    (coins : List (List Bool)) (hok : (importChain s chain coins).1.err ≠ some .reorgFail) :
    Inv U (importChain s chain coins).1.st := inv_importChain W h chain hU coins hok

/-- `SetHead(n)` onto a block that still has its state -/
theorem inv_setHead (W : World U) {s : St} (h : Inv U s) (n : Nat)
    (hst : ∀ i, s.canon n = some i → s.hasState i = true) : Inv U (setHead s n).st := Aqv.Chain.inv_setHead W h n hst

/-- `Stop` + reopen -/
theorem inv_reopen (W : World U) {s : St} (h : Inv U s) : Inv U (reopen s) := Aqv.Chain.inv_reopen W h

/-- the invariant holds after every admissible history -/
theorem inv_reachable (W : World U) (ops : List Op) {s : St} (h : Inv U s) (hadm : Admissible U s ops) :
    Inv U (run s ops) := inv_run W ops h hadm

/-- the property as stated follows from the invariant -/
theorem spec_of_inv (W : World U) {s : St} (h : Inv U s) : SpecInv s := Aqv.Chain.spec_of_inv W h

/-- C03 after every admissible history from genesis -/
theorem spec_reachable (W : World U) (g : Blk) (archive : Bool) (hgU : U g.id = some g) (hg0 : g.number = 0)
    (hgt : g.txs = []) (ops : List Op) (hadm : Admissible U (init g archive) ops) :
    SpecInv (run (init g archive) ops) :=
  spec_of_inv W (inv_reachable W ops (inv_init g archive hgU hg0 hgt) hadm)

/-- C03 after every history of imports (any tree, order, batching, coin resolution) and restarts -/
theorem inv_reachable_imports (W : World U) (g : Blk) (archive : Bool) (hgU : U g.id = some g) (hg0 : g.number = 0)
    (hgt : g.txs = []) (ops : List Op)
    (hops : ∀ op ∈ ops, match op with
      | .insert chain _ => ∀ b ∈ chain, U b.id = some b
      | .setHead _ => False
      | .reopen => True) :
    SpecInv (run (init g archive) ops) := by
  have hG := good_init (U := U) g archive hgU hg0 hgt
  have := imports_admissible W ops hG (fun op hop => importOp_ok _ (hops op hop))
  exact spec_of_inv W this.2.inv

/-! ### the block head may lag behind the header head (`SetHead` onto a block whose state is gone) -/

/-- the invariant with all heads equal is the special case -/
theorem ginv_of_inv (W : World U) {s : St} (h : Inv U s) : GInv U s := inv_toG W h

/-- `InsertChain` of any batch in a state in which the block head lags: since 3f14ce8 `insert` deletes the entries above
    the block it makes the head, re-points stale ones below and drops the lookups into the blocks it displaces -/
theorem ginv_insertChain (W : World U) {s : St} (h : GInv U s) (chain : List Blk) (hU : ∀ b ∈ chain, U b.id = some b)
    (coins : List (List Bool)) (hok : (importChain s chain coins).1.err ≠ some .reorgFail) :
    GInv U (importChain s chain coins).1.st := Aqv.Chain.ginv_importChain W h chain hU coins hok

/-- `SetHead(n)` for any `n`, also onto a block whose state is gone -/
theorem ginv_setHead (W : World U) {s : St} (h : GInv U s) (n : Nat) : GInv U (setHead s n).st :=
  Aqv.Chain.ginv_setHead W h n

theorem ginv_reopen (W : World U) {s : St} (h : GInv U s) : GInv U (reopen s) := Aqv.Chain.ginv_reopen W h

/-- after every history of imports, restarts and rewinds to ANY height -/
theorem ginv_reachable (W : World U) (ops : List Op) {s : St} (h : GInv U s) (hadm : AdmissibleG U s ops) :
    GInv U (run s ops) := ginv_run W ops h hadm

/-- the statement, read with the header head as the head, follows -/
theorem spec_lag_of_ginv (W : World U) {s : St} (h : GInv U s) : SpecLag s := spec_of_ginv W h

/-- C03 (header head as the head) after every admissible history from genesis, rewinds to any height included -/
theorem spec_lag_reachable (W : World U) (g : Blk) (archive : Bool) (hgU : U g.id = some g) (hg0 : g.number = 0)
    (hgt : g.txs = []) (ops : List Op) (hadm : AdmissibleG U (init g archive) ops) :
    SpecLag (run (init g archive) ops) :=
  spec_of_ginv W (ginv_run W ops (inv_toG W (inv_init g archive hgU hg0 hgt)) hadm)

/-- with the three heads equal `SpecLag` is the property as stated -/
theorem spec_of_spec_lag {s : St} (h : SpecLag s) (h1 : s.hhead = s.head) (h2 : s.fhead = s.head) : SpecInv s :=
  specInv_of_specLag h h1 h2

/-! ### queries are pure

The accessors (`GetBlockByHash`, `GetHeaderByHash`, `GetBody`, `GetTdByHash`, `HasBlock`, `HasHeader`, …) are functions of the
database in the model: asking for a block is not a step.  Stated explicitly for histories with queries interleaved, because
the Go accessors go through caches (`HeaderChain.numberCache`): the harness asks by hash for nodes BEFORE they are imported and
requires the same answers as the model, i.e. as if it had never asked. -/

/-- an operation, or a by-hash query for the block with hash `k` -/
inductive QOp
  | op (o : Op)
  | query (k : Nat)

/-- what the by-hash accessors return for the hash `k`: header and body, total difficulty, receipts -/
def answer (s : St) (k : Nat) : Option Blk × Option Nat × Bool := (s.store k, s.td k, s.receipts k)

def qstep (s : St) : QOp → St
  | .op o => (step s o).st
  | .query _ => s

def qrun (s : St) : List QOp → St
  | [] => s
  | o :: os => qrun (qstep s o) os

def eraseQueries : List QOp → List Op
  | [] => []
  | .op o :: os => o :: eraseQueries os
  | .query _ :: os => eraseQueries os

/-- a query leaves the database (hence every later answer and every later import) unchanged -/
theorem query_pure (s : St) (k : Nat) : qstep s (.query k) = s := rfl

/-- the database after a history with queries is the database after the history without them: what an accessor returns
    after an import does not depend on what was asked before -/
theorem queries_erase : ∀ (ops : List QOp) (s : St), qrun s ops = run s (eraseQueries ops) := by
  intro ops
  induction ops with
  | nil => intro s; rfl
  | cons o os ih =>
    intro s
    cases o with
    | op o => exact ih _
    | query k => exact ih _

theorem answers_independent_of_queries (ops : List QOp) (s : St) (k : Nat) :
    answer (qrun s ops) k = answer (run s (eraseQueries ops)) k := by rw [queries_erase]

/-! ### non-vacuity: a concrete tree with a longer-lighter and a shorter-heavier branch, the same transaction on both -/

def g : Blk := ⟨0, 0, 0, 100, []⟩
def a1 : Blk := ⟨1, 0, 1, 10, [1]⟩
def a2 : Blk := ⟨2, 1, 2, 10, [2]⟩
def a3 : Blk := ⟨3, 2, 3, 10, [3]⟩
def a4 : Blk := ⟨6, 3, 4, 10, []⟩
def b1 : Blk := ⟨4, 0, 1, 20, [1]⟩      -- sibling of a1 carrying the same transaction 1
def b2 : Blk := ⟨5, 4, 2, 20, [4]⟩      -- total difficulty 140 > 130 of a3: shorter but heavier
def c1 : Blk := ⟨7, 0, 1, 15, []⟩
def blocks : List Blk := [g, a1, a2, a3, b1, b2, a4, c1]
def U0 : Map Blk := mapOf blocks

theorem world0 : World U0 := world_of_check (by decide)

def history : List Op := [.insert [a1, a2, a3] [], .insert [b1] [], .insert [b2] [], .setHead 1, .insert [b2] []]

example : Admissible U0 (init g true) history := by decide

/-- the hypotheses of `spec_reachable` are satisfiable on a history with a reorganisation to a shorter heavier branch,
    a rewind and a re-import; the final head is the heavier block b2 -/
example : SpecInv (run (init g true) history) ∧ (run (init g true) history).head = 5 :=
  ⟨spec_reachable world0 g true (by decide) rfl rfl history (by decide), by decide⟩

/-- after the reorganisation to the SHORTER branch nothing is indexed at the old height 3, transaction 1 points into the
    new branch and the transactions of the dropped branch do not resolve -/
example :
    let s := run (init g true) [.insert [a1, a2, a3] [], .insert [b1] [], .insert [b2] []]
    s.head = 5 ∧ s.canon 3 = none ∧ s.lookup 1 = some ⟨4, 1, 0⟩ ∧ s.lookup 2 = none ∧ s.lookup 3 = none := by decide

/-! ### witnesses: `insert` / `reorg` without the fixes, next to the model -/

/-- `BlockChain.insert` BEFORE 3f14ce8: the number entry and the head markers are written; nothing is deleted, nothing is
    re-pointed, no lookup is dropped -/
def insertHeadPre (s : St) (b : Blk) : St :=
  let moves := s.canon b.number != some b.id
  { s with
    canon := upd s.canon b.number (some b.id)
    head := b.id
    hhead := if moves then b.id else s.hhead
    fhead := if moves then b.id else s.fhead }

/-- With an `insert` that only writes (before 4152cc7), re-inserting the shorter heavier branch [b2, b1] over the chain
    a1–a2–a3 leaves the head on b2 (height 2) while height 3 still maps to a3.  4152cc7 adds a deletion loop to `reorg`;
    from 3f14ce8 on `insert` itself deletes the entries above and `reorg` has no such loop. -/
theorem reinsert_leaves_stale_entry_witness :
    let s := run (init g true) [.insert [a1, a2, a3] [], .insert [b1] []]
    let pre := [b2, b1].foldr (fun x st => insertHeadPre st x) s
    let now := [b2, b1].foldr reorgStep s
    (pre.head = 5 ∧ pre.canon 2 = some 5 ∧ pre.canon 3 = some 3) ∧
    (now.head = 5 ∧ now.canon 1 = some 4 ∧ now.canon 2 = some 5 ∧ now.canon 3 = none) := by
  decide

/-- Finding `sethead-stateless-leaves-index` (fix: 3f14ce8).  On a pruning node that was restarted, `SetHead(2)`
    lands on a block whose state is gone; the block head falls back to genesis while the header head, the number index
    and the lookups stay at height 2 (by design: `GInv`).  Importing the sibling c1 then moves every head to c1
    (height 1): `insert` before 3f14ce8 (`pre`) leaves height 2 mapped to a2 and the lookups of a1, a2 resolvable; with
    3f14ce8 (`now`) height 2 is unmapped and those lookups are gone. -/
theorem setHead_stateless_witness :
    let s := run (init g false) [.insert [a1, a2, a3, a4] [], .reopen, .setHead 2]
    let pre := insertHeadPre s c1
    let now := run s [.insert [c1] []]
    (s.head = 0 ∧ s.hhead = 2 ∧ s.canon 2 = some 2 ∧ s.lookup 2 = some ⟨2, 2, 0⟩) ∧
    (pre.head = 7 ∧ pre.hhead = 7 ∧ pre.canon 1 = some 7 ∧ pre.canon 2 = some 2 ∧ pre.lookup 1 = some ⟨1, 1, 0⟩) ∧
    (now.head = 7 ∧ now.hhead = 7 ∧ now.fhead = 7 ∧ now.canon 1 = some 7 ∧ now.canon 2 = none ∧ now.lookup 1 = none ∧
      now.lookup 2 = none) := by
  decide

/-- the same history is covered by the theorems: rewind onto the stateless block, import of the sibling, re-import of the
    old branch -/
example :
    let ops : List Op := [.insert [a1, a2, a3, a4] [], .reopen, .setHead 2, .insert [c1] [], .insert [a1, a2] []]
    AdmissibleG U0 (init g false) ops ∧ SpecLag (run (init g false) ops) :=
  ⟨by decide, spec_lag_reachable world0 g false (by decide) rfl rfl _ (by decide)⟩

/-- `InsertChain` never reaches a nil dereference, whatever rewinds left behind (fix 7235ac1) -/
theorem insertChain_never_panics (W : World U) {s : St} (h : Inv U s) (chain : List Blk)
    (hU : ∀ b ∈ chain, U b.id = some b) (coins : List (List Bool)) :
    (importChain s chain coins).1.err ≠ some .modelPanic := importChain_no_panic W h chain hU coins

/-- Finding `insertchain-pruned-orphan-nil-deref` (fix: 7235ac1): after a restart and a rewind that removed the lower
    part of a stored side chain, importing a child of that side chain walks into the missing ancestor (`parent.Root()`
    on nil) without 7235ac1; with it the import is refused with ErrUnknownAncestor and nothing changes. -/
theorem import_orphan_refused_witness :
    let o1 : Blk := ⟨8, 1, 2, 5, []⟩       -- side chain o1–o2 on top of a1, lighter than a1–a2–a3
    let o2 : Blk := ⟨9, 8, 3, 5, []⟩
    let o3 : Blk := ⟨10, 9, 4, 5, []⟩
    let s := run (init g false) [.insert [a1, a2, a3] [], .insert [o1, o2] [], .reopen, .setHead 0]
    -- the rewind removed a1..a3; o1, o2 stay behind without state and without their ancestor a1
    let r := importOne s o3 []
    s.head = 0 ∧ (s.store 8).isSome = true ∧ s.store 1 = none ∧
      r.err = some .unknownAncestor ∧ r.st.head = 0 ∧ r.st.canon 1 = none ∧ r.st.store 10 = none ∧ r.st.td 10 = none := by
  decide

/-! ### header-first imports (`InsertHeaderChain` / `SetHead` on a chain without blocks) -/

theorem hinv_init (g : Blk) (hgU : U g.id = some g) (hg0 : g.number = 0) : HInv U (hinit g) :=
  ⟨g, [], hinvC_init g hgU hg0⟩

/-- `HeaderChain.WriteHeader`: deletion of the numbers above, the backwards loop over stale assignments, either coin -/
theorem hinv_writeHeader (W : World U) {s : HSt} (h : HInv U s) {hd p : Blk} (hU : U hd.id = some hd)
    (hpar : parentOf s.store hd = some p) (coin : Bool) :
    HInv U (writeHeader s hd coin).st ∧ (writeHeader s hd coin).err ≠ some .modelPanic :=
  ⟨(Aqv.Chain.hinv_writeHeader W h hU hpar coin).1, (Aqv.Chain.hinv_writeHeader W h hU hpar coin).2.1⟩

/-- a refused header (fix 2ee9efd: hole in its stored ancestry) leaves the number index and the header head untouched -/
theorem writeHeader_refusal_keeps_index (W : World U) {s : HSt} (h : HInv U s) {hd p : Blk} (hU : U hd.id = some hd)
    (hpar : parentOf s.store hd = some p) (coin : Bool) (herr : (writeHeader s hd coin).err ≠ none) :
    (writeHeader s hd coin).st.canon = s.canon ∧ (writeHeader s hd coin).st.hhead = s.hhead :=
  writeHeader_refusal W h hU hpar coin herr

/-- `InsertHeaderChain` of any batch: invariant kept, never a crash -/
theorem hinv_insertHeaderChain (W : World U) {s : HSt} (h : HInv U s) (chain : List Blk)
    (hU : ∀ x ∈ chain, U x.id = some x) (coins : List Bool) :
    HInv U (hImportChain s chain coins).1.st ∧ (hImportChain s chain coins).1.err ≠ some .modelPanic :=
  ⟨(hstep_importChain W h chain hU coins).inv, (hstep_importChain W h chain hU coins).noPanic⟩

theorem hinv_setHead (W : World U) {s : HSt} (h : HInv U s) (n : Nat) : HInv U (hSetHead s n).st :=
  Aqv.Chain.hinv_setHead W h n

/-- the number index describes exactly the chain of the header head after every admissible header history -/
theorem hspec_reachable (W : World U) (g : Blk) (hgU : U g.id = some g) (hg0 : g.number = 0) (ops : List HOp)
    (hadm : HAdmissible U (hinit g) ops) : HSpecInv (hrun (hinit g) ops) :=
  hspec_of_inv W (hinv_run W ops (hinv_init g hgU hg0) hadm)

example : HAdmissible U0 (hinit g) [.insert [a1, a2, a3] [], .insert [b1, b2] [], .setHead 1, .insert [b2] []] := by
  decide

/-- header-first: the shorter heavier branch takes over, height 3 is unmapped; rewind and re-import -/
example :
    let s := hrun (hinit g) [.insert [a1, a2, a3] [], .insert [b1, b2] []]
    s.hhead = 5 ∧ s.canon 1 = some 4 ∧ s.canon 2 = some 5 ∧ s.canon 3 = none := by decide

/-- Finding `writeheader-orphan-nil-deref` (fix: 2ee9efd): after `SetHead(0)` the side headers o1, o2 stay behind
    without their ancestor a1; without 2ee9efd writing the header o3 on top of them crashes after rewriting part of the
    number index.  With it the write is refused with ErrUnknownAncestor: the header and its td are stored, the index
    and the header head are untouched. -/
theorem writeHeader_orphan_refused_witness :
    let o1 : Blk := ⟨8, 1, 2, 5, []⟩
    let o2 : Blk := ⟨9, 8, 3, 5, []⟩
    let o3 : Blk := ⟨10, 9, 4, 5, []⟩
    let s := hrun (hinit g) [.insert [a1, a2, a3] [], .insert [o1, o2] [], .setHead 0]
    let r := (hImportChain s [o3] []).1
    s.hhead = 0 ∧ s.store 1 = none ∧ r.err = some .unknownAncestor ∧ (r.st.store 10).isSome = true ∧
      r.st.canon 1 = none ∧ r.st.canon 2 = none ∧ r.st.canon 3 = none ∧ r.st.canon 4 = none ∧ r.st.hhead = 0 := by
  decide

/-! ### mixed histories: `InsertChain` and `InsertHeaderChain` on ONE chain

Model: `XSt` (`Aqv.Model.ChainMixed`): the full-import database plus the header store; a block batch runs the full-import
model, a header batch the header-chain model, over the shared td records / number index / head header.  The index clauses of
C03 are read with the header head as "the head" (`HSpecInv` of the projection `toH`).

Without 3f14ce8 the property FAILS in mixed histories (finding `mixed-import-stale-numbers-above-head`, reproduced on
the real code; exhaustive small-scope evidence in `docs/proposals/C03-insert-clears-numbers-above.evidence.txt`):
`BlockChain.insert` re-points the heads to a block without deleting the number entries above it or re-pointing those below
it, and `reorg`'s clean-up loop deletes entries of a header chain that is ahead.  With 3f14ce8 the full statement holds. -/

/-- every mixed history — block batches and header batches of any forks, lighter, equal or heavier, in any order, any
    coin: the number index is exactly the ancestry of the header head, nothing is indexed above it, and every indexed
    header has its td -/
theorem inv_reachable_mixed (W : World U) (g : Blk) (hgU : U g.id = some g) (hg0 : g.number = 0)
    (ops : List MOp) (hops : ∀ op ∈ ops, MOpOk U op) : HSpecInv (toH (xrun (xinit g) ops)) :=
  hspec_of_inv W (mixInv_run W ops (mixInv_init g hgU hg0) hops).hinv

/-- no block batch of a mixed history fails with "invalid new chain" or reaches a nil dereference, and no header batch
    reaches a nil dereference -/
theorem mixed_never_fails (W : World U) {x : XSt} (h : MixInv U x) (chain : List Blk)
    (hU : ∀ b ∈ chain, U b.id = some b) :
    (∀ coins, (xImportChain x chain coins).2.1 ≠ some .reorgFail ∧ (xImportChain x chain coins).2.1 ≠ some .modelPanic) ∧
    (∀ coins, (xImportHeaders x chain coins).2.1 ≠ some .modelPanic) := by
  constructor
  · intro coins
    have h1 := stable_importChain W (mixP_stable W x.hdrs) (mixP_raiseTop h chain) chain hU coins
    exact ⟨h1.noFail trivial, h1.noPanic⟩
  · intro coins
    exact (hstep_importChain W h.hinv chain hU coins).noPanic

example : ∀ op ∈ ([.headers [a1, a2] [], .blocks [b1] [], .blocks [a1, a2, a3] [], .headers [b1, b2] []] : List MOp),
    MOpOk U0 op := by decide

/-- (a1) entries ABOVE the head header: headers a1–a2, then the block b1 (sibling of a1): every head moves to b1
    (height 1) — a block import forces the heads onto its branch.  `insert` before 3f14ce8 (`pre`) leaves height 2 mapped
    to a2; with 3f14ce8 the entry is deleted. -/
theorem mixed_stale_number_above_witness :
    let x0 := xrun (xinit g) [.headers [a1, a2] []]
    let pre := insertHeadPre x0.full b1
    let x := xrun (xinit g) [.headers [a1, a2] [], .blocks [b1] []]
    (pre.hhead = 4 ∧ pre.canon 1 = some 4 ∧ pre.canon 2 = some 2) ∧
    (x.full.head = 4 ∧ x.full.hhead = 4 ∧ x.full.canon 1 = some 4 ∧ x.full.canon 2 = none) := by
  decide

/-- (a2) a stale entry BELOW the head header: block a1, headers b1–b2 (heavier: the index follows them), then blocks a1–a2:
    a2 extends the block head without a reorganisation and `insert` moves the head header to a2.  `insert` before 3f14ce8
    (`pre`) writes height 2 only, height 1 still maps to b1; with 3f14ce8 height 1 is re-pointed to a1. -/
theorem mixed_stale_number_below_witness :
    let x1 := xrun (xinit g) [.blocks [a1] [], .headers [b1, b2] []]
    let pre := insertHeadPre x1.full a2
    let x := xrun (xinit g) [.blocks [a1] [], .headers [b1, b2] [], .blocks [a1, a2] []]
    (x1.full.hhead = 5 ∧ x1.full.canon 1 = some 4) ∧
    (pre.hhead = 2 ∧ pre.canon 2 = some 2 ∧ pre.canon 1 = some 4) ∧
    (x.full.head = 2 ∧ x.full.hhead = 2 ∧ x.full.canon 2 = some 2 ∧ x.full.canon 1 = some 1 ∧ x.full.canon 3 = none) := by
  decide

/-- (a3) entries of the header chain ahead: block a1, headers b1–b2–x3 (heavier, ahead), then the block b1 (td 120, beats
    a1 with td 110): `reorg` re-inserts b1 — already indexed at height 1, so the head header stays on x3.  The clean-up
    loop that `reorg` has before 3f14ce8 (`delCanonAbove`) deletes heights 2 and 3, which belong to the header chain; with
    3f14ce8 nothing above an already indexed block is touched. -/
theorem mixed_header_entries_deleted_witness :
    let x3 : Blk := ⟨20, 5, 3, 20, []⟩
    let x2 := xrun (xinit g) [.blocks [a1] [], .headers [b1, b2, x3] []]
    let x := xrun (xinit g) [.blocks [a1] [], .headers [b1, b2, x3] [], .blocks [b1] []]
    (x2.full.hhead = 20 ∧ x2.full.canon 1 = some 4 ∧
      delCanonAbove x2.full.canon 4 2 2 = none ∧ delCanonAbove x2.full.canon 4 2 3 = none) ∧
    (x.full.head = 4 ∧ x.full.hhead = 20 ∧ x.full.canon 1 = some 4 ∧ x.full.canon 2 = some 5 ∧
      x.full.canon 3 = some 20) := by
  decide

/-! ### the coin resolutions followed by the replay driver

`mrand.Float64() < 0.5` is the only nondeterminism of an import.  The driver (`Aqv.Model.ChainReplay`) follows coin vectors
per `importOne` (one coin per `WriteBlockWithState` call: the re-imported stateless ancestors, then the block itself) and per
header batch.  These theorems say which resolutions it covers and why that suffices; when an observed outcome is produced only
by a resolution outside the enumeration the driver reports `too-many-ties` instead of a model disagreement. -/

/-- every resolution with at most 3 coins `true` is followed, and every resolution whatsoever up to 6 calls (8 headers) -/
theorem coin_enumeration_complete (n : Nat) (v : List Bool) (hv : v.length = n) :
    ((n ≤ 6 ∨ v.count true ≤ 3) → v ∈ Aqv.ChainReplay.coinVecs n) ∧
    ((n ≤ 8 ∨ v.count true ≤ 3) → v ∈ Aqv.ChainReplay.hdrCoinVecs n) :=
  ⟨coinVecs_complete n v hv, hdrCoinVecs_complete n v hv⟩

/-- `WriteBlockWithState` reads its coin only at an exact total-difficulty tie with the head at equal height: resolutions
    that differ at other calls give the same database, so only the coins at ties have to be enumerated -/
theorem coin_only_read_at_tie (s : St) (b : Blk) (h : ¬ tieAt s b) (c c' : Bool) :
    writeBlockWithState s b c = writeBlockWithState s b c' := wbws_coin_irrelevant s b h c c'

theorem header_coin_only_read_at_tie (s : HSt) (hd : Blk)
    (hne : ∀ ptd lt, s.td hd.parent = some ptd → s.td s.hhead = some lt → ptd + hd.diff ≠ lt) (c c' : Bool) :
    writeHeader s hd c = writeHeader s hd c' := writeHeader_coin_irrelevant s hd hne c c'

/-- a resolution beyond 6 calls: six re-imported ancestors, then the block itself wins its tie — the SEVENTH coin -/
example : [false, false, false, false, false, false, true] ∈ Aqv.ChainReplay.coinVecs 7 := by decide

/-- non-vacuity: at a tie the coin does decide (t1 is a twin of a1: same parent, height and difficulty) … -/
example :
    let t1 : Blk := ⟨30, 0, 1, 10, []⟩
    let s := run (init g true) [.insert [a1] []]
    (writeBlockWithState s t1 true).st.head = 30 ∧ (writeBlockWithState s t1 false).st.head = 1 := by decide

/-- … and away from one it does not (c1 is heavier than a1) -/
example :
    let s := run (init g true) [.insert [a1] []]
    (writeBlockWithState s c1 true).st.head = 7 ∧ (writeBlockWithState s c1 false).st.head = 7 := by decide

end Aqv.Props.C03
