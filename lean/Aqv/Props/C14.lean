/-
  C14 — A proof-of-work seal is accepted exactly when it meets the target.   Property theorems only.
  Model: Aqv.Model.Pow (Impl = VerifySeal / mine / GetBlockVersion / Header.Hash / HashNoNonce as written, the hash
  primitives as parameters; Spec = SealValid, versionSpec).  Constants and fork maps from Aqv.Gen.Params / Aqv.Gen.Pow.
-/
import Aqv.Lemmas.Pow
import Aqv.Lemmas.Consensus
import Aqv.Model.PowGen
import Aqv.Lemmas.Translated.Params
namespace Aqv.Props.C14
open Aqv Aqv.Consensus Aqv.Pow

/-! ## T-gen -/

/-- the regenerated `epochLength`, `maxEpoch` and target numerator are the statement's (30000, 2048, 2^256). -/
theorem gen_pow_constants : Gen.powParams = Spec.powParams := by decide

/-- **memory parameter**: behind `crypto.VersionHash` version 1 is Keccak-256 and versions 2, 3, 4 are argon2id with
    time 1, one lane and 1 KiB, 16 KiB, 32 KiB of memory (recovered from the compiled code by matching against
    golang.org/x/crypto/argon2.IDKey over a parameter grid); 4 is the highest known version. -/
theorem memory_parameter :
    Aqv.Gen.Pow.argon = [(2, 1, 1, 1), (3, 1, 16, 1), (4, 1, 32, 1)] ∧ Aqv.Gen.Pow.v1IsKeccak = true ∧ Aqv.Gen.Pow.knownVersion = 4 ∧
    Aqv.Gen.Pow.hashesConcatenation = true := by decide

/-! ## the acceptance predicate -/

/-- the decision logic of `VerifySeal` is the acceptance predicate, for every epoch bound and target numerator. -/
theorem verifySeal_iff_general (Pp : PowParams) (Hs : Hashes) (s : SealInput) :
    verifySeal Pp Hs s = none ↔ SealValidP Pp Hs s := by
  rw [verifySeal_none_iff]
  refine and_congr_right fun _ => and_congr_right fun _ => ?_
  by_cases hv : 1 ≤ s.version ∧ s.version ≤ 4
  · rw [recompute_known Hs s hv]
    unfold sealOutput
    by_cases v1 : s.version = 1
    · simp [v1]
    · simp [v1, show s.version = 2 ∨ s.version = 3 ∨ s.version = 4 by omega, sealSeed]
  · rw [recompute_unknown Hs s (by omega)]
    simp
    omega

/-- **accepted exactly when valid** — with the regenerated constants: for every hash function, header, nonce, difficulty
    (positive or not), version (including unset and unknown ones, which panic and are therefore not accepted) and height. -/
theorem verifySeal_iff (Hs : Hashes) (s : SealInput) :
    verifySeal Gen.powParams Hs s = none ↔ SealValid Hs s := by
  rw [gen_pow_constants]
  exact verifySeal_iff_general _ _ _

/-- the boundary is exact: with the target `t = ⌊2^256 / d⌋`, a hash equal to `t` is accepted and `t + 1` is rejected. -/
theorem target_boundary (Hs : Hashes) (s : SealInput) (hv : s.version = 2 ∨ s.version = 3 ∨ s.version = 4) (hd : 0 < s.difficulty)
    (hn : s.number % two64 / 30000 < 2048) (hm : s.mixDigest = zeroDigest) :
    (beNat (Hs.vh s.version (s.hnn ++ le64 s.nonce)) = two256 / s.difficulty.toNat → verifySeal Gen.powParams Hs s = none) ∧
    (beNat (Hs.vh s.version (s.hnn ++ le64 s.nonce)) = two256 / s.difficulty.toNat + 1 → verifySeal Gen.powParams Hs s = some .invalidPoW) := by
  rw [gen_pow_constants, verifySeal_argon _ Hs s hv hn hd hm]
  refine ⟨fun he => if_neg ?_, fun he => if_pos ?_⟩
  · rw [sealSeed, he]
    exact Nat.lt_irrefl _
  · rw [sealSeed, he]
    exact Nat.lt_succ_self _

/-! ## the miner -/

/-- **every seal the miner returns passes the check**: for every hash function, start nonce, thread (threads only differ in
    their start nonce) and amount of search, whatever `mine` reports as found is accepted by `VerifySeal` — provided the
    seal-free hash the miner used (`HashNoNonce` of the block's header as handed to `Seal`) is the one the verifier
    recomputes (`hnn`), which holds whenever the block's header carries the version of its height, as the worker sets it. -/
theorem mined_seal_verifies (Hs : Hashes) (version number : Nat) (difficulty : Int) (hnn : Bytes) (start fuel nonce : Nat) (digest : Bytes)
    (hn : number % two64 / 30000 < 2048) (hd : 0 < difficulty)
    (hm : mine Gen.powParams Hs version number difficulty hnn start fuel = .ok (some (nonce, digest))) :
    verifySeal Gen.powParams Hs { number := number, difficulty := difficulty, mixDigest := digest, nonce := nonce, version := version, hnn := hnn } = none := by
  rw [gen_pow_constants] at hm ⊢
  unfold mine at hm
  rw [if_neg (by omega)] at hm
  split at hm
  · cases hm
  · obtain ⟨hdg, hle⟩ := mineFrom_sound Hs version number hnn _ fuel start nonce digest (Out.ok.inj hm)
    exact (verifySeal_none_iff _ _ _).2 ⟨hn, hd, _, recompute_known Hs _ (by show 1 ≤ version ∧ version ≤ 4; omega), hdg, hle⟩

/-- **every seal `Seal` returns passes the check, for all thread counts and all schedules**: n sealer threads, each with its
    own start nonce and its own seed buffer, interleaved arbitrarily at the granularity write-nonce / hash / compare, first hit
    wins — whatever (nonce, digest) is returned verifies (argon2id versions; `hnn` as in `mined_seal_verifies`). -/
theorem mined_seal_verifies_any_schedule (Hs : Hashes) (version number : Nat) (difficulty : Int) (hnn : Bytes)
    (starts schedule : List Nat) (nonce : Nat) (digest : Bytes)
    (hv : version = 2 ∨ version = 3 ∨ version = 4) (hn : number % two64 / 30000 < 2048) (hd : 0 < difficulty)
    (hm : sealRun Gen.powParams Hs version difficulty hnn false starts schedule = some (nonce, digest)) :
    verifySeal Gen.powParams Hs { number := number, difficulty := difficulty, mixDigest := digest, nonce := nonce, version := version, hnn := hnn } = none := by
  rw [gen_pow_constants] at hm ⊢
  obtain ⟨hdg, hle⟩ := (sealRun_inv Hs version hnn _ schedule _ (sealInit_inv Hs version hnn _ starts)).found nonce digest hm
  rw [verifySeal_argon _ Hs _ hv hn hd hdg]
  exact if_neg ((target_cmp _ _ _ hd).2 hle)

/-- private buffers are what makes this true: if the threads write their nonce into ONE shared buffer, there is a two-thread
    schedule (A writes, B writes, A hashes, A compares) in which A reports its own nonce for a hash computed over B's nonce,
    and the block `Seal` returns is rejected by `VerifySeal`.  (Toy hash: only nonce 1 meets the target.) -/
theorem shared_seed_buffer_witness :
    let Hs : Hashes := { keccak := id, vh := fun _ d => if d.drop 32 = le64 1 then [0] else [255], ethash := fun _ _ _ => ([], []) }
    let d : Int := 1157920892373161954235709850086879078532699846656405640394575840079131296399   -- target = 100
    sealRun Gen.powParams Hs 2 d (List.replicate 32 7) true [0, 1] [0, 1, 0, 0] = some (0, zeroDigest) ∧
    verifySeal Gen.powParams Hs { number := 5, difficulty := d, mixDigest := zeroDigest, nonce := 0, version := 2, hnn := List.replicate 32 7 } = some .invalidPoW ∧
    -- with private buffers the same schedule returns nothing yet, and a longer one returns thread B's nonce 1, which verifies
    sealRun Gen.powParams Hs 2 d (List.replicate 32 7) false [0, 1] [0, 1, 0, 0] = none ∧
    sealRun Gen.powParams Hs 2 d (List.replicate 32 7) false [0, 1] [0, 1, 0, 0, 1, 1] = some (1, zeroDigest) := by
  decide

/-- the precondition on the seal-free hash matters only through version 3: `HashNoNonce` hashes with argon2id-B when the
    header version is 3 and with Keccak-256 for every other version (as written), so a block handed to `Seal` with an unset
    or stale header version at an HF8 height is mined over a different pre-image than the verifier recomputes. -/
theorem hashNoNonce_by_version (Hs : Hashes) (v : Nat) (h : HeaderFields) :
    hashNoNonce Hs v h = if v = 3 then .ok (Hs.vh 3 (Rlp.enc (.list h.itemsNoNonce))) else .ok (Hs.keccak (Rlp.enc (.list h.itemsNoNonce))) := by
  unfold hashNoNonce rlpHash
  by_cases h3 : v = 3
  · simp [h3, versionHash_argon]
  · simp [h3]

/-- **hashes use the version**: `Header.Hash` is Keccak-256 of the RLP encoding for version 1, argon2id (version-selected
    memory) of the same encoding for versions 2–4, and refuses (panics) an unset or unknown version. -/
theorem hash_uses_version (Hs : Hashes) (v : Nat) (h : HeaderFields) :
    headerHash Hs v h =
      if v = 1 then .ok (Hs.keccak (Rlp.enc (.list (h.itemsNoNonce ++ [.str h.mixDigest, .str h.nonce]))))
      else if v = 2 ∨ v = 3 ∨ v = 4 then .ok (Hs.vh v (Rlp.enc (.list (h.itemsNoNonce ++ [.str h.mixDigest, .str h.nonce]))))
      else .panic := by
  unfold headerHash rlpHash
  by_cases h0 : v = 0
  · simp [h0]
  by_cases h1 : v = 1
  · simp [h1]
  by_cases hv : v = 2 ∨ v = 3 ∨ v = 4
  · simp [h0, h1, hv, versionHash_argon]
  · simp [h0, h1, hv, versionHash_bad]

/-! ## version by height -/

/-- the version is a function of the height alone: three thresholds read off the fork map (HF9 → 4, HF8 → 3, HF5 → 2, else 1). -/
theorem version_by_height (c : Config) (height : Nat) :
    getBlockVersion c height = versionSpec (c.getHF 5) (c.getHF 8) (c.getHF 9) height := by
  unfold getBlockVersion versionSpec Config.isHF
  rfl

/-- … always one of 1..4 … -/
theorem version_range (c : Config) (height : Nat) : 1 ≤ getBlockVersion c height ∧ getBlockVersion c height ≤ 4 := by
  unfold getBlockVersion; repeat' split
  all_goals omega

/-- … and monotone in the height, for ANY fork map. -/
theorem version_monotone (c : Config) (h₁ h₂ : Nat) (hle : h₁ ≤ h₂) : getBlockVersion c h₁ ≤ getBlockVersion c h₂ := by
  -- each threshold, once passed, stays passed; the first one passed at `h₁` bounds the version at `h₂` from below
  unfold getBlockVersion
  by_cases a9 : c.isHF 9 h₁ = true
  · rw [if_pos a9, if_pos (isHF_mono hle a9)]
    exact Nat.le_refl 4
  rw [if_neg a9]
  by_cases a8 : c.isHF 8 h₁ = true
  · rw [if_pos a8, if_pos (isHF_mono hle a8)]
    split <;> omega
  rw [if_neg a8]
  by_cases a5 : c.isHF 5 h₁ = true
  · rw [if_pos a5, if_pos (isHF_mono hle a5)]
    repeat' split
    all_goals omega
  · rw [if_neg a5]
    exact (version_range c h₂).1

/-- the thresholds of the generated built-in schedules: mainnet (argon2id from 22800), testnet (5 / 650), testnet2 (0 / 8 / 19),
    test and dev (argon2id from 5 resp. 0, never B or C). -/
theorem builtin_version_thresholds (height : Nat) :
    getBlockVersion (cfgOf Aqv.Gen.Params.mainnet) height = (if 22800 ≤ height then 2 else 1) ∧
    getBlockVersion (cfgOf Aqv.Gen.Params.testnet) height = (if 650 ≤ height then 3 else if 5 ≤ height then 2 else 1) ∧
    getBlockVersion (cfgOf Aqv.Gen.Params.testnet2) height = (if 19 ≤ height then 4 else if 8 ≤ height then 3 else 2) ∧
    getBlockVersion (cfgOf Aqv.Gen.Params.test) height = (if 5 ≤ height then 2 else 1) ∧
    getBlockVersion (cfgOf Aqv.Gen.Params.dev) height = 2 := by
  refine ⟨?_, ?_, ?_, ?_, ?_⟩ <;>
    simp [getBlockVersion, Config.isHF, Config.getHF, cfgOf, List.lookup, Aqv.Gen.Params.mainnet, Aqv.Gen.Params.testnet,
      Aqv.Gen.Params.testnet2, Aqv.Gen.Params.test, Aqv.Gen.Params.dev]

/-! ## non-vacuity (a toy hash family; the theorems hold for every `Hashes`) -/

def toyHs : Hashes :=
  { keccak := fun d => d.take 32
    vh := fun v d => beBytes ((beNat (d.drop 32) * 7919 + v * 104729) % 1000003)      -- depends on the nonce bytes and the version
    ethash := fun n _ nonce => ([7], beBytes ((nonce * 31 + n) % 97)) }

def toySeal : SealInput := { number := 650, difficulty := 115792089237316195423570985008687907853269984665640564039457584007913129639936 / 500000,
                             mixDigest := zeroDigest, nonce := 3, version := 3, hnn := List.replicate 32 9 }

-- `verifySeal_iff`: an accepted seal, a rejected neighbour (hash above the target), degenerate difficulties, a wrong digest
example : verifySeal Gen.powParams toyHs toySeal = none ∧ SealValid toyHs toySeal := by decide
example : verifySeal Gen.powParams toyHs { toySeal with nonce := 4 } = some .invalidPoW := by decide
example : verifySeal Gen.powParams toyHs { toySeal with difficulty := 0 } = some .invalidDifficulty ∧
    verifySeal Gen.powParams toyHs { toySeal with difficulty := -7 } = some .invalidDifficulty ∧
    verifySeal Gen.powParams toyHs { toySeal with mixDigest := [1] } = some .invalidMixDigest ∧
    verifySeal Gen.powParams toyHs { toySeal with version := 0 } = some .panic ∧
    verifySeal Gen.powParams toyHs { toySeal with version := 5 } = some .panic ∧
    verifySeal Gen.powParams toyHs { toySeal with number := 61440000 } = some .nonceOutOfRange := by decide
-- `target_boundary`: its hypotheses hold for `toySeal`
example : (toySeal.version = 2 ∨ toySeal.version = 3 ∨ toySeal.version = 4) ∧ 0 < toySeal.difficulty ∧ toySeal.number % two64 / 30000 < 2048 ∧
    toySeal.mixDigest = zeroDigest := by decide
-- `mined_seal_verifies`: the miner finds nonce 3 from start 0 and the verifier accepts it; version 1 (toy ethash) as well
example : mine Gen.powParams toyHs 3 650 toySeal.difficulty toySeal.hnn 3 10 = .ok (some (3, zeroDigest)) := by decide
example : mine Gen.powParams toyHs 1 10 2000000000000000000000000000000000000000000000000000000000000000000000000000 [1] 2 5 = .ok (some (3, [7])) := by decide   -- nonce 2 fails (72 > 57), nonce 3 passes
example : mine Gen.powParams toyHs 3 650 0 toySeal.hnn 0 10 = .panic ∧ mine Gen.powParams toyHs 7 650 5 toySeal.hnn 0 10 = .ok none := by decide
-- `version_monotone` / thresholds
example : getBlockVersion (cfgOf Aqv.Gen.Params.testnet2) 7 = 2 ∧ getBlockVersion (cfgOf Aqv.Gen.Params.testnet2) 8 = 3 ∧
    getBlockVersion (cfgOf Aqv.Gen.Params.testnet2) 18 = 3 ∧ getBlockVersion (cfgOf Aqv.Gen.Params.testnet2) 19 = 4 ∧
    getBlockVersion (cfgOf Aqv.Gen.Params.mainnet) 22799 = 1 ∧ getBlockVersion (cfgOf Aqv.Gen.Params.mainnet) 22800 = 2 := by decide

/-! ### tie by translation (T-gen `translated`, DESIGN 2.2 mini-translator): (*ChainConfig).GetBlockVersion

params.(*ChainConfig).GetBlockVersion (with IsHF and isForked) is translated from the go/ssa form of the tree under test on
every run (`Aqv.Gen.Translated`; `*big.Int` = `Option Int`, the map `c.HF` = a function, result `none` = panic).  On the fork
map of the model the translated code does not panic on a (non-nil) height and returns the model's `getBlockVersion`, the
version selector every seal theorem above is stated on (proofs in `Aqv.Lemmas.Translated.Params`; the behaviour on a nil
height — a panic — is outside the property and not part of the obligation). -/
theorem getBlockVersion_code_is_model (c : Config) (height : Nat) :
    Aqv.Gen.Translated.ChainConfig_GetBlockVersion (Aqv.Lemmas.Translated.hfMapOf c) (some (height : Int))
      = some (UInt8.ofNat (getBlockVersion c height)) :=
  Aqv.Lemmas.Translated.ChainConfig_GetBlockVersion_translated_eq c height

example : Aqv.Gen.Translated.ChainConfig_GetBlockVersion (Aqv.Lemmas.Translated.hfMapOf ⟨1, [(5, 10), (8, 20), (9, 30)]⟩) (some 25)
    = some 3 := by decide

end Aqv.Props.C14
