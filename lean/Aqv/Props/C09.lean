/-
  C09 — State snapshots revert exactly and the state root commits to content only.  The property theorems, with the
  definitions their statements need (the witness states, the journal inventory, `Realises`, `KeysOK`) and the two root lemmas
  behind `root_eq_spec_state`, which tie the real tries (C10) to the lists of Aqv.Lemmas.StateRootSpec.
  Model: Aqv.Model.State (core/state/statedb.go, state_object.go, journal.go); helper lemmas in Aqv/Lemmas/State*.lean.

  `view s` is everything the property's getters can see (per account: nonce, balance, code, storage, existence, the
  self-destruct flag; refund counter; log list; preimages).  `Sim s t` says that no getter and no later journal undo can
  tell `s` from `t`; it implies `view s = view t`.
-/
import Aqv.Lemmas.StateGood
import Aqv.Gen.StateJournal
import Aqv.Lemmas.StateRootSpec
import Aqv.Lemmas.StateCache
namespace Aqv.Props.C09
open Aqv Aqv.State

/-- **journal_complete**: every mutator appends journal entries that undo it — unwinding exactly the appended entries
    leads back to a state indistinguishable from the one before the call, with the same journal. The only requirement on
    the starting state is that deleted cached objects are absent from the trie (`Coherent`). -/
theorem journal_complete (m : Mut) (s : SDB) (hc : Coherent s) :
    ∃ es, (applyMut m s).journal = es ++ s.journal ∧
      view (undoN es.length (applyMut m s)) = view s ∧ (undoN es.length (applyMut m s)).fault = s.fault ∧
      (undoN es.length (applyMut m s)).journal = s.journal := by
  obtain ⟨es, hu, _⟩ := (ext_applyMut m s hc).unwinds
  exact ⟨es, hu.1, view_eq_of_sim hu.2, hu.2.fault, by simp [undoN_journal, hu.1]⟩

-- non-vacuity: the freshly opened empty state is coherent, and SetState on a non-existent account appends two entries
example : Coherent (fresh (fun _ => none)) := fun a o h => by simp [fresh] at h
example : (applyMut (.setState 1 0 7) (fresh (fun _ => none))).journal.length = 2 := by decide

/-- **revert_exact**: take a snapshot in any state `s` that satisfies the transaction-level invariant, run ANY list of
    mutators, nested snapshots and reverts (to any id that is live at that moment), then revert to the snapshot: every
    getter — balance, nonce, code, storage, existence, emptiness, self-destruct flag, refund, logs, preimages — reports
    what it reported in `s`; the journal and the revision stack are restored exactly and no fault (Go panic) is added. -/
theorem revert_exact (s s2 r : SDB) (ops : List TxOp) (hi : TxInv s) (hro : RevsOK s)
    (hrun : runTx ops (snapshot s).1 = some s2) (hrev : revertTo (snapshot s).2 s2 = some r) :
    view r = view s ∧ r.fault = s.fault ∧ r.journal = s.journal ∧ r.revs = s.revs := by
  obtain ⟨h1, h2, h3⟩ := revert_restores hi hro ops hrun hrev
  exact ⟨view_eq_of_sim h1, h1.fault, h2, h3⟩

/-- the individual getters named by the property, after the revert of `revert_exact`. -/
theorem revert_exact_getters (s s2 r : SDB) (ops : List TxOp) (hi : TxInv s) (hro : RevsOK s)
    (hrun : runTx ops (snapshot s).1 = some s2) (hrev : revertTo (snapshot s).2 s2 = some r) (a : Addr) (k : Slot) :
    balanceOf r a = balanceOf s a ∧ nonceOf r a = nonceOf s a ∧ codeOf r a = codeOf s a ∧ stateOf r a k = stateOf s a k ∧
    exist r a = exist s a ∧ isEmpty r a = isEmpty s a ∧ suicidedOf r a = suicidedOf s a ∧
    r.refund = s.refund ∧ r.logs = s.logs := by
  obtain ⟨h1, _, _⟩ := revert_restores hi hro ops hrun hrev
  simp only [balanceOf, nonceOf, codeOf, stateOf, exist, isEmpty, suicidedOf]
  rcases h1.look_cases a with ⟨hs, ht⟩ | ⟨o, p, hs, ht, hop⟩
  · rw [hs, ht]; exact ⟨rfl, rfl, rfl, rfl, rfl, rfl, rfl, h1.refund, h1.logs⟩
  · rw [hs, ht]
    have hv : o.view = p.view := hop.view
    exact ⟨congrArg AcctView.balance hv, congrArg AcctView.nonce hv, congrArg AcctView.code hv,
      congrFun (congrArg AcctView.storage hv) k, rfl, hop.empty, congrArg AcctView.suicided hv, h1.refund, h1.logs⟩

/-- **revert_exact on reachable states**: the invariant needed by `revert_exact` holds after every block-level history
    (transactions with snapshots/reverts, Prepare, Finalise, Commit+Reset) from a freshly opened StateDB, provided all
    Finalise calls of the history use one delete-empty flag `d`. (Mixed flags are excluded because of
    `mixed_flags_break_revert_witness` below.) -/
theorem revert_exact_reachable (c : Addr → Option Acct) (d : Bool) (pre : List Op) (hu : Uniform d pre)
    (s s2 r : SDB) (hpre : run pre (fresh c) = some s) (ops : List TxOp)
    (hrun : runTx ops (snapshot s).1 = some s2) (hrev : revertTo (snapshot s).2 s2 = some r) :
    view r = view s ∧ r.fault = s.fault ∧ r.journal = s.journal ∧ r.revs = s.revs := by
  have hr := reach_run pre (fresh c) s hu (reach_fresh d c) hpre
  exact revert_exact s s2 r ops hr.inv hr.revs hrun hrev

/-! ### concrete witnesses (the code as written falsifies the stronger statements) -/

def emptyAcct : Acct := { nonce := 0, balance := 0, code := [], storage := fun _ => 0 }
/-- a freshly opened state whose trie holds the EMPTY account 1 (and the empty account 3 = RIPEMD address). -/
def pre1 : SDB := fresh (fun a => if a = 1 ∨ a = 3 then some emptyAcct else none)
def runD (ops : List Op) (s : SDB) : SDB := (run ops s).getD s

-- non-vacuity of `revert_exact_reachable`: a uniform history with a nested snapshot, a self-destruct and a re-creation
example : Uniform true [.tx (.mutate (.setBalance 2 9)), .finalise true, .tx .snap, .tx (.mutate (.suicide 2)),
    .tx (.mutate (.createAccount 2)), .tx (.revert 0), .finalise true] := by
  intro d' h; simp at h; exact h.symm ▸ rfl
example : (run [.tx (.mutate (.setBalance 2 9)), .finalise true, .tx .snap, .tx (.mutate (.suicide 2)),
    .tx (.mutate (.createAccount 2)), .tx (.revert 0)] pre1).map (fun s => balanceOf s 2) = some 9 := by decide

/-- **F1 (known defect) — revert is NOT exact through Finalise**: `snapshot; AddBalance(1,5); revert` on the pre-existing
    empty account 1 restores every getter, yet the following `Finalise(true)` deletes account 1, whereas without the
    reverted segment it keeps it. (Only touchChange.undo/createObjectChange.undo remove an address from the dirty set.) -/
theorem revert_exact_through_finalise_witness :
    exist (runD [.tx .snap, .tx (.mutate (.addBalance 1 5)), .tx (.revert 0)] pre1) 1 = true ∧
    exist (runD [.tx .snap, .tx (.mutate (.addBalance 1 5)), .tx (.revert 0), .finalise true] pre1) 1 = false ∧
    exist (runD [.finalise true] pre1) 1 = true := by decide

/-- **F2 (defect) — a reverted touch disarms dirty tracking**: after `snapshot; AddBalance(1,0); revert` the later
    `AddBalance(1,5)` is visible to the getters but never reaches the trie: the committed content still has balance 0. -/
theorem reverted_touch_loses_write_witness :
    balanceOf (runD [.tx .snap, .tx (.mutate (.addBalance 1 0)), .tx (.revert 0), .tx (.mutate (.addBalance 1 5))] pre1) 1 = 5 ∧
    ((runD [.tx .snap, .tx (.mutate (.addBalance 1 0)), .tx (.revert 0), .tx (.mutate (.addBalance 1 5)), .finalise true] pre1).trie 1).map
      (fun c => c.balance) = some 0 ∧
    balanceOf (runD [.tx .snap, .tx (.mutate (.addBalance 1 0)), .tx (.revert 0), .tx (.mutate (.addBalance 1 5)), .commitReset true] pre1) 1 = 0 ∧
    balanceOf (runD [.tx (.mutate (.addBalance 1 5)), .commitReset true] pre1) 1 = 5 := by decide

/-- **F3 (defect, mixed flags) — `Finalise(false)` after `Finalise(true)` re-inserts an account deleted as empty**: the
    getters say account 2 does not exist, the trie holds it again, and a reverted re-creation resurrects it — so
    `revert_exact` fails for histories that mix the two flags on one StateDB (the state is not `Coherent` any more). -/
theorem mixed_flags_break_revert_witness :
    exist (runD [.tx (.mutate (.addBalance 2 0)), .finalise true, .finalise false] pre1) 2 = false ∧
    ((runD [.tx (.mutate (.addBalance 2 0)), .finalise true, .finalise false] pre1).trie 2).isSome = true ∧
    exist (runD [.tx (.mutate (.addBalance 2 0)), .finalise true, .finalise false, .tx .snap, .tx (.mutate (.addBalance 2 1)),
      .tx (.revert 0)] pre1) 2 = true := by decide

/-- **F4 (by design) — the touch of address 3 (RIPEMD) is not reverted**: journal.go skips the undo for this address, so
    the reverted touch still deletes the empty account 3 at `Finalise(true)`. -/
theorem ripemd_touch_not_reverted_witness :
    exist (runD [.tx .snap, .tx (.mutate (.addBalance 3 0)), .tx (.revert 0), .finalise true] pre1) 3 = false ∧
    exist (runD [.finalise true] pre1) 3 = true := by decide

/-- API hazard: a StateDB used after `Commit` without `Reset` loses later writes (Commit empties the dirty set but does
    not re-arm the callbacks). `Op.commitReset` models what every caller in /repo does instead. -/
theorem commit_reuse_loses_write_witness :
    let s := commit true (applyMut (.addBalance 2 10) pre1)
    balanceOf (applyMut (.addBalance 2 5) s) 2 = 15 ∧
    ((finalise true (applyMut (.addBalance 2 5) s)).trie 2).map (fun c => c.balance) = some 10 := by decide

/-! ### Finalise and the iteration order of Go maps -/

/-- **finalise_perm_invariant**: `Finalise` visits `stateObjectsDirty` in Go's unspecified map order; any two orders
    (duplicate-free enumerations of the dirty set) produce the same state — trie content, cached objects and fault flag. -/
theorem finalise_perm_invariant (d : Bool) (s : SDB) (o₁ o₂ : List Addr) (h₁ : o₁.Nodup) (h₂ : o₂.Nodup)
    (m₁ : ∀ a, a ∈ o₁ ↔ a ∈ s.dirty) (m₂ : ∀ a, a ∈ o₂ ↔ a ∈ s.dirty) :
    finaliseFold d o₁ s = finaliseFold d o₂ s := by
  rw [finaliseFold_eq d s o₁ h₁ m₁, finaliseFold_eq d s o₂ h₂ m₂]

-- non-vacuity: two different orders of a two-element dirty set
example : ([1, 2] : List Addr).Nodup ∧ ([2, 1] : List Addr).Nodup := by decide


/-! ### the root commits to content only

  `Good d s` = the cache invariant `BInv s` (every live cached object outside the dirty set still has its
  callback and equals its trie leaf; every dirty address has a cached object; deleted objects are absent from the trie)
  plus well-formed revisions plus "every tombstone would be deleted again by `Finalise d`".  `good_reachable` shows it holds
  after every history that (a) uses one delete-empty flag for its Finalise calls and (b) never reverts a touch that found
  the callback armed — the two excluded patterns are exactly the defects F3 and F2 witnessed above. -/

/-- the invariant behind the root theorems holds in every state reachable by a safe history from a freshly opened StateDB. -/
theorem good_reachable (c : Addr → Option Acct) (d : Bool) (ops : List Op) (s : SDB)
    (hs : SafeOps d ops (fresh c)) (hrun : run ops (fresh c) = some s) : Good d s :=
  good_run ops (fresh c) s (good_fresh d c) hs hrun

-- non-vacuity: a safe history with a nested snapshot/revert, a self-destruct and a Finalise
example : SafeOps true [.tx (.mutate (.setBalance 2 9)), .tx .snap, .tx (.mutate (.suicide 2)), .tx (.revert 0), .finalise true] pre1 := by
  refine ⟨trivial, fun t ht => ?_⟩
  cases ht
  refine ⟨trivial, fun t ht => ?_⟩
  cases ht
  refine ⟨trivial, fun t ht => ?_⟩
  cases ht
  refine ⟨?_, fun t _ => ⟨rfl, fun _ _ => trivial⟩⟩
  show ∀ r ∈ _, (r : Nat × Nat).1 = 0 → ∀ e ∈ _, Entry.armedTouch e = false
  decide

/-- **root_content_only**: the state root is a function `mptRoot` of the account-trie content (C10: a trie commits to exactly
    its content). After `IntermediateRoot d` / `Commit d` in a `Good` state that content is exactly what the getters of the
    StateDB report (`contentOf`): the root commits to the resulting set of accounts and their contents and to nothing else —
    whatever history produced the state. -/
theorem root_content_only {R : Type} (mptRoot : (Addr → Option Acct) → R) (d : Bool) (s : SDB) (hg : Good d s) :
    mptRoot (finalise d s).trie = mptRoot (contentOf (finalise d s)) ∧
    mptRoot (commit d s).trie = mptRoot (contentOf (commit d s)) := by
  rw [trie_finalise_eq_content hg.binv hg.tomb, trie_commit_eq_content hg.binv hg.tomb]
  exact ⟨rfl, rfl⟩

/-- history independence: two StateDBs reached by ANY two safe histories whose getters report the same content after
    `IntermediateRoot` return the same root. -/
theorem root_history_independent {R : Type} (mptRoot : (Addr → Option Acct) → R) (d₁ d₂ : Bool) (s₁ s₂ : SDB)
    (h₁ : Good d₁ s₁) (h₂ : Good d₂ s₂) (hc : contentOf (finalise d₁ s₁) = contentOf (finalise d₂ s₂)) :
    mptRoot (finalise d₁ s₁).trie = mptRoot (finalise d₂ s₂).trie := by
  rw [trie_finalise_eq_content h₁.binv h₁.tomb, trie_finalise_eq_content h₂.binv h₂.tomb, hc]

-- non-vacuity: two different histories with the same net effect (set-then-clear vs nothing; different operation order)
example : (contentOf (finalise true (runD [.tx (.mutate (.setBalance 2 9)), .tx (.mutate (.setState 4 1 7)), .tx (.mutate (.setNonce 4 1)),
      .tx (.mutate (.setState 4 1 0))] pre1)) 4).map (fun c => (c.nonce, c.storage 1)) = some (1, 0) := by decide

/-- **revert_exact_through_finalise — full statement (FALSE for the code as written, see
    `revert_exact_through_finalise_witness` and `ripemd_touch_not_reverted_witness`)**:
      for all s ops d:  view (finalise d (revert (run ops (snapshot s)))) = view (finalise d s)  and the roots agree.
    **_partial**: it holds when (i) the history is safe (`SafeTx`, no reverted armed touch — F2), and (ii) the revert left
    no account that `Finalise d` would delete in a different dirty-set status than it had at the snapshot (hypothesis `H`,
    stated via the dirty set). `H` fails exactly when a reverted write (F1) or a reverted touch of 0x03 (F4) targets a
    pre-existing empty account and `d = true`. What is missing for the full statement is a journalled dirty set in the code. -/
theorem revert_exact_through_finalise_partial (d : Bool) (s s2 r : SDB) (ops : List TxOp) (hg : Good d s)
    (hsafe : SafeTx ops (snapshot s).1) (hrun : runTx ops (snapshot s).1 = some s2)
    (hlast : revertSafe (snapshot s).2 s2) (hrev : revertTo (snapshot s).2 s2 = some r)
    (H : ∀ a o, look s a = some o → delCond d o = true → (a ∈ r.dirty ↔ a ∈ s.dirty)) :
    view (finalise d r) = view (finalise d s) ∧ (finalise d r).trie = (finalise d s).trie := by
  have hg1 : Good d (snapshot s).1 := good_stepTx hg .snap trivial rfl
  have hg2 : Good d s2 := good_runTx ops _ s2 hg1 hsafe hrun
  have hgr : Good d r := good_stepTx hg2 (.revert (snapshot s).2) hlast hrev
  obtain ⟨hsim, _, _⟩ := revert_restores hg.binv.txInv hg.revs ops hrun hrev
  obtain ⟨hobjs, htrie⟩ := finalise_respects_sim hgr.binv hg.binv hgr.tomb hg.tomb hsim H
  refine ⟨?_, htrie⟩
  rw [view_finalise, view_finalise, viewAt_congr hobjs, view, view, hsim.logs, hsim.preimages]

/-- **copy_independent**: `Copy` reads back identically — every getter, the refund counter, the logs and the preimages —
    and the copy again satisfies the invariant, so every theorem above applies to it on its own. (In the model states are
    values: operations on the copy cannot affect the original by construction; aliasing in the Go code is what the harness
    checks.) -/
theorem copy_independent (d : Bool) (s : SDB) (hg : Good d s) : view (copy s) = view s ∧ Good d (copy s) := by
  refine ⟨?_, good_copy hg⟩
  rw [view_copy, viewAt_congr (look_copy hg.binv)]
  rfl

/-- **reopen_reads_back**: a StateDB opened at the root returned by `Commit d` (its trie holds the committed content) reports
    for every account exactly what the committing StateDB reports after the Commit, and is itself a `Good` state. -/
theorem reopen_reads_back (d : Bool) (s : SDB) (hg : Good d s) :
    (∀ a, viewAt (fresh (commit d s).trie) a = viewAt (commit d s) a) ∧ Good d (fresh (commit d s).trie) :=
  ⟨fun a => reopen_viewAt hg.binv hg.tomb a, good_fresh d _⟩

-- non-vacuity of the `Good` hypotheses: the pre-populated freshly opened state
example : Good true pre1 := good_fresh true _
-- non-vacuity of hypothesis `H` of the partial theorem: a reverted segment that creates, funds and self-destructs a NEW
-- account leaves the dirty set exactly as it was (so `H` holds), whereas the F1 history does not
example : (runD [.tx .snap, .tx (.mutate (.addBalance 2 5)), .tx (.mutate (.suicide 2)), .tx (.revert 0)] pre1).dirty = pre1.dirty := by decide
example : (runD [.tx .snap, .tx (.mutate (.addBalance 1 5)), .tx (.revert 0)] pre1).dirty ≠ pre1.dirty := by decide


/-! ### the journal inventory of the Go source (regenerated from /repo on every run: tools/gen.py statejournal) -/

/-- the inventory the model was written against: (function, journal entry types appended, raw setters / direct field writes). -/
def modelledInventory : List (String × List String × List String) := [
  ("StateDB.AddLog", ["addLogChange"], []),
  ("StateDB.AddPreimage", ["addPreimageChange"], []),
  ("StateDB.AddRefund", ["refundChange"], ["=refund"]),
  ("StateDB.CreateAccount", [], ["setBalance"]),
  ("StateDB.Suicide", ["suicideChange"], ["=data.Balance", "markSuicided"]),
  ("StateDB.clearJournalAndRefund", [], ["=refund"]),
  ("StateDB.createObject", ["createObjectChange", "resetObjectChange"], ["setNonce"]),
  ("balanceChange.undo", [], ["setBalance"]),
  ("codeChange.undo", [], ["setCode"]),
  ("newObject", [], ["=data.Balance", "=data.CodeHash"]),
  ("nonceChange.undo", [], ["setNonce"]),
  ("refundChange.undo", [], ["=refund"]),
  ("stateObject.SetBalance", ["balanceChange"], ["setBalance"]),
  ("stateObject.SetCode", ["codeChange"], ["setCode"]),
  ("stateObject.SetNonce", ["nonceChange"], ["setNonce"]),
  ("stateObject.SetState", ["storageChange"], ["setState"]),
  ("stateObject.deepCopy", [], ["=suicided"]),
  ("stateObject.markSuicided", [], ["=suicided"]),
  ("stateObject.setBalance", [], ["=data.Balance"]),
  ("stateObject.setCode", [], ["=data.CodeHash"]),
  ("stateObject.setNonce", [], ["=data.Nonce"]),
  ("stateObject.touch", ["touchChange"], ["=touched"]),
  ("storageChange.undo", [], ["setState"]),
  ("suicideChange.undo", [], ["=suicided", "setBalance"]),
  ("touchChange.undo", [], ["=touched"])]

/-- functions that may write journalled fields without appending an entry: the raw setters themselves, the undo methods,
    constructors/copies, `clearJournalAndRefund`, and `CreateAccount` (its `setBalance` initialises the object that
    `createObject` has just journalled with createObjectChange/resetObjectChange). -/
def unjournalledWriters : List String := [
  "StateDB.CreateAccount", "StateDB.clearJournalAndRefund", "newObject", "stateObject.deepCopy", "stateObject.markSuicided",
  "stateObject.setBalance", "stateObject.setCode", "stateObject.setNonce",
  "balanceChange.undo", "codeChange.undo", "nonceChange.undo", "refundChange.undo", "storageChange.undo", "suicideChange.undo",
  "touchChange.undo"]

/-- **journal_complete (syntactic half, T-gen)**: the journal inventory extracted from the current Go source is the one the
    model mirrors — same functions, same appended entry types, same raw writes. Removing or adding a journal append or a raw
    write site changes the generated table and this theorem stops checking. -/
theorem journalled_mutators_as_modelled : Gen.StateJournal.funcs = modelledInventory := rfl

/-- every function of core/state that writes a journalled field either appends a journal entry or is one of the listed
    unjournalled writers; and each of the eleven entry kinds of the model is appended somewhere. -/
theorem every_field_write_is_journalled :
    (∀ f ∈ Gen.StateJournal.funcs, f.2.2 ≠ [] → f.2.1 ≠ [] ∨ f.1 ∈ unjournalledWriters) ∧
    (∀ k ∈ ["createObjectChange", "resetObjectChange", "suicideChange", "balanceChange", "nonceChange", "storageChange",
        "codeChange", "refundChange", "addLogChange", "addPreimageChange", "touchChange"],
      ∃ f ∈ Gen.StateJournal.funcs, k ∈ f.2.1) := by decide


/-! ### the read caches are transparent (Aqv.Model.StateCache)

  Every getter and every mutator's lookup goes through `getStateObject`, which caches the decoded trie leaf in `stateObjects`
  (and with it, in this model, the account's code and storage).  `warm s reads` is the state after any sequence of such reads. -/

/-- **read_cache_transparent**: in a `Good` state, any sequence of reads
    (1) changes nothing but the object cache — every getter, refund, logs, preimages report the same (`view`), trie, dirty set,
        journal and revisions are untouched — and the state stays `Good`;
    (2) is invisible to `Copy`: the copy of the warm state IS the copy of the cold state (only dirty objects are copied; a
        read-only cached object is not dirty), so it has the same view and, after `Finalise`/`IntermediateRoot` with or without
        empty-account deletion, the same trie (root) and view;
    (3) is invisible to `Finalise d'` of the state itself, for both flags: same trie (root), same view. -/
theorem read_cache_transparent (d : Bool) (s : SDB) (hg : Good d s) (reads : List Addr) :
    (view (warm s reads) = view s ∧ (warm s reads).trie = s.trie ∧ (warm s reads).dirty = s.dirty ∧
      (warm s reads).journal = s.journal ∧ (warm s reads).revs = s.revs ∧ Good d (warm s reads)) ∧
    (copy (warm s reads) = copy s ∧ ∀ d', finalise d' (copy (warm s reads)) = finalise d' (copy s)) ∧
    (∀ d', (finalise d' (warm s reads)).trie = (finalise d' s).trie ∧ view (finalise d' (warm s reads)) = view (finalise d' s)) := by
  obtain ⟨m, hw, hlook, hdirty, hgw⟩ := warm_spec reads hg
  rw [hw]
  have hcopy := copy_setObjs s hdirty
  have hacc : viewAt { s with objs := m } = viewAt s := funext fun a => congrArg _ (hlook a)
  refine ⟨⟨by simp only [view, hacc], rfl, rfl, rfl, rfl, hgw⟩, ⟨hcopy, fun d' => by rw [hcopy]⟩,
    fun d' => ⟨finalise_trie_setObjs d' s hdirty, ?_⟩⟩
  · have hacc' : viewAt (finalise d' { s with objs := m }) = viewAt (finalise d' s) := by
      funext a
      rw [viewAt, viewAt, look_finalise hgw.binv a, look_finalise hg.binv a, hlook]
    rw [view_finalise, view_finalise, hacc']
    rfl

-- non-vacuity: reading the pre-existing empty accounts 1 and 3 (and the absent account 2) of `pre1` fills the cache with two
-- clean objects; the copy then finalised WITH empty-account deletion still holds account 1 (a copy that carried the read-only
-- objects over as dirty — the seeded change C09-8 — would delete it)
example : ((warm pre1 [1, 2, 3, 1]).objs 1).isSome = true ∧ ((warm pre1 [1, 2, 3, 1]).objs 2).isSome = false ∧ (pre1.objs 1).isSome = false := by decide
example : exist (finalise true (copy (warm pre1 [1, 2, 3]))) 1 = true ∧ ((finalise true (copy (warm pre1 [1, 2, 3]))).trie 1).isSome = true := by decide

/-! ### several instances over one database -/

/-- **reopened_instances_independent**: k StateDB instances over ONE `state.Database` (opened at committed roots with
    `New`/`Reset`, or taken by `Copy`). Whatever history runs on the OTHER instances — mutators, snapshots/reverts, Finalise,
    IntermediateRoot, Commit (which adds a root to the database), Reset, further opens and copies — instance `j` is unchanged
    (so every getter reads what it read before), and every committed root still holds its content. In particular an
    instance opened at root R and never operated on reads exactly the content of R and its IntermediateRoot is R. -/
theorem reopened_instances_independent (steps : List WStep) (w w' : World) (j : Nat) (hj : j < w.insts.length)
    (ha : ∀ st ∈ steps, st.avoids j = true) (h : World.run steps w = some w') :
    w'.insts[j]? = w.insts[j]? ∧ (∀ (k : Nat) c, w.committed[k]? = some c → w'.committed[k]? = some c) := by
  induction steps generalizing w with
  | nil => simp only [World.run, Option.some.injEq] at h; subst h; exact ⟨rfl, fun _ _ hc => hc⟩
  | cons st sts ih =>
    simp only [World.run] at h
    cases hs : w.step st with
    | none => simp [hs] at h
    | some w1 =>
      simp only [hs] at h
      obtain ⟨h1, hj1, h2⟩ := world_step_others hj (ha st List.mem_cons_self) hs
      obtain ⟨h3, h4⟩ := ih w1 hj1 (fun s hs' => ha s (List.mem_cons_of_mem _ hs')) h
      exact ⟨h3.trans h1, fun k c hc => h4 k c (h2 k c hc)⟩

/-- an instance opened at a committed content and not operated on reads exactly that content, and its
    IntermediateRoot/Finalise leaves the trie (hence the root) as committed. -/
theorem untouched_instance_reads_root (c : Addr → Option Acct) (d : Bool) :
    (∀ a, viewAt (fresh c) a = (c a).map (fun x => (fromAcct x).view)) ∧ (finalise d (fresh c)).trie = c ∧
    contentOf (fresh c) = c := by
  have hl : ∀ a, look (fresh c) a = (c a).map fromAcct := fun a => look_of_none rfl
  refine ⟨fun a => by rw [viewAt, hl, Option.map_map]; rfl, ?_, ?_⟩
  · funext a; simp [finalise, fresh]
  · funext a
    rw [contentOf, hl]
    cases c a with
    | none => rfl
    | some x => simp [toAcct_fromAcct]

-- non-vacuity: two instances opened at the same committed root; a mutation + Commit on instance 0 leaves instance 1 as it was
example : (World.run [.openAt 0, .openAt 0, .at 0 (.tx (.mutate (.setBalance 2 70))), .at 0 (.commit true)]
    { committed := [fun a => if a = 2 then some emptyAcct else none], insts := [] }).map
      (fun w => ((w.insts[1]?).map fun s => balanceOf s 2, (w.insts[0]?).map fun s => balanceOf s 2, w.committed.length)) =
    some (some 0, some 70, 2) := by decide

/-! ### the root equals the Merkle-Patricia root the specification defines for the content (concrete, via C10 and C11)

  `stateRootSpec H addrs slots content` (Aqv.Model.StateRoot) is the Yellow-Paper root (C10 `mptRoot`) of
  { H(addr) ↦ rlp(Account{nonce, balance, storageRoot, H(code)}) } with storageRoot the `mptRoot` of
  { H(slot) ↦ rlp(trimmed value) }, for an arbitrary hash function `H`.  The real account trie / storage tries are C10 tries
  (`Aqv.Trie.run ops`: any history of TryUpdate/TryDelete) — the theorems below say that whenever such tries hold the leaves
  of a content, their `hashRoot` is `stateRootSpec` of that content, and that after IntermediateRoot/Commit in a `Good`
  state "that content" is what the getters report.  Key-hash injectivity on the finitely many keys is an explicit hypothesis. -/

open Aqv.Trie in
theorem storage_root_eq_spec (H : Bytes → Bytes) (slots : List Slot) (st : Slot → Word) (hnd : slots.Nodup)
    (hinj : InjOnSlots H slots) (hsupp : ∀ k, st k ≠ 0 → k ∈ slots)
    (ops : List Trie.Op) (t : Trie.Node) (hr : Trie.run ops = some t)
    (hreal : ∀ kb v, Trie.absOf ops kb = some v ↔ ∃ k, st k ≠ 0 ∧ kb = H (slotBytes k) ∧ v = storageLeaf (st k)) :
    Trie.hashRoot H t = storageRootSpec H slots st := by
  unfold storageRootSpec mptRootBytes
  apply Aqv.Trie.root_eq_spec_run H ops t hr (storageKVs H slots st) (sorted_storageKVs H slots st hnd hinj)
  intro kb v
  rw [mem_storageKVs_iff hsupp, hreal]

/-- the real tries of a state content `c`: per account a storage trie holding its non-zero slots, and the account trie
    holding, under H(address), the RLP of the account with the hash of that storage trie as `Root`. -/
structure Realises (H : Bytes → Bytes) (c : Addr → Option Acct) (ops : List Trie.Op) (t : Trie.Node)
    (sops : Addr → List Trie.Op) (st : Addr → Trie.Node) : Prop where
  storage : ∀ a acct, c a = some acct → Trie.run (sops a) = some (st a) ∧
    ∀ kb v, Trie.absOf (sops a) kb = some v ↔ ∃ k, acct.storage k ≠ 0 ∧ kb = H (slotBytes k) ∧ v = storageLeaf (acct.storage k)
  run : Trie.run ops = some t
  accounts : ∀ kb v, Trie.absOf ops kb = some v ↔
    ∃ a acct, c a = some acct ∧ kb = H (addrBytes a) ∧ v = acctLeafWith H (Trie.hashRoot H (st a)) acct

/-- the finitely many keys: every present address / non-zero slot is listed, without repetition, and `H` is injective on
    their secure-trie keys. -/
structure KeysOK (H : Bytes → Bytes) (addrs : List Addr) (slots : List Slot) (c : Addr → Option Acct) : Prop where
  addrsNodup : addrs.Nodup
  slotsNodup : slots.Nodup
  injA : InjOnAddrs H addrs
  injS : InjOnSlots H slots
  suppA : ∀ a acct, c a = some acct → a ∈ addrs
  suppS : ∀ a acct, c a = some acct → ∀ k, acct.storage k ≠ 0 → k ∈ slots

theorem state_trie_root_eq_spec (H : Bytes → Bytes) (addrs : List Addr) (slots : List Slot) (c : Addr → Option Acct)
    (hk : KeysOK H addrs slots c) (ops : List Trie.Op) (t : Trie.Node) (sops : Addr → List Trie.Op) (st : Addr → Trie.Node)
    (hr : Realises H c ops t sops st) : Trie.hashRoot H t = stateRootSpec H addrs slots c := by
  unfold stateRootSpec mptRootBytes
  apply Aqv.Trie.root_eq_spec_run H ops t hr.run (stateKVs H addrs slots c) (sorted_stateKVs H addrs slots c hk.addrsNodup hk.injA)
  intro kb v
  rw [mem_stateKVs_iff hk.suppA, hr.accounts]
  have hleaf : ∀ a acct, c a = some acct → acctLeafWith H (Trie.hashRoot H (st a)) acct = acctLeaf H slots acct := by
    intro a acct hc
    obtain ⟨h1, h2⟩ := hr.storage a acct hc
    unfold acctLeaf
    rw [storage_root_eq_spec H slots acct.storage hk.slotsNodup hk.injS (hk.suppS a acct hc) (sops a) (st a) h1 h2]
  constructor
  · rintro ⟨a, acct, hc, h2, h3⟩; exact ⟨a, acct, hc, h2, by rw [h3, hleaf a acct hc]⟩
  · rintro ⟨a, acct, hc, h2, h3⟩; exact ⟨a, acct, hc, h2, by rw [h3, hleaf a acct hc]⟩

/-- **root_eq_spec_state**: in a `Good` state (reachable by every safe history, `good_reachable`), the real tries behind the
    StateDB after `IntermediateRoot d` (resp. `Commit d`) — any tries that hold the model's account-trie content — hash to
    the Merkle-Patricia root the specification defines for the content THE GETTERS REPORT: `stateRootSpec H (contentOf …)`.
    For every hash function `H` that is injective on the keys involved. -/
theorem root_eq_spec_state (H : Bytes → Bytes) (d : Bool) (s : SDB) (hg : Good d s) (addrs : List Addr) (slots : List Slot) :
    (∀ ops t sops st, KeysOK H addrs slots (finalise d s).trie → Realises H (finalise d s).trie ops t sops st →
      Trie.hashRoot H t = stateRootSpec H addrs slots (contentOf (finalise d s))) ∧
    (∀ ops t sops st, KeysOK H addrs slots (commit d s).trie → Realises H (commit d s).trie ops t sops st →
      Trie.hashRoot H t = stateRootSpec H addrs slots (contentOf (commit d s))) := by
  constructor
  · intro ops t sops st hk hr
    rw [← trie_finalise_eq_content hg.binv hg.tomb]
    exact state_trie_root_eq_spec H addrs slots _ hk ops t sops st hr
  · intro ops t sops st hk hr
    rw [← trie_commit_eq_content hg.binv hg.tomb]
    exact state_trie_root_eq_spec H addrs slots _ hk ops t sops st hr

/-- the abstract `mptRoot` parameter of `root_content_only` instantiated by the concrete construction: the model's
    IntermediateRoot/Commit root is the specification's root of the reported content. -/
theorem root_content_only_concrete (H : Bytes → Bytes) (addrs : List Addr) (slots : List Slot) (d : Bool) (s : SDB) (hg : Good d s) :
    stateRootSpec H addrs slots (finalise d s).trie = stateRootSpec H addrs slots (contentOf (finalise d s)) ∧
    stateRootSpec H addrs slots (commit d s).trie = stateRootSpec H addrs slots (contentOf (commit d s)) :=
  root_content_only (stateRootSpec H addrs slots) d s hg

-- non-vacuity: the identity "hash" is injective on the keys of addresses 1..3 and slots 0..2; the spec root of the empty
-- content is H(rlp("")) (emptyRoot) and an account changes it; a real trie history realising a one-account content exists
example : InjOnAddrs (fun b => b) [1, 2, 3] ∧ InjOnSlots (fun b => b) [0, 1, 2] := by
  unfold InjOnAddrs InjOnSlots
  constructor <;> decide
example : stateRootSpec (fun b => b) [1, 2, 3] [0, 1, 2] (fun _ => none) = [0x80] := by decide
example : stateRootSpec (fun b => b) [1] [0] (fun a => if a = 1 then some emptyAcct else none) ≠
    stateRootSpec (fun b => b) [1] [0] (fun _ => none) := by decide


-- non-vacuity of `Realises`/`KeysOK`: a real trie history (one TryUpdate under the key of address 1) realises the content
-- "account 1 exists and is empty"
def c1 : Addr → Option Acct := fun a => if a = 1 then some emptyAcct else none
def leaf1 : Bytes := acctLeafWith (fun b => b) (Trie.hashRoot (fun b => b) .nil) emptyAcct

example : ∃ t, Realises (fun b => b) c1 [.update (addrBytes 1) leaf1] t (fun _ => []) (fun _ => .nil) := by
  have hrun : ∃ t, Trie.run [.update (addrBytes 1) leaf1] = some t := by
    cases h : Trie.run [.update (addrBytes 1) leaf1] with
    | some t => exact ⟨t, rfl⟩
    | none => exact absurd h (by decide)
  obtain ⟨t, ht⟩ := hrun
  refine ⟨t, ?_, ht, ?_⟩
  · intro a acct hc
    have : acct = emptyAcct := by
      unfold c1 at hc; split at hc
      · exact (Option.some.inj hc).symm
      · simp at hc
    subst this
    refine ⟨rfl, fun kb v => ?_⟩
    simp [Trie.absOf, Trie.absFrom, emptyAcct]
  · intro kb v
    have hl : ¬ leaf1 = [] := by decide
    simp only [Trie.absOf, Trie.absFrom, Trie.absStep]
    constructor
    · intro h
      by_cases hk : kb = addrBytes 1
      · simp [hk] at h; exact ⟨1, emptyAcct, rfl, hk, h.2.symm⟩
      · simp [hk] at h
    · rintro ⟨a, acct, hc, h2, h3⟩
      unfold c1 at hc; split at hc
      · rename_i ha; subst ha
        have := (Option.some.inj hc).symm; subst this
        simp [h2, h3]; exact ⟨hl, rfl⟩
      · simp at hc

example : KeysOK (fun b => b) [1] [0] c1 := by
  refine ⟨by decide, by decide, by unfold InjOnAddrs; decide, by unfold InjOnSlots; decide, ?_, ?_⟩
  · intro a acct hc; unfold c1 at hc; split at hc
    · rename_i h; simp [h]
    · simp at hc
  · intro a acct hc k hk; unfold c1 at hc; split at hc
    · have := (Option.some.inj hc).symm; subst this; simp [emptyAcct] at hk
    · simp at hc

end Aqv.Props.C09
