/-
  C11 — RLP is a canonical, total and bounded codec.  Property theorems only (helpers live in Aqv/Lemmas).
  Model: Aqv.Model.Rlp (enc = rlp/encode.go, dec = the strict rules of rlp/decode.go and rlp/raw.go) and
  Aqv.Model.RlpTyped (decTy/encTy = the typed decoders and writers that makeDecoder/makeWriter select per Go type),
  Aqv.Model.RlpStream (the Go-shaped `rlp.Stream` state machine: Kind/readKind/readUint/readFull/readByte/willRead/
  Bytes/List/ListEnd/decodeInterface with the stack of list extents, the input budget and a ghost allocation counter).
-/
import Aqv.Lemmas.RlpTyped
import Aqv.Lemmas.RlpStream
import Aqv.Lemmas.RlpRaw
import Aqv.Lemmas.RlpRawSpec
import Aqv.Lemmas.RlpStreamTyped
import Aqv.Lemmas.RlpEntry
import Aqv.Lemmas.Translated.Rlp
namespace Aqv.Props.C11
open Aqv Aqv.Rlp

/-- Round trip: decoding the encoding of any item (sizes below 2^64) returns the item. -/
theorem dec_enc (it : Item) (h : it.sizeOk = true) : dec (enc it) = .ok it :=
  (dec_eq_ok_iff _ _).2 ⟨rfl, h⟩

/-- Canonicity: every accepted byte string is exactly the encoding of the value it decodes to. -/
theorem enc_dec (bs : Bytes) (it : Item) (h : dec bs = .ok it) : enc it = bs :=
  ((dec_eq_ok_iff _ _).1 h).1

/-- One accepted encoding per value: two accepted byte strings that decode to the same item are equal. -/
theorem one_encoding_per_value (b₁ b₂ : Bytes) (it : Item) (h₁ : dec b₁ = .ok it) (h₂ : dec b₂ = .ok it) :
    b₁ = b₂ := by
  rw [← enc_dec b₁ it h₁, ← enc_dec b₂ it h₂]

/-- The encoder is injective on well-sized items (distinct values never share an encoding). -/
theorem enc_injective (a b : Item) (ha : a.sizeOk = true) (hb : b.sizeOk = true) (h : enc a = enc b) : a = b :=
  enc_inj ha hb h

/-- … and the decoded item is well-sized (so it round-trips again). -/
theorem decoded_item_wellsized (bs : Bytes) (it : Item) (h : dec bs = .ok it) : it.sizeOk = true :=
  ((dec_eq_ok_iff _ _).1 h).2

/-- Bounded: the decoded item re-encodes to exactly the input, so its total content length is ≤ the input's. -/
theorem decoded_size_le_input (bs : Bytes) (it : Item) (h : dec bs = .ok it) : (enc it).length = bs.length := by
  rw [enc_dec bs it h]

-- non-vacuity: a nested item with a 56-byte string, an empty list and a byte ≥ 0x80 meets `sizeOk` and round-trips.
example : (Item.list [.str [0x80], .list [], .str (List.replicate 56 7)]).sizeOk = true := by decide
example : dec (enc (Item.list [.str [0x80], .list [], .str [1, 2, 3]])) =
    .ok (Item.list [.str [0x80], .list [], .str [1, 2, 3]]) := by rfl
-- non-canonical inputs are rejected: 0x8105 (single byte < 0x80 wrapped), 0xb801.. (long form for short size)
example : dec [0x81, 0x05] = .error .canonSize := by rfl
example : dec [0xb8, 0x01, 0xff] = .error .canonSize := by rfl
example : dec [0xc2, 0x81, 0x05] = .error .canonSize := by rfl

/-- Totality of the untyped decoder: `dec` never reports the out-of-fuel outcome — fuel `3·len+1` always suffices,
    so every byte string is either rejected with a proper error or decoded. -/
theorem dec_total (bs : Bytes) : dec bs ≠ .error .fuel := by
  have := decItem_top_ne_fuel _ bs (Nat.le_refl _)
  unfold dec
  split <;> rintro ⟨⟩
  exact this ‹_›

example : dec [0xc1] = .error .tooLarge := by rfl

/-! ## Typed layer (Aqv.Model.RlpTyped): the decoders Go selects per target type -/

/-- Typed round trip: for every supported type and every well-formed value of it (`WFVal`: uint fits its 8..64-bit
    width, sizes < 2^64, `[n]byte` has n bytes, `[n]T` has n elements, one value per struct field, plain pointers
    non-nil, an `rlp:"nil"` pointer is nil or points to something that does not encode to an empty value, a RawValue
    is exactly one header+content, interface items well-sized) decoding its encoding — in front of any further
    input — returns the value and leaves exactly that further input. -/
theorem typed_dec_enc (ty : Ty) (v : Val) (h : WFVal ty v = true) (rest : Bytes) :
    decTy ty (encTy ty v ++ rest) = .ok (v, rest) :=
  decTy_encTy ty v h rest

/-- … and the top-level corollary for `DecodeBytes`. -/
theorem typed_dec_enc_top (ty : Ty) (v : Val) (h : WFVal ty v = true) : decTop ty (encTy ty v) = .ok v :=
  (decTop_ok_iff_decTy _ _ _).2 (by simpa using decTy_encTy ty v h [])

/-- Typed canonicity: for every canonical type (`Ty.canon`: all of the universe INCLUDING `raw`, except `rlp:"nil"`
    pointers to pointers / to RawValue, see `typed_nil_ptr_ptr_two_encodings_witness`), whatever the typed decoder
    accepts is exactly the encoder's output for the value it returns, followed by the unread rest. -/
theorem typed_enc_dec (ty : Ty) (hc : ty.canon = true) (bs : Bytes) (v : Val) (rest : Bytes)
    (h : decTy ty bs = .ok (v, rest)) : bs = encTy ty v ++ rest :=
  (decTy_canon ty hc bs v rest h).1

/-- … the value the decoder returns is always well-formed (so it round-trips again). -/
theorem typed_decoded_wf (ty : Ty) (hc : ty.canon = true) (bs : Bytes) (v : Val) (rest : Bytes)
    (h : decTy ty bs = .ok (v, rest)) : WFVal ty v = true :=
  (decTy_canon ty hc bs v rest h).2

/-- … and the top-level corollary: `DecodeBytes` accepts only the encoding of the value it returns. -/
theorem typed_enc_dec_top (ty : Ty) (hc : ty.canon = true) (bs : Bytes) (v : Val) (h : decTop ty bs = .ok v) :
    encTy ty v = bs :=
  ((decTop_eq_ok_iff ty hc bs v).1 h).1

/-- One accepted encoding per typed value (what block and transaction hashes rely on). -/
theorem typed_one_encoding_per_value (ty : Ty) (hc : ty.canon = true) (b₁ b₂ : Bytes) (v : Val)
    (h₁ : decTop ty b₁ = .ok v) (h₂ : decTop ty b₂ = .ok v) : b₁ = b₂ := by
  rw [← typed_enc_dec_top ty hc b₁ v h₁, ← typed_enc_dec_top ty hc b₂ v h₂]

/-- The typed encoder is injective on well-formed values of one type. -/
theorem typed_enc_injective (ty : Ty) (a b : Val) (ha : WFVal ty a = true) (hb : WFVal ty b = true)
    (h : encTy ty a = encTy ty b) : a = b :=
  inj_of_leftInv (d := fun bs => (decTop ty bs).toOption) (P := fun v => WFVal ty v = true)
    (fun v hv => by rw [typed_dec_enc_top ty v hv]; rfl) ha hb h

/-- Typed totality: decoding any byte string into any type returns a value or a proper error, never the
    out-of-fuel outcome.  `decTy` recurses structurally on the type; its only input-driven loop (slice elements) is
    fuelled with the payload length and `interface{}` targets with `3·len+1` — both always suffice. -/
theorem typed_decode_total (ty : Ty) (bs : Bytes) : decTy ty bs ≠ .error (.rlp .fuel) :=
  decTy_ne_fuel ty bs

theorem typed_decode_total_top (ty : Ty) (bs : Bytes) : decTop ty bs ≠ .error (.rlp .fuel) := by
  have := decTy_ne_fuel ty bs
  unfold decTop
  split <;> rintro ⟨⟩
  exact this ‹_›

/-- Bounded/progress: a successful typed decode consumes at least one byte and never more than the input. -/
theorem typed_decode_consumes (ty : Ty) (bs : Bytes) (v : Val) (rest : Bytes) (h : decTy ty bs = .ok (v, rest)) :
    rest.length < bs.length :=
  decTy_consumes ty bs v rest h

/-- Bounded: the decoded typed value re-encodes to exactly the input, so its content is no larger than the input. -/
theorem typed_decoded_size_eq_input (ty : Ty) (hc : ty.canon = true) (bs : Bytes) (v : Val) (h : decTop ty bs = .ok v) :
    (encTy ty v).length = bs.length := by
  rw [typed_enc_dec_top ty hc bs v h]

/-- The item view of typed values (what the harness renders and the driver's Spec judgement re-encodes): for every
    type and value the item `toG ty v` encodes to exactly the typed encoding — typed values are items, and typed
    canonicity is item canonicity seen through `toG`. -/
theorem typed_item_view (ty : Ty) (v : Val) : (toG ty v).enc = encTy ty v := toG_enc ty v

/-- … hence a typed decode is canonical at the item level: the item view of the decoded value re-encodes to the input. -/
theorem typed_item_view_canonical (ty : Ty) (hc : ty.canon = true) (bs : Bytes) (v : Val) (h : decTop ty bs = .ok v) :
    (toG ty v).enc = bs := by
  rw [toG_enc, typed_enc_dec_top ty hc bs v h]

/-- Why `Ty.canon` excludes `rlp:"nil"` pointers to pointers: Go's makeOptionalPtrDecoder keeps `strict = false`
    for them, so both empty values decode to nil — two accepted encodings of one value (no type in /repo has this shape). -/
theorem typed_nil_ptr_ptr_two_encodings_witness :
    decTop (.struct [.ptrNil (.ptr (.uint 64))]) [0xc1, 0x80] = .ok (.list [.pnil]) ∧
    decTop (.struct [.ptrNil (.ptr (.uint 64))]) [0xc1, 0xc0] = .ok (.list [.pnil]) ∧
    (Ty.struct [.ptrNil (.ptr (.uint 64))]).canon = false := by
  refine ⟨by rfl, by rfl, by rfl⟩

/-! ### non-vacuity: the consensus shapes -/

/-- the shape of `types.txdata`. -/
def txTy : Ty := .struct [.uint 64, .big, .uint 64, .ptrNil (.bytesN 20), .big, .bytes, .big, .big, .big]
/-- the shape of `types.Header` (the `rlp:"-"` Version field is absent). -/
def headerTy : Ty :=
  .struct [.bytesN 32, .bytesN 32, .bytesN 20, .bytesN 32, .bytesN 32, .bytesN 32, .bytesN 256, .big, .big,
           .uint 64, .uint 64, .big, .bytes, .bytesN 32, .bytesN 8]
/-- the shape of `types.extblock`. -/
def blockTy : Ty := .struct [.ptr headerTy, .list (.ptr txTy), .list (.ptr headerTy)]

def txCreate : Val :=
  .list [.num 1, .num 1000000000, .num 21000, .pnil, .num 5, .bytes [1, 2, 3], .num 27, .num 77777, .num 0]
def txCall : Val :=
  .list [.num 0, .num 300, .num 0xffffffffffffffff, .psome (.bytes (List.replicate 20 0)), .num 0, .bytes [],
         .num 28, .num 1, .num 2]
def hdrVal : Val :=
  .list [.bytes (List.replicate 32 1), .bytes (List.replicate 32 2), .bytes (List.replicate 20 0),
         .bytes (List.replicate 32 4), .bytes (List.replicate 32 5), .bytes (List.replicate 32 6),
         .bytes (List.replicate 256 0), .num 131072, .num 7, .num 4712388, .num 0, .num 1537000000,
         .bytes [0x61, 0x71], .bytes (List.replicate 32 0), .bytes [0, 0, 0, 0, 0, 0, 0, 42]]

example : txTy.canon = true ∧ headerTy.canon = true ∧ blockTy.canon = true := by decide
example : WFVal txTy txCreate = true := by decide
example : WFVal txTy txCall = true := by decide
set_option maxRecDepth 8000 in
example : WFVal headerTy hdrVal = true := by decide
set_option maxRecDepth 8000 in
example : WFVal blockTy (.list [.psome hdrVal, .list [.psome txCreate, .psome txCall], .list []]) = true := by
  decide
example : decTop txTy (encTy txTy txCreate) = .ok txCreate := by rfl
example : decTop txTy (encTy txTy txCall) = .ok txCall := by rfl
example : (toG txTy txCreate).render = "[s01,s3b9aca00,s5208,s,s05,s010203,s1b,s012fd1,s]" := by decide
set_option maxRecDepth 8000 in
example : decTop headerTy (encTy headerTy hdrVal) = .ok hdrVal := by rfl
-- two distinct well-formed transactions (hypotheses of `typed_enc_injective`) with distinct encodings
example : encTy txTy txCreate ≠ encTy txTy txCall := by decide
-- the recipient of a transaction: only 0x80 is nil (fix 7811107); 0xC0 is the wrong kind of empty value
example : decTop txTy [0xc9, 0x80, 0x80, 0x80, 0x80, 0x80, 0x80, 0x80, 0x80, 0x80] =
    .ok (.list [.num 0, .num 0, .num 0, .pnil, .num 0, .bytes [], .num 0, .num 0, .num 0]) := by rfl
example : decTop txTy [0xc9, 0x80, 0x80, 0x80, 0xc0, 0x80, 0x80, 0x80, 0x80, 0x80] = .error .wrongEmpty := by rfl
-- integers: leading zero / single zero byte / wrapped small byte / overflow are rejected
example : decTop .big [0x82, 0x00, 0x01] = .error .canonInt := by rfl
example : decTop (.uint 64) [0x00] = .error .canonInt := by rfl
example : decTop (.uint 64) [0x81, 0x05] = .error (.rlp .canonSize) := by rfl
example : decTop (.uint 8) [0x82, 0x01, 0x00] = .error .overflow := by rfl
example : decTop .bool [0x02] = .error .badBool := by rfl
-- [1]byte takes a single byte as its value, including 0x00 (fix 613896f); [3]uint16 needs exactly three elements
example : decTop (.list (.bytesN 1)) [0xc2, 0x00, 0x01] = .ok (.list [.bytes [0], .bytes [1]]) := by rfl
example : decTop (.arr 3 (.uint 16)) [0xc2, 0x01, 0x02] = .error .tooFew := by rfl
example : decTop (.arr 3 (.uint 16)) [0xc4, 0x01, 0x02, 0x03, 0x04] = .error .tooMany := by rfl
-- RawValue: the inner content is not validated (0x8105 stays as it is), the header is
example : decTop (.struct [.raw]) [0xc2, 0x81, 0x05] = .ok (.list [.bytes [0x81, 0x05]]) := by rfl
example : decTop (.struct [.raw]) [0xc2, 0xb8, 0x00] = .error (.rlp .canonSize) := by rfl
-- tail: the last field swallows the remaining elements
example : decTop (.structTail [.uint 8] (.uint 16)) [0xc3, 0x01, 0x02, 0x03] =
    .ok (.tail [.num 1] [.num 2, .num 3]) := by rfl

/-! ## The Go-shaped Stream machine (Aqv.Model.RlpStream) refines the strict decoder -/

/-- `stream_refines` (DecodeBytes): for every byte string, decoding into `interface{}` through the Stream machine
    with input limit = len (`DecodeBytes`: NewStream(bytes.NewReader(b), len(b)), Decode, then `r.Len() > 0` is
    ErrMoreThanOneValue) accepts exactly what the strict decoder `dec` accepts, with the same item. -/
theorem stream_refines (bs : Bytes) (it : Item) :
    (RlpStream.decodeBytes bs).1 = .ok it ↔ dec bs = .ok it :=
  (RlpEntry.decodeBytes_refines bs).1 it

/-- … same accept/reject: the machine rejects exactly the byte strings `dec` rejects. -/
theorem stream_refines_reject (bs : Bytes) :
    (∃ e, (RlpStream.decodeBytes bs).1 = .error e) ↔ (∃ e, dec bs = .error e) := by
  constructor
  · rintro ⟨e, he⟩
    cases hd : dec bs with
    | ok it => rw [(stream_refines bs it).2 hd] at he; simp at he
    | error e' => exact ⟨e', rfl⟩
  · rintro ⟨e, he⟩
    cases hm : (RlpStream.decodeBytes bs).1 with
    | ok it => rw [(stream_refines bs it).1 hm] at he; simp at he
    | error e' => exact ⟨e', rfl⟩

/-- … the ErrMoreThanOneValue handling of DecodeBytes: the encoding of a value followed by more input is reported as
    exactly that error (and the empty input as io.EOF, see the examples below). -/
theorem stream_more_than_one_value (it : Item) (hs : it.sizeOk = true) (rest : Bytes) (hne : rest ≠ []) :
    (RlpStream.decodeBytes (enc it ++ rest)).1 = .error .moreThanOneValue := by
  obtain ⟨hok, _⟩ := RlpStream.first_decode (enc it ++ rest)
  have hd := decItem_enc_top it hs rest
  obtain ⟨s', hdi, _, hinp, _⟩ := hok it rest hd
  unfold RlpStream.decodeBytes
  rw [hdi]
  cases rest with
  | nil => exact absurd rfl hne
  | cons b t => simp [hinp]

/-- `stream_refines` for the explicit Stream entry point: `s := NewStream(r, len)`, `s.Decode(&v)`, and a second
    `s.Decode(&w)` that must return io.EOF — accepts exactly what `dec` accepts, with the same item. -/
theorem stream_refines_stream (bs : Bytes) (it : Item) :
    (RlpStream.decodeStream bs).1 = .ok it ↔ dec bs = .ok it :=
  (RlpEntry.decodeStream_refines bs).1 it

/-- `alloc_bound`: for length-limited input (both entry points set limit = len) the ghost counter — the SUM over the
    whole run of the sizes of all input-dependent byte buffers the Stream allocates (`make([]byte, size)` in Bytes,
    the one-byte literal for a single byte) — never exceeds the input length, for accepted and rejected inputs alike.
    The counter only grows, so its final value bounds every intermediate value and every single allocation.
    (Why it holds: `Kind` has checked `size` against the rest of the innermost list extent, and the invariant `Ready`
    keeps that extent within the unread input, so each buffer is paid for by input bytes that are then consumed.)
    Not counted: the fixed 8-byte `uintbuf` of Reset and the `[]interface{}` element slices of decodeSliceElems. -/
theorem alloc_bound (bs : Bytes) :
    (RlpStream.decodeBytes bs).2.alloc ≤ bs.length ∧ (RlpStream.decodeStream bs).2.alloc ≤ bs.length :=
  ⟨(RlpEntry.decodeBytes_refines bs).2.2, (RlpEntry.decodeStream_refines bs).2.2⟩

/-- `stream_total`: neither entry point of the machine ever reports the out-of-fuel outcome (the model has no panic
    outcome at all: every Go panic site of this path — slice bounds in readFull, `make` with an unchecked size — is
    guarded by `willRead`/`Kind`, which is what `Ready` and `alloc_bound` express). -/
theorem stream_total (bs : Bytes) :
    (RlpStream.decodeBytes bs).1 ≠ .error .fuel ∧ (RlpStream.decodeStream bs).1 ≠ .error .fuel :=
  ⟨(RlpEntry.decodeBytes_refines bs).2.1, (RlpEntry.decodeStream_refines bs).2.1⟩

/-- machine invariant at the end of an accepted decode: the stream is re-armed, no list is open, and the budget is
    exactly the unread input (`Ready`: limited, `remaining = len(unread)`, innermost extent `pos ≤ size` within budget). -/
theorem stream_invariant (bs : Bytes) (it : Item) (rest : Bytes)
    (h : decItem (3 * bs.length + 1) bs = .ok (it, rest)) :
    ∃ s', RlpStream.decodeInterface (RlpStream.fuelFor bs.length) (RlpStream.newStream bs bs.length) = (.ok it, s') ∧
      RlpStream.Ready s' ∧ s'.kind = none ∧ s'.stack = [] ∧ s'.inp = rest := by
  obtain ⟨s', hd, ht, hinp, _⟩ := (RlpStream.first_decode bs).1 it rest h
  exact ⟨s', hd, ht.ready, ht.kind, ht.stack, hinp⟩

-- non-vacuity: hypotheses of `stream_more_than_one_value`
example : (Item.list [.str [1]]).sizeOk = true ∧ ([0x05] : Bytes) ≠ [] := by decide

/-! ### tie by translation (T-gen `translated`, DESIGN 2.2 mini-translator): rlp.headsize -/

/-- the go/ssa body of rlp.headsize, translated to Lean on every run (`Aqv.Gen.Translated.headsize`, regenerated from the tree
    under test), returns exactly the length of the header the model's `header` (puthead) emits, for every tag base and every
    size.  `rlp.intsize` is a loop (outside the translator's grammar, refused on every run as a self-test): it is the explicit
    parameter `intsize`, characterised by `IntsizeSpec` — the number of bytes of the minimal big-endian size — which the
    differential harness checks on the real function. -/
theorem headsize_code_is_model (intsize : UInt64 → Int64) (hint : Aqv.Lemmas.Translated.IntsizeSpec intsize)
    (base : Nat) (size : UInt64) :
    (Aqv.Gen.Translated.headsize intsize size).toInt = ((header base size.toNat).length : Int) :=
  Aqv.Lemmas.Translated.headsize_translated_eq intsize hint base size

example : Aqv.Lemmas.Translated.IntsizeSpec Aqv.Lemmas.Translated.intsizeRef := Aqv.Lemmas.Translated.intsizeRef_spec
example : Aqv.Gen.Translated.headsize Aqv.Lemmas.Translated.intsizeRef 55 = 1 ∧
    Aqv.Gen.Translated.headsize Aqv.Lemmas.Translated.intsizeRef 56 = 2 ∧
    Aqv.Gen.Translated.headsize Aqv.Lemmas.Translated.intsizeRef 1024 = 3 := by decide

-- concrete behaviour of the machine (the list case through `stream_refines`: evaluating the machine itself on a list
-- by `rfl` is very expensive for the elaborator)
example : (RlpStream.decodeBytes []).1 = .error .eof := by rfl
example : (RlpStream.decodeBytes [0x01, 0x01]).1 = .error .moreThanOneValue := by rfl
example : (RlpStream.decodeBytes [0xb9, 0xff, 0xff, 0x01]).1 = .error .valueTooLarge := by rfl
example : (RlpStream.decodeBytes [0xc3, 0x01, 0x02, 0x03]).1 = .ok (.list [.str [1], .str [2], .str [3]]) :=
  (stream_refines _ _).2 (by rfl)
example : (RlpStream.decodeStream [0xc3, 0x01, 0x02, 0x03]).1 = .ok (.list [.str [1], .str [2], .str [3]]) :=
  (stream_refines_stream _ _).2 (by rfl)
example : (RlpStream.decodeBytes [0xc3, 0x01, 0x02, 0x03, 0x04]).1 = .error .moreThanOneValue :=
  stream_more_than_one_value (.list [.str [1], .str [2], .str [3]]) (by decide) [0x04] (by simp)

/-! ## rlp/raw.go: Split, SplitString, SplitList, CountValues never panic -/

/-- `split_total`: on every byte slice `Split`, `SplitString` and `SplitList` return a result or an error — the slice
    expressions `b[ts:ts+cs]`, `b[ts+cs:]` are always in bounds, because a successful `readKind` has checked
    `contentsize ≤ len(buf) - tagsize` (in unsigned arithmetic that cannot wrap: `tagsize ≤ len(buf)`). -/
theorem split_total (b : Bytes) :
    RlpRaw.split b ≠ .panic ∧ RlpRaw.splitString b ≠ .panic ∧ RlpRaw.splitList b ≠ .panic :=
  ⟨RlpRaw.split_ne_panic b, RlpRaw.splitString_ne_panic b, RlpRaw.splitList_ne_panic b⟩

/-- `countValues_total`: `CountValues` never panics and its loop terminates (every round consumes at least one byte). -/
theorem countValues_total (b : Bytes) : RlpRaw.countValues b ≠ .panic ∧ RlpRaw.countValues b ≠ .err .fuel :=
  RlpRaw.countValues_total b

/-- what a successful `readKind` of raw.go guarantees: the value lies inside the buffer and is not empty. -/
theorem raw_readKind_in_bounds (buf : Bytes) (k : RlpRaw.K) (ts cs : Nat) (h : RlpRaw.rawReadKind buf = .ok (k, ts, cs)) :
    ts + cs ≤ buf.length ∧ 1 ≤ ts + cs :=
  ⟨(RlpRaw.rawReadKind_ok buf k ts cs h).1, (RlpRaw.rawReadKind_ok buf k ts cs h).2.1⟩

-- an 8-byte size just below 2^63 (the wrap-around point of a signed index) is rejected, at top level and in a list walk
set_option maxRecDepth 4000 in
example : RlpRaw.rawReadKind [0xbf, 0x7f, 0xff, 0xff, 0xff, 0xff, 0xff, 0xff, 0xff] = .error .valueTooLarge := by rfl
set_option maxRecDepth 4000 in
example : RlpRaw.rawReadKind [0xff, 0x7f, 0xff, 0xff, 0xff, 0xff, 0xff, 0xff, 0xf7, 0x00] = .error .valueTooLarge := by rfl
set_option maxRecDepth 4000 in
example : RlpRaw.rawReadKind [0xc3, 0x01, 0x02, 0x03, 0x04] = .ok (.list, 1, 3) := by rfl

/-- `split_spec`: the Go-shaped `Split` of raw.go returns (kind, content, rest) exactly when the `readHead`-based shallow
    reader (`RlpRaw.shallowSplit`: canonical header, content within the input, canonical single-byte rule) accepts,
    with the same three parts; otherwise it returns an error (never a panic, `split_total`). -/
theorem split_spec (bs : Bytes) (r : RlpRaw.K × Bytes × Bytes) :
    RlpRaw.split bs = .ok r ↔ RlpRaw.shallowSplit bs = some r :=
  RlpRaw.split_ok_iff bs r

theorem split_spec_reject (bs : Bytes) : (∃ e, RlpRaw.split bs = .err e) ↔ RlpRaw.shallowSplit bs = none := by
  rcases RlpRaw.split_cases bs with ⟨r, h, hs⟩ | ⟨e, h, _, hs⟩ <;> simp [h, hs]

/-- `countValues_spec`: `CountValues bs = n` exactly when `bs` is a concatenation of `n` values each accepted by the
    shallow (header-only) reader (`RlpRaw.shallowCount`, fuel = length). -/
theorem countValues_spec (bs : Bytes) (n : Nat) :
    RlpRaw.countValues bs = .ok n ↔ RlpRaw.shallowCount bs.length bs = some n :=
  RlpRaw.countValues_ok_iff bs n

/-- `dec`-level facts transfer to raw.go: if the strict decoder accepts `bs` as a list, `SplitList bs` returns exactly the
    payload (the concatenated canonical encodings of the elements) with nothing left, and `CountValues` of that payload is
    the number of elements. -/
theorem dec_list_split (bs : Bytes) (xs : List Item) (h : dec bs = .ok (.list xs)) :
    RlpRaw.splitList bs = .ok (encList xs, []) ∧ RlpRaw.countValues (encList xs) = .ok xs.length :=
  RlpRaw.dec_list_split bs xs h

example : dec [0xc3, 0x01, 0x82, 0x04] = .error .tooLarge := by rfl
example : dec [0xc4, 0x01, 0x82, 0x04, 0x00] = .ok (.list [.str [1], .str [4, 0]]) := by rfl
set_option maxRecDepth 4000 in
example : RlpRaw.shallowSplit [0xc4, 0x01, 0x82, 0x04, 0x00, 0x09] = some (.list, [0x01, 0x82, 0x04, 0x00], [0x09]) := by rfl

/-- `stream_refines_typed_partial` — PARTIAL: covers the typed primitives `uint(maxbits)` and `Bool()` of the Stream machine
    (the decoders of `Ty.uint`/`Ty.bool`); NOT covered here: `Bytes`/big, `Raw`, and the composite decoders.
    On every ready, re-armed stream state with something to read — at top level or positioned at an element inside an open
    list — the machine's `uint(8k)` / `Bool()` accept exactly when the typed-layer primitives `Rlp.readUint k` /
    `Rlp.readBool` accept the window the stream may read from, with the same value, the input advanced by the same number
    of bytes (`Step`), the cache re-armed, and nothing allocated. -/
theorem stream_refines_typed_partial (k : Nat) (s : RlpStream.St) (hr : RlpStream.Ready s) (hk : s.kind = none)
    (ha : 1 ≤ RlpStream.avail s) :
    ((∀ n rest, Rlp.readUint k (RlpStream.win s) = .ok (n, rest) →
        ∃ s', RlpStream.uint k s = (.ok n, s') ∧ RlpStream.Step s ((RlpStream.win s).length - rest.length) s' ∧
          s'.kind = none ∧ rest = RlpStream.win s' ∧ s'.alloc = s.alloc) ∧
     (∀ e, Rlp.readUint k (RlpStream.win s) = .error e → ∃ e' s', RlpStream.uint k s = (.error e', s') ∧ s'.alloc = s.alloc)) ∧
    ((∀ b rest, Rlp.readBool (RlpStream.win s) = .ok (b, rest) →
        ∃ s', RlpStream.bool s = (.ok b, s') ∧ RlpStream.Step s ((RlpStream.win s).length - rest.length) s' ∧
          s'.kind = none ∧ rest = RlpStream.win s' ∧ s'.alloc = s.alloc) ∧
     (∀ e, Rlp.readBool (RlpStream.win s) = .error e → ∃ e' s', RlpStream.bool s = (.error e', s') ∧ s'.alloc = s.alloc)) :=
  ⟨⟨fun n rest h => RlpStream.ReadTo.spell ((RlpStream.uint_refines k s hr hk ha).1 n rest h),
      (RlpStream.uint_refines k s hr hk ha).2⟩,
    ⟨fun b rest h => RlpStream.ReadTo.spell ((RlpStream.bool_refines s hr hk ha).1 b rest h),
      (RlpStream.bool_refines s hr hk ha).2⟩⟩

/-- … instantiated for a fresh `NewStream(r, len)` over a non-empty input: `Stream.Uint()` (= `uint(64)`) accepts exactly
    what the typed decoder of `uint64` accepts, with the same value and the same unread rest. -/
theorem stream_uint64_top (bs : Bytes) (hne : bs ≠ []) (n : Nat) :
    (∃ s', RlpStream.uint 8 (RlpStream.newStream bs bs.length) = (.ok n, s')) ↔
      (∃ rest, decTy (.uint 64) bs = .ok (.num n, rest)) := by
  obtain ⟨hok, herr⟩ := RlpStream.uint_refines 8 _ (RlpStream.newStream_ready bs) rfl (RlpEntry.newStream_avail_pos bs hne)
  rw [RlpStream.newStream_win] at hok herr
  have := RlpEntry.accepts_iff (P := fun _ => True) (fun a rest h => (hok a rest h).imp fun s' hs => ⟨hs.1, trivial⟩)
    (fun e h => (herr e h).imp fun e' ⟨s', hs⟩ => ⟨s', hs.1⟩) n
  simpa only [and_true, decTy_uint, Except.map_pair_eq_ok fun _ _ => Val.num.inj] using this

-- non-vacuity: a fresh stream over a non-empty input is ready, re-armed and has something to read
example : RlpStream.Ready (RlpStream.newStream [0x82, 0x01, 0x00] 3) ∧ (RlpStream.newStream [0x82, 0x01, 0x00] 3).kind = none ∧
    1 ≤ RlpStream.avail (RlpStream.newStream [0x82, 0x01, 0x00] 3) :=
  ⟨RlpStream.newStream_ready [0x82, 0x01, 0x00], rfl, by decide⟩
example : decTy (.uint 64) [0x82, 0x01, 0x00] = .ok (.num 256, []) := by rfl

/-- `stream_refines_typed_bytes` (narrows the exclusion of `stream_refines_typed_partial`): on every ready, re-armed stream
    state with something to read — top level or at a list element — the machine's `Bytes()` accepts exactly when the
    typed-layer primitive `Rlp.readBytes` accepts the window, with the same bytes, the input advanced by the same number of
    bytes, the cache re-armed, and the ghost allocation grown by at most the bytes consumed (at most the window on errors).
    `Bytes()` is the reader under `decodeString`, `decodeByteSlice` and `decodeBigInt` (`Rlp.readBig` is `readBytes` followed
    by the leading-zero test), so the typed universe {uint, bool, bytes, big} is covered at the primitive level.
    STILL EXCLUDED: `Raw()` (RawValue) and the composite decoders (list/array/struct/pointer), which are tied by
    correspondence (`sprim raw`, `tdec`) only. -/
theorem stream_refines_typed_bytes (s : RlpStream.St) (hr : RlpStream.Ready s) (hk : s.kind = none)
    (ha : 1 ≤ RlpStream.avail s) :
    (∀ b rest, Rlp.readBytes (RlpStream.win s) = .ok (b, rest) →
      ∃ s', RlpStream.bytes s = (.ok b, s') ∧ RlpStream.Step s ((RlpStream.win s).length - rest.length) s' ∧
        s'.kind = none ∧ rest = RlpStream.win s' ∧ s'.alloc ≤ s.alloc + ((RlpStream.win s).length - rest.length)) ∧
    (∀ e, Rlp.readBytes (RlpStream.win s) = .error e →
      ∃ e' s', RlpStream.bytes s = (.error e', s') ∧ s'.alloc ≤ s.alloc + RlpStream.avail s) :=
  ⟨fun b rest h => RlpStream.ReadTo.spell ((RlpStream.bytes_sim s hr hk ha).1 b rest h),
    fun e h => let ⟨e', s', hb, _, hal⟩ := (RlpStream.bytes_sim s hr hk ha).2 e h; ⟨e', s', hb, hal⟩⟩

/-- … for a fresh `NewStream(r, len)` over a non-empty input: `Stream.Bytes()` accepts exactly what the typed decoder of
    `[]byte`/`string` accepts, with the same bytes, and allocates no more than the input length. -/
theorem stream_bytes_top (bs : Bytes) (hne : bs ≠ []) (b : Bytes) :
    (∃ s', RlpStream.bytes (RlpStream.newStream bs bs.length) = (.ok b, s') ∧ s'.alloc ≤ bs.length) ↔
      (∃ rest, decTy .bytes bs = .ok (.bytes b, rest)) := by
  obtain ⟨hok, herr⟩ := RlpStream.bytes_sim _ (RlpStream.newStream_ready bs) rfl (RlpEntry.newStream_avail_pos bs hne)
  rw [RlpStream.newStream_win] at hok herr
  have := RlpEntry.accepts_iff (P := fun s' => s'.alloc ≤ bs.length)
    (fun a rest h => (hok a rest h).imp fun s' ⟨hb, _, hal⟩ => ⟨hb, by
      have : (RlpStream.newStream bs bs.length).alloc = 0 := rfl
      omega⟩)
    (fun e h => (herr e h).imp fun e' ⟨s', hs⟩ => ⟨s', hs.1⟩) b
  simpa only [decTy_bytes, Except.map_pair_eq_ok fun _ _ => Val.bytes.inj] using this

example : decTy .bytes [0x83, 0x01, 0x02, 0x03, 0xff] = .ok (.bytes [1, 2, 3], [0xff]) := by rfl

end Aqv.Props.C11
