/-
  C01 — Block import is deterministic and accepts only self-consistent blocks.   Property theorems only.
  Model: Aqv.Model.BlockImport
    Layer A  core/state Finalise / IntermediateRoot / Commit / updateTrie as folds over an arbitrary iteration order,
    Layer B  Process / ApplyTransaction / ValidateBody / ValidateState / Finalize / GenerateChain / commitNewWork / NewBlock
             composed from abstract components,
    Layer C  insertChain2 / WriteBlockWithState / WriteBlockWithoutState over a store with an explicit write log,
    Layer D  (Aqv.Model.BlockImportCache, §6) the runtime caches between the import path and the store,
    Layer A′ (Aqv.Model.BlockImportTrie, §7) the map loops of Layer A on real Merkle-Patricia tries.
  In §1–6 `R` (storage root of a content) and `A` (account-trie root of a content) are PARAMETERS and nothing depends on
  which function they are; §7 instantiates them with the real trie, where C10 `root_content_only` makes the root a function
  of the content alone.
-/
import Aqv.Lemmas.BlockImportToy
import Aqv.Props.C10
namespace Aqv.Props.C01
open Aqv.BlockImport

variable {St Tx : Type}

/-! ## 1. Go map iteration order cannot reach a root -/

/-- `Finalise(del)`: for ALL permutations π₁ π₂ of `stateObjectsDirty` and, per account, all permutations σ₁ a, σ₂ a of its
    `dirtyStorage`, the resulting StateDB is the same: the same account-trie content and, for every account, the same
    storage-trie content, the same `data.Root`, the same flags. -/
theorem finalise_perm_invariant (R : (Slot → Word) → Hash) (del : Bool) (s : SDB)
    (π₁ π₂ : List Addr) (σ₁ σ₂ : Addr → List Slot) (hπ : π₁.Perm π₂) (hσ : ∀ a, (σ₁ a).Perm (σ₂ a)) :
    finalise R del π₁ σ₁ s = finalise R del π₂ σ₂ s :=
  finalise_perm R del σ₁ σ₂ hπ hσ s

/-- … hence the same account-trie content and the same storage content of every account (the form quoted in the design). -/
theorem finalise_content_perm_invariant (R : (Slot → Word) → Hash) (del : Bool) (s : SDB)
    (π₁ π₂ : List Addr) (σ₁ σ₂ : Addr → List Slot) (hπ : π₁.Perm π₂) (hσ : ∀ a, (σ₁ a).Perm (σ₂ a)) :
    (finalise R del π₁ σ₁ s).trie = (finalise R del π₂ σ₂ s).trie ∧
    ∀ a, ((finalise R del π₁ σ₁ s).objs a).map (·.storage) = ((finalise R del π₂ σ₂ s).objs a).map (·.storage) := by
  rw [finalise_perm_invariant R del s π₁ π₂ σ₁ σ₂ hπ hσ]
  exact ⟨rfl, fun _ => rfl⟩

/-- `IntermediateRoot(del)`: whatever function `A` of the account-trie content the root is, it is the same for all
    iteration orders. -/
theorem intermediateRoot_perm_invariant (A : (Addr → Option Leaf) → Hash) (R : (Slot → Word) → Hash) (del : Bool) (s : SDB)
    (π₁ π₂ : List Addr) (σ₁ σ₂ : Addr → List Slot) (hπ : π₁.Perm π₂) (hσ : ∀ a, (σ₁ a).Perm (σ₂ a)) :
    intermediateRoot A R del π₁ σ₁ s = intermediateRoot A R del π₂ σ₂ s := by
  unfold intermediateRoot
  rw [finalise_perm_invariant R del s π₁ π₂ σ₁ σ₂ hπ hσ]

/-- `stateObject.updateTrie`: the storage-trie content after flushing `dirtyStorage` does not depend on the order. -/
theorem updateTrie_perm_invariant (o : Obj) (ks₁ ks₂ : List Slot) (h : ks₁.Perm ks₂) :
    updateTrie ks₁ o = updateTrie ks₂ o :=
  updateTrie_perm o h

/-- `Commit(del)` (the loop over ALL live objects that `WriteBlockWithState` runs): same state and root for every order. -/
theorem commit_perm_invariant (A : (Addr → Option Leaf) → Hash) (R : (Slot → Word) → Hash) (del : Bool) (s : SDB)
    (ρ₁ ρ₂ : List Addr) (σ₁ σ₂ : Addr → List Slot) (hρ : ρ₁.Perm ρ₂) (hσ : ∀ a, (σ₁ a).Perm (σ₂ a)) :
    commit A R del ρ₁ σ₁ s = commit A R del ρ₂ σ₂ s := by
  unfold commit
  rw [foldl_perm_congr (fun s a => commitStep_sigma R del σ₁ σ₂ s a (hσ a)) (commitStep_comm R del σ₂) hρ s]

/-- a second `Finalise`/`IntermediateRoot` over the same dirty set (ValidateState after Finalize) changes nothing. -/
theorem finalise_idempotent (R : (Slot → Word) → Hash) (del : Bool) (π : List Addr) (σ : Addr → List Slot) (s : SDB) :
    finalise R del π σ (finalise R del π σ s) = finalise R del π σ s :=
  finalise_idem R del π σ s

/-- an adversarial, state-dependent choice of iteration orders cannot influence the pipeline: two order oracles that
    enumerate the same sets give the same `Finalise` function, hence (for any way `mk` of completing it to the components
    of Layer B) the same `process`. -/
theorem process_order_oracle_independent (R : (Slot → Word) → Hash)
    (ord₁ ord₂ : SDB → List Addr × (Addr → List Slot))
    (h : ∀ s, (ord₁ s).1.Perm (ord₂ s).1 ∧ ∀ a, ((ord₁ s).2 a).Perm ((ord₂ s).2 a))
    (mk : (Bool → SDB → SDB) → Comp SDB Tx) (cfg : Cfg) (pst : SDB) (b : Block Tx) :
    process (mk (fun del s => finalise R del (ord₁ s).1 (ord₁ s).2 s)) cfg pst b =
    process (mk (fun del s => finalise R del (ord₂ s).1 (ord₂ s).2 s)) cfg pst b := by
  have e : (fun del s => finalise R del (ord₁ s).1 (ord₁ s).2 s) = (fun del s => finalise R del (ord₂ s).1 (ord₂ s).2 s) := by
    funext del s
    exact finalise_perm_invariant R del s _ _ _ _ (h s).1 (h s).2
  rw [e]

-- non-vacuity: two dirty accounts (1 has two dirty slots incl. a deletion, 2 is suicided) under two different orders.
section
def exObj1 : Obj :=
  { nonce := 1, balance := 5, codeHash := 0, sroot := 0, storage := upd (fun _ => 0) 6 9,
    dirty := upd (upd (fun _ => none) 5 (some 7)) 6 (some 0), suicided := false, deleted := false }
def exObj2 : Obj := { exObj1 with suicided := true }
def exS : SDB :=
  { trie := upd (fun _ => none) 2 (some ⟨0, 1, 0, 0⟩), objs := upd (upd (fun _ => none) 1 (some exObj1)) 2 (some exObj2),
    dirty := fun a => a == 1 || a == 2, fault := false }
def exR : (Slot → Word) → Hash := fun f => f 5 * 100 + f 6
example : [1, 2].Perm [2, 1] := List.Perm.swap 2 1 []
example : ((finalise exR true [1, 2] (fun _ => [5, 6]) exS).trie 1, (finalise exR true [1, 2] (fun _ => [5, 6]) exS).trie 2)
    = (some ⟨1, 5, 700, 0⟩, none) := by rfl
example : ((finalise exR true [2, 1] (fun _ => [6, 5]) exS).trie 1, (finalise exR true [2, 1] (fun _ => [6, 5]) exS).trie 2)
    = (some ⟨1, 5, 700, 0⟩, none) := by rfl
end

/-! ## 2. Accepted ⇔ self-consistent -/

/-- `ValidateBody`'s hash checks and `ValidateState` (after `Process` on the parent state) succeed
    ⇔ all six header commitments — transaction root, uncle hash, state root, receipt root, log bloom, gas used — equal the
    values recomputed from the body and the parent state. -/
theorem validate_iff (C : Comp St Tx) (cfg : Cfg) (pst : St) (b : Block Tx) :
    (∃ p, validateAll C cfg pst b = .ok p) ↔ recompute C cfg pst b = some b.header.commitments := by
  simp only [validateAll_ok_iff, result_ok_iff, validateBodyHashes_ok_iff, validateState_ok_iff, recompute]
  cases process C cfg pst b with
  | error e => simp
  | ok p =>
    simp only [Header.commitments, Option.some.injEq, Commitments.mk.injEq, Except.ok.injEq]
    -- both sides are the same six equations, grouped by validator on the left and in the order of `Commitments` on the right
    constructor
    · rintro ⟨_, ⟨u1, u2⟩, _, rfl, ⟨v1, v2, v3, v4⟩, _⟩
      exact ⟨u2, u1, v4, v3, v2, v1.symm⟩
    · rintro ⟨u2, u1, v4, v3, v2, v1⟩
      exact ⟨_, ⟨u1, u2⟩, p, rfl, ⟨v1.symm, v2, v3, v4⟩, rfl⟩

/-- the two halves separately, with the individual equalities spelled out. -/
theorem validateBody_iff (C : Comp St Tx) (b : Block Tx) :
    validateBodyHashes C b = .ok () ↔ (C.uncleHash b.uncles = b.header.uncleHash ∧ C.txRoot b.txs = b.header.txHash) :=
  validateBodyHashes_ok_iff C b

theorem validateState_iff (C : Comp St Tx) (cfg : Cfg) (b : Block Tx) (st : St) (rcs : List Receipt) (used : Nat) :
    validateState C cfg b st rcs used = .ok () ↔
      (b.header.gasUsed = used ∧ createBloom C rcs = b.header.bloom ∧ C.receiptRoot rcs = b.header.receiptHash ∧
        (C.interRoot (isForked cfg.eip158 b.header.number) st).2 = b.header.root) :=
  validateState_ok_iff C cfg b st rcs used

/-- every block for which `WriteBlockWithState` runs during an import has all six commitments right
    (for the check order of the tree as it is now, `bodyFirst = true`). -/
theorem accepted_only_if_self_consistent (C : ChainComp St Tx) (cfg : Cfg) (hbf : C.bodyFirst = true) (coin : Bool)
    (S : Store St Tx) (b : Block Tx) (h : (importBlock C cfg coin S b).1 = .written) :
    ∃ pst, recompute C.toComp cfg pst b = some b.header.commitments := by
  obtain ⟨hg, pst, p, hr⟩ := importBlock_written C cfg coin S b h
  refine ⟨pst, (validate_iff C.toComp cfg pst b).1 ⟨p, ?_⟩⟩
  exact (validateAll_ok_iff _ _ _ _ _).2 ⟨bodyGate_none C b hbf hg, hr⟩

/-- … and the state-side commitments (root, receipt root, bloom, gas used) are right whatever the check order. -/
theorem accepted_only_if_state_consistent (C : ChainComp St Tx) (cfg : Cfg) (coin : Bool)
    (S : Store St Tx) (b : Block Tx) (h : (importBlock C cfg coin S b).1 = .written) :
    ∃ pst p, result C.toComp cfg pst b = .ok p :=
  (importBlock_written C cfg coin S b h).2

/-- Why the order of checks in `ValidateBody` matters (the defect fixed by 9f7e060, kept as a regression witness):
    with the OLD order a block whose hash is already known (with state, above the head) is re-imported without comparing the
    body with the header — the same header with its two transactions swapped is written although its transaction root is wrong;
    with the order of the tree as it is now it is refused. -/
theorem known_block_body_check_witness :
    (importBlock (Toy.chain false) Toy.cfg false (Toy.forked false) Toy.b2swapped).1 = .written ∧
    validateBodyHashes Toy.comp Toy.b2swapped = .error .txRoot ∧
    (importBlock (Toy.chain true) Toy.cfg false (Toy.forked true) Toy.b2swapped).1 = .abort .txRoot := by
  refine ⟨by decide, rfl, by decide⟩

-- non-vacuity: the toy block B2 validates on state 0 (= state after B1) and its commitments are the recomputed ones;
-- a wrong root is reported as such.
example : (validateAll Toy.comp Toy.cfg 0 Toy.b2).toOption.map (·.gasUsed) = some 2 := by decide
example : recompute Toy.comp Toy.cfg 0 Toy.b2 = some Toy.b2.header.commitments := by decide
example : (validateAll Toy.comp Toy.cfg 0 Toy.b2badRoot).toOption.isNone = true := by decide
example : (importBlock (Toy.chain true) Toy.cfg false (Toy.forked true) Toy.b2badRoot).1 = .abort .stateRoot := by decide

/-! ## 3. The node accepts what it builds -/

/-- A block assembled by the node's own building path (GenerateChain / commitNewWork: fork edits, ApplyTransaction with an
    explicit author accumulating into header.GasUsed, engine.Finalize, NewBlock) is accepted by the import path — `Process`
    yields the same state, receipts and gas, and both validators pass.
    Hypotheses: the three constants NewBlock uses for empty lists are what the hash functions return on `[]`
    (checked against the real code by the harness), and a second IntermediateRoot does not change the root (for the state
    model of Layer A this is `finalise_idempotent`). -/
theorem build_then_import (C : Comp St Tx) (cfg : Cfg) (eR eU : Hash)
    (h1 : C.txRoot [] = eR) (h2 : C.receiptRoot [] = eR) (h3 : C.uncleHash [] = eU)
    (idem : ∀ d st, C.root (C.finalise d (C.finalise d st)) = C.root (C.finalise d st))
    (parent : Header) (pst : St) (coinbase : Addr) (time extra : Nat) (txs : List Tx) (uncles : List Header) (B : Built St Tx)
    (hB : buildBlock C cfg eR eU parent pst coinbase time extra txs uncles = .ok B) :
    (∃ p, process C cfg pst B.block = .ok p ∧ p.st = B.st ∧ p.receipts = B.receipts ∧ p.gasUsed = B.block.header.gasUsed ∧
          C.root p.st = B.block.header.root) ∧
    (∃ q, validateAll C cfg pst B.block = .ok q ∧ q.receipts = B.receipts ∧ q.gasUsed = B.block.header.gasUsed) := by
  obtain ⟨hp, hr, hb, hv⟩ := process_buildBlock C cfg eR eU h1 h2 h3 idem parent pst coinbase time extra txs uncles B hB
  have hres := (result_ok_iff ..).2 ⟨_, hp, hv, rfl⟩
  have hall := (validateAll_ok_iff ..).2 ⟨hb, hres⟩
  exact ⟨⟨_, hp, rfl, rfl, rfl, hr⟩, _, hall, rfl, rfl⟩

-- non-vacuity: the toy builder produces a block with two transactions on top of genesis and the hypotheses hold.
example : (buildBlock Toy.comp Toy.cfg 7 0 Toy.g 0 9 10 5 [1, 2] []).toOption.map (fun B => (B.block.header.root, B.block.header.gasUsed, B.block.header.txHash))
    = some (3, 2, 712) := by decide
example : Toy.comp.txRoot [] = 7 ∧ Toy.comp.receiptRoot [] = 0 ∧ Toy.comp.uncleHash [] = 0 := by decide

/-- **A skipped candidate leaves the state as before it.**  In the miner's loop (`commitTransactions`) a pending transaction that
    cannot be applied — whatever `ApplyTransaction` had already done to the state before failing (nonce bumped, gas bought) — is
    dropped with state, receipts and `header.GasUsed` exactly as they were before the attempt (`Snapshot` / `RevertToSnapshot`);
    only the gas pool (not journalled) may have shrunk.  This is the obligation the seeded change C01-4 breaks. -/
theorem build_skips_leave_state (C : Comp St Tx) (cfg : Cfg) (h : Header) (author : Option Addr) (skipPool : Nat → Tx → Nat)
    (st : St) (pool used : Nat) (tx : Tx) (rest : List Tx) (e : Err)
    (hfail : applyTransaction C cfg h author st pool used tx = .error e) :
    commitTxs C cfg h author skipPool st pool used (tx :: rest) =
      commitTxs C cfg h author skipPool st (skipPool pool tx) used rest := by
  simp only [commitTxs, hfail]

/-- … in particular a pending set none of which can be applied yields an empty block on the untouched state. -/
theorem build_all_skipped (C : Comp St Tx) (cfg : Cfg) (h : Header) (author : Option Addr) (skipPool : Nat → Tx → Nat)
    (cands : List Tx) (st : St) (pool used : Nat)
    (hfail : ∀ tx ∈ cands, ∀ p, ∃ e, applyTransaction C cfg h author st p used tx = .error e) :
    (commitTxs C cfg h author skipPool st pool used cands).st = st ∧
    (commitTxs C cfg h author skipPool st pool used cands).included = [] ∧
    (commitTxs C cfg h author skipPool st pool used cands).receipts = [] ∧
    (commitTxs C cfg h author skipPool st pool used cands).used = used := by
  induction cands generalizing pool with
  | nil => exact ⟨rfl, rfl, rfl, rfl⟩
  | cons tx rest ih =>
    obtain ⟨e, he⟩ := hfail tx (List.mem_cons_self ..) pool
    rw [build_skips_leave_state C cfg h author skipPool st pool used tx rest e he]
    exact ih (skipPool pool tx) (fun t ht => hfail t (List.mem_cons_of_mem _ ht))

/-- **The miner's block — built from ANY pending set, with any candidates skipped along the way — is the builder's block over
    the transactions that were committed**, hence (by `build_then_import`) accepted by the import path with the same state,
    receipts and gas.  Hypotheses: a failed attempt never enlarges the gas pool, and the gas pool only has to be large enough
    (`PoolMono`: the importer, which never attempted the skipped candidates, has at least as much gas left). -/
theorem build_pending_then_import (C : Comp St Tx) (cfg : Cfg) (eR eU : Hash)
    (h1 : C.txRoot [] = eR) (h2 : C.receiptRoot [] = eR) (h3 : C.uncleHash [] = eU)
    (idem : ∀ d st, C.root (C.finalise d (C.finalise d st)) = C.root (C.finalise d st))
    (hm : PoolMono C) (skipPool : Nat → Tx → Nat) (hs : ∀ p tx, skipPool p tx ≤ p)
    (parent : Header) (pst : St) (coinbase : Addr) (time extra : Nat) (cands : List Tx) (uncles : List Header) :
    let B := buildBlockPending C cfg eR eU parent pst coinbase time extra skipPool cands uncles
    buildBlock C cfg eR eU parent pst coinbase time extra B.block.txs uncles = .ok B ∧
    (∃ p, process C cfg pst B.block = .ok p ∧ p.st = B.st ∧ p.receipts = B.receipts ∧ p.gasUsed = B.block.header.gasUsed ∧
          C.root p.st = B.block.header.root) ∧
    (∃ q, validateAll C cfg pst B.block = .ok q ∧ q.receipts = B.receipts ∧ q.gasUsed = B.block.header.gasUsed) := by
  intro B
  have hb : buildBlock C cfg eR eU parent pst coinbase time extra B.block.txs uncles = .ok B := by
    simp only [B]
    unfold buildBlock buildBlockPending
    generalize makeHeader C parent coinbase time extra = h0
    obtain ⟨pf, hpf⟩ := commitTxs_replay C hm cfg h0 (some h0.coinbase) skipPool hs cands (forkEdits C cfg h0.number pst)
      h0.gasLimit h0.gasLimit h0.gasUsed (Nat.le_refl _)
    have e : ∀ h txs rcs, (newBlock C eR eU h txs uncles rcs).txs = txs := fun _ _ _ => rfl
    simp only [e, hpf]
  exact ⟨hb, build_then_import C cfg eR eU h1 h2 h3 idem parent pst coinbase time extra B.block.txs uncles B hb⟩

-- non-vacuity: with a gas pool of 2 the toy miner commits the first two of three candidates (each costs 1 gas), skips the
-- third ("gas limit reached") and the block carries exactly the two; the toy components satisfy `PoolMono`.
example : ((commitTxs Toy.comp Toy.cfg Toy.g none (fun p _ => p) 0 2 0 [1, 2, 4]).included,
           (commitTxs Toy.comp Toy.cfg Toy.g none (fun p _ => p) 0 2 0 [1, 2, 4]).st,
           (commitTxs Toy.comp Toy.cfg Toy.g none (fun p _ => p) 0 2 0 [1, 2, 4]).used) = ([1, 2], 3, 2) := by decide
example : PoolMono Toy.comp := by
  intro cfg ctx st p p' tx r h hp
  simp only [Toy.comp] at h ⊢
  by_cases e : p = 0
  · rw [if_pos e] at h; cases h
  · rw [if_neg e] at h
    have e' : p' ≠ 0 := by omega
    rw [if_neg e']
    cases h
    simp only [Except.ok.injEq, MsgResult.mk.injEq, true_and]
    omega

/-! ## 4. A refused block leaves nothing behind -/

/-- If any stage before `WriteBlockWithState` fails for a block whose parent state is at hand — blacklist, header, body hashes,
    uncles, a transaction that cannot be applied, gas used, bloom, receipt root, state root — the store (database content,
    head, write log) after the step IS the store before it. -/
theorem reject_leaves_unchanged (C : ChainComp St Tx) (cfg : Cfg) (coin : Bool) (S : Store St Tx) (b : Block Tx)
    (ps : Stored Tx) (pst : St) (hp : S.blocks b.header.parentHash = some ps) (hst : S.states ps.block.header.root = some pst)
    (e : Err) (h : (importBlock C cfg coin S b).1 = .abort e) :
    (importBlock C cfg coin S b).2 = S := by
  have r := importBlock_run C cfg coin S b
  rw [h] at r
  exact r.abort_unchanged hp hst

/-- the abort discipline of a batch: when the blocks `pre` import without error and the next block `bad` is refused, the
    batch `pre ++ bad :: rest` stops at `bad`'s index with the store reached after `pre` — no write for `bad`, none for `rest`,
    head and write log exactly those after `pre`. -/
theorem insertChain_aborts_at_first_invalid (C : ChainComp St Tx) (cfg : Cfg) (coins : Nat → Bool) (S S₁ : Store St Tx) (n : Nat)
    (pre rest : List (Block Tx)) (bad : Block Tx) (e : Err)
    (hpre : importLoop C cfg coins S 0 pre = (n, none, S₁))
    (ps : Stored Tx) (pst : St) (hp : S₁.blocks bad.header.parentHash = some ps) (hst : S₁.states ps.block.header.root = some pst)
    (hbad : (importBlock C cfg (coins n) S₁ bad).1 = .abort e) :
    importLoop C cfg coins S 0 (pre ++ bad :: rest) = (n, some e, S₁) := by
  rw [importLoop_append, hpre]
  exact importLoop_cons_abort C cfg coins S₁ S₁ n bad rest e
    (Prod.ext hbad (reject_leaves_unchanged C cfg (coins n) S₁ bad ps pst hp hst e hbad))

-- non-vacuity: in the toy store the block with the wrong root has its parent state at hand, is refused, and the batch
-- [B2badRoot] after a good prefix stops with the prefix's store.
example : ((Toy.forked true).blocks Toy.b2badRoot.header.parentHash).isSome = true := by decide
example : ((importBlock (Toy.chain true) Toy.cfg false (Toy.forked true) Toy.b2badRoot).2.log.length,
           (importBlock (Toy.chain true) Toy.cfg false (Toy.forked true) Toy.b2badRoot).2.head)
        = ((Toy.forked true).log.length, (Toy.forked true).head) := by decide

/-- **What is stored is the block that was handed in.**  `WriteBlockWithState` stores, under the block's hash, exactly the input
    block (header, transactions, uncles).  In this functional model the input cannot be changed by an import; for the real node
    that is a checked correspondence: the harness records every block's RLP bytes before any import and requires (i) the shared
    in-memory objects to encode to the same bytes after every history, (ii) the body read back from the database after a
    restart to match the header's transaction root and uncle hash (the seeded change C01-9 — CALLVALUE handing out the
    transaction's own big.Int — breaks both). -/
theorem write_stores_input_block (C : ChainComp St Tx) (S : Store St Tx) (b : Block Tx) (p : Processed St) (coin : Bool) :
    ((writeBlockWithState C S b p coin).blocks (C.hashHeader b.header)).map (·.block) = some b := by
  rw [writeBlockWithState_blocks, upd_same, Option.map_some]

/-! ## 5. The result of an import is a function of (parent state, block) -/

/-- For EVERY arrival history — any sequence of batches (any split, any interleaving of forks, known blocks re-sent),
    prunings of arbitrary sets of states, restarts — whatever the node has stored as the result of importing a block
    (receipts incl. logs, gas used, state root) is the value of ONE fixed function, `result`, at (a state whose root is the
    root committed by the parent header, the block): nothing about the history enters. -/
theorem import_is_function (C : ChainComp St Tx) (cfg : Cfg) (g : Header) (gst : St) (hg : C.root gst = g.root)
    (evs : List (Event Tx)) (h : Hash) (s : Stored Tx) (rs : List Receipt)
    (hs : ((genesisStore C.toComp g gst).run C cfg evs).blocks h = some s) (hrs : s.receipts = some rs) :
    s = genesisEntry g ∨
    ∃ (pst : St) (ph : Header) (p : Processed St),
      C.hashHeader ph = s.block.header.parentHash ∧ C.root pst = ph.root ∧
      result C.toComp cfg pst s.block = .ok p ∧ p.receipts = rs ∧ p.gasUsed = s.gasUsed ∧ C.root p.st = s.block.header.root :=
  (run_inv C cfg g _ (genesis_inv C cfg g gst hg) evs).just h s rs hs hrs

/-- … hence, when hashes do not collide (state root ↦ state and header hash ↦ header injective — the collision-freedom
    assumption of DESIGN §2.5, made explicit), two nodes that received the same block through different histories have
    stored the same receipts, logs and gas for it. -/
theorem import_history_independent (C : ChainComp St Tx) (cfg : Cfg) (g : Header) (gst : St) (hg : C.root gst = g.root)
    (rootInj : ∀ s₁ s₂ : St, C.root s₁ = C.root s₂ → s₁ = s₂)
    (hashInj : ∀ h₁ h₂ : Header, C.hashHeader h₁ = C.hashHeader h₂ → h₁ = h₂)
    (evs₁ evs₂ : List (Event Tx)) (h : Hash) (s₁ s₂ : Stored Tx) (rs₁ rs₂ : List Receipt)
    (hs₁ : ((genesisStore C.toComp g gst).run C cfg evs₁).blocks h = some s₁)
    (hs₂ : ((genesisStore C.toComp g gst).run C cfg evs₂).blocks h = some s₂)
    (hb : s₁.block = s₂.block) (hn₁ : s₁ ≠ genesisEntry g) (hn₂ : s₂ ≠ genesisEntry g)
    (hr₁ : s₁.receipts = some rs₁) (hr₂ : s₂.receipts = some rs₂) :
    rs₁ = rs₂ ∧ s₁.gasUsed = s₂.gasUsed :=
  Justified.unique rootInj hashInj ((import_is_function C cfg g gst hg evs₁ h s₁ rs₁ hs₁ hr₁).resolve_left hn₁)
    ((import_is_function C cfg g gst hg evs₂ h s₂ rs₂ hs₂ hr₂).resolve_left hn₂) hb

-- non-vacuity: in the toy history the block B2 is stored with its receipts (two receipts, cumulative gas 1 and 2), and
-- the same block arriving alone after its parent, or in one batch, or after a pruning of B1's state and a restart, is
-- stored with the same result.
example : (((Toy.forked true).blocks 2002).bind (·.receipts)).map (fun rs => rs.map (·.cumGas)) = some [1, 2] := by decide
example :
    let S₂ := (genesisStore Toy.comp Toy.g 0).run (Toy.chain true) Toy.cfg
      [.insert [Toy.b1] Toy.noCoin, .restart, .insert [Toy.a1] Toy.noCoin, .insert [Toy.b2] Toy.noCoin]
    (S₂.blocks 2002).bind (·.receipts) = ((Toy.forked true).blocks 2002).bind (·.receipts) := by decide


/-! ## 6. Warm or cold caches: the runtime caches cannot influence an import -/

/-- Reading through coherent caches IS reading the store: `GetBlock`, `GetTd`, `HasBlock`, `HasState`, `state.New` answer
    the same whether they are served from `blockCache` / `bodyCache` / header, number and td caches / `pastTries` or from the
    database. -/
theorem reads_through_coherent_caches (codeDb : Hash → Option Nat) (K : Caches St Tx) (S : Store St Tx) (h : Coh codeDb K S) :
    view K S = S :=
  view_eq codeDb K S h

/-- **Coherence is an invariant of the running node.**  Start from any store satisfying the store invariant whose bodies match
    their headers, with ANY coherent cache contents; let the node run any history of imports (every read through the caches),
    prunings, restarts (caches dropped), SetHead rewinds (block-keyed caches purged, as the code does), arbitrary LRU evictions
    and arbitrary cache fills.  Then every cached entry still equals what the store holds for its key.
    Needs: the current order of checks in ValidateBody (`bodyFirst`; otherwise `block_cache_needs_body_check_witness`), and
    collision-freedom of header hash, transaction root, uncle hash and state root — the block and state caches are keyed by
    hash and are NOT updated by writes, so a write under an existing key must write the same value. -/
theorem cache_coherence_preserved (C : ChainComp St Tx) (cfg : Cfg) (g : Header) (codeDb : Hash → Option Nat)
    (hbf : C.bodyFirst = true) (cf : CollisionFree C) (N : NodeK St Tx) (hN : NInv C cfg g codeDb N) (evs : List (EventK St Tx)) :
    Coh codeDb (N.run C cfg evs).caches (N.run C cfg evs).store :=
  (nodeK_run C cfg g codeDb hbf cf evs N hN).2.coh

/-- **The import result is the same for every cache state** (warm vs cold, any LRU contents, any eviction schedule): two nodes
    holding the same store with different coherent caches, driven through histories that differ only in cache traffic
    (fills / evictions), end with the same store — database content, states, head, write log — which is the store of the
    node without caches.  With `import_is_function` this closes the clause "with warm or cold caches" for the model; what
    remains outside is only whether Go's LRU and trie-node implementations realise "a cache entry is what was put in". -/
theorem import_cache_independent (C : ChainComp St Tx) (cfg : Cfg) (g : Header) (codeDb : Hash → Option Nat)
    (hbf : C.bodyFirst = true) (cf : CollisionFree C) (S : Store St Tx) (hI : Inv C cfg g S) (hB : BodiesOk C S)
    (K₁ K₂ : Caches St Tx) (h₁ : Coh codeDb K₁ S) (h₂ : Coh codeDb K₂ S)
    (evs₁ evs₂ : List (EventK St Tx)) (he : stripK evs₁ = stripK evs₂) :
    (NodeK.run C cfg ⟨S, K₁⟩ evs₁).store = (NodeK.run C cfg ⟨S, K₂⟩ evs₂).store ∧
    (NodeK.run C cfg ⟨S, K₁⟩ evs₁).store = S.run C cfg (stripK evs₁) := by
  have r₁ := (nodeK_run C cfg g codeDb hbf cf evs₁ ⟨S, K₁⟩ ⟨hI, hB, h₁⟩).1
  have r₂ := (nodeK_run C cfg g codeDb hbf cf evs₂ ⟨S, K₂⟩ ⟨hI, hB, h₂⟩).1
  exact ⟨by rw [r₁, r₂, he], r₁⟩

/-- the freshly initialised node satisfies the hypotheses of `import_cache_independent` (with empty caches, or any coherent ones). -/
theorem genesis_node_invariant (C : ChainComp St Tx) (cfg : Cfg) (g : Header) (gst : St) (codeDb : Hash → Option Nat)
    (hg : C.root gst = g.root) (hgb : validateBodyHashes C.toComp { header := g, txs := [], uncles := [] } = .ok ()) :
    NInv C cfg g codeDb ⟨genesisStore C.toComp g gst, Caches.empty⟩ :=
  ⟨genesis_inv C cfg g gst hg, entries_upd hgb entries_none, coh_empty codeDb _⟩

/-- The code-size cache as the tree keys it (by CODE HASH) is transparent: on any coherent cache the lookup returns what the
    content-addressed code table holds — for every account of every state, hence on every fork — and leaves the cache coherent. -/
theorem codesize_cache_by_codehash_transparent (cache : Nat → Option Nat) (db : Hash → Option Nat)
    (hc : ∀ c n, cache c = some n → db c = some n) (a : Addr) (codeHash : Hash) :
    (codeSizeLookup keyByCodeHash cache db a codeHash).1 = db codeHash ∧
    ∀ c n, (codeSizeLookup keyByCodeHash cache db a codeHash).2 c = some n → db c = some n := by
  unfold codeSizeLookup keyByCodeHash
  cases hk : cache codeHash with
  | some n => exact ⟨(hc codeHash n hk).symm, hc⟩
  | none =>
    cases hd : db codeHash with
    | none => exact ⟨rfl, hc⟩
    | some n => exact ⟨rfl, entries_upd hd hc⟩

/-- Witness of a NON-coherent cache key (the seeded change C01-2): keyed by ADDRESS, the size learnt for address 7 on a fork
    where it carries the 4-byte code `1` is served on the fork where the same address carries the 25-byte code `2` — the entry
    is not a function of its key, so EXTCODESIZE (and with it the state root) depends on which fork was imported first.
    Keyed by code hash the second lookup answers 25. -/
theorem codesize_cache_keyed_by_address_witness :
    let db : Hash → Option Nat := fun ch => if ch = 1 then some 4 else if ch = 2 then some 25 else none
    let warmByAddr := (codeSizeLookup keyByAddress (fun _ => none) db 7 1).2
    let warmByHash := (codeSizeLookup keyByCodeHash (fun _ => none) db 7 1).2
    (codeSizeLookup keyByAddress warmByAddr db 7 2).1 = some 4 ∧ db 2 = some 25 ∧
    (codeSizeLookup keyByAddress (fun _ => none) db 7 2).1 = some 25 ∧
    (codeSizeLookup keyByCodeHash warmByHash db 7 2).1 = some 25 := by
  decide

/-- Witness that the block cache is coherent only BECAUSE bodies are checked against headers: with the pre-9f7e060 order of
    checks the re-import of the known block B2 with swapped transactions rewrites the database entry of hash 2002 while a
    `blockCache` holding the original B2 is left as it is — the cache (transactions [1,2]) then differs from the store ([2,1]). -/
theorem block_cache_needs_body_check_witness :
    let S' := (importBlock (Toy.chain false) Toy.cfg false (Toy.forked false) Toy.b2swapped).2
    ((Toy.forked false).blocks 2002).map (·.block.txs) = some [1, 2] ∧ (S'.blocks 2002).map (·.block.txs) = some [2, 1] := by
  decide

-- non-vacuity: the toy genesis node satisfies the invariant; a history with fills, evictions, a restart and a SetHead, run
-- with caches, ends with the head and the stored receipts of the cache-free run.
example : validateBodyHashes Toy.comp { header := Toy.g, txs := ([] : List Nat), uncles := [] } = .ok () := by rfl
example :
    let evs : List (EventK Nat Nat) :=
      [.chain (.insert [Toy.a1] Toy.noCoin), .fill (fun _ => true) (fun _ => true) (fun _ => true),
       .chain (.insert [Toy.b1, Toy.b2] Toy.noCoin), .evict (fun h => h == 1001) (fun _ => false) (fun _ => true) (fun _ => true),
       .chain .restart, .chain (.insert [Toy.b2] Toy.noCoin), .chain (.setHead (fun h => h != 2002) 1001)]
    let N := NodeK.run (Toy.chain true) Toy.cfg ⟨genesisStore Toy.comp Toy.g 0, Caches.empty⟩ evs
    (N.store.head, (N.store.blocks 1002).bind (·.receipts), (N.store.blocks 2002).isSome) = (1001, some [], false) := by decide

/-- **The sender cache cannot influence a verdict**: when the cached address is served only under signer EQUALITY
    (`same s s' = true → s = s'`) and the cache holds what recovery under its own signer gives, `types.Sender` IS recovery under
    the requested signer — for every cache content (no cache, the pool's EIP155 entry, an entry left by another fork's import). -/
theorem sender_cache_transparent {Signer : Type} (recover : Signer → Tx → Option Addr) (same : Signer → Signer → Bool)
    (hsame : ∀ s s', same s s' = true → s = s') (cache : Option (Signer × Addr)) (tx : Tx)
    (hc : ∀ s a, cache = some (s, a) → recover s tx = some a) (signer : Signer) :
    senderCached recover same cache signer tx = recover signer tx := by
  unfold senderCached
  cases cache with
  | none => rfl
  | some p =>
    obtain ⟨s, a⟩ := p
    simp only []
    by_cases e : same s signer = true
    · rw [if_pos e]; have := hsame s signer e; subst this; exact (hc s a rfl).symm
    · rw [if_neg e]

/-- … hence the verdict on a block is a function of the block and the parent state alone: however the components are completed
    from a sender-resolution function (`mk`), resolving senders through ANY coherent per-transaction caches gives the same
    `validateAll` as resolving them by recovery. -/
theorem block_verdict_sender_cache_independent {Signer : Type} (recover : Signer → Tx → Option Addr) (same : Signer → Signer → Bool)
    (hsame : ∀ s s', same s s' = true → s = s') (caches : Tx → Option (Signer × Addr))
    (hc : ∀ tx s a, caches tx = some (s, a) → recover s tx = some a)
    (mk : (Signer → Tx → Option Addr) → Comp St Tx) (cfg : Cfg) (pst : St) (b : Block Tx) :
    validateAll (mk (fun signer tx => senderCached recover same (caches tx) signer tx)) cfg pst b =
    validateAll (mk recover) cfg pst b := by
  have e : (fun signer tx => senderCached recover same (caches tx) signer tx) = recover := by
    funext signer tx
    exact sender_cache_transparent recover same hsame (caches tx) tx (hc tx) signer
  rw [e]

/-- Witness of what goes wrong when the cache is served ACROSS signers (seeded change C01-8: EIP155 ↔ Homestead treated as
    interchangeable): signer 0 = Homestead cannot recover the replay-protected transaction, signer 1 = EIP155 recovers address 7;
    with the pool's entry (1, 7) in the cache the Homestead lookup answers 7 instead of failing — warm and cold nodes disagree. -/
theorem sender_cache_across_signers_witness :
    let recover : Nat → Nat → Option Addr := fun signer _ => if signer = 1 then some 7 else none
    let lax : Nat → Nat → Bool := fun _ _ => true
    let strict : Nat → Nat → Bool := fun a b => a == b
    senderCached recover lax (some (1, 7)) 0 0 = some 7 ∧ senderCached recover lax none 0 0 = none ∧
    senderCached recover strict (some (1, 7)) 0 0 = none := by
  decide

/-- BLOCKHASH is answered from the executed block's OWN ancestry: the walk from `ref.ParentHash` reads no head and no canonical
    number index, so it is the same whichever branch is the head.  Witness of the seeded change C01-7 (answering from the
    canonical index when `number = head + 1`): headers 10 ← 21 (branch A, height 1, the head) and 10 ← 22 (branch B, height 1);
    executing a child of 22 at height 2 = head(21).number + 1, BLOCKHASH(1) is 22 by the walk but 21 by the canonical index. -/
theorem blockhash_walk_ignores_head_witness :
    let mkH (parent number : Nat) : Header :=
      { parentHash := parent, number := number, coinbase := 0, gasLimit := 0, time := 0, difficulty := 0, extra := 0,
        uncleHash := 0, root := 0, txHash := 0, receiptHash := 0, bloom := 0, gasUsed := 0 }
    let hdr : Hash → Option Header := fun h =>
      if h = 10 then some (mkH 0 0) else if h = 21 then some (mkH 10 1) else if h = 22 then some (mkH 10 1) else none
    let canonical : Nat → Hash := fun n => if n = 0 then 10 else if n = 1 then 21 else 0
    blockHashWalk hdr 3 22 1 = 22 ∧ canonical 1 = 21 ∧ blockHashWalk hdr 3 22 0 = 10 := by
  decide

/-! ## 7. Equal content ⇒ equal ROOT, on real Merkle-Patricia tries (composition with C10) -/

/-- **`Finalise` / `IntermediateRoot` on real tries**: run the two map loops on actual Merkle-Patricia tries (every storage
    trie and the account trie is the history of its `TryUpdate` / `TryDelete` calls in iteration order, roots by
    `Trie.hashRoot` for an ARBITRARY hash function `H`).  For all permutations of `stateObjectsDirty` and of every
    `dirtyStorage` the STATE ROOT is the same, every account's storage root is the same, and the content view is the same.
    No "root is a function of content" hypothesis: that is C10's `root_content_only`, used inside in its lemma form
    `Trie.inv_unique`.  The only hypothesis is `Codec.Ok`: trie keys are injective and encoded values non-empty. -/
theorem finalise_root_perm_invariant (H : Bytes → Bytes) (cd : Codec) (ok : cd.Ok) (del : Bool) (s : CSDB) (hc : CCoh cd s)
    (π₁ π₂ : List Addr) (σ₁ σ₂ : Addr → List Slot) (hπ : π₁.Perm π₂) (hσ : ∀ a, (σ₁ a).Perm (σ₂ a)) :
    cIntermediateRoot H cd del π₁ σ₁ s = cIntermediateRoot H cd del π₂ σ₂ s ∧
    (cFinalise H cd del π₁ σ₁ s).base = (cFinalise H cd del π₂ σ₂ s).base ∧
    ∀ a o, (cFinalise H cd del π₁ σ₁ s).base.objs a = some o →
      trieRoot H ((cFinalise H cd del π₁ σ₁ s).hists a) = trieRoot H ((cFinalise H cd del π₂ σ₂ s).hists a) := by
  obtain ⟨eb, ea, eh⟩ := cFinalise_perm H cd ok del s hc σ₁ σ₂ hπ hσ
  exact ⟨trieRoot_eq_of_content H _ _ ea, eb, fun a o ho => trieRoot_eq_of_content H _ _ (eh a o ho)⟩

/-- the root the node computes is THE root of the content: `IntermediateRoot` on real tries equals the root of (any history
    producing) the account-trie content that Layer A's `finalise` yields — the function `A` the Layer-A theorems take as a
    parameter exists, and it is what the code computes. -/
theorem intermediateRoot_is_content_root (H : Bytes → Bytes) (cd : Codec) (ok : cd.Ok) (del : Bool) (s : CSDB) (hc : CCoh cd s)
    (π : List Addr) (σ : Addr → List Slot) :
    natOfRoot (cIntermediateRoot H cd del π σ s) =
      (intermediateRoot (accountRootOf H cd) (storageRootOf H cd) del π σ s.base).2 := by
  obtain ⟨b, c⟩ := cFinalise_refines H cd ok del π σ s hc
  unfold cIntermediateRoot intermediateRoot accountRootOf
  simp only []
  rw [trieRoot_content, c.ac, b]

/-- … also when the tries are only PARTIALLY loaded (trie cache generations: any clean subtree may have been unloaded, nodes
    are resolved on demand through the node database): two nodes that reached their account tries through the operation
    histories of two different iteration orders — with whatever interleaving of Hash / Commit / unloading / reopening — have
    the same root.  From C10 `root_content_only_partial`; its hypotheses (32-byte hash, collision-freedom of `H` on the nodes
    the histories pass through, sizes below 2^64) are C10's. -/
theorem finalise_root_perm_invariant_partially_loaded (H : Bytes → Bytes) (hH : ∀ x, (H x).length = 32) (cd : Codec) (ok : cd.Ok)
    (del : Bool) (s : CSDB) (hc : CCoh cd s) (π₁ π₂ : List Addr) (σ₁ σ₂ : Addr → List Slot) (hπ : π₁.Perm π₂)
    (hσ : ∀ a, (σ₁ a).Perm (σ₂ a)) (x₁ x₂ : Aqv.Trie.XState)
    (r₁ : Aqv.Trie.Reach H (cFinalise H cd del π₁ σ₁ s).acct x₁) (r₂ : Aqv.Trie.Reach H (cFinalise H cd del π₂ σ₂ s).acct x₂)
    (f₁ : Aqv.Trie.CFHist H (cFinalise H cd del π₁ σ₁ s).acct) (f₂ : Aqv.Trie.CFHist H (cFinalise H cd del π₂ σ₂ s).acct)
    (z₁ : Aqv.Trie.SzHist H (cFinalise H cd del π₁ σ₁ s).acct) (z₂ : Aqv.Trie.SzHist H (cFinalise H cd del π₂ σ₂ s).acct) :
    Aqv.Trie.hashRootX H x₁.root = Aqv.Trie.hashRootX H x₂.root := by
  exact Aqv.Props.C10.root_content_only_partial H hH _ _ x₁ x₂ r₁ r₂ f₁ f₂ z₁ z₂
    (congrFun (cFinalise_perm H cd ok del s hc σ₁ σ₂ hπ hσ).2.1)

-- non-vacuity: the toy codec satisfies `Codec.Ok`, the toy real-trie StateDB is coherent, and the two orders issue
-- different operation histories (so the equality of roots is not an equality of inputs).
example : Toy.codec.Ok := Toy.codec_ok
example : CCoh Toy.codec Toy.csdb := by
  have h0 : Aqv.Trie.absOf [] = imgS Toy.codec (fun _ => 0) := by
    funext kb
    simp only [imgS]
    cases Toy.codec.slotInv kb <;> rfl
  refine ⟨entries_upd h0 (entries_upd h0 entries_none), ?_⟩
  funext kb
  simp only [imgA, Toy.csdb]
  cases Toy.codec.addrInv kb <;> rfl
example :
    let keys (ops : List Aqv.Trie.Op) : List Bytes := ops.map (fun op => match op with | .update k _ => k | .delete k => k | .other => [])
    keys ((cFinalise (fun x => x) Toy.codec true [1, 2] (fun _ => [5, 6]) Toy.csdb).hists 1) = [Toy.unary 5, Toy.unary 6] ∧
    keys ((cFinalise (fun x => x) Toy.codec true [2, 1] (fun _ => [6, 5]) Toy.csdb).hists 1) = [Toy.unary 6, Toy.unary 5] ∧
    keys (cFinalise (fun x => x) Toy.codec true [1, 2] (fun _ => [5, 6]) Toy.csdb).acct = [Toy.unary 1, Toy.unary 2] ∧
    keys (cFinalise (fun x => x) Toy.codec true [2, 1] (fun _ => [6, 5]) Toy.csdb).acct = [Toy.unary 2, Toy.unary 1] := by
  decide

end Aqv.Props.C01
