/-
  C12 — A transaction is bound to its signer and to its chain.  The property theorems, with the cache invariants (`CacheOK`, `ObjOK`)
  and the witnesses (`malleate`, `toyE`, `toyE2`) their statements and examples need.
  Model: Aqv.Model.TxSign (core/types/transaction_signing.go, transaction.go, gen_tx_json.go, crypto.ValidateSignatureValues).
  Keccak-256 (`H`) and ECDSA over secp256k1 (`Ecdsa`: sign / recover / addr) are parameters; every theorem holds for all
  instantiations, cryptographic facts appear as explicit hypotheses (`Ecdsa.SignOK`: Ecrecover inverts crypto.Sign and
  crypto.Sign returns canonical values; `Ecdsa.Symmetric`: the (s, v) <-> (N-s, 1-v) symmetry of ECDSA).

  Clause map
    "signed with a key => attributed to exactly that key's address"       sign_then_sender (all signer kinds, every chain id != 0,
                                                                           no bound on the size of V), sign_chain0_uses_frontier_hash
    "changing any signed field ... changes what was signed"               sighash_injective (+ unforgeable_partial: the rest is a
                                                                           reduction to an ECDSA forgery / Keccak collision)
    "replay-protected tx attributed only under its own chain id"          eip155_rejects_foreign_chain, eip155_sender_only_own_chain
    "out-of-range signatures are rejected"                                sender_only_if_valid_vrs
    "malleable (high-S) signatures are rejected"                          homestead_rejects_high_s (Homestead signer and unprotected
                                                                           txs under the EIP-155 signer); FALSE for protected txs under
                                                                           the EIP-155 signer: eip155_high_s_malleable,
                                                                           eip155_accepts_high_s_witness (known finding)
    "cached sender queried under a different signer"                      cache_transparent, senderCached_sound, withSignature_clears_caches,
                                                                           object_lifetime_transparent (hash / size / sender caches of one
                                                                           object across re-signing)
    "hash and sender survive RLP and JSON re-encoding"                    hash_sender_stable_under_reencoding, rlp_decode_canonical,
                                                                           json_roundtrip, json_accepts_sender_ok
    MakeSigner by height                                                   makeSigner_spec
    "rejected by Homestead-and-later rules" at ApplyTransaction acceptance makeSigner_from_homestead, highS_rejected_from_homestead,
                                                                           applySeq_history_free (the signer of a call, hence the
                                                                           high-S verdict, depends on (config, height) only — not on
                                                                           the calls processed before)
-/
import Aqv.Lemmas.TxSign
import Aqv.Model.TxApply
import Aqv.Lemmas.RlpTypedPrim
import Aqv.Lemmas.Translated.TxSign
namespace Aqv.Props.C12
open Aqv Aqv.Rlp Aqv.TxSign

/-! ## 1. what is signed determines every signed field and the chain id -/

/-- The signed byte string (RLP of nonce, price, gas, to, value, data [, chainId, 0, 0]) determines nonce, gas price, gas limit,
    recipient, value, data and the chain id (and whether there is one): two transactions / signers with the same signed bytes
    agree on all of them.  Corollary of `Rlp.enc_inj` (C11 `enc_injective`). -/
theorem sighash_injective (sg sg' : Signer) (a b : Signed) (ha : a.WF) (hb : b.WF)
    (hsa : (sg.payload a).sizeOk = true) (hsb : (sg'.payload b).sizeOk = true)
    (h : enc (sg.payload a) = enc (sg'.payload b)) : a = b ∧ Signer.domain sg = Signer.domain sg' := by
  have hp := enc_inj hsa hsb h
  rw [Signer.payload_eq, Signer.payload_eq, Item.list.injEq] at hp
  obtain ⟨h1, h2⟩ := List.append_inj hp rfl
  exact ⟨baseFields_inj ha hb h1, domainFields_inj h2⟩

/-! ## 2. sign, then recover -/

/-- For every key, every transaction content, every signer kind and EVERY chain id other than 0 (no size bound: V may exceed
    8, 64 or 256 bits): `SignTx` succeeds, leaves the signed fields untouched, and `Sender` under the same signer returns
    exactly the key's address. -/
theorem sign_then_sender (E : Ecdsa) (hE : E.SignOK) (H : Bytes → Bytes) (sg : Signer) (hsg : sg ≠ .eip155 0) (t : Tx) (k : Nat) :
    ∃ t', signTx E H sg t k = .ok t' ∧ t'.signed = t.signed ∧ senderOf E H sg t' = .ok (E.addr k) := by
  obtain ⟨hr1, hr2⟩ := hE.r_range k (sigHash H sg t)
  obtain ⟨hs1, hs2⟩ := hE.s_range k (sigHash H sg t)
  have hlt := halfN_lt
  have main := senderOf_withSignature (t := t) hsg (hE.v_range k _)
    (fun hs => (validate_iff ..).2 ⟨hE.v_range k _, hr1, hr2, hs1, by omega, fun _ => hs2⟩) (hE.recover_sign k _)
  refine ⟨_, ?_, withSignature_signed .., main⟩
  unfold signTx
  simp only [main]
  simp

/-- Chain id 0 is the exception: `SignatureValues` then writes a Homestead `V` (27/28), so `Sender` recovers over the
    6-field Frontier payload although the signature was made over the 9-field EIP-155 payload; unless that happens to
    recover the same address, `SignTx` reports a sender mismatch.  (No misattribution: an error.) -/
theorem sign_chain0_uses_frontier_hash (E : Ecdsa) (H : Bytes → Bytes) (t : Tx) (r s rid : Nat) (hrid : rid ≤ 1) :
    senderOf E H (.eip155 0) (withSignature (.eip155 0) t r s rid) =
      recoverPlain E (sigHash H .homestead (withSignature (.eip155 0) t r s rid)) r s ((rid : Int) + 27) true := by
  rw [withSignature_chain0 t r s hrid, senderOf_eip155_unprotected E H 0 (isProtectedV_plain hrid)]
  rfl

/-! ## 3. replay protection -/

/-- A protected transaction of chain `c` (V = 35 + 2c + recovery id) is rejected with ErrInvalidChainId by the EIP-155 signer
    of every other chain, and with ErrInvalidSig by the Homestead and Frontier signers — for every chain id, whatever R, S. -/
theorem eip155_rejects_foreign_chain (E : Ecdsa) (H : Bytes → Bytes) (t : Tx) (c c' rid : Nat) (hrid : rid ≤ 1)
    (hv : t.v = rid + 35 + 2 * c) (hne : c' ≠ c) :
    senderOf E H (.eip155 c') t = .error .invalidChainId ∧
    senderOf E H .homestead t = .error .invalidSig ∧ senderOf E H .frontier t = .error .invalidSig := by
  have plain : ∀ h hs, recoverPlain E h t.r t.s (t.v : Int) hs = .error .invalidSig :=
    fun h hs => recoverPlain_nat_invalid (Or.inl (by omega))
  refine ⟨?_, plain _ _, plain _ _⟩
  rw [senderOf_eip155_protected E H c' (hv ▸ isProtectedV_155 _ c), hv, deriveChainId_155 c hrid, if_pos (Ne.symm hne)]

/-- Conversely, whenever the EIP-155 signer of chain `c` attributes a protected transaction to anybody, the transaction's own
    chain id (derived from V) is `c`. -/
theorem eip155_sender_only_own_chain (E : Ecdsa) (H : Bytes → Bytes) (t : Tx) (c : Nat) (a : Bytes)
    (hp : isProtectedV t.v = true) (h : senderOf E H (.eip155 c) t = .ok a) : deriveChainId t.v = c := by
  obtain ⟨rid, hv, hval, -⟩ := senderOf_ok_iff.1 h
  rw [Signer.applied_protected c hp] at hv
  exact hv ▸ deriveChainId_155 c (validate_rid hval)

/-! ## 4. accepted signatures are in range -/

/-- If `Sender` accepts (any signer), then R and S are in [1, N-1], V encodes a recovery id 0/1 in exactly the form of the
    signer (27/28, or 35 + 2·chainId + id for a protected transaction under its EIP-155 signer), the address is what
    Ecrecover returns for that id, and — for the Homestead signer and for unprotected transactions under the EIP-155
    signer — S is in the lower half.  (Protected transactions under the EIP-155 signer are NOT held to low S: see below.) -/
theorem sender_only_if_valid_vrs (E : Ecdsa) (H : Bytes → Bytes) (sg : Signer) (t : Tx) (a : Bytes)
    (h : senderOf E H sg t = .ok a) :
    ∃ rid, rid ≤ 1 ∧ 1 ≤ t.r ∧ t.r < secpN ∧ 1 ≤ t.s ∧ t.s < secpN ∧
      (t.v = rid + 27 ∨ ∃ c, sg = .eip155 c ∧ isProtectedV t.v = true ∧ t.v = rid + 35 + 2 * c) ∧
      ((sg = .homestead ∨ (∃ c, sg = .eip155 c ∧ isProtectedV t.v = false)) → t.s ≤ secpHalfN) ∧
      (∃ hash, E.recover hash t.r t.s rid = some a) := by
  obtain ⟨rid, hv, hval, hrec⟩ := senderOf_ok_iff.1 h
  obtain ⟨h1, h2, h3, h4, h5, hlow⟩ := (validate_iff ..).1 hval
  refine ⟨rid, h1, h2, h3, h4, h5, ?_, ?_, _, hrec⟩
  · cases sg with
    | frontier => exact Or.inl hv
    | homestead => exact Or.inl hv
    | eip155 c =>
      cases hp : isProtectedV t.v
      · rw [Signer.applied_unprotected c hp] at hv
        exact Or.inl hv
      · rw [Signer.applied_protected c hp] at hv
        exact Or.inr ⟨c, rfl, rfl, hv⟩
  · rintro (rfl | ⟨c, rfl, hp⟩)
    · exact hlow rfl
    · exact hlow (by rw [Signer.applied_unprotected c hp]; rfl)

/-- High-S (malleable) signatures are rejected by the Homestead signer, and by the EIP-155 signer for unprotected
    transactions. -/
theorem homestead_rejects_high_s (E : Ecdsa) (H : Bytes → Bytes) (t : Tx) (hs : t.s > secpHalfN) :
    senderOf E H .homestead t = .error .invalidSig ∧
    ∀ c, isProtectedV t.v = false → senderOf E H (.eip155 c) t = .error .invalidSig := by
  have plain : senderOf E H .homestead t = .error .invalidSig := recoverPlain_nat_invalid (Or.inr ⟨rfl, hs⟩)
  exact ⟨plain, fun c hp => (senderOf_eip155_unprotected E H c hp).trans plain⟩

/-- V is checked UNREDUCED: under the Frontier and Homestead signers (and for unprotected transactions under EIP-155) a V
    other than exactly 27 or 28 — in particular 27/28 + 256·k, whose low byte minus 27 would still be a recovery id, or
    anything with higher bits set — is `ErrInvalidSig`, whatever R and S.  (So a second V, hence a second hash, for the same
    signed content and sender does not exist.) -/
theorem v_out_of_range_rejected (E : Ecdsa) (H : Bytes → Bytes) (t : Tx) (hv : t.v ≠ 27 ∧ t.v ≠ 28) :
    senderOf E H .frontier t = .error .invalidSig ∧ senderOf E H .homestead t = .error .invalidSig ∧
    ∀ c, isProtectedV t.v = false → senderOf E H (.eip155 c) t = .error .invalidSig := by
  have plain : senderOf E H .homestead t = .error .invalidSig := recoverPlain_nat_invalid (Or.inl hv)
  exact ⟨recoverPlain_nat_invalid (Or.inl hv), plain, fun c hp => (senderOf_eip155_unprotected E H c hp).trans plain⟩

/-- v_out_of_range_rejected: 283 = 27 + 256 is such a V. -/
example : (283 : Nat) ≠ 27 ∧ (283 : Nat) ≠ 28 := by decide

/-- the malleated twin of a protected transaction: S replaced by N - S and the recovery bit inside V flipped. -/
def malleate (t : Tx) (c : Nat) : Tx :=
  { t with s := secpN - t.s, v := if t.v = 35 + 2 * c then 36 + 2 * c else 35 + 2 * c }

/-- The clause "malleable (high-S) signatures are rejected" FAILS for protected transactions under the EIP-155 signer
    (`EIP155Signer.Sender` calls `recoverPlain(..., homestead=false)`): whenever such a transaction is accepted, its malleated
    twin — a DIFFERENT transaction (different S, V, hence different encoding and hash), with S in the upper half if the
    original's was in the lower — is accepted too and attributed to the SAME sender.  Needs only the (true) ECDSA symmetry. -/
theorem eip155_high_s_malleable (E : Ecdsa) (hE : E.Symmetric) (H : Bytes → Bytes) (t : Tx) (c : Nat) (a : Bytes)
    (hp : isProtectedV t.v = true) (h : senderOf E H (.eip155 c) t = .ok a) :
    senderOf E H (.eip155 c) (malleate t c) = .ok a ∧ malleate t c ≠ t ∧
    (t.s ≤ secpHalfN → (malleate t c).s > secpHalfN) := by
  obtain ⟨rid, hv, hval, hrec⟩ := senderOf_ok_iff.1 h
  rw [Signer.applied_protected c hp] at hv hval hrec
  obtain ⟨hrid, hr1, hr2, hs1, hs2, -⟩ := (validate_iff ..).1 hval
  have hodd := N_odd
  -- the twin: same hash, S mirrored, recovery bit flipped
  have hv' : (malleate t c).v = (Signer.eip155 c).vOf (1 - rid) := by
    simp only [malleate, Signer.vOf] at hv ⊢
    split <;> omega
  refine ⟨senderOf_ok_iff.2 ⟨1 - rid, ?_⟩, ?_, ?_⟩
  · rw [Signer.applied_protected c (hv' ▸ isProtectedV_155 _ c)]
    exact ⟨hv', (validate_iff ..).2 ⟨by omega, hr1, hr2, show 1 ≤ secpN - t.s by omega, show secpN - t.s < secpN by omega, nofun⟩,
      (hE _ _ _ _ hs1 hs2 hrid).trans hrec⟩
  · intro heq
    have := congrArg Tx.s heq
    simp only [malleate] at this
    omega
  · intro hlow
    show secpN - t.s > secpHalfN
    omega

/-- a concrete instance: recover ignores everything and names one address; the transaction with S = N - 1 (upper half) and a
    protected V for chain 1 is accepted by the EIP-155 signer of chain 1, while the Homestead rule would reject that S. -/
def toyE : Ecdsa := { sign := fun _ _ => (1, 1, 0), recover := fun _ _ _ _ => some [0xAA], addr := fun _ => [0xAA] }

theorem eip155_accepts_high_s_witness :
    let t : Tx := ⟨0, 1, 21000, none, 0, [], 37, 1, secpN - 1⟩
    t.s > secpHalfN ∧ senderOf toyE id (.eip155 1) t = .ok [0xAA] ∧
    validateSignatureValues 0 t.r t.s true = false := by
  refine ⟨by decide, by decide, by decide⟩

/-! ## 5. the sender cache -/

theorem signer_equal_iff (a b : Signer) : a.equal b = true ↔ a = b := by
  cases a <;> cases b <;> simp [Signer.equal]

def CacheOK (E : Ecdsa) (H : Bytes → Bytes) (t : Tx) (c : Cache) : Prop :=
  ∀ cs a, c = some (cs, a) → senderOf E H cs t = .ok a

/-- one call of the caching `types.Sender`: the answer is the uncached one and the cache stays sound. -/
theorem senderCached_sound (E : Ecdsa) (H : Bytes → Bytes) (t : Tx) (c : Cache) (hc : CacheOK E H t c) (sg : Signer) :
    (senderCached E H c sg t).1 = senderOf E H sg t ∧ CacheOK E H t (senderCached E H c sg t).2 := by
  -- a miss: the answer is computed, and on success stored under the signer that computed it
  have compute : ∀ x : Except TxSign.Err Bytes × Cache, (x = match senderOf E H sg t with
        | .ok a => (.ok a, some (sg, a))
        | .error e => (.error e, c)) → x.1 = senderOf E H sg t ∧ CacheOK E H t x.2 := by
    rintro x rfl
    cases hs : senderOf E H sg t with
    | ok a =>
      refine ⟨rfl, fun cs a' hca => ?_⟩
      cases hca
      exact hs
    | error e => exact ⟨rfl, hc⟩
  unfold senderCached
  rcases c with _ | ⟨cs, a⟩
  · exact compute _ rfl
  · by_cases heq : cs.equal sg = true
    · simp only [heq, if_true]
      have := (signer_equal_iff cs sg).mp heq
      subst this
      exact ⟨(hc cs a rfl).symm, hc⟩
    · simp only [heq]
      exact compute _ rfl

/-- Whatever sequence of signers a transaction object is queried under — same signer again, another kind, another chain
    id — every answer of the caching `types.Sender` equals the uncached `signer.Sender(tx)`: the cache never answers
    for a different signer. -/
theorem cache_transparent (E : Ecdsa) (H : Bytes → Bytes) (t : Tx) (c : Cache) (hc : CacheOK E H t c) (qs : List Signer) :
    senderSeq E H t c qs = qs.map (fun sg => senderOf E H sg t) := by
  induction qs generalizing c with
  | nil => rfl
  | cons sg rest ih =>
    simp only [senderSeq, List.map_cons]
    have step := senderCached_sound E H t c hc sg
    rw [step.1, ih _ step.2]

def ObjOK (E : Ecdsa) (H : Bytes → Bytes) (o : TxObj) : Prop :=
  (∀ h, o.hashC = some h → h = txHash H o.data) ∧ (∀ n, o.sizeC = some n → n = (encodeTx o.data).length) ∧
  CacheOK E H o.data o.fromC

theorem ObjOK.fresh (E : Ecdsa) (H : Bytes → Bytes) (t : Tx) : ObjOK E H (TxObj.fresh t) := ⟨nofun, nofun, nofun⟩

/-- `WithSignature` returns a NEW object: its data carries the new signature values, its hash, size and sender caches are
    EMPTY — whatever the receiver had cached (even unsound entries) — hence sound.  (A shallow copy `cpy := *tx` would
    carry the old hash / sender over to the re-signed transaction.) -/
theorem withSignature_clears_caches (E : Ecdsa) (H : Bytes → Bytes) (sg : Signer) (o : TxObj) (r s rid : Nat) :
    (objWithSignature sg o r s rid).hashC = none ∧ (objWithSignature sg o r s rid).sizeC = none ∧
    (objWithSignature sg o r s rid).fromC = none ∧
    (objWithSignature sg o r s rid).data = withSignature sg o.data r s rid ∧
    ObjOK E H (objWithSignature sg o r s rid) :=
  ⟨rfl, rfl, rfl, rfl, ObjOK.fresh E H _⟩

/-- Object lifetime: any sequence of Hash / Size / Sender(any signer) / WithSignature(any signer, any signature values) on
    one object with sound caches (a fresh, decoded or re-signed one) — following the new object after each re-signing —
    observes exactly what the cache-free functions give on the current data: the hash of the own encoding, its length, the
    uncached sender.  Extends `cache_transparent` from the sender cache to all three caches and across re-signing. -/
theorem object_lifetime_transparent (E : Ecdsa) (H : Bytes → Bytes) (o : TxObj) (ho : ObjOK E H o) (ops : List Op) :
    runOps E H o ops = pureOps E H o.data ops := by
  induction ops generalizing o with
  | nil => rfl
  | cons op rest ih =>
    obtain ⟨h1, h2, h3⟩ := ho
    cases op with
    | hash =>
      simp only [runOps, pureOps, objHash]
      cases hc : o.hashC with
      | some h =>
        simp only
        rw [h1 h hc, ih o ⟨h1, h2, h3⟩]
      | none =>
        simp only
        rw [ih { o with hashC := some (txHash H o.data) } ⟨by intro h hh; injection hh with hh; exact hh.symm, h2, h3⟩]
    | size =>
      simp only [runOps, pureOps, objSize]
      cases hc : o.sizeC with
      | some n =>
        simp only
        rw [h2 n hc, ih o ⟨h1, h2, h3⟩]
      | none =>
        simp only
        rw [ih { o with sizeC := some (encodeTx o.data).length } ⟨h1, by intro n hn; injection hn with hn; exact hn.symm, h3⟩]
    | sender sg =>
      simp only [runOps, pureOps, objSender]
      have step := senderCached_sound E H o.data o.fromC h3 sg
      rw [step.1, ih { o with fromC := (senderCached E H o.fromC sg o.data).2 } ⟨h1, h2, step.2⟩]
    | withSig sg r s rid =>
      simp only [runOps, pureOps]
      rw [ih (objWithSignature sg o r s rid) (ObjOK.fresh E H _)]
      rfl

/-! ## 6. re-encoding -/

/-- JSON field codec round trip on its own (hexutil quantities, data, address), for any in-range signature. -/
theorem json_roundtrip (t : Tx) (hw : t.WF) (hp : t.price < 2 ^ 256) (hval : t.value < 2 ^ 256) (hv : t.v < 2 ^ 256)
    (hr : t.r < 2 ^ 256) (hs : t.s < 2 ^ 256)
    (hsig : validateSignatureValues (jsonRecId t.v) t.r t.s false = true) : txOfJson (jsonOfTx t) = some t := by
  obtain ⟨n, p, g, to, val, d, v, r, s⟩ := t
  obtain ⟨hn, hg, hto⟩ := hw
  have h64 : (16 : Nat) ^ 16 = 2 ^ 64 := by decide
  have h256 : (16 : Nat) ^ 64 = 2 ^ 256 := by decide
  simp only at hn hg hto hp hval hv hr hs hsig
  simp only [txOfJson, jsonOfTx]
  rw [decQuantity_encQuantity 16 n (by omega) (by omega), decQuantity_encQuantity 64 p (by omega) (by omega),
    decQuantity_encQuantity 16 g (by omega) (by omega), decQuantity_encQuantity 64 val (by omega) (by omega),
    decData_encData, decQuantity_encQuantity 64 v (by omega) (by omega),
    decQuantity_encQuantity 64 r (by omega) (by omega), decQuantity_encQuantity 64 s (by omega) (by omega)]
  cases to with
  | none => simp only [hsig, if_true, Option.map_none]
  | some a' => simp only [hsig, if_true, Option.map_some, decData_encData, hto a' rfl]

/-- and JSON's own signature check never rejects a transaction some signer accepts. -/
theorem json_accepts_sender_ok (E : Ecdsa) (H : Bytes → Bytes) (sg : Signer) (t : Tx) (a : Bytes)
    (hs : senderOf E H sg t = .ok a) : validateSignatureValues (jsonRecId t.v) t.r t.s false = true := by
  obtain ⟨rid, hv, hval, -⟩ := senderOf_ok_iff.1 hs
  rw [hv, jsonRecId_vOf _ (validate_rid hval)]
  exact validate_weaken hval

/-- RLP: decoding the encoding of a well-formed transaction returns the transaction itself — hence its hash and its sender
    under every signer are unchanged; and JSON: if any signer attributes the transaction to somebody (so its signature
    values are in range) and its big-integer fields fit hexutil's 256-bit limit, unmarshalling the marshalled JSON
    returns the transaction itself. -/
theorem hash_sender_stable_under_reencoding (E : Ecdsa) (H : Bytes → Bytes) (t : Tx) (hw : t.WF)
    (hsz : (itemOfTx t).sizeOk = true) :
    decodeTx (encodeTx t) = some t ∧
    (∀ t', decodeTx (encodeTx t) = some t' → txHash H t' = txHash H t ∧ ∀ sg, senderOf E H sg t' = senderOf E H sg t) ∧
    (∀ sg a, senderOf E H sg t = .ok a →
      t.price < 2 ^ 256 → t.value < 2 ^ 256 → t.v < 2 ^ 256 → txOfJson (jsonOfTx t) = some t) := by
  have hdec : decodeTx (encodeTx t) = some t := by
    unfold decodeTx encodeTx
    rw [(dec_eq_ok_iff _ _).2 ⟨rfl, hsz⟩]
    exact txOfItem_itemOfTx t hw
  refine ⟨hdec, ?_, ?_⟩
  · intro t' ht'
    rw [hdec] at ht'
    injection ht' with ht'
    subst ht'
    exact ⟨rfl, fun _ => rfl⟩
  · intro sg a hs hp hval hv
    obtain ⟨rid, -, hrs, -⟩ := senderOf_ok_iff.1 hs
    obtain ⟨-, -, hr2, -, hs2, -⟩ := (validate_iff ..).1 hrs
    have hN : secpN < 2 ^ 256 := by decide
    exact json_roundtrip t hw hp hval hv (by omega) (by omega) (json_accepts_sender_ok E H sg t a hs)

/-- RLP canonicity at the transaction level: a byte string that decodes to a transaction IS that transaction's encoding, so
    `tx.Hash()` of the decoded transaction is the hash of the received bytes (one encoding, one hash per transaction). -/
theorem rlp_decode_canonical (bs : Bytes) (t : Tx) (h : decodeTx bs = some t) : encodeTx t = bs ∧ t.WF := by
  unfold decodeTx at h
  split at h
  · rename_i it hd
    obtain ⟨h1, h2⟩ := txOfItem_some h
    exact ⟨by unfold encodeTx; rw [h1]; exact ((dec_eq_ok_iff _ _).1 hd).1, h2⟩
  · cases h

/-! ## 7. unforgeability, as far as it is not cryptography -/

/-- PARTIAL (the full clause "a mutated signed transaction is never attributed to the same address" is a cryptographic
    statement): if a transaction `t'` differing from `t` in some signed field (or in the chain id it is signed for) is
    attributed to address `a`, then EITHER Keccak collides on two different signed byte strings, OR there is a signature that
    recovers to `a` on a hash different from the one `t` was signed over — i.e. an ECDSA forgery for a fresh message.
    What is missing for the full statement: collision resistance of Keccak-256 and unforgeability of secp256k1 ECDSA. -/
theorem unforgeable_partial (E : Ecdsa) (H : Bytes → Bytes) (sg sg' : Signer) (t t' : Tx) (a : Bytes)
    (hw : t.signed.WF) (hw' : t'.signed.WF)
    (hsz : (sg.payload t.signed).sizeOk = true) (hsz' : (sg'.payload t'.signed).sizeOk = true)
    (hne : t'.signed ≠ t.signed ∨ Signer.domain sg' ≠ Signer.domain sg)
    (hs' : senderOf E H sg' t' = .ok a) :
    (enc (sg'.payload t'.signed) ≠ enc (sg.payload t.signed) ∧
        H (enc (sg'.payload t'.signed)) = H (enc (sg.payload t.signed))) ∨
    (∃ hash r s rid, hash ≠ sigHash H sg t ∧ E.recover hash r s rid = some a) ∨
    (∃ c, sg' = .eip155 c ∧ isProtectedV t'.v = false) := by
  have hdiff : enc (sg'.payload t'.signed) ≠ enc (sg.payload t.signed) := by
    intro heq
    obtain ⟨h1, h2⟩ := sighash_injective sg' sg t'.signed t.signed hw' hw hsz' hsz heq
    exact hne.elim (· h1) (· h2)
  by_cases hH : H (enc (sg'.payload t'.signed)) = H (enc (sg.payload t.signed))
  · exact Or.inl ⟨hdiff, hH⟩
  -- otherwise the hash t' was verified against is a fresh one, provided it is the one of sg'
  obtain ⟨rid, -, -, hrec⟩ := senderOf_ok_iff.1 hs'
  rcases sg'.applied_eq_or t'.v with e | hunprot
  · rw [e] at hrec
    exact Or.inr (Or.inl ⟨_, _, _, rid, hH, hrec⟩)
  · exact Or.inr (Or.inr hunprot)

/-! ## 8. MakeSigner -/

/-- MakeSigner: EIP-155 (with the configured chain id) from the EIP-155 block on, Homestead from the Homestead block on,
    Frontier before; an unset fork block or a nil block number never counts as forked. -/
theorem makeSigner_spec (hb eb : Option Nat) (c : Nat) (num : Option Nat) :
    makeSigner hb eb c num =
      (match eb, num with
       | some e, some n => if e ≤ n then Signer.eip155 c else
           (match hb with | some h => if h ≤ n then .homestead else .frontier | none => .frontier)
       | none, some n => (match hb with | some h => if h ≤ n then .homestead else .frontier | none => .frontier)
       | _, none => .frontier) := by
  cases num with
  | none => cases eb <;> simp only [makeSigner, isForked_none, Bool.false_eq_true, if_false]
  | some n =>
    -- below the EIP-155 block (or without one) the Homestead block decides
    have hom : (if isForked hb (some n) then Signer.homestead else .frontier) =
        (match hb with | some h => if h ≤ n then .homestead else .frontier | none => .frontier) := by
      cases hb with
      | none => rfl
      | some h => simp only [isForked_some, decide_eq_true_eq]
    cases eb with
    | none => simpa only [makeSigner, isForked_none_left, Bool.false_eq_true, if_false] using hom
    | some e =>
      simp only [makeSigner, isForked_some, decide_eq_true_eq]
      split
      · rfl
      · exact hom

/-! ## 8b. block processing: the signer, and so the high-S verdict, is a function of (config, height) only -/

/-- From the Homestead block on `MakeSigner` never hands out the Frontier signer: it is Homestead's or the chain's EIP-155 signer,
    whatever the EIP-155 block is (unset, below, at or above the height). -/
theorem makeSigner_from_homestead (hb : Nat) (eb : Option Nat) (c n : Nat) (hn : hb ≤ n) :
    makeSigner (some hb) eb c (some n) = .homestead ∨ makeSigner (some hb) eb c (some n) = .eip155 c := by
  unfold makeSigner
  cases isForked eb (some n)
  · left; simp only [isForked_some, hn, decide_true, Bool.false_eq_true, if_false, if_true]
  · right; simp

/-- the Frontier signer is only ever selected strictly below the Homestead block (or when no Homestead block is configured). -/
theorem makeSigner_frontier_only_before_homestead (hb : Nat) (eb : Option Nat) (c n : Nat)
    (h : makeSigner (some hb) eb c (some n) = .frontier) : n < hb := by
  rcases Nat.lt_or_ge n hb with hlt | hge
  · exact hlt
  · rcases makeSigner_from_homestead hb eb c n hge with h' | h' <;> rw [h'] at h <;> cases h

/-- "malleable (high-S) signatures are rejected by Homestead-and-later rules", at block-processing acceptance: for EVERY height at or
    above the configured Homestead block — and every EIP-155 block, chain id, ECDSA instance — an unprotected transaction whose S is
    in the upper half is refused with `ErrInvalidSig` by the signer `MakeSigner(config, height)` selects. -/
theorem highS_rejected_from_homestead (E : Ecdsa) (H : Bytes → Bytes) (hb : Nat) (eb : Option Nat) (c n : Nat) (hn : hb ≤ n)
    (t : Tx) (hs : t.s > secpHalfN) (hp : isProtectedV t.v = false) :
    applySender E H ⟨⟨some hb, eb, c⟩, n, t⟩ = .error .invalidSig := by
  have hr := homestead_rejects_high_s E H t hs
  simp only [applySender, blockSigner]
  rcases makeSigner_from_homestead hb eb c n hn with h | h <;> rw [h]
  · exact hr.1
  · exact hr.2 c hp

/-- History freedom: in ANY sequence of `ApplyTransaction` calls (any configs, heights, transactions, in any order) the verdict of a
    call is `senderOf` under `MakeSigner(its config, its height)` — the calls before (and after) it have no influence.  In particular
    a Frontier-height call before a Homestead-height call cannot make the latter accept a high-S signature. -/
theorem applySeq_history_free (E : Ecdsa) (H : Bytes → Bytes) (pre post : List ApplyCall) (call : ApplyCall) :
    (applySeq E H (pre ++ call :: post))[pre.length]? =
      some (senderOf E H (makeSigner call.cfg.homesteadBlock call.cfg.eip155Block call.cfg.chainId (some call.num)) call.tx) := by
  simp [applySeq, applySender, blockSigner]

/-- … so a high-S unprotected transaction at a Homestead height is refused after any prefix of calls. -/
theorem highS_rejected_after_any_history (E : Ecdsa) (H : Bytes → Bytes) (pre post : List ApplyCall) (hb : Nat) (eb : Option Nat)
    (c n : Nat) (hn : hb ≤ n) (t : Tx) (hs : t.s > secpHalfN) (hp : isProtectedV t.v = false) :
    (applySeq E H (pre ++ ⟨⟨some hb, eb, c⟩, n, t⟩ :: post))[pre.length]? = some (.error .invalidSig) := by
  have h := highS_rejected_from_homestead E H hb eb c n hn t hs hp
  simp only [applySender, blockSigner] at h
  rw [applySeq_history_free, h]

/-! ## Non-vacuity -/

/-- an ECDSA instance satisfying SignOK and Symmetric (recover names the key that `sign` encodes in r). -/
def toyE2 : Ecdsa where
  sign := fun k _ => (k % 1000 + 1, 1, 0)
  recover := fun _ r _ _ => some [UInt8.ofNat r]
  addr := fun k => [UInt8.ofNat (k % 1000 + 1)]

example : toyE2.SignOK := ⟨fun _ _ => ⟨by simp [toyE2], by simp [toyE2, secpN]; omega⟩,
  fun _ _ => ⟨by simp [toyE2], by simp [toyE2, secpHalfN, secpN]⟩, fun _ _ => by simp [toyE2], fun _ _ => rfl⟩
example : toyE2.Symmetric := fun _ _ _ _ _ _ _ => rfl

/-- sighash_injective: hypotheses hold for two concrete signed contents (the conclusion then says they are equal). -/
example : (Signer.payload (.eip155 61717561) ⟨3, 7, 21000, some (List.replicate 20 9), 5, [1, 2]⟩).sizeOk = true := by decide
example : (⟨3, 7, 21000, some (List.replicate 20 9), 5, [1, 2]⟩ : Signed).WF := by
  intro a h; injection h with h; subst h; rfl

/-- sign_then_sender on a chain id whose V exceeds 64 bits. -/
example : ∃ t', signTx toyE2 id (.eip155 (2 ^ 70)) ⟨3, 7, 21000, none, 5, [1], 0, 0, 0⟩ 41 = .ok t' ∧ t'.v = 35 + 2 ^ 71 := by
  exact ⟨⟨3, 7, 21000, none, 5, [1], 35 + 2 ^ 71, 42, 1⟩, by decide, by decide⟩

/-- eip155_rejects_foreign_chain / eip155_sender_only_own_chain / sender_only_if_valid_vrs / eip155_high_s_malleable: a protected
    transaction of chain 5 accepted under its own signer (hypotheses satisfiable), rejected under chain 6. -/
example : senderOf toyE2 id (.eip155 5) ⟨0, 1, 21000, none, 0, [], 45, 42, 1⟩ = .ok [42] := by decide
example : senderOf toyE2 id (.eip155 6) ⟨0, 1, 21000, none, 0, [], 45, 42, 1⟩ = .error .invalidChainId := by decide
example : isProtectedV 45 = true := by decide

/-- homestead_rejects_high_s: the hypothesis is satisfiable. -/
example : (⟨0, 1, 21000, none, 0, [], 27, 1, secpN - 1⟩ : Tx).s > secpHalfN := by decide

/-- makeSigner_from_homestead / makeSigner_frontier_only_before_homestead / highS_rejected_from_homestead / highS_rejected_after_any_history:
    a config with HomesteadBlock 10 (EIP-155 unset, or at 20): Frontier at 9, Homestead at 10 and 5000, EIP-155 from 20; the high-S
    unprotected transaction (hypotheses hold) IS accepted at the Frontier height 9 (so the theorems are not vacuous: the verdict does
    change at the fork) and refused at 10 although the call at 9 came first. -/
example : makeSigner (some 10) none 1337 (some 9) = .frontier ∧ makeSigner (some 10) none 1337 (some 10) = .homestead ∧
    makeSigner (some 10) none 1337 (some 5000) = .homestead ∧ makeSigner (some 10) (some 20) 1337 (some 19) = .homestead ∧
    makeSigner (some 10) (some 20) 1337 (some 20) = .eip155 1337 := by decide
example : isProtectedV (⟨0, 1, 21000, none, 0, [], 27, 42, secpN - 1⟩ : Tx).v = false := by decide
example : applySeq toyE2 id [⟨⟨some 10, none, 1337⟩, 9, ⟨0, 1, 21000, none, 0, [], 27, 42, secpN - 1⟩⟩,
                             ⟨⟨some 10, none, 1337⟩, 10, ⟨0, 1, 21000, none, 0, [], 27, 42, secpN - 1⟩⟩] =
    [.ok [42], .error .invalidSig] := by decide

/-- cache_transparent: the empty cache is sound, and so is a cache filled by a previous call. -/
example (E : Ecdsa) (H : Bytes → Bytes) (t : Tx) : CacheOK E H t none := by intro _ _ h; cases h

/-- object_lifetime_transparent: a fresh object is sound; a life that hashes, asks the sender, re-signs for another chain and
    asks again is non-trivial. -/
example (E : Ecdsa) (H : Bytes → Bytes) (t : Tx) : ObjOK E H (TxObj.fresh t) := ObjOK.fresh E H t

/-- re-encoding: hypotheses satisfiable on a signed transaction with recipient. -/
example : (⟨3, 7, 21000, some (List.replicate 20 9), 5, [1, 2], 45, 42, 1⟩ : Tx).WF :=
  ⟨by decide, by decide, by intro a h; injection h with h; subst h; rfl⟩
example : (itemOfTx ⟨3, 7, 21000, some (List.replicate 20 9), 5, [1, 2], 45, 42, 1⟩).sizeOk = true := by decide
example : decodeTx (encodeTx ⟨3, 7, 21000, some (List.replicate 20 9), 5, [1, 2], 45, 42, 1⟩) =
    some ⟨3, 7, 21000, some (List.replicate 20 9), 5, [1, 2], 45, 42, 1⟩ := by decide
example : txOfJson (jsonOfTx ⟨3, 7, 21000, some (List.replicate 20 9), 5, [1, 2], 45, 42, 1⟩) =
    some ⟨3, 7, 21000, some (List.replicate 20 9), 5, [1, 2], 45, 42, 1⟩ := by decide

/-- unforgeable_partial: hypotheses satisfiable (two contents differing in the nonce, the second accepted). -/
example : (⟨4, 1, 21000, none, 0, []⟩ : Signed) ≠ ⟨0, 1, 21000, none, 0, []⟩ := by decide

/-! ### tie by translation (T-gen `translated`, DESIGN 2.2 mini-translator): the V arithmetic and the signature range check

core/types.isProtectedV, core/types.deriveChainId and crypto.ValidateSignatureValues are translated from the go/ssa form of the
tree under test on every run (`Aqv.Gen.Translated`; a non-nil `*big.Int` is an `Int`, `BitLen`/`Uint64`/`Cmp` as math/big
defines them on the magnitude).  On the non-negative values the model ranges over, the translated code computes the model
functions the theorems above are stated on (proofs in `Aqv.Lemmas.Translated.TxSign`).  `Fits v`: the bit length of `v` fits
Go's `int` — true of every value that exists in memory; for transaction fields (< 2^256) it is proved, not assumed. -/

theorem vArith_code_is_model (v : Nat) (hv : v < 2 ^ 256) :
    Aqv.Gen.Translated.isProtectedV (v : Int) = isProtectedV v ∧
    Aqv.Gen.Translated.deriveChainId (v : Int) = (deriveChainId v : Int) :=
  have hf := Aqv.Lemmas.Translated.fits_of_lt v 256 (by decide) hv
  ⟨Aqv.Lemmas.Translated.isProtectedV_translated_eq v hf, Aqv.Lemmas.Translated.deriveChainId_translated_eq v hf⟩

example : Aqv.Gen.Translated.isProtectedV 27 = false ∧ Aqv.Gen.Translated.isProtectedV 37 = true ∧
    Aqv.Gen.Translated.deriveChainId 37 = 1 ∧ Aqv.Gen.Translated.deriveChainId 28 = 0 := by decide

/-- crypto.ValidateSignatureValues: the package-level variables it reads (common.Big1, secp256k1_N, secp256k1_halfN) are
    explicit parameters of the translated definition; at the model's constants the code is the model's range check. -/
theorem validateSignatureValues_code_is_model (v : UInt8) (r s : Nat) (homestead : Bool) :
    Aqv.Gen.Translated.ValidateSignatureValues ((1 : Nat) : Int) (secpN : Nat) (secpHalfN : Nat) v (r : Int) (s : Int) homestead
      = validateSignatureValues v.toNat r s homestead :=
  Aqv.Lemmas.Translated.ValidateSignatureValues_translated_eq v r s homestead

example : validateSignatureValues (1 : UInt8).toNat 1 (secpHalfN + 1) true = false ∧
    validateSignatureValues (1 : UInt8).toNat 1 (secpHalfN + 1) false = true := by decide

end Aqv.Props.C12
